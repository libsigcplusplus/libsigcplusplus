import Sigc.Model
import Sigc.Run
import Sigc.Lemmas.Basic
import Sigc.Lemmas.StepIter
import Sigc.Lemmas.StepIterSpec
import Sigc.Lemmas.StepWFRun
import Sigc.Props.SpecProps
import Sigc.Props.C08
/-!
# C13 — emission results: last slot's value, or the accumulator's verdict

Theorems about the mechanism model `P` (`Sigc.Model`): `deref` = `slot_iterator_buf::operator*`,
`accLoop/revLoop/walkLoop` = the accumulator strategies, `emitLoop` = the non-accumulating emitters,
`emitImpl` = `emitter::emit`.  The statements hold for every state, program and fuel, except the last section
(`bidirectional_run`, `bidirectional_wf`: reachable resp. well-formed states); helper lemmas and the
concrete example states (`exSt`, `exImpl`, `exProg`) are in `Sigc/Lemmas/StepIter*.lean`.  `Props/C08` is imported for
`accLoop_exception`, which is C08's `accLoop_stops_at_exc`.
-/
namespace Sigc.C13
open Sigc.Model Sigc.StepIter

/-! ## `deref_once`: dereferencing invokes at most once per position, never a blocked/invalid one -/

/-- dereferencing a position again without moving invokes nothing and returns the buffered value:
    state, outcome and iterator are unchanged -/
theorem deref_twice_invokes_once (f : Nat) (P : Prog) (s : St) (i arg : Nat) (it : IterBuf) (im : Impl) (c : Cell)
    (hi : aget s.impls i = some im) (hc : im.cells.find? (·.id = it.pos) = some c) (hinv : it.invoked = true) :
    deref (f+1) P s i it arg = some (s, .ok, it) :=
  deref_skip f P s i arg it im c hi hc (.inl hinv)

example : deref 1 exProg exSt 1 { pos := 2, invoked := true, buf := 42 } 5
    = some (exSt, .ok, { pos := 2, invoked := true, buf := 42 }) :=
  deref_twice_invokes_once 0 _ _ _ _ _ exImpl (exCell 2 7 false) rfl rfl rfl

/-- (a) in *every* state (also when the list or the cell is gone) an already-invoked position is not
    invoked again: the iterator is returned unchanged and the state is unchanged up to the model's
    error flag -/
theorem deref_once_invoked (f : Nat) (P : Prog) (s : St) (i arg : Nat) (it : IterBuf) (hinv : it.invoked = true) :
    ∃ s', deref (f+1) P s i it arg = some (s', .ok, it) ∧ (s' = s ∨ ∃ msg, s' = s.fail msg) :=
  deref_idle f P s i arg it (.inl hinv)

example : ∃ s', deref 1 exProg {} 1 { pos := 2, invoked := true } 5 = some (s', .ok, { pos := 2, invoked := true }) ∧
    (s' = {} ∨ ∃ msg, s' = St.fail {} msg) := deref_once_invoked 0 _ _ _ _ _ rfl

/-- a blocked position is never invoked -/
theorem deref_blocked_not_invoked (f : Nat) (P : Prog) (s : St) (i arg : Nat) (it : IterBuf) (im : Impl) (c : Cell)
    (hi : aget s.impls i = some im) (hc : im.cells.find? (·.id = it.pos) = some c) (hb : c.slot.blocked = true) :
    deref (f+1) P s i it arg = some (s, .ok, it) :=
  deref_skip f P s i arg it im c hi hc (.inr (callableAt_blocked s i it.pos im c hi hc hb))

example : deref 1 exProg exSt 1 { pos := 3 } 5 = some (exSt, .ok, { pos := 3 }) :=
  deref_blocked_not_invoked 0 _ _ _ _ _ exImpl (exCell 3 8 true) rfl rfl rfl

/-- an empty / invalidated position (or an end marker) is never invoked -/
theorem deref_invalid_not_invoked (f : Nat) (P : Prog) (s : St) (i arg : Nat) (it : IterBuf) (im : Impl) (c : Cell)
    (hi : aget s.impls i = some im) (hc : im.cells.find? (·.id = it.pos) = some c) (he : c.slot.empty = true) :
    deref (f+1) P s i it arg = some (s, .ok, it) :=
  deref_skip f P s i arg it im c hi hc (.inr (callableAt_empty s i it.pos im c hi hc he))

example : deref 1 exProg exSt 1 { pos := 5 } 5 = some (exSt, .ok, { pos := 5 }) :=
  deref_invalid_not_invoked 0 _ _ _ _ _ exImpl _ rfl rfl rfl

/-- (b) a position that is not callable at that moment — blocked, no rep, `call_ = nullptr`, functor
    released (`fn = none`), the end marker, cell or list gone (`callableAt … = none`) — is not invoked:
    iterator unchanged, state unchanged up to the model's error flag -/
theorem deref_once_not_callable (f : Nat) (P : Prog) (s : St) (i arg : Nat) (it : IterBuf)
    (hnc : callableAt s i it.pos = none) :
    ∃ s', deref (f+1) P s i it arg = some (s', .ok, it) ∧ (s' = s ∨ ∃ msg, s' = s.fail msg) :=
  deref_idle f P s i arg it (.inr hnc)

example : ∃ s', deref 1 exProg exSt 1 { pos := 3 } 5 = some (s', .ok, { pos := 3 }) ∧
    (s' = exSt ∨ ∃ msg, s' = exSt.fail msg) := deref_once_not_callable 0 _ _ _ _ _ (by decide)

/-- a successful first dereference of a callable position buffers the functor's result and marks the position invoked -/
theorem deref_callable (f : Nat) (P : Prog) (s s' : St) (i arg v : Nat) (it : IterBuf) (im : Impl) (c : Cell) (fn : Fun)
    (hi : aget s.impls i = some im) (hc : im.cells.find? (·.id = it.pos) = some c)
    (hrep : c.slot.rep = some { call := true, fn := some fn }) (hb : c.slot.blocked = false) (hinv : it.invoked = false)
    (hx : invokeFun f P s fn arg = some (s', .ok, v)) :
    deref (f+1) P s i it arg = some (s', .ok, { it with buf := v, invoked := true }) := by
  rw [deref]
  simp [hi, hc, hrep, hb, hinv, hx]

example : deref 2 exProg exSt 1 { pos := 2 } 5
    = some (exSt.log (.call 0 7 5), .ok, { pos := 2, invoked := true, buf := 75 }) :=
  deref_callable 1 _ _ _ _ _ _ _ exImpl (exCell 2 7 false) _ rfl rfl rfl rfl rfl
    (invokeFun_leaf_nobody 0 exProg exSt 7 5 [] rfl)

/-- everything a dereference can do, in every state: either nothing is invoked (iterator and state
    unchanged up to the error flag), or *exactly one* `invokeFun` call on the functor callable at the
    position, made only if the position was not yet invoked; on success its value is buffered and the
    flag set, on an exception the iterator is unchanged -/
theorem deref_once_result (f : Nat) (P : Prog) (s s' : St) (i arg : Nat) (it it' : IterBuf) (o : Outcome)
    (h : deref (f+1) P s i it arg = some (s', o, it')) :
    (it' = it ∧ o = .ok ∧ (s' = s ∨ ∃ msg, s' = s.fail msg)) ∨
    (∃ fn, callableAt s i it.pos = some fn ∧ it.invoked = false ∧
       ((∃ v, invokeFun f P s fn arg = some (s', .exc, v) ∧ o = .exc ∧ it' = it) ∨
        (∃ v, invokeFun f P s fn arg = some (s', .ok, v) ∧ o = .ok ∧
              it' = { it with buf := v, invoked := true }))) := by
  by_cases hidle : it.invoked = true ∨ callableAt s i it.pos = none
  · obtain ⟨s1, e, hs⟩ := deref_idle f P s i arg it hidle
    cases e.symm.trans h
    exact .inl ⟨rfl, rfl, hs⟩
  · have hinv : it.invoked = false := by cases hi : it.invoked <;> simp_all
    obtain ⟨fn, hfn⟩ := Option.ne_none_iff_exists'.1 (fun e => hidle (.inr e))
    obtain ⟨im, c, hi, hc, _, _⟩ := callableAt_eq_some s i _ fn hfn
    rw [deref_cases] at h
    simp only [hinv, hi, hc, hfn, Bool.false_eq_true, if_false] at h
    refine .inr ⟨fn, hfn, hinv, ?_⟩
    split at h
    · cases h
    · rename_i hx; cases h; exact .inl ⟨_, hx, rfl, rfl⟩
    · rename_i hx; cases h; exact .inr ⟨_, hx, rfl, rfl⟩

/-- (c) after a successful dereference of a callable, not yet invoked position: flag set, same
    position, buffer = the value `invokeFun` returned for the functor of that position -/
theorem deref_once_sets_flag (f : Nat) (P : Prog) (s s' : St) (i arg : Nat) (it it' : IterBuf) (fn : Fun)
    (hc : callableAt s i it.pos = some fn) (hinv : it.invoked = false)
    (h : deref (f+1) P s i it arg = some (s', .ok, it')) :
    it'.invoked = true ∧ it'.pos = it.pos ∧ invokeFun f P s fn arg = some (s', .ok, it'.buf) := by
  rw [deref_cases] at h
  obtain ⟨im, c, hi, hcell, _, _⟩ := callableAt_eq_some s i _ fn hc
  simp only [hinv, hi, hcell, hc, Bool.false_eq_true, if_false] at h
  split at h
  · cases h
  · cases h
  · rename_i hx
    cases h
    exact ⟨rfl, rfl, hx⟩

example : ({ pos := 2, invoked := true, buf := 75 } : IterBuf).invoked = true ∧
    ({ pos := 2, invoked := true, buf := 75 } : IterBuf).pos = ({ pos := 2 } : IterBuf).pos ∧
    invokeFun 1 exProg exSt (.leaf 7 []) 5 = some (exSt.log (.call 0 7 5), .ok, 75) :=
  deref_once_sets_flag 1 exProg exSt _ 1 5 { pos := 2 } _ (.leaf 7 []) rfl rfl
    exDeref2

/-- `operator*` never moves the iterator -/
theorem deref_keeps_pos (f : Nat) (P : Prog) (s s' : St) (i arg : Nat) (it it' : IterBuf) (o : Outcome)
    (h : deref f P s i it arg = some (s', o, it')) : it'.pos = it.pos := by
  cases f with
  | zero => simp [deref] at h
  | succ f =>
    rcases deref_once_result f P s s' i arg it it' o h with ⟨rfl, _, _⟩ | ⟨fn, _, _, h2 | h2⟩
    · rfl
    · obtain ⟨v, _, _, rfl⟩ := h2; rfl
    · obtain ⟨v, _, _, rfl⟩ := h2; rfl

/-- the flag is only ever set by `operator*` (it is reset by the moves `++`/`--` alone, see below) -/
theorem deref_keeps_flag (f : Nat) (P : Prog) (s s' : St) (i arg : Nat) (it it' : IterBuf) (o : Outcome)
    (h : deref f P s i it arg = some (s', o, it')) (hinv : it.invoked = true) : it'.invoked = true := by
  cases f with
  | zero => simp [deref] at h
  | succ f =>
    rcases deref_once_result f P s s' i arg it it' o h with ⟨rfl, _, _⟩ | ⟨fn, _, h1, _⟩
    · exact hinv
    · rw [hinv] at h1; cases h1

/-- (d) dereferencing twice in a row invokes once: the iterator returned by a successful dereference of
    a callable position is returned unchanged by any later dereference — in ANY later state, for any
    program, fuel, list and argument — and that later dereference invokes nothing -/
theorem deref_once (f : Nat) (P : Prog) (s s1 : St) (i arg : Nat) (it it1 : IterBuf) (fn : Fun)
    (hc : callableAt s i it.pos = some fn)
    (h : deref (f+1) P s i it arg = some (s1, .ok, it1)) :
    ∀ (f2 : Nat) (P2 : Prog) (s2 : St) (i2 arg2 : Nat),
      ∃ s3, deref (f2+1) P2 s2 i2 it1 arg2 = some (s3, .ok, it1) ∧ (s3 = s2 ∨ ∃ msg, s3 = s2.fail msg) := by
  intro f2 P2 s2 i2 arg2
  apply deref_once_invoked
  cases hinv : it.invoked with
  | true => exact deref_keeps_flag _ P s s1 i arg it it1 .ok h hinv
  | false => exact (deref_once_sets_flag f P s s1 i arg it it1 fn hc hinv h).1

example : ∀ (f2 : Nat) (P2 : Prog) (s2 : St) (i2 arg2 : Nat),
    ∃ s3, deref (f2+1) P2 s2 i2 { pos := 2, invoked := true, buf := 75 } arg2
            = some (s3, .ok, { pos := 2, invoked := true, buf := 75 }) ∧ (s3 = s2 ∨ ∃ msg, s3 = s2.fail msg) :=
  deref_once 1 exProg exSt _ 1 5 { pos := 2 } _ (.leaf 7 []) rfl
    exDeref2

/-! ## `buffer_defined`: every value an accumulator reads is 0 or a functor result -/

/-- the value-initialised buffer: a fresh iterator holds 0 and is not yet invoked -/
theorem fresh_iterator (p : Nat) : ({ pos := p } : IterBuf).buf = 0 ∧ ({ pos := p } : IterBuf).invoked = false := ⟨rfl, rfl⟩

/-- the buffer after `operator*` is the old buffer or the value just returned by the invoked functor;
    with the value-initialised buffer `runStrat` starts from (`fresh_iterator`) every value an
    accumulator reads is 0 or a functor result -/
theorem buffer_defined (f : Nat) (P : Prog) (s s' : St) (i arg : Nat) (it it' : IterBuf) (o : Outcome)
    (h : deref (f+1) P s i it arg = some (s', o, it')) :
    it'.buf = it.buf ∨ ∃ fn, callableAt s i it.pos = some fn ∧ invokeFun f P s fn arg = some (s', .ok, it'.buf) := by
  rcases deref_once_result f P s s' i arg it it' o h with ⟨rfl, _, _⟩ | ⟨fn, hc, _, h2 | h2⟩
  · exact Or.inl rfl
  · obtain ⟨v, _, _, rfl⟩ := h2; exact Or.inl rfl
  · obtain ⟨v, hx, _, rfl⟩ := h2; exact Or.inr ⟨fn, hc, hx⟩

example : (75 : Nat) = (0 : Nat) ∨ ∃ fn, callableAt exSt 1 2 = some fn ∧
    invokeFun 1 exProg exSt fn 5 = some (exSt.log (.call 0 7 5), .ok, 75) :=
  buffer_defined 1 exProg exSt _ 1 5 { pos := 2 } { pos := 2, invoked := true, buf := 75 } .ok
    exDeref2

/-! ## `bidirectional`: `++` and `--` are mutually inverse on the ids of a list -/

/-- `--(++it)` is at the same cell, in any list without duplicate ids -/
theorem bidirectional (cells : List Cell) (k n : Nat) (hnd : (cells.map (·.id)).Nodup)
    (h : succId cells k = some n) : predId cells n = some k := by
  obtain ⟨l, c, d, r, rfl, rfl, rfl⟩ := succId_adj cells k n h
  exact (adj_succ_pred l c d r hnd).2

example : predId exImpl.cells 3 = some 2 := bidirectional exImpl.cells 2 3 (by decide) (by decide)

/-- `++(--it)` is at the same cell -/
theorem bidirectional_converse (cells : List Cell) (k n : Nat) (hnd : (cells.map (·.id)).Nodup)
    (h : predId cells n = some k) : succId cells k = some n := by
  obtain ⟨l, c, d, r, rfl, rfl, rfl⟩ := predId_adj cells n k h
  exact (adj_succ_pred l c d r hnd).1

example : succId exImpl.cells 4 = some 5 := bidirectional_converse exImpl.cells 4 5 (by decide) (by decide)

/-- hence `++` and `--` are mutually inverse partial maps on the ids of the list -/
theorem bidirectional_iff (cells : List Cell) (k n : Nat) (hnd : (cells.map (·.id)).Nodup) :
    succId cells k = some n ↔ predId cells n = some k :=
  ⟨bidirectional cells k n hnd, bidirectional_converse cells k n hnd⟩

/-- in a duplicate-free list `++` is "index + 1" and `--` is "index − 1": a forward walk from `begin()`
    visits the cells in list order, a walk from the end backwards visits them in reverse order -/
theorem bidirectional_index (cells : List Cell) (hnd : (cells.map (·.id)).Nodup) (j : Nat) (h : j + 1 < cells.length) :
    succId cells (cells[j]'(by omega)).id = some (cells[j+1]).id ∧
    predId cells (cells[j+1]).id = some (cells[j]'(by omega)).id := by
  have e : cells.take j ++ cells[j] :: cells[j+1] :: cells.drop (j+1+1) = cells := by
    rw [← List.drop_eq_getElem_cons h, ← List.drop_eq_getElem_cons (Nat.lt_of_succ_lt h), List.take_append_drop]
  have := adj_succ_pred (cells.take j) cells[j] cells[j+1] (cells.drop (j+1+1)) (by rw [e]; exact hnd)
  rwa [e] at this

example : succId exImpl.cells 3 = some 4 ∧ predId exImpl.cells 4 = some 3 :=
  bidirectional_index exImpl.cells (by decide) 1 (by decide)

/-- `begin()` has no predecessor and the end marker (last cell) no successor -/
theorem walk_ends (c : Cell) (t : List Cell) (m : Cell) :
    (((c :: t).map (·.id)).Nodup → predId (c :: t) c.id = none) ∧
    (((t ++ [m]).map (·.id)).Nodup → succId (t ++ [m]) m.id = none) := by
  constructor
  · intro hnd
    cases hp : predId (c :: t) c.id with
    | none => rfl
    | some k =>
      -- the left neighbour's right neighbour `d` sits in `t` and has the id of `c`
      obtain ⟨l, c', d, r, e, _, hd⟩ := predId_adj _ _ _ hp
      have : d ∈ t := by cases l <;> (cases e; simp)
      simp only [List.map_cons, List.nodup_cons] at hnd
      exact absurd (List.mem_map.2 ⟨d, this, hd⟩) hnd.1
  · intro hnd
    induction t with
    | nil => simp [succId]
    | cons d t1 ih =>
      have hnd' : ((t1 ++ [m]).map (·.id)).Nodup := by
        simp only [List.cons_append, List.map_cons, List.nodup_cons] at hnd; exact hnd.2
      have hne : d.id ≠ m.id := by
        intro e
        simp only [List.cons_append, List.map_cons, List.nodup_cons] at hnd
        apply hnd.1
        rw [e]; simp
      simp only [List.cons_append]
      rw [succId]
      simp only [hne, if_false]
      exact ih hnd'

/-- the hypothesis of the `bidirectional` theorems holds for the list an emission walks (cells at
    emission start ++ fresh end marker) whenever it held for the signal's list and the allocator is
    ahead of its ids (both follow from `StepWF.WF`: ids unique and below `next`) -/
theorem range_has_unique_ids (s : St) (i : Nat) (im : Impl) (hnd : (im.cells.map (·.id)).Nodup)
    (hfresh : ∀ c ∈ im.cells, c.id < s.next) :
    ∃ im', aget (emitPrologue s i im).impls i = some im' ∧ (im'.cells.map (·.id)).Nodup := by
  refine ⟨{ im with exec := im.exec + 1, holders := im.holders + 1,
                     cells := im.cells ++ [{ id := s.next, slot := {}, linked := false }] },
          aget_aset_same _ _ _, ?_⟩
  simp only [List.map_append, List.map_cons, List.map_nil]
  rw [List.nodup_append]
  refine ⟨hnd, by simp, ?_⟩
  intro a ha b hb
  simp at hb; subst hb
  obtain ⟨c, hc, rfl⟩ := List.mem_map.1 ha
  have := hfresh c hc
  omega

example : ∃ im', aget exSt1.impls 1 = some im' ∧ (im'.cells.map (·.id)).Nodup :=
  range_has_unique_ids exSt 1 exImpl (by decide) (by decide)

theorem moves_stay_in_list (cells : List Cell) (k n : Nat) :
    (succId cells k = some n → k ∈ cells.map (·.id) ∧ n ∈ cells.map (·.id)) ∧
    (predId cells n = some k → k ∈ cells.map (·.id) ∧ n ∈ cells.map (·.id)) := by
  constructor <;> intro h
  · obtain ⟨l, c, d, r, rfl, rfl, rfl⟩ := succId_adj cells k n h
    simp
  · obtain ⟨l, c, d, r, rfl, rfl, rfl⟩ := predId_adj cells n k h
    simp

/-- every position but the last has a successor (so the walk from `begin()` reaches the end marker) -/
theorem succ_exists (cells : List Cell) (k : Nat) (h : k ∈ cells.dropLast.map (·.id)) :
    ∃ n, succId cells k = some n := by
  induction cells with
  | nil => simp at h
  | cons c t ih =>
    cases t with
    | nil => simp at h
    | cons d t' =>
      by_cases hk : c.id = k
      · exact ⟨d.id, by simp [succId, hk]⟩
      · simp [List.dropLast] at h
        rcases h with h | h
        · exact absurd h.symm hk
        · obtain ⟨n, hn⟩ := ih (by simpa using h)
          exact ⟨n, by rw [succId]; simp only [hk, if_false]; exact hn⟩

example : ∃ n, succId exImpl.cells 4 = some n := succ_exists exImpl.cells 4 (by decide)

/-! ## movement: the loops move only by `succId`/`predId` of the *current* list and reset the flag -/

theorem accLoop_stops_at_end (f : Nat) (P : Prog) (s : St) (i : Nat) (it : IterBuf) (m arg mode k r : Nat)
    (h : it.pos = m) : accLoop (f+1) P s i it m arg mode k r = some (s, .ok, r) := by
  rw [accLoop_unfold]; simp [h]

example : accLoop 1 exProg exSt 1 { pos := 6 } 6 5 0 0 7 = some (exSt, .ok, 7) :=
  accLoop_stops_at_end 0 _ _ _ _ _ _ _ _ _ rfl

/-- `never`: `++it` without dereferencing -/
theorem accLoop_never_moves (f : Nat) (P : Prog) (s : St) (i : Nat) (it : IterBuf) (m arg k r : Nat)
    (im : Impl) (nxt : Nat) (hne : it.pos ≠ m) (hi : aget s.impls i = some im)
    (hn : succId im.cells it.pos = some nxt) :
    accLoop (f+1) P s i it m arg 3 k r
      = accLoop f P s i { it with pos := nxt, invoked := false } m arg 3 k (r + 1) := by
  rw [accLoop_unfold]; simp [hne, accAdvance, hi, hn]

example : accLoop 2 exProg exSt 1 { pos := 4, invoked := true, buf := 9 } 5 0 3 0 0 = some (exSt, .ok, 1) := by
  rw [accLoop_never_moves 1 exProg exSt 1 _ 5 0 0 0 exImpl 5 (by decide) rfl (by decide)]
  exact accLoop_stops_at_end 0 _ _ _ _ _ _ _ _ _ rfl

/-- `sum`: `r += *it; ++it` — successor taken in the list as it is after the slot ran -/
theorem accLoop_sum_moves (f : Nat) (P : Prog) (s s1 : St) (i : Nat) (it it' : IterBuf) (m arg k r : Nat)
    (im : Impl) (nxt : Nat) (hne : it.pos ≠ m) (hd : deref f P s i it arg = some (s1, .ok, it'))
    (hi : aget s1.impls i = some im) (hn : succId im.cells it'.pos = some nxt) :
    accLoop (f+1) P s i it m arg 0 k r
      = accLoop f P s1 i { it' with pos := nxt, invoked := false } m arg 0 k (r + it'.buf) := by
  rw [accLoop_unfold]; simp [hne, hd, accAdvance, hi, hn]

example : accLoop 3 exProg exSt 1 { pos := 2 } 6 5 0 0 0
    = accLoop 2 exProg exSt2 1 { pos := 3, invoked := false, buf := 75 } 6 5 0 0 (0 + 75) :=
  accLoop_sum_moves 2 exProg exSt exSt2 1 _ _ 6 5 0 0 exImpl 3 (by decide) exDeref2 rfl (by decide)

/-- `stop k`: returns as soon as the running sum reaches `k` (later positions are never dereferenced) -/
theorem accLoop_stop_returns (f : Nat) (P : Prog) (s s1 : St) (i : Nat) (it it' : IterBuf) (m arg k r : Nat)
    (hne : it.pos ≠ m) (hd : deref f P s i it arg = some (s1, .ok, it')) (hk : r + it'.buf ≥ k) :
    accLoop (f+1) P s i it m arg 1 k r = some (s1, .ok, r + it'.buf) := by
  rw [accLoop_unfold]; simp [hne, hd, hk]

example : accLoop 3 exProg exSt 1 { pos := 2 } 6 5 1 60 0 = some (exSt2, .ok, 0 + 75) :=
  accLoop_stop_returns 2 exProg exSt exSt2 1 _ _ 6 5 60 0 (by decide) exDeref2 (by decide)

theorem accLoop_stop_moves (f : Nat) (P : Prog) (s s1 : St) (i : Nat) (it it' : IterBuf) (m arg k r : Nat)
    (im : Impl) (nxt : Nat) (hne : it.pos ≠ m) (hd : deref f P s i it arg = some (s1, .ok, it'))
    (hk : r + it'.buf < k) (hi : aget s1.impls i = some im) (hn : succId im.cells it'.pos = some nxt) :
    accLoop (f+1) P s i it m arg 1 k r
      = accLoop f P s1 i { it' with pos := nxt, invoked := false } m arg 1 k (r + it'.buf) := by
  rw [accLoop_unfold]
  have : ¬ (k ≤ r + it'.buf) := by omega
  simp [hne, hd, this, accAdvance, hi, hn]

example : accLoop 3 exProg exSt 1 { pos := 2 } 6 5 1 100 0
    = accLoop 2 exProg exSt2 1 { pos := 3, invoked := false, buf := 75 } 6 5 1 100 (0 + 75) :=
  accLoop_stop_moves 2 exProg exSt exSt2 1 _ _ 6 5 100 0 exImpl 3 (by decide) exDeref2 (by decide) rfl (by decide)

/-- `twice`: `r += *it; r += *it; ++it` — the second dereference is of the iterator the first returned -/
theorem accLoop_twice_moves (f : Nat) (P : Prog) (s s1 s2 : St) (i : Nat) (it it' it2 : IterBuf) (m arg k r : Nat)
    (im : Impl) (nxt : Nat) (hne : it.pos ≠ m) (hd : deref f P s i it arg = some (s1, .ok, it'))
    (hd2 : deref f P s1 i it' arg = some (s2, .ok, it2))
    (hi : aget s2.impls i = some im) (hn : succId im.cells it2.pos = some nxt) :
    accLoop (f+1) P s i it m arg 2 k r
      = accLoop f P s2 i { it2 with pos := nxt, invoked := false } m arg 2 k (r + it'.buf + it2.buf) := by
  rw [accLoop_unfold]; simp [hne, hd, hd2, accAdvance, hi, hn]

example : accLoop 3 exProg exSt 1 { pos := 2 } 6 5 2 0 0
    = accLoop 2 exProg exSt2 1 { pos := 3, invoked := false, buf := 75 } 6 5 2 0 (0 + 75 + 75) :=
  accLoop_twice_moves 2 exProg exSt exSt2 exSt2 1 _ _ _ 6 5 0 0 exImpl 3 (by decide) exDeref2
    (deref_twice_invokes_once 1 exProg exSt2 1 5 _ exImpl (exCell 2 7 false) rfl rfl rfl) rfl (by decide)

/-- `postinc`: `old = it++; r += *old` -/
theorem accLoop_postinc_moves (f : Nat) (P : Prog) (s s1 : St) (i : Nat) (it it' : IterBuf) (m arg k r : Nat)
    (im : Impl) (nxt : Nat) (hne : it.pos ≠ m) (hd : deref f P s i it arg = some (s1, .ok, it'))
    (hi : aget s1.impls i = some im) (hn : succId im.cells it.pos = some nxt) :
    accLoop (f+1) P s i it m arg 4 k r
      = accLoop f P s1 i { it with pos := nxt, invoked := false } m arg 4 k (r + it'.buf) := by
  rw [accLoop_unfold]; simp [hne, hd, accAdvance, hi, hn]

example : accLoop 3 exProg exSt 1 { pos := 2 } 6 5 4 0 0
    = accLoop 2 exProg exSt2 1 { pos := 3, invoked := false, buf := 0 } 6 5 4 0 (0 + 75) :=
  accLoop_postinc_moves 2 exProg exSt exSt2 1 _ _ 6 5 0 0 exImpl 3 (by decide) exDeref2 rfl (by decide)

/-- an exception leaves the accumulator at once with the outcome `exc` -/
theorem accLoop_exception (f : Nat) (P : Prog) (s s1 : St) (i : Nat) (it it' : IterBuf) (m arg mode k r : Nat)
    (hne : it.pos ≠ m) (hm : mode ≠ 3) (hd : deref f P s i it arg = some (s1, .exc, it')) :
    accLoop (f+1) P s i it m arg mode k r = some (s1, .exc, r) :=
  C08.accLoop_stops_at_exc f P s s1 i m arg mode k r it it' hne hm hd

/-- functor 7 throws: the accumulator `sum` is left at once with `exc` -/
example : ∃ s1, accLoop 6 exProgT exSt 1 { pos := 2 } 6 5 0 0 0 = some (s1, .exc, 0) := by
  have h : (deref 5 exProgT exSt 1 { pos := 2 } 5).map (fun x => x.2.1) = some .exc := by decide +kernel
  obtain ⟨⟨s1, o, it'⟩, hd, ho⟩ := Option.map_eq_some_iff.1 h
  cases ho
  exact ⟨s1, accLoop_exception 5 _ _ s1 _ _ it' _ _ 0 _ _ (by decide) (by decide) hd⟩

/-- reverse walk: `--it` (predecessor in the current list, flag reset), then `r += *it` -/
theorem revLoop_moves (f : Nat) (P : Prog) (s : St) (i : Nat) (it : IterBuf) (first arg r : Nat)
    (im : Impl) (prv : Nat) (hne : it.pos ≠ first) (hi : aget s.impls i = some im)
    (hp : predId im.cells it.pos = some prv) :
    revLoop (f+1) P s i it first arg r =
      (match deref f P s i { it with pos := prv, invoked := false } arg with
       | none => none
       | some (s, .exc, _) => some (s, .exc, r)
       | some (s, .ok, it) => revLoop f P s i it first arg (r + it.buf)) := by
  rw [revLoop]; simp [hne, hi, hp] <;> rfl

theorem revLoop_stops_at_begin (f : Nat) (P : Prog) (s : St) (i : Nat) (it : IterBuf) (first arg r : Nat)
    (h : it.pos = first) : revLoop (f+1) P s i it first arg r = some (s, .ok, r) := by
  rw [revLoop]; simp [h]

example : revLoop 1 exProg exSt 1 { pos := 2 } 2 5 7 = some (exSt, .ok, 7) :=
  revLoop_stops_at_begin 0 _ _ _ _ _ _ _ rfl

example : revLoop 3 exProg exSt 1 { pos := 4, invoked := true, buf := 9 } 3 5 0 = some (exSt, .ok, 9) := by
  rw [revLoop_moves 2 exProg exSt 1 _ 3 5 0 exImpl 3 (by decide) rfl (by decide)]
  rw [deref_blocked_not_invoked 1 _ _ _ _ _ exImpl (exCell 3 8 true) rfl rfl rfl]
  exact revLoop_stops_at_begin _ _ _ _ _ _ _ _ rfl

theorem walkLoop_inc_moves (f : Nat) (P : Prog) (s : St) (i : Nat) (it : IterBuf) (first m arg r : Nat) (cs : List Char)
    (im : Impl) (nxt : Nat) (hne : it.pos ≠ m) (hi : aget s.impls i = some im)
    (hn : succId im.cells it.pos = some nxt) :
    walkLoop (f+1) P s i it first m arg ('i' :: cs) r
      = walkLoop f P s i { it with pos := nxt, invoked := false } first m arg cs r := by
  rw [walkLoop]; simp [hne, hi, hn]

example : walkLoop 2 exProg exSt 1 { pos := 2, invoked := true, buf := 9 } 2 6 5 ['i'] 0
    = walkLoop 1 exProg exSt 1 { pos := 3, invoked := false, buf := 9 } 2 6 5 [] 0 :=
  walkLoop_inc_moves 1 exProg exSt 1 _ 2 6 5 0 [] exImpl 3 (by decide) rfl (by decide)

theorem walkLoop_dec_moves (f : Nat) (P : Prog) (s : St) (i : Nat) (it : IterBuf) (first m arg r : Nat) (cs : List Char)
    (im : Impl) (prv : Nat) (hne : it.pos ≠ first) (hi : aget s.impls i = some im)
    (hp : predId im.cells it.pos = some prv) :
    walkLoop (f+1) P s i it first m arg ('x' :: cs) r
      = walkLoop f P s i { it with pos := prv, invoked := false } first m arg cs r := by
  rw [walkLoop]; simp [hne, hi, hp]

example : walkLoop 2 exProg exSt 1 { pos := 4, invoked := true, buf := 9 } 2 6 5 ['x'] 0
    = walkLoop 1 exProg exSt 1 { pos := 3, invoked := false, buf := 9 } 2 6 5 [] 0 :=
  walkLoop_dec_moves 1 exProg exSt 1 _ 2 6 5 0 [] exImpl 3 (by decide) rfl (by decide)

example : walkLoop 3 exProg exSt 1 { pos := 2, invoked := true, buf := 9 } 2 6 5 ['i', 'x'] 0 = some (exSt, .ok, 0) := by
  rw [walkLoop_inc_moves 2 exProg exSt 1 _ 2 6 5 0 ['x'] exImpl 3 (by decide) rfl (by decide)]
  rw [walkLoop_dec_moves 1 exProg exSt 1 _ 2 6 5 0 [] exImpl 2 (by decide) rfl (by decide)]
  exact walkLoop_nil _ _ _ _ _ _ _ _ _

/-- `d`: dereference in place (flag and buffer kept by the iterator that is moved later) -/
theorem walkLoop_deref_step (f : Nat) (P : Prog) (s : St) (i : Nat) (it : IterBuf) (first m arg r : Nat) (cs : List Char)
    (hne : it.pos ≠ m) :
    walkLoop (f+1) P s i it first m arg ('d' :: cs) r =
      (match deref f P s i it arg with
       | none => none
       | some (s, .exc, _) => some (s, .exc, r)
       | some (s, .ok, it) => walkLoop f P s i it first m arg cs (r + it.buf)) := by
  rw [walkLoop]; simp [hne] <;> rfl

example : walkLoop 3 exProg exSt 1 { pos := 2 } 2 6 5 ['d'] 0 = some (exSt2, .ok, 0 + 75) := by
  rw [walkLoop_deref_step 2 exProg exSt 1 _ 2 6 5 0 [] (by decide), exDeref2]
  exact walkLoop_nil _ _ _ _ _ _ _ _ _

/-- `c`: a copy is dereferenced; the iterator itself keeps its flag (so a later `d` invokes again) -/
theorem walkLoop_copy_step (f : Nat) (P : Prog) (s : St) (i : Nat) (it : IterBuf) (first m arg r : Nat) (cs : List Char)
    (hne : it.pos ≠ m) :
    walkLoop (f+1) P s i it first m arg ('c' :: cs) r =
      (match deref f P s i it arg with
       | none => none
       | some (s, .exc, _) => some (s, .exc, r)
       | some (s, .ok, cp) => walkLoop f P s i it first m arg cs (r + cp.buf)) := by
  rw [walkLoop]; simp [hne] <;> rfl

/-- the copy was dereferenced: the iterator itself (`{ pos := 2 }`, not invoked) goes on -/
example : walkLoop 3 exProg exSt 1 { pos := 2 } 2 6 5 ['c'] 0 = some (exSt2, .ok, 0 + 75) := by
  rw [walkLoop_copy_step 2 exProg exSt 1 _ 2 6 5 0 [] (by decide), exDeref2]
  exact walkLoop_nil _ _ _ _ _ _ _ _ _

/-! ## `acc_called_once`, `plain_one_loop`: one accumulator call / one loop per emission -/

/-- a signal that never had a slot list returns the default value and runs nothing -/
theorem emit_without_impl (f : Nat) (P : Prog) (s : St) (fl : Flavour) (arg : Nat) (st : Strat) :
    emitImpl (f+1) P s fl none arg st = some (s, .ok, 0) := by
  rw [emitImpl]

example : emitImpl 1 { bodies := [], top := [] } {} .A none 3 .sum = some ({}, .ok, 0) := emit_without_impl 0 _ _ _ _ _

/-- a non-accumulated emission of an empty list returns the default value and touches nothing -/
theorem emit_empty_list (f : Nat) (P : Prog) (s : St) (fl : Flavour) (i arg : Nat) (strat : Strat) (im : Impl)
    (hacc : fl.isAcc = false) (hi : aget s.impls i = some im) (he : im.cells = []) :
    emitImpl (f+1) P s fl (some i) arg strat = some (s, .ok, 0) := by
  rw [emitImpl_unfold f P s fl i arg strat im hi]
  simp [hacc, he]

example : emitImpl 1 exProg { impls := [(1, {})] } .I (some 1) 3 .sum = some ({ impls := [(1, {})] }, .ok, 0) :=
  emit_empty_list 0 _ _ _ _ _ _ {} rfl rfl rfl

/-- with an accumulator: `emit` = prologue (`emitPrologue`: counts raised, fresh end marker `s.next`
    appended), then **exactly one** accumulator call `runStrat` over `[first, marker)` where `first` is
    the first cell present at emission start (`emitFirst`; the marker itself for an empty list), then
    the epilogue `emitEpilogue`, which runs no functor and no loop -/
theorem acc_called_once (f : Nat) (P : Prog) (s : St) (fl : Flavour) (i arg : Nat) (strat : Strat) (im : Impl)
    (hacc : fl.isAcc = true) (hi : aget s.impls i = some im) :
    emitImpl (f+1) P s fl (some i) arg strat =
      (match runStrat f P (emitPrologue s i im) i (emitFirst s im) s.next arg (strat.forFlavour fl) with
       | none => none
       | some (s2, o, v) => some (emitEpilogue s2 i s.next o v)) := by
  rw [emitImpl_unfold f P s fl i arg strat im hi]
  simp [hacc]
  rfl

/-- without an accumulator (non-empty list): prologue, exactly one `emitLoop` from the first cell to the
    marker starting from the value-initialised result 0, epilogue -/
theorem plain_one_loop (f : Nat) (P : Prog) (s : St) (fl : Flavour) (i arg : Nat) (strat : Strat) (im : Impl)
    (hacc : fl.isAcc = false) (hi : aget s.impls i = some im) (hne : im.cells ≠ []) :
    emitImpl (f+1) P s fl (some i) arg strat =
      (match emitLoop f P (emitPrologue s i im) i (emitFirst s im) s.next arg 0 with
       | none => none
       | some (s2, o, v) => some (emitEpilogue s2 i s.next o v)) := by
  rw [emitImpl_unfold f P s fl i arg strat im hi]
  simp [hacc, hne]
  rfl

/-- `emit()` returns what the accumulator / the loop returned: the epilogue passes outcome and value through -/
theorem emit_returns_accumulator_result (s : St) (i m : Nat) (o : Outcome) (v : Nat) :
    (emitEpilogue s i m o v).2 = (o, v) := by
  unfold emitEpilogue
  split <;> rfl

/-- consequence: the value and outcome of an accumulated emission are exactly those of its one `runStrat` call -/
theorem emit_acc_value (f : Nat) (P : Prog) (s s' : St) (fl : Flavour) (i arg : Nat) (strat : Strat) (im : Impl)
    (o : Outcome) (v : Nat) (hacc : fl.isAcc = true) (hi : aget s.impls i = some im)
    (h : emitImpl (f+1) P s fl (some i) arg strat = some (s', o, v)) :
    ∃ s2, runStrat f P (emitPrologue s i im) i (emitFirst s im) s.next arg (strat.forFlavour fl) = some (s2, o, v) ∧
          s' = (emitEpilogue s2 i s.next o v).1 := by
  rw [acc_called_once f P s fl i arg strat im hacc hi] at h
  exact emitEpilogue_inv h

/-- the range handed to the accumulator: `first` is the head of the list at emission start, and the
    marker is the last cell of the list the accumulator walks -/
theorem acc_range (s : St) (i : Nat) (im : Impl) :
    (∃ im', aget (emitPrologue s i im).impls i = some im' ∧
        im'.cells.map (·.id) = im.cells.map (·.id) ++ [s.next] ∧
        im'.exec = im.exec + 1 ∧ im'.holders = im.holders + 1) ∧
    emitFirst s im = ((im.cells.map (·.id)) ++ [s.next]).head (by simp) := by
  constructor
  · exact ⟨{ im with exec := im.exec + 1, holders := im.holders + 1,
                       cells := im.cells ++ [{ id := s.next, slot := {}, linked := false }] },
            aget_aset_same _ _ _, by simp, rfl, rfl⟩
  · unfold emitFirst
    cases im.cells <;> simp

example : (emitImpl 10 exProg exSt .A (some 1) 5 .sum).map (·.2.2) = some 340 := by decide +kernel
example : (emitImpl 10 exProg exSt .A (some 1) 5 .rev).map (·.2.2) = some 265 := by decide +kernel
example : (emitImpl 10 exProg exSt .A (some 1) 5 .never).map (·.2.2) = some 4 := by decide +kernel
example : (emitImpl 10 exProg exSt .A (some 1) 5 (.stop 60)).map (·.2.2) = some 75 := by decide +kernel
example : (emitImpl 10 exProg exSt .I (some 1) 5 .sum).map (·.2.2) = some 95 := by decide +kernel

/-! ## never dereferenced ⇒ never invoked -/

/-- an accumulator that never dereferences (`never`) invokes no slot and cannot throw: the state is unchanged up
    to the model's error flag -/
theorem never_dereferenced_never_invoked (f : Nat) (P : Prog) (s : St) (i : Nat) (it : IterBuf) (m arg k r : Nat)
    (s' : St) (o : Outcome) (v : Nat) (h : accLoop f P s i it m arg 3 k r = some (s', o, v)) :
    o = .ok ∧ (s' = s ∨ ∃ msg, s' = s.fail msg) := by
  refine (?_ : Inv.Ans (fun x => x.2.1 = .ok ∧ (x.1 = s ∨ ∃ msg, x.1 = s.fail msg)) _) _ h
  clear h
  induction f generalizing it r with
  | zero => intro _ h; simp [accLoop] at h
  | succ f ih =>
    rw [accLoop_unfold, if_pos rfl]
    -- only `++it`: a move in the current list leaves the state alone
    exact .cond (.ret ⟨rfl, .inl rfl⟩) (.move (fun _ => ⟨rfl, .inr ⟨_, rfl⟩⟩) fun _ => ih _ _)

example : (accLoop 9 exProg exSt1 1 { pos := 2 } 6 5 3 0 0).map (fun x => (x.2.1, x.2.2, x.1.trace.length))
    = some (.ok, 4, 0) := by decide +kernel

/-- a scripted walk that only moves (`i`, `x`, never `d`/`c`) invokes nothing and returns the initial sum -/
theorem walk_without_deref_invokes_nothing (f : Nat) (P : Prog) (s : St) (i : Nat) (it : IterBuf) (first m arg : Nat)
    (ops : List Char) (r : Nat) (s' : St) (o : Outcome) (v : Nat) (hd : 'd' ∉ ops) (hc : 'c' ∉ ops)
    (h : walkLoop f P s i it first m arg ops r = some (s', o, v)) :
    o = .ok ∧ v = r ∧ (s' = s ∨ ∃ msg, s' = s.fail msg) := by
  refine (?_ : Inv.Ans (fun x => x.2.1 = .ok ∧ x.2.2 = r ∧ (x.1 = s ∨ ∃ msg, x.1 = s.fail msg)) _) _ h
  clear h
  induction f generalizing it ops with
  | zero => intro _ h; simp [walkLoop] at h
  | succ f ih =>
    cases ops with
    | nil => rw [walkLoop_nil]; exact .ret ⟨rfl, rfl, .inl rfl⟩
    | cons c cs =>
      have rest : ∀ {it1}, Inv.Ans _ (walkLoop f P s i it1 first m arg cs r) := fun {it1} =>
        ih it1 cs (fun hh => hd (List.mem_cons_of_mem _ hh)) (fun hh => hc (List.mem_cons_of_mem _ hh))
      have hcd : c ≠ 'd' := fun e => hd (by simp [e])
      have hcc : c ≠ 'c' := fun e => hc (by simp [e])
      rw [walkLoop, if_neg hcd, if_neg hcc]
      -- `i`, then `x`: a move in the current list (refused at either end); any other letter is skipped
      exact .cond (.cond rest (.move (fun _ => ⟨rfl, rfl, .inr ⟨_, rfl⟩⟩) fun _ => rest))
        (.cond (.cond rest (.move (fun _ => ⟨rfl, rfl, .inr ⟨_, rfl⟩⟩) fun _ => rest)) rest)

example : (walkLoop 9 exProg exSt1 1 { pos := 2 } 2 6 5 ['i', 'i', 'x', 'i'] 0).map (fun x => (x.2.1, x.2.2, x.1.trace.length))
    = some (.ok, 0, 0) := by decide +kernel

/-! ## the call log only grows and the nesting depth is restored (every function of the interpreter) -/

/-- every function of the interpreter, whatever the slots do (re-entrant emission, exceptions, …), only
    *adds* events to the call log, all at the current depth or deeper, and restores the depth
    (`Ext`, mutual induction on fuel over all eleven functions: `allExt`) -/
theorem log_only_grows (f : Nat) : AllExt f := allExt f

/-- what the driver runs: a whole top-level program only extends the log and ends at the depth it
    started at (0 from the initial state) -/
theorem run_log_only_grows (f : Nat) (P : Prog) (s : St) (ls : List Line) (s' : St) (h : runTop f P s ls = some s') :
    s'.depth = s.depth ∧ ∃ new, s'.trace = new ++ s.trace ∧ ∀ e ∈ new, s.depth ≤ evDepth e :=
  Sigc.Inv.runTop_induct (J := Ext s) (fun _ _ _ _ hJ hl => hJ.trans ((allExt f).line _ _ _ _ _ hl)) (Ext.refl s) h

example : (runTop 12 exProgB exStB [{ text := "emit 0 5", op := .emit 0 5 .sum false }]).map (fun x => (x.depth, x.trace.length))
    = some (0, 3) := by decide +kernel

theorem emit_extends_log (f : Nat) (P : Prog) (s : St) (fl : Flavour) (impl : Option Nat) (arg : Nat) (strat : Strat)
    (s' : St) (o : Outcome) (v : Nat) (h : emitImpl f P s fl impl arg strat = some (s', o, v)) :
    s'.depth = s.depth ∧ ∃ new, s'.trace = new ++ s.trace ∧ ∀ e ∈ new, s.depth ≤ evDepth e :=
  (allExt f).emit P s fl impl arg strat s' o v h

example : (emitImpl 10 exProgB exStB .I (some 1) 5 .sum).map (fun x => (x.1.depth, x.1.trace.length)) = some (0, 2) := by
  decide +kernel

/-- no operation that runs no user code touches the log or the depth -/
theorem simple_ops_keep_log (s s' : St) (op : Op) (r : String) (h : stepSimple s op = some (s', r)) :
    s'.trace = s.trace ∧ s'.depth = s.depth :=
  stepSimple_td s s' op r h

example : (stepSimple exStB (.blockC 0 true)).isSome = true ∧
    ∀ s' r, stepSimple exStB (.blockC 0 true) = some (s', r) → s'.trace = exStB.trace :=
  ⟨by decide +kernel, fun _ _ h => (simple_ops_keep_log _ _ _ _ h).1⟩

/-- a user functor returns `resultOf fid arg` whatever its body does (also if it throws), logs its call
    at the current depth before anything its body logs (all deeper), and restores the depth -/
theorem user_functor_value_and_log (f : Nat) (P : Prog) (s : St) (fn : Fun) (fid arg : Nat)
    (s' : St) (o : Outcome) (v : Nat) (hu : userFid fn = some fid) (h : invokeFun f P s fn arg = some (s', o, v)) :
    v = resultOf fid arg ∧ s'.depth = s.depth ∧
    ∃ new, s'.trace = new ++ (Event.call s.depth fid arg :: s.trace) ∧ ∀ e ∈ new, s.depth < evDepth e := by
  cases f with
  | zero => simp [invokeFun] at h
  | succ f => exact invoke_user_step (allExt f).body P s fn fid arg s' o v hu h

example : (invokeFun 5 exProgB exStB (.leaf 7 []) 5).map (fun x => (x.2.2, x.1.depth, x.1.trace.length)) = some (75, 0, 2) := by
  decide +kernel

/-! ## `last_value`: without an accumulator, the value of the last slot invoked -/

/-
C13, first sentence: without an accumulator, `emit()` returns the value returned by the last slot
actually invoked, or a default-constructed value if none was.

Proved in relational form (`last_value_loop`, `last_value`): for every state,
program, fuel — bodies may block, disconnect, connect, re-emit, throw — the loop is an `EmitRun`, i.e.
at each turn the cell is invoked iff it is callable *at that moment*, and the value returned is the
value returned by the last functor invoked (`calls.getLast`), or the initial/default value if none was.

The reading in the call log (`last_value_in_log_partial`) needs the hypothesis that every functor the
emission itself invoked is a user functor (`Fun.leaf` or `Fun.owner`, `isUser`): only user functors log a `call` event with a
value determined by that event.  What is missing for arbitrary functors: a slot held by value in an
adaptor (`Fun.nest`) that is blocked/empty returns 0 without logging anything, and `make_slot()` of
another signal (`Fun.fwd`) returns that signal's emission result (for an accumulated signal a sum),
whose `call` events are logged at the *same* depth; so for such functors the value is not a function
of the newest `call` event.  (For them `last_value` still says: the value of the last invoked functor.)
-/

theorem run_value (P : Prog) (i m arg : Nat) (s : St) (cur r : Nat) (calls : List (Fun × Nat)) (s' : St) (o : Outcome) (v : Nat)
    (h : EmitRun P i m arg s cur r calls s' o v) : v = ((calls.map (·.2)).getLast?).getD r := by
  induction h with
  | done => rfl
  | lost => rfl
  | skip _ _ _ _ _ _ _ _ _ _ _ _ _ _ ih => exact ih
  | skipLost => rfl
  | call _ _ _ _ _ _ _ _ _ _ _ _ _ _ _ _ _ ih =>
    rw [ih]; simp [List.getLast?_cons]
  | callLost => rfl
  | exc => rfl

example : (95 : Nat) = (([(Fun.leaf 7 [], 75), (Fun.leaf 9 [], 95)].map (·.2)).getLast?).getD 0 :=
  run_value _ _ _ _ _ _ _ _ _ _ _ exRun

/-- the non-accumulating loop: every terminating run, from every state, is an `EmitRun` — each cell is
    invoked iff callable at its turn, in list order, until the end marker or an exception — and the
    value it returns is the value returned by the last functor it invoked, or the initial result `r`
    if it invoked none -/
theorem last_value_loop (f : Nat) (P : Prog) (s : St) (i cur m arg r : Nat) (s' : St) (o : Outcome) (v : Nat)
    (h : emitLoop f P s i cur m arg r = some (s', o, v)) :
    ∃ calls, EmitRun P i m arg s cur r calls s' o v ∧ v = ((calls.map (·.2)).getLast?).getD r := by
  obtain ⟨calls, hr⟩ := emitLoop_run f P s i cur m arg r s' o v h
  exact ⟨calls, hr, run_value _ _ _ _ _ _ _ _ _ _ _ hr⟩

example : ∃ s' calls, EmitRun exProg 1 6 5 exSt1 2 0 calls s' .ok 95 ∧ 95 = ((calls.map (·.2)).getLast?).getD 0 := by
  have h : (emitLoop 9 exProg exSt1 1 2 6 5 0).map (fun x => (x.2.1, x.2.2)) = some (.ok, 95) := by decide +kernel
  obtain ⟨⟨s', o, v⟩, hr, e⟩ := Option.map_eq_some_iff.1 h
  cases e
  obtain ⟨calls, hrun, hv⟩ := last_value_loop _ _ _ _ _ _ _ _ _ _ _ hr
  exact ⟨s', calls, hrun, hv⟩

/-- a run left by an exception has invoked at least one functor (the thrower: constructor `exc`) -/
theorem run_exception_is_last_call (P : Prog) (i m arg : Nat) (s : St) (cur r : Nat) (calls : List (Fun × Nat)) (s' : St) (v : Nat)
    (h : EmitRun P i m arg s cur r calls s' .exc v) : calls ≠ [] := by
  generalize ho : Outcome.exc = o at h
  induction h with
  | done => cases ho
  | lost => cases ho
  | skip _ _ _ _ _ _ _ _ _ _ _ _ _ _ ih => exact ih ho
  | skipLost => cases ho
  | call => simp
  | callLost => simp
  | exc => simp

/-- one call of a user functor in the log: its call event, at the caller's depth, is the newest one there -/
theorem invoke_user_last (f : Nat) (P : Prog) (s : St) (fn : Fun) (arg : Nat) (s' : St) (o : Outcome) (v : Nat)
    (hu : isUser fn = true) (h : invokeFun f P s fn arg = some (s', o, v)) :
    s'.depth = s.depth ∧ ∃ new, s'.trace = new ++ s.trace ∧ (∀ e ∈ new, s.depth ≤ evDepth e) ∧
      ∃ fid a, lastCallAt s.depth new = some (fid, a) ∧ v = resultOf fid a := by
  obtain ⟨fid, hu⟩ := Option.isSome_iff_exists.1 hu
  obtain ⟨hv, hd, n, ht, ha⟩ := user_functor_value_and_log f P s fn fid arg s' o v hu h
  refine ⟨hd, n ++ [Event.call s.depth fid arg], by simp [ht], fun e he => ?_, fid, arg, ?_, hv⟩
  · rcases List.mem_append.1 he with he | he
    · exact Nat.le_of_lt (ha e he)
    · rw [List.mem_singleton.1 he]; exact Nat.le_refl _
  · rw [lastCallAt_append, lastCallAt_deeper _ n ha]
    simp [lastCallAt]

/-- the log reading of `last_value` for a run whose invoked functors are all user functors
    (see the comment above for what is missing for `nest`/`fwd` functors) -/
theorem last_value_in_log_partial (P : Prog) (i m arg : Nat) (s : St) (cur r : Nat) (calls : List (Fun × Nat))
    (s' : St) (o : Outcome) (v : Nat) (h : EmitRun P i m arg s cur r calls s' o v)
    (hleaf : ∀ p ∈ calls, isUser p.1 = true) :
    s'.depth = s.depth ∧
    ∃ new, s'.trace = new ++ s.trace ∧ (∀ e ∈ new, s.depth ≤ evDepth e) ∧
      v = (match lastCallAt s.depth new with
           | some (fid, a) => resultOf fid a
           | none => r) := by
  induction h with
  | done => exact ⟨rfl, [], rfl, by simp, rfl⟩
  | lost => exact ⟨by simp, [], by simp, by simp, rfl⟩
  | skip _ _ _ _ _ _ _ _ _ _ _ _ _ _ ih => exact ih hleaf
  | skipLost => exact ⟨by simp, [], by simp, by simp, rfl⟩
  | call f s cur r nxt fn s1 v1 calls s' o v _ _ hx _ _ ih =>
    obtain ⟨hd1, n1, ht1, ha1, fid, a, hl1, hv1⟩ :=
      invoke_user_last f P s fn arg s1 .ok v1 (hleaf (fn, v1) (List.mem_cons_self ..)) hx
    obtain ⟨hd2, n2, ht2, ha2, hv⟩ := ih (fun p hp => hleaf p (List.mem_cons_of_mem _ hp))
    rw [hd1] at hv ha2
    refine ⟨hd2.trans hd1, n2 ++ n1, by simp [ht2, ht1], fun e he => ?_, ?_⟩
    · rcases List.mem_append.1 he with he | he
      · exact ha2 e he
      · exact ha1 e he
    · rw [lastCallAt_append, hl1]
      cases hl2 : lastCallAt s.depth n2 <;> simp [hl2] at hv ⊢
      · rw [hv, hv1]
      · exact hv
  | callLost f s cur r fn s1 v1 msg _ _ hx _ =>
    obtain ⟨hd1, n1, ht1, ha1, fid, a, hl1, hv1⟩ :=
      invoke_user_last f P s fn arg s1 .ok v1 (hleaf (fn, v1) (List.mem_cons_self ..)) hx
    exact ⟨by simp [hd1], n1, by simp [ht1], ha1, by rw [hl1]; exact hv1⟩
  | exc f s cur r fn s1 v1 _ _ hx =>
    obtain ⟨hd1, n1, ht1, ha1, fid, a, hl1, hv1⟩ :=
      invoke_user_last f P s fn arg s1 .exc v1 (hleaf (fn, v1) (List.mem_cons_self ..)) hx
    exact ⟨hd1, n1, ht1, ha1, by rw [hl1]; exact hv1⟩

example : ∃ new, ((exSt1.log (.call 0 7 5)).log (.call 0 9 5)).trace = new ++ exSt1.trace ∧
    (∀ e ∈ new, exSt1.depth ≤ evDepth e) ∧
    95 = (match lastCallAt exSt1.depth new with
          | some (fid, a) => resultOf fid a
          | none => 0) :=
  (last_value_in_log_partial _ _ _ _ _ _ _ _ _ _ _ exRun (by decide)).2

/-- `emit()` of a non-accumulated signal: for an empty list nothing happens and the default value 0 is
    returned; otherwise prologue, one `EmitRun` from the first cell present at emission start to the
    fresh end marker, starting from the default value, epilogue; the value returned is the value of the
    last functor invoked, or the default 0 if none was; and if all functors invoked by this emission
    are user functors, that value is `resultOf` of the newest call logged at the emission's depth
    during the emission -/
theorem last_value (f : Nat) (P : Prog) (s : St) (fl : Flavour) (i arg : Nat) (strat : Strat) (im : Impl)
    (s' : St) (o : Outcome) (v : Nat) (hacc : fl.isAcc = false) (hi : aget s.impls i = some im)
    (h : emitImpl (f+1) P s fl (some i) arg strat = some (s', o, v)) :
    ∃ calls,
      ((im.cells = [] ∧ calls = [] ∧ s' = s ∧ o = .ok) ∨
       (im.cells ≠ [] ∧ ∃ s2, EmitRun P i s.next arg (emitPrologue s i im) (emitFirst s im) 0 calls s2 o v ∧
          s' = (emitEpilogue s2 i s.next o v).1)) ∧
      v = ((calls.map (·.2)).getLast?).getD 0 ∧
      ((∀ p ∈ calls, isUser p.1 = true) →
        s'.depth = s.depth ∧
        ∃ new, s'.trace = new ++ s.trace ∧ (∀ e ∈ new, s.depth ≤ evDepth e) ∧
          v = (match lastCallAt s.depth new with
               | some (fid, a) => resultOf fid a
               | none => 0)) := by
  by_cases hne : im.cells = []
  · rw [emit_empty_list f P s fl i arg strat im hacc hi hne] at h
    cases h
    exact ⟨[], Or.inl ⟨hne, rfl, rfl, rfl⟩, rfl, fun _ => ⟨rfl, [], rfl, by simp, rfl⟩⟩
  · rw [plain_one_loop f P s fl i arg strat im hacc hi hne] at h
    obtain ⟨s2, hr, rfl⟩ := emitEpilogue_inv h
    obtain ⟨calls, hrun⟩ := emitLoop_run f _ _ _ _ _ _ _ _ _ _ hr
    refine ⟨calls, Or.inr ⟨hne, s2, hrun, rfl⟩, run_value _ _ _ _ _ _ _ _ _ _ _ hrun, fun hleaf => ?_⟩
    obtain ⟨hd, new, ht, ha, hv⟩ := last_value_in_log_partial _ _ _ _ _ _ _ _ _ _ _ hrun hleaf
    have ep := emitEpilogue_td s2 i s.next o v
    exact ⟨ep.2.trans hd, new, ep.1.trans ht, ha, hv⟩

/-- functor 7 blocks the slot of cell 4 while the emission runs: the value is that of functor 7 -/
example : (emitImpl 10 exProgB exStB .I (some 1) 5 .sum).map (fun x => (x.2.1, x.2.2)) = some (.ok, 75) := by
  decide +kernel

example : ∃ s', ∃ calls : List (Fun × Nat), emitImpl 10 exProgB exStB .I (some 1) 5 .sum = some (s', .ok, 75) ∧
    75 = ((calls.map (·.2)).getLast?).getD 0 := by
  have h : (emitImpl 10 exProgB exStB .I (some 1) 5 .sum).map (fun x => (x.2.1, x.2.2)) = some (.ok, 75) := by
    decide +kernel
  obtain ⟨⟨s', o, v⟩, hr, e⟩ := Option.map_eq_some_iff.1 h
  cases e
  obtain ⟨calls, _, hv, _⟩ := last_value 9 exProgB exStB .I 1 5 .sum exImpl s' _ _ rfl rfl hr
  exact ⟨s', calls, hr, hv⟩

/-- what the driver prints: an `emit` line (outside try/catch) that completes normally logs, as the
    newest event and at the line's own depth, `text => r=<v>` where `v` is the value `emitImpl`
    returned — by `last_value` the value of the last slot invoked, or 0 -/
theorem emit_line_reports_value (f : Nat) (P : Prog) (s : St) (text : String) (g arg : Nat) (strat : Strat)
    (h0 : Handle) (s' : St) (hg : aget s.G g = some h0)
    (hd : ¬ s.depth ≥ P.maxdepth) (hs : ¬ s.steps + 1 > P.maxsteps)
    (h : execLine (f+3) P s { text := text, op := .emit g arg strat false } = some (s', .ok)) :
    ∃ s1 v, emitImpl (f+1) P { s with steps := s.steps + 1 } h0.fl h0.impl arg strat = some (s1, .ok, v) ∧
      s' = collect (s1.log (.res s.depth text (showRes h0.fl.isVoid v))) := by
  rw [execLine] at h
  simp only at h
  rw [execOp] at h
  simp only [hg, hd, hs, if_false] at h
  cases he : emitImpl (f+1) P { s with steps := s.steps + 1 } h0.fl h0.impl arg strat with
  | none => simp [he] at h
  | some res =>
    obtain ⟨s1, o1, v1⟩ := res
    have e1 := (allExt _).emit _ _ _ _ _ _ _ _ _ he
    cases o1 with
    | exc => simp [he] at h
    | ok =>
      simp [he] at h
      refine ⟨s1, v1, rfl, ?_⟩
      rw [← h, e1.1]

example : (execLine 12 exProgB exStB { text := "emit 0 5", op := .emit 0 5 .sum false }).map (fun x => x.1.trace.head?.map renderEvent)
    = some (some "0 emit 0 5 => r=75") := by decide +kernel

/-! ## the same statements about the specification `S` (`Sigc.Spec`) -/

/-- `S`: a signal without a list returns the default value and does nothing -/
theorem spec_emit_without_list (f : Nat) (P : Prog) (s : Spec.LSt) (fl : Flavour) (arg : Nat) (strat : Strat) :
    Spec.emitSig (f+1) P s fl none arg strat = some (s, .ok, 0) :=
  SpecP.emit_without_list f P s fl arg strat

example : Spec.emitSig 1 exProg {} .A none 3 .sum = some ({}, .ok, 0) := spec_emit_without_list 0 _ _ _ _ _

/-- `S`: an already-invoked position is not invoked again -/
theorem spec_deref_once (f : Nat) (P : Prog) (s : Spec.LSt) (i : Nat) (snap : List Nat) (it : Spec.It) (arg : Nat)
    (hinv : it.invoked = true) : Spec.deref (f+1) P s i snap it arg = some (s, .ok, it) :=
  SpecP.deref_at_most_once f P s i snap it arg hinv

example : Spec.deref 1 exProg {} 1 [2, 3] { pos := 0, invoked := true, buf := 7 } 5
    = some ({}, .ok, { pos := 0, invoked := true, buf := 7 }) := spec_deref_once 0 _ _ _ _ _ _ rfl

/-- `S`: an entry that is gone, invalid or blocked at that moment is not invoked -/
theorem spec_deref_skips (f : Nat) (P : Prog) (s : Spec.LSt) (i : Nat) (snap : List Nat) (it : Spec.It) (arg cid : Nat)
    (hp : snap[it.pos]? = some cid) (hnc : specCallable s i cid = none) :
    Spec.deref (f+1) P s i snap it arg = some (s, .ok, it) :=
  SpecP.deref_skips_not_callable f P s i snap it arg cid hp hnc

/-- `S`: the value of a non-accumulated emission is the value of the last invoked functor or the
    initial (default) one; at most one invocation per entry of the snapshot -/
theorem spec_last_value (f : Nat) (P : Prog) (s : Spec.LSt) (i : Nat) (snap : List Nat) (arg r : Nat)
    (s' : Spec.LSt) (o : Outcome) (v : Nat) (h : Spec.turns f P s i snap arg r = some (s', o, v)) :
    ∃ calls, TurnsRun P i arg s snap r calls s' o v ∧ v = ((calls.map (·.2)).getLast?).getD r ∧
      calls.length ≤ snap.length := by
  obtain ⟨l, hl⟩ := SpecP.turns_has_log f P s i snap arg r _ h
  refine ⟨_, turnsT_run f P s i snap arg r s' o v l hl, ?_, ?_⟩
  · rw [List.map_map]; exact SpecP.turns_value_is_last_invoked f P s s' i snap arg r v o l hl
  · rw [List.length_map]; exact (SpecP.invoked_in_snapshot_order_once f P s i snap arg r _ l hl).2.1

example : ∃ calls, TurnsRun exProg 1 5 {} [2, 3] 9 calls {} .ok 9 ∧ 9 = ((calls.map (·.2)).getLast?).getD 9 ∧
    calls.length ≤ 2 :=
  spec_last_value 3 exProg {} 1 [2, 3] 5 9 {} .ok 9 (by
    rw [Spec.turns_cons, show Spec.callable {} 1 2 = none from rfl]
    simp only
    rw [Spec.turns_cons, show Spec.callable {} 1 3 = none from rfl]
    simp only
    rw [Spec.turns])

/-! ## top-level form of `bidirectional`: every list of every reachable state -/

/-- in every state reached by any run of any program (and, by `Sigc.StepWF.execOp_WF`, in every state inside
    a run) the cell ids of every slot list are pairwise distinct, so `--(++it) = it` and `++(--it) = it`
    wherever both are defined: the `Nodup` hypothesis of `bidirectional` always holds -/
theorem bidirectional_run (f : Nat) (P : Prog) (ls : List Line) (s : St) (i k n : Nat) (im : Impl)
    (hrun : runTop f P {} ls = some s) (hi : aget s.impls i = some im) :
    (im.cells.map (·.id)).Nodup ∧ (succId im.cells k = some n ↔ predId im.cells n = some k) := by
  have hnd := Sigc.StepWF.nodup_ids_of_aget (Sigc.StepWF.runTop_WF f P ls s hrun).impls hi
  exact ⟨hnd, bidirectional_iff im.cells k n hnd⟩

/-- the same for every well-formed state (states inside emissions included) -/
theorem bidirectional_wf (s : St) (i k n : Nat) (im : Impl) (hw : Sigc.StepWF.WF s) (hi : aget s.impls i = some im) :
    succId im.cells k = some n ↔ predId im.cells n = some k :=
  bidirectional_iff im.cells k n (Sigc.StepWF.nodup_ids_of_aget hw.impls hi)

example : Sigc.StepWF.WF Sigc.StepTrack.exStT ∧
    (succId [({ id := 5, slot := {}, linked := true } : Cell), { id := 12, slot := {}, linked := true }] 5 = some 12) := by
  decide

end Sigc.C13
