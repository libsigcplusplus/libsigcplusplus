import Sigc.Lemmas.SpecPDefs
import Sigc.Lemmas.SpecPEx
import Sigc.Lemmas.SpecPWFMutual
import Sigc.Lemmas.SpecPConn
import Sigc.Lemmas.SpecPOwn
import Sigc.Lemmas.SpecPOps
/-!
# SpecProps — the specification `S` (`Sigc.Spec`) means what the property statements say

`S` is the oracle of the differential checks and the target of the refinement proof (`Sigc.Refine.refines`).  The theorems
of this file are *about `S` itself*: they read like the statements of C01, C03, C08, C12, C13, C14 in
`/verif/properties.jsonl`, so that a reader can check that `S` is the intended specification.  All of them hold for every
fuel, program and state, and — unless a hypothesis says otherwise — for both values of the known-finding flags `k1`, `k2`
(the specification proper is `k1 = k2 = false`).  Vocabulary: `Sigc/Lemmas/SpecPDefs.lean`; program and states of the
examples: `Sigc/Lemmas/SpecPEx.lean`.
-/
namespace Sigc.SpecP
open Sigc.Spec
open Sigc.Model (aget aset adel amap Prog Line Op FSpec Fun SlotB SlotVar Rep Handle Flavour Strat Outcome Event
  bstr showRes resultOf aget_nil aget_aset_same aget_aset_other aget_amap aget_adel_same aget_adel_other)

/-! ## C01 — connect appends / connect_first prepends; emission invokes exactly the callable entries -/

/-- `insertCell` is the core of `connect` / `connect_first`; a slot without rep is stored with the dummy,
    invalid rep -/
theorem insertCell_adds_one (s : LSt) (i : Nat) (first : Bool) (sl : SlotB) (g : LSig)
    (hg : aget s.sigs i = some g) :
    (insertCell s i first sl).2 = s.next ∧
    aget (insertCell s i first sl).1.sigs i =
      some { g with cells := if first then { id := s.next, slot := normSlot sl } :: g.cells
                             else g.cells ++ [{ id := s.next, slot := normSlot sl }] } ∧
    (∀ k, k ≠ i → aget (insertCell s i first sl).1.sigs k = aget s.sigs k) ∧
    (insertCell s i first sl).1.next = s.next + 1 ∧
    (insertCell s i first sl).1.S = s.S ∧ (insertCell s i first sl).1.G = s.G ∧
    (insertCell s i first sl).1.C = s.C ∧ (insertCell s i first sl).1.K = s.K ∧
    (insertCell s i first sl).1.T = s.T ∧ (insertCell s i first sl).1.trace = s.trace := by
  have e : insertCell s i first sl =
      (setSig { s with next := s.next + 1 } i
        { g with cells := if first then { id := s.next, slot := normSlot sl } :: g.cells
                          else g.cells ++ [{ id := s.next, slot := normSlot sl }] }, s.next) := by
    simp only [insertCell, LSt.fresh, hg]
    obtain ⟨b, rep⟩ := sl
    cases rep <;> rfl
  rw [e]
  refine ⟨rfl, aget_aset_same _ _ _, ?_, rfl, rfl, rfl, rfl, rfl, rfl, rfl⟩
  intro k hk
  exact aget_aset_other _ _ _ _ hk

example : aget (insertCell exS 1 false (exSlot 9)).1.sigs 1 =
    some { exSig with cells := exSig.cells ++ [{ id := 20, slot := exSlot 9 }] } :=
  (insertCell_adds_one exS 1 false (exSlot 9) exSig rfl).2.1

/-- the hypothesis holds in every reachable state (`WF`, see `run_WF`) -/
theorem insertCell_id_fresh (s : LSt) (i : Nat) (first : Bool) (sl : SlotB) (g : LSig)
    (hlt : ∀ c ∈ g.cells, c.id < s.next) : ∀ c ∈ g.cells, c.id ≠ (insertCell s i first sl).2 := by
  intro c hc
  rw [(insertCell_frame s i first sl).2.2]
  exact Nat.ne_of_lt (hlt c hc)

example : ∀ c ∈ exSig.cells, c.id ≠ (insertCell exS 1 true (exSlot 9)).2 :=
  insertCell_id_fresh exS 1 true (exSlot 9) exSig (by decide)

theorem connect_appends (s : LSt) (i : Nat) (sl : SlotB) (g : LSig) (hg : aget s.sigs i = some g) :
    (aget (insertCell s i false sl).1.sigs i).map (·.cells) =
      some (g.cells ++ [{ id := s.next, slot := normSlot sl }]) := by
  rw [(insertCell_adds_one s i false sl g hg).2.1]; rfl

theorem connect_first_prepends (s : LSt) (i : Nat) (sl : SlotB) (g : LSig) (hg : aget s.sigs i = some g) :
    (aget (insertCell s i true sl).1.sigs i).map (·.cells) =
      some ({ id := s.next, slot := normSlot sl } :: g.cells) := by
  rw [(insertCell_adds_one s i true sl g hg).2.1]; rfl

example : (aget (insertCell exS 1 true (exSlot 9)).1.sigs 1).map (fun g => g.cells.map (·.id)) = some [20, 2, 3, 4] := by
  decide +kernel

theorem connfn_adds_one (s : LSt) (k g fid : Nat) (first : Bool) (h : Handle) (im : Nat) (x : LSig)
    (hg : aget s.G g = some h) (hi : h.impl = some im) (hx : aget s.sigs im = some x) :
    ∃ s', Spec.stepSimple s (.connfn k g (.fn fid) first) = some (s', "ok") ∧
      aget s'.sigs im = some { x with cells :=
        if first then { id := s.next, slot := exSlot fid } :: x.cells
        else x.cells ++ [{ id := s.next, slot := exSlot fid }] } ∧
      (∀ j, j ≠ im → aget s'.sigs j = aget s.sigs j) ∧
      aget s'.C k = some (some s.next) ∧ (∀ j, j ≠ k → aget s'.C j = aget s.C j) ∧ s'.G = s.G := by
  have e := insertCell_adds_one s im first (exSlot fid) x hx
  refine ⟨_, stepSimple_connfn_fn s k g fid first h im hg hi, e.2.1, e.2.2.1, ?_, ?_, e.2.2.2.2.2.1⟩
  · simp only [e.1]; exact aget_aset_same _ _ _
  · intro j hj
    simp only [e.2.2.2.2.2.2.1]
    exact aget_aset_other _ _ _ _ hj

example : ∃ s', Spec.stepSimple exS (.connfn 7 0 (.fn 1) false) = some (s', "ok") ∧
    (aget s'.sigs 1).map (fun g => g.cells.map (·.id)) = some [2, 3, 4, 20] := by
  obtain ⟨s', h1, h2, _⟩ := connfn_adds_one exS 7 0 1 false _ 1 exSig rfl rfl rfl
  exact ⟨s', h1, by rw [h2]; rfl⟩

theorem callable_iff (s : LSt) (i cid : Nat) (fn : Fun) :
    callable s i cid = some fn ↔
      ∃ g c, aget s.sigs i = some g ∧ g.cells.find? (·.id = cid) = some c ∧
        c.slot.blocked = false ∧ c.slot.rep = some { call := true, fn := some fn } := by
  show Spec.callable s i cid = some fn ↔ _
  simp only [Spec.callable_eq, Option.bind_eq_some_iff, Spec.callFn_eq_some]
  exact ⟨fun ⟨c, ⟨g, hg, hc⟩, h⟩ => ⟨g, c, hg, hc, h⟩, fun ⟨g, c, hg, hc, h⟩ => ⟨c, ⟨g, hg, hc⟩, h⟩⟩

example : callable exS 1 2 = some (.leaf 1 []) ∧ callable exS 1 3 = none ∧ callable exS 1 9 = none :=
  ⟨rfl, rfl, rfl⟩

theorem not_callable (s : LSt) (i cid : Nat)
    (h : entry s i cid = none ∨ ∃ c, entry s i cid = some c ∧ (c.slot.blocked = true ∨ c.slot.empty = true)) :
    callable s i cid = none := by
  rw [Option.eq_none_iff_forall_ne_some]
  intro fn hfn
  obtain ⟨g, c, hg, hc, hb, hr⟩ := (callable_iff s i cid fn).1 hfn
  have he : entry s i cid = some c := by simp only [entry, hg, hc, Option.bind_some]
  rw [he] at h
  rcases h with h | ⟨c', h, hb' | he'⟩
  · cases h
  · cases h; rw [hb] at hb'; cases hb'
  · cases h; simp [SlotB.empty, hr] at he'

example : callable exS 1 3 = none := not_callable exS 1 3 (Or.inr ⟨_, rfl, Or.inl rfl⟩)

theorem turns_done (f : Nat) (P : Prog) (s : LSt) (i arg r : Nat) :
    turns (f+1) P s i [] arg r = some (s, .ok, r) := by
  rw [turns]

theorem turns_invokes_callable (f : Nat) (P : Prog) (s : LSt) (i cid : Nat) (rest : List Nat) (arg r : Nat) (fn : Fun)
    (hc : callable s i cid = some fn) :
    turns (f+1) P s i (cid :: rest) arg r =
      match Spec.invokeFun f P s fn arg with
      | none => none
      | some (s1, .exc, v) => some (s1, .exc, v)
      | some (s1, .ok, v) => turns f P s1 i rest arg v := by
  rw [turns_cons, hc]
  simp only
  cases Spec.invokeFun f P s fn arg with
  | none => rfl
  | some x => obtain ⟨s1, o, v⟩ := x; cases o <;> rfl

theorem turns_skips_not_callable (f : Nat) (P : Prog) (s : LSt) (i cid : Nat) (rest : List Nat) (arg r : Nat)
    (hc : callable s i cid = none) :
    turns (f+1) P s i (cid :: rest) arg r = turns f P s i rest arg r := by
  rw [turns_cons, hc]

example : turns 3 exP exS 1 [3, 9] 5 0 = some (exS, .ok, 0) := by
  rw [turns_skips_not_callable _ _ _ _ _ _ _ _ rfl, turns_skips_not_callable _ _ _ _ _ _ _ _ rfl, turns_done]

theorem turnsT_projects (f : Nat) (P : Prog) (s : LSt) (i : Nat) (snap : List Nat) (arg r : Nat) :
    (turnsT f P s i snap arg r).map (·.1) = turns f P s i snap arg r := by
  induction f generalizing s snap r with
  | zero => simp [turnsT, turns]
  | succ f ih =>
    cases snap with
    | nil => simp [turnsT, turns_done]
    | cons cid rest =>
      rw [turns_cons, turnsT]
      cases hc : callable s i cid with
      | none => exact ih ..
      | some fn =>
        dsimp only
        cases hi : Spec.invokeFun f P s fn arg with
        | none => rfl
        | some x =>
          obtain ⟨s1, o, v⟩ := x
          cases o
          · simp only [Option.map_map]
            rw [← ih]
            rfl
          · rfl

theorem turnsT_step (f : Nat) (P : Prog) (s : LSt) (i cid : Nat) (rest : List Nat) (arg r : Nat) :
    turnsT (f+1) P s i (cid :: rest) arg r =
      match callable s i cid with
      | none => turnsT f P s i rest arg r
      | some fn =>
        match Spec.invokeFun f P s fn arg with
        | none => none
        | some (s1, .exc, v) => some ((s1, .exc, v), [⟨cid, fn, arg, v⟩])
        | some (s1, .ok, v) => (turnsT f P s1 i rest arg v).map (fun x => (x.1, ⟨cid, fn, arg, v⟩ :: x.2)) := by
  rw [turnsT]
  cases callable s i cid with
  | none => rfl
  | some fn =>
    simp only
    cases Spec.invokeFun f P s fn arg with
    | none => rfl
    | some x => obtain ⟨s1, o, v⟩ := x; cases o <;> rfl

theorem turns_has_log (f : Nat) (P : Prog) (s : LSt) (i : Nat) (snap : List Nat) (arg r : Nat) (x : LSt × Outcome × Nat)
    (h : turns f P s i snap arg r = some x) : ∃ l, turnsT f P s i snap arg r = some (x, l) := by
  rw [← turnsT_projects] at h
  cases ht : turnsT f P s i snap arg r with
  | none => simp [ht] at h
  | some y => obtain ⟨x', l⟩ := y; simp [ht] at h; exact ⟨l, by rw [h]⟩

/-- the ids of the log are a sublist of the snapshot: entries are invoked in snapshot order, each position at
    most once; the ids of a list being distinct, no entry twice -/
theorem invoked_in_snapshot_order_once (f : Nat) (P : Prog) (s : LSt) (i : Nat) (snap : List Nat) (arg r : Nat)
    (x : LSt × Outcome × Nat) (l : List Inv) (h : turnsT f P s i snap arg r = some (x, l)) :
    (l.map (·.cid)).Sublist snap ∧ l.length ≤ snap.length ∧ (snap.Nodup → (l.map (·.cid)).Nodup) := by
  have hs : (l.map (·.cid)).Sublist snap :=
    turnsT_rules P i arg (Q := fun _ snap _ y => (y.2.map Inv.cid).Sublist snap) (fun _ _ => .slnil)
      (fun _ _ _ _ _ _ h => h.cons _) (fun _ _ _ _ _ _ _ _ _ _ => by simp)
      (fun _ _ _ _ _ _ _ _ _ _ _ h => h.cons_cons _) f s snap r _ h
  refine ⟨hs, ?_, fun hn => hs.nodup hn⟩
  have := hs.length_le
  simpa using this

theorem invoked_with_emitted_argument (f : Nat) (P : Prog) (s : LSt) (i : Nat) (snap : List Nat) (arg r : Nat)
    (x : LSt × Outcome × Nat) (l : List Inv) (h : turnsT f P s i snap arg r = some (x, l)) :
    ∀ c ∈ l, c.arg = arg :=
  turnsT_rules P i arg (Q := fun _ _ _ y => ∀ c ∈ y.2, c.arg = arg) (fun _ _ _ hc => nomatch hc)
    (fun _ _ _ _ _ _ h => h) (fun _ _ _ _ _ _ _ _ _ _ c hc => by cases List.mem_singleton.1 hc; rfl)
    (fun _ _ _ _ _ _ _ _ _ _ _ h c hc => by
      rcases List.mem_cons.1 hc with rfl | hc
      · rfl
      · exact h c hc) f s snap r _ h

example : (turnsT 10 exP exS 1 [2, 3, 4] 5 0).map (fun x => x.2.map (fun c => (c.cid, c.arg))) = some [(2, 5)] := by
  decide +kernel

theorem size_is_length (s : LSt) (g im : Nat) (h : Handle) (x : LSig)
    (hg : aget s.G g = some h) (hi : h.impl = some im) (hx : aget s.sigs im = some x) (hq : x.active = 0) :
    Spec.stepSimple s (.sizeq g) = some (s, toString x.cells.length) ∧
    Spec.stepSimple s (.emptyGq g) = some (s, bstr x.cells.isEmpty) ∧
    (bstr x.cells.isEmpty = "1" ↔ x.cells = []) :=
  ⟨by rw [stepSimple_sizeq, onList_of s g im h x _ _ _ hg hi hx]; simp [hq],
   by rw [stepSimple_emptyGq, onList_of s g im h x _ _ _ hg hi hx]; simp [hq],
   by cases x.cells <;> simp [bstr]⟩

theorem size_without_list (s : LSt) (g : Nat) (h : Handle) (hg : aget s.G g = some h) (hi : h.impl = none) :
    Spec.stepSimple s (.sizeq g) = some (s, "0") ∧ Spec.stepSimple s (.emptyGq g) = some (s, "1") :=
  ⟨by rw [stepSimple_sizeq, onList_nolist s g h _ _ _ hg hi], by rw [stepSimple_emptyGq, onList_nolist s g h _ _ _ hg hi]⟩

example : Spec.stepSimple exS (.sizeq 0) = some (exS, "3") ∧ Spec.stepSimple exS (.emptyGq 0) = some (exS, "0") := by
  have := size_is_length exS 0 1 _ exSig rfl rfl rfl rfl
  exact ⟨this.1, this.2.1⟩

example : Spec.stepSimple exS (.sizeq 2) = some (exS, "0") := (size_without_list exS 2 _ rfl rfl).1

/-- removal is immediate: `LSig.remove` (the core of disconnect / clear / invalidation) leaves, without
    `k2`, exactly the entries not selected (markers never leave) — whether or not an emission of the
    list is running — and never changes `active` -/
theorem remove_is_filter (g : LSig) (k1 dropFn : Bool) (p : LCell → Bool) :
    (g.remove k1 false dropFn p).cells = g.cells.filter (fun c => !(p c) || c.marker) ∧
    (g.remove k1 false dropFn p).active = g.active := by
  simp [LSig.remove]

theorem remove_keeps_active (g : LSig) (k1 k2 dropFn : Bool) (p : LCell → Bool) :
    (g.remove k1 k2 dropFn p).active = g.active := rfl

example : (LSig.remove { exSig with active := 2 } false false false (fun c => c.id = 3)).cells.map (·.id) = [2, 4] := by
  decide +kernel

/-- disconnecting entry `cid` (found in list `i`): that list loses it at once; every other list is unchanged -/
theorem removeCell_immediate (s : LSt) (cid i : Nat) (g : LSig) (hk : s.k2 = false)
    (hf : findSig s.sigs cid = some i) (hg : aget s.sigs i = some g) :
    (∃ g', aget (removeCell s cid).sigs i = some g' ∧
       g'.cells = g.cells.filter (fun c => !(c.id = cid) || c.marker) ∧ g'.active = g.active) ∧
    (∀ j, j ≠ i → aget (removeCell s cid).sigs j = aget s.sigs j) := by
  simp only [removeCell, hf, hg, setSig, hk]
  refine ⟨⟨_, aget_aset_same _ _ _, ?_, rfl⟩, fun j hj => aget_aset_other _ _ _ _ hj⟩
  simp [LSig.remove]

example : (aget (removeCell { exS with sigs := [(1, { exSig with active := 1 })] } 3).sigs 1).map
    (fun g => (g.cells.map (·.id), g.active)) = some ([2, 4], 1) := by decide +kernel

/-- `clear()`: every entry leaves at once (only markers of running emissions stay, and only with `k2`) -/
theorem clear_immediate (s : LSt) (g im : Nat) (h : Handle) (x : LSig) (hk : s.k2 = false)
    (hg : aget s.G g = some h) (hi : h.impl = some im) (hx : aget s.sigs im = some x) :
    ∃ s' x', Spec.stepSimple s (.clear g) = some (s', "ok") ∧ aget s'.sigs im = some x' ∧
      x'.cells = x.cells.filter (·.marker) ∧ x'.active = x.active ∧
      (∀ j, j ≠ im → aget s'.sigs j = aget s.sigs j) := by
  refine ⟨setSig s im (x.remove s.k1 s.k2 false (fun _ => true)), _, ?_,
    aget_aset_same _ _ _, ?_, rfl, fun j hj => aget_aset_other _ _ _ _ hj⟩
  · rw [stepSimple_clear, onList_of s g im h x _ _ _ hg hi hx]
  · simp [LSig.remove, hk]

example : ∃ s' x', Spec.stepSimple exS (.clear 0) = some (s', "ok") ∧ aget s'.sigs 1 = some x' ∧ x'.cells = [] := by
  obtain ⟨s', x', h1, h2, h3, _⟩ := clear_immediate exS 0 1 _ exSig rfl rfl rfl rfl
  exact ⟨s', x', h1, h2, by rw [h3]; rfl⟩

/-- a trackable dies: in every list, every entry whose functor refers to it leaves at once -/
theorem invalidate_immediate (s : LSt) (t i : Nat) (hk : s.k2 = false) :
    aget (invalidateTrackable s t).sigs i =
      (aget s.sigs i).map (fun g => g.remove s.k1 false true (fun c => c.slot.tracksObj t)) ∧
    ∀ g, aget s.sigs i = some g →
      ∃ g', aget (invalidateTrackable s t).sigs i = some g' ∧
        g'.cells = g.cells.filter (fun c => !(c.slot.tracksObj t) || c.marker) ∧ g'.active = g.active := by
  have h1 : aget (invalidateTrackable s t).sigs i =
      (aget s.sigs i).map (fun g => g.remove s.k1 false true (fun c => c.slot.tracksObj t)) := by
    simp only [invalidateTrackable, aget_amap, hk]
  refine ⟨h1, ?_⟩
  intro g hg
  rw [h1, hg]
  exact ⟨_, rfl, (remove_is_filter g s.k1 true _).1, rfl⟩

example : (aget (invalidateTrackable
      { exS with sigs := [(1, { cells := [{ id := 2, slot := exSlot 1 },
          { id := 3, slot := { rep := some { call := true, fn := some (.leaf 2 [77]) } } }], active := 1 })] } 77).sigs 1).map
    (fun g => (g.cells.map (·.id), g.active)) = some ([2], 1) := by decide +kernel

/-! ## C03 — connect / disconnect during an emission -/

/-- one emission of an existing list, unfolded once: the snapshot is computed from the list *as it is when
    the emission starts*, before any functor runs; the body (turns, or the accumulator's strategy) gets it
    as a fixed argument and runs in `enter s i g` (one more emission in progress); the result state is the
    epilogue `epi` of the state the body ended in, outcome and value are the body's -/
theorem emitSig_unfold (f : Nat) (P : Prog) (s : LSt) (fl : Flavour) (i arg : Nat) (strat : Strat) (g : LSig)
    (hg : aget s.sigs i = some g) (hk : (s.k2 && !fl.isAcc && g.cells.isEmpty) = false) :
    emitSig (f+1) P s fl (some i) arg strat =
      (body f P (enter s i g) fl i (snapOf s.k2 fl g) arg strat).map
        (fun x => (epi i s.next x.1, x.2.1, x.2.2)) := emitSig_eq f P s fl i arg strat g hg hk

theorem emitSig_unfold_pure (f : Nat) (P : Prog) (s : LSt) (fl : Flavour) (i arg : Nat) (strat : Strat) (g : LSig)
    (hg : aget s.sigs i = some g) (hk : s.k2 = false) :
    emitSig (f+1) P s fl (some i) arg strat =
      (body f P (setSig { s with next := s.next + 1 } i { g with active := g.active + 1 }) fl i
          ((g.cells.filter (fun c => !c.marker && !c.zombie)).map (·.id)) arg strat).map
        (fun x => (epi i s.next x.1, x.2.1, x.2.2)) := by
  rw [emitSig_eq f P s fl i arg strat g hg (by simp [hk])]
  simp [enter, snapOf, hk]

example : (emitSig 10 exP exS2 .I (some 1) 5 .sum).map (fun x => x.2) = some (.exc, 55) := by decide +kernel

theorem snapshot_only_start_entries (k2 : Bool) (fl : Flavour) (g : LSig) :
    ∀ cid ∈ snapOf k2 fl g, ∃ c ∈ g.cells, c.id = cid := by
  intro cid h
  simp only [snapOf, List.mem_map, List.mem_filter] at h
  obtain ⟨c, ⟨hc, _⟩, rfl⟩ := h
  exact ⟨c, hc, rfl⟩

theorem snapshot_is_list (k2 : Bool) (fl : Flavour) (g : LSig)
    (h : ∀ c ∈ g.cells, c.marker = false ∧ c.zombie = false) : snapOf k2 fl g = g.cells.map (·.id) := by
  unfold snapOf
  rw [List.filter_eq_self.2]
  intro c hc
  simp [h c hc]

example : snapOf false .I exSig = [2, 3, 4] := snapshot_is_list false .I exSig (by decide)

/-- an entry connected during an emission is not in that emission's snapshot: ids are handed out
    increasingly (`s.next ≤ s1.next` for every state `s1` reached from `s`: the first clause of `Step`), the snapshot
    holds ids below `s.next` (`WF`), the new entry gets `s1.next` -/
theorem connected_during_emission_not_in_snapshot (s s1 : LSt) (fl : Flavour) (g : LSig) (j : Nat) (first : Bool)
    (sl : SlotB) (hlt : ∀ c ∈ g.cells, c.id < s.next) (hn : s.next ≤ s1.next) :
    (insertCell s1 j first sl).2 ∉ snapOf s.k2 fl g := by
  rw [(insertCell_frame s1 j first sl).2.2]
  intro hm
  obtain ⟨c, hc, he⟩ := snapshot_only_start_entries _ _ _ _ hm
  have := hlt c hc
  omega

example : (insertCell { exS with next := 31 } 1 false (exSlot 9)).2 ∉ snapOf exS.k2 .I exSig :=
  connected_during_emission_not_in_snapshot exS _ .I exSig 1 false _ (by decide) (by decide)

theorem present_entry_in_later_snapshot (k2 : Bool) (fl : Flavour) (g : LSig) (c : LCell)
    (hc : c ∈ g.cells) (hm : c.marker = false) (hz : c.zombie = false) : c.id ∈ snapOf k2 fl g := by
  simp only [snapOf, List.mem_map, List.mem_filter]
  exact ⟨c, ⟨hc, by simp [hm, hz]⟩, rfl⟩

example : 20 ∈ snapOf false .I ((aget (insertCell exS 1 false (exSlot 9)).1.sigs 1).getD {}) := by decide +kernel

/-- an entry disconnected before its turn is not invoked: after `removeCell` it is not in its list any
    more, hence not callable, hence skipped by `turns` (and by `deref`) — whatever `active` is -/
theorem disconnected_before_turn_not_invoked (s : LSt) (cid i : Nat) (g : LSig) (hk : s.k2 = false)
    (hf : findSig s.sigs cid = some i) (hg : aget s.sigs i = some g) (hm : ∀ c ∈ g.cells, c.marker = false) :
    entry (removeCell s cid) i cid = none ∧ callable (removeCell s cid) i cid = none ∧
    ∀ f P rest arg r, turns (f+1) P (removeCell s cid) i (cid :: rest) arg r = turns f P (removeCell s cid) i rest arg r := by
  have he : entry (removeCell s cid) i cid = none := by
    simp only [entry, removeCell, hf, hg, setSig, hk, aget_aset_same, Option.bind_some, LSig.remove]
    simp only [Bool.false_and, Bool.false_eq_true, if_false, List.find?_eq_none, List.mem_filter]
    rintro c ⟨hc, hp⟩
    simp [hm c hc] at hp
    simpa using hp
  have hc : callable (removeCell s cid) i cid = none := not_callable _ i cid (Or.inl he)
  exact ⟨he, hc, fun f P rest arg r => turns_skips_not_callable f P _ i cid rest arg r hc⟩

example : callable (removeCell exS 4) 1 4 = none :=
  (disconnected_before_turn_not_invoked exS 4 1 exSig rfl rfl rfl (by decide)).2.1

/-- the same after `clear()` and after the death of a tracked object: the entries concerned are gone -/
theorem cleared_not_invoked (g : LSig) (k1 : Bool) (dropFn : Bool) (p : LCell → Bool) (cid : Nat)
    (hm : ∀ c ∈ g.cells, c.marker = false) (hp : ∀ c ∈ g.cells, c.id = cid → p c = true) :
    (g.remove k1 false dropFn p).cells.find? (·.id = cid) = none := by
  simp only [LSig.remove, Bool.false_and, Bool.false_eq_true, if_false, List.find?_eq_none, List.mem_filter]
  rintro c ⟨hc, hq⟩
  intro hid
  simp only [decide_eq_true_eq] at hid
  simp [hm c hc, hp c hc hid] at hq

example : (exSig.remove false false false (fun _ => true)).cells.find? (·.id = 3) = none :=
  cleared_not_invoked exSig false false _ 3 (by decide) (by intros; rfl)

theorem closeSig_active (m : Nat) (g2 : LSig) : (closeSig m g2).active = g2.active - 1 := closeSig_act m g2

/-- in the specification proper (no zombies, not dirty) the epilogue leaves the list as the turns left it (`m`
    is the id consumed by `enter`, which no entry has): when the emission returns the list holds exactly the
    still-connected entries -/
theorem closeSig_cells (m : Nat) (g2 : LSig) (hz : ∀ c ∈ g2.cells, c.zombie = false) (hd : g2.dirty = false)
    (hm : ∀ c ∈ g2.cells, c.id ≠ m) : (closeSig m g2).cells = g2.cells := by
  by_cases ha : g2.active - 1 = 0
  · simp only [closeSig, hd, ha, List.filter_filter]
    simp only [Bool.and_false, Bool.false_eq_true, if_false, if_true, List.filter_eq_self]
    intro c hc
    simp [hz c hc, hm c hc]
  · simp only [closeSig, hd, ha]
    simp only [Bool.and_false, Bool.false_eq_true, if_false, List.filter_eq_self]
    intro c hc
    simp [hm c hc]

theorem epi_eq (i m : Nat) (s2 : LSt) (g2 : LSig) (h : aget s2.sigs i = some g2) :
    epi i m s2 = Spec.collect (gcSig (setSig s2 i (closeSig m g2)) i) := by
  simp only [epi, h]

example : (closeSig 20 { exSig with active := 1 }).active = 0 ∧ (closeSig 20 { exSig with active := 1 }).cells = exSig.cells :=
  ⟨closeSig_active _ _, closeSig_cells 20 { exSig with active := 1 } (by decide) rfl (by decide)⟩

/-! ## C08 — an exception thrown by a slot propagates and leaves the signal consistent -/

theorem throw_raises (f : Nat) (P : Prog) (s : LSt) : Spec.execOp (f+1) P s .throw_ = some (s, .error ()) := by
  rw [Spec.execOp]

theorem execLine_raises (f : Nat) (P : Prog) (s s1 : LSt) (l : Line) (e : Unit)
    (h : Spec.execOp f P { s with steps := s.steps + 1 } l.op = some (s1, .error e)) :
    Spec.execLine (f+1) P s l = some (Spec.collect (s1.log (.res s1.depth l.text "exc")), .exc) := by
  rw [Spec.execLine]
  simp only [h]

theorem runBody_stops_at_exception (f : Nat) (P : Prog) (s s1 : LSt) (l : Line) (ls : List Line)
    (h : Spec.execLine f P s l = some (s1, .exc)) : Spec.runBody (f+1) P s (l :: ls) = some (s1, .exc) := by
  rw [Spec.runBody]
  simp only [h]

theorem runBody_continues (f : Nat) (P : Prog) (s s1 : LSt) (l : Line) (ls : List Line)
    (h : Spec.execLine f P s l = some (s1, .ok)) : Spec.runBody (f+1) P s (l :: ls) = Spec.runBody f P s1 ls := by
  rw [Spec.runBody]
  simp only [h]

example : (Spec.runBody 5 exP exS [{ text := "throw", op := .throw_ }, { text := "clear 0", op := .clear 0 }]).map
    (fun x => (x.2, (aget x.1.sigs 1).map (·.cells.length))) = some (.exc, some 3) := by decide +kernel

theorem invokeFun_outcome_of_body (f : Nat) (P : Prog) (s s1 : LSt) (fid arg : Nat) (ts : List Nat) (b : List Line)
    (o : Outcome) (hb : aget P.bodies fid = some b)
    (h : Spec.runBody f P { (s.log (.call s.depth fid arg)) with depth := s.depth + 1 } b = some (s1, o)) :
    Spec.invokeFun (f+1) P s (.leaf fid ts) arg = some ({ s1 with depth := s1.depth - 1 }, o, resultOf fid arg) := by
  rw [Spec.invokeFun]
  simp only [hb]
  have h' : Spec.runBody f P { (s.log (.call s.depth fid arg)) with depth := (s.log (.call s.depth fid arg)).depth + 1 } b
      = some (s1, o) := h
  simp only [h']

theorem turns_stops_at_exception (f : Nat) (P : Prog) (s s1 : LSt) (i cid : Nat) (rest : List Nat) (arg r v : Nat)
    (fn : Fun) (hc : callable s i cid = some fn) (hi : Spec.invokeFun f P s fn arg = some (s1, .exc, v)) :
    turns (f+1) P s i (cid :: rest) arg r = some (s1, .exc, v) := by
  rw [turns_invokes_callable f P s i cid rest arg r fn hc, hi]

example : (turns 10 exP exS2 1 [2, 4, 6] 5 0).map (fun x => (x.2.1, x.1.trace.length)) = some (.exc, 4) := by
  decide +kernel

theorem deref_unfold (f : Nat) (P : Prog) (s : LSt) (i : Nat) (snap : List Nat) (it : It) (arg : Nat) :
    Spec.deref (f+1) P s i snap it arg =
      (match snap[it.pos]? with
       | none => some (s, .ok, it)
       | some cid =>
         match callable s i cid with
         | none => some (s, .ok, it)
         | some fn =>
           if it.invoked then some (s, .ok, it) else
           match Spec.invokeFun f P s fn arg with
           | none => none
           | some (s, .exc, _) => some (s, .exc, it)
           | some (s, .ok, v) => some (s, .ok, { it with buf := v, invoked := true })) :=
  Spec.deref_eq f P s i snap it arg

theorem deref_stops_at_exception (f : Nat) (P : Prog) (s s1 : LSt) (i : Nat) (snap : List Nat) (it : It) (arg cid v : Nat)
    (fn : Fun) (hp : snap[it.pos]? = some cid) (hc : callable s i cid = some fn) (hinv : it.invoked = false)
    (hi : Spec.invokeFun f P s fn arg = some (s1, .exc, v)) :
    Spec.deref (f+1) P s i snap it arg = some (s1, .exc, it) := by
  rw [deref_unfold]
  simp [hp, hc, hinv, hi]

theorem accLoop_stops_at_exception (f : Nat) (P : Prog) (s s1 : LSt) (i : Nat) (snap : List Nat) (it it' : It)
    (arg mode k r : Nat) (hpos : it.pos < snap.length) (hm : mode ≠ 3)
    (hd : Spec.deref f P s i snap it arg = some (s1, .exc, it')) :
    Spec.accLoop (f+1) P s i snap it arg mode k r = some (s1, .exc, r) := by
  rw [Spec.accLoop]
  simp [Nat.not_le.2 hpos, hm, hd]

theorem revLoop_stops_at_exception (f : Nat) (P : Prog) (s s1 : LSt) (i : Nat) (snap : List Nat) (it it' : It)
    (arg r : Nat) (hpos : it.pos ≠ 0)
    (hd : Spec.deref f P s i snap { it with pos := it.pos - 1, invoked := false } arg = some (s1, .exc, it')) :
    Spec.revLoop (f+1) P s i snap it arg r = some (s1, .exc, r) := by
  rw [Spec.revLoop]
  simp [hpos, hd]

theorem walkLoop_stops_at_exception (f : Nat) (P : Prog) (s s1 : LSt) (i : Nat) (snap : List Nat) (it it' : It)
    (arg r : Nat) (c : Char) (cs : List Char) (hpos : it.pos < snap.length) (hc : c = 'd' ∨ c = 'c')
    (hd : Spec.deref f P s i snap it arg = some (s1, .exc, it')) :
    Spec.walkLoop (f+1) P s i snap it arg (c :: cs) r = some (s1, .exc, r) := by
  rw [Spec.walkLoop]
  rcases hc with rfl | rfl <;> simp [Nat.not_le.2 hpos, hd]

/-- the epilogue of an emission does not depend on how its body ended: the result state is `epi` of the
    state the body ended in, for a normal and for an exceptional end alike; outcome and value are passed on -/
theorem emitSig_epilogue_same (f : Nat) (P : Prog) (s s' : LSt) (fl : Flavour) (i arg : Nat) (strat : Strat) (g : LSig)
    (o : Outcome) (v : Nat) (hg : aget s.sigs i = some g) (hk : (s.k2 && !fl.isAcc && g.cells.isEmpty) = false)
    (h : emitSig (f+1) P s fl (some i) arg strat = some (s', o, v)) :
    ∃ s2, body f P (enter s i g) fl i (snapOf s.k2 fl g) arg strat = some (s2, o, v) ∧ s' = epi i s.next s2 := by
  rw [emitSig_eq f P s fl i arg strat g hg hk] at h
  cases hb : body f P (enter s i g) fl i (snapOf s.k2 fl g) arg strat with
  | none => simp [hb] at h
  | some x =>
    obtain ⟨s2, o2, v2⟩ := x
    simp only [hb, Option.map_some, Option.some.injEq, Prod.mk.injEq] at h
    obtain ⟨rfl, rfl, rfl⟩ := h
    exact ⟨s2, rfl, rfl⟩

/-- after the aborted emission the list is back to `active = 0` and holds the entries still connected -/
example : (emitSig 10 exP exS2 .I (some 1) 5 .sum).map
    (fun x => (x.2.1, (aget x.1.sigs 1).map (fun g => (g.active, g.cells.map (·.id))))) =
    some (.exc, some (0, [2, 4, 6, 21])) := by decide +kernel

theorem emit_exception_reaches_caller (f : Nat) (P : Prog) (s s1 : LSt) (g arg v : Nat) (strat : Strat) (h : Handle)
    (hg : aget s.G g = some h) (hd : ¬ s.depth ≥ P.maxdepth) (hs : ¬ s.steps > P.maxsteps)
    (he : emitSig f P s h.fl h.impl arg strat = some (s1, .exc, v)) :
    Spec.execOp (f+1) P s (.emit g arg strat false) = some (s1, .error ()) ∧
    Spec.execOp (f+1) P s (.emit g arg strat true) = some (s1, .ok "caught") := by
  constructor <;> (rw [Spec.execOp]; simp [hg, hd, hs, he])

example : (Spec.execOp 11 exP exS2 (.emit 0 5 .sum false)).map (fun x => x.2.toBool) = some false ∧
    (Spec.execOp 11 exP exS2 (.emit 0 5 .sum true)).map (fun x => x.2.toOption) = some (some "caught") := by
  decide +kernel

/-! ## C12 — blocking suspends a slot without disconnecting it -/

theorem blockS_previous_only_that_slot (s : LSt) (i : Nat) (b : Bool) (v : SlotVar) (hv : aget s.S i = some v) :
    ∃ s', Spec.stepSimple s (.blockS i b) = some (s', bstr v.slot.blocked) ∧
      aget s'.S i = some { v with slot := { v.slot with blocked := b } } ∧
      (∀ k, k ≠ i → aget s'.S k = aget s.S k) ∧
      s'.sigs = s.sigs ∧ s'.C = s.C ∧ s'.K = s.K ∧ s'.G = s.G := by
  exact ⟨_, stepSimple_blockS s i b v hv, aget_aset_same _ _ _, fun k hk => aget_aset_other _ _ _ _ hk, rfl, rfl, rfl, rfl⟩

example : ∃ s', Spec.stepSimple exS (.blockS 0 false) = some (s', "1") ∧
    (aget s'.S 0).map (·.slot.blocked) = some false := by
  obtain ⟨s', h1, h2, _⟩ := blockS_previous_only_that_slot exS 0 false _ rfl
  exact ⟨s', h1, by rw [h2]; rfl⟩

theorem setBlocked_only_that_entry (cid : Nat) (b : Bool) (cs : List LCell) :
    let cs' := cs.map (fun c => if c.id = cid then { c with slot := { c.slot with blocked := b } } else c)
    cs'.length = cs.length ∧ cs'.map (·.id) = cs.map (·.id) ∧ cs'.map (·.slot.rep) = cs.map (·.slot.rep) ∧
    cs'.map (·.slot.blocked) = cs.map (fun c => if c.id = cid then b else c.slot.blocked) := by
  refine ⟨by simp, ?_, ?_, ?_⟩ <;>
  · simp only [List.map_map]
    apply List.map_congr_left
    intro c _
    by_cases h : c.id = cid <;> simp [h]

theorem updCell_only_that_list (s : LSt) (cid j : Nat) (g : LSig) (f : LCell → LCell)
    (hf : findSig s.sigs cid = some j) (hg : aget s.sigs j = some g) :
    aget (updCell s cid f).sigs j = some { g with cells := g.cells.map (fun c => if c.id = cid then f c else c) } ∧
    (∀ k, k ≠ j → aget (updCell s cid f).sigs k = aget s.sigs k) ∧
    (updCell s cid f).S = s.S ∧ (updCell s cid f).G = s.G ∧ (updCell s cid f).C = s.C ∧ (updCell s cid f).K = s.K := by
  have e : updCell s cid f = setSig s j { g with cells := g.cells.map (fun c => if c.id = cid then f c else c) } := by
    simp only [updCell, hf, hg]
  rw [e]
  exact ⟨aget_aset_same _ _ _, fun k hk => aget_aset_other _ _ _ _ hk, rfl, rfl, rfl, rfl⟩

theorem getCell_some (s : LSt) (cid j : Nat) (c : LCell) (h : getCell s cid = some (j, c)) :
    findSig s.sigs cid = some j ∧ ∃ g, aget s.sigs j = some g ∧ g.cells.find? (fun c => c.id = cid && !c.zombie) = some c := by
  unfold getCell at h
  cases hf : findSig s.sigs cid with
  | none => simp [hf] at h
  | some i =>
    simp only [hf] at h
    cases hg : aget s.sigs i with
    | none => simp [hg] at h
    | some g =>
      simp only [hg, Option.map_eq_some_iff, Prod.mk.injEq] at h
      obtain ⟨c', h1, rfl, rfl⟩ := h
      exact ⟨rfl, g, hg, h1⟩

theorem blockC_previous_only_that_entry (s : LSt) (i : Nat) (b : Bool) (cid j : Nat) (c : LCell)
    (hp : aget s.C i = some (some cid)) (hc : getCell s cid = some (j, c)) :
    ∃ s' g, Spec.stepSimple s (.blockC i b) = some (s', bstr c.slot.blocked) ∧ aget s.sigs j = some g ∧
      aget s'.sigs j = some { g with cells := g.cells.map (fun c =>
        if c.id = cid then { c with slot := { c.slot with blocked := b } } else c) } ∧
      (∀ k, k ≠ j → aget s'.sigs k = aget s.sigs k) ∧ s'.S = s.S ∧ s'.G = s.G ∧ s'.C = s.C ∧ s'.K = s.K := by
  obtain ⟨hf, g, hg, _⟩ := getCell_some s cid j c hc
  obtain ⟨h1, h2, h3⟩ := updCell_only_that_list s cid j g (fun c => { c with slot := { c.slot with blocked := b } }) hf hg
  refine ⟨_, g, ?_, hg, h1, h2, h3⟩
  conv => lhs; whnf
  simp only [hp, connBlockedStr, hc]

theorem blockK_previous_only_that_entry (s : LSt) (i : Nat) (b : Bool) (cid j : Nat) (c : LCell)
    (hp : aget s.K i = some (some cid)) (hc : getCell s cid = some (j, c)) :
    ∃ s' g, Spec.stepSimple s (.blockK i b) = some (s', bstr c.slot.blocked) ∧ aget s.sigs j = some g ∧
      aget s'.sigs j = some { g with cells := g.cells.map (fun c =>
        if c.id = cid then { c with slot := { c.slot with blocked := b } } else c) } ∧
      (∀ k, k ≠ j → aget s'.sigs k = aget s.sigs k) ∧ s'.S = s.S ∧ s'.G = s.G ∧ s'.C = s.C ∧ s'.K = s.K := by
  obtain ⟨hf, g, hg, _⟩ := getCell_some s cid j c hc
  obtain ⟨h1, h2, h3⟩ := updCell_only_that_list s cid j g (fun c => { c with slot := { c.slot with blocked := b } }) hf hg
  refine ⟨_, g, ?_, hg, h1, h2, h3⟩
  conv => lhs; whnf
  simp only [hp, connBlockedStr, hc]

example : ∃ s', Spec.stepSimple exS (.blockC 1 false) = some (s', "1") ∧
    (aget s'.sigs 1).map (fun g => g.cells.map (fun c => (c.id, c.slot.blocked))) =
      some [(2, false), (3, false), (4, false)] := by
  obtain ⟨s', g, h1, h2, h3, _⟩ := blockC_previous_only_that_entry exS 1 false 3 1 _ rfl rfl
  refine ⟨s', h1, ?_⟩
  cases h2
  rw [h3]; rfl

theorem blocking_keeps_connected (s s' : LSt) (r : String) (i : Nat) (b : Bool)
    (h : Spec.stepSimple s (.blockC i b) = some (s', r) ∨ Spec.stepSimple s (.blockK i b) = some (s', r)) :
    ∀ p, connConnected s' p = connConnected s p := by
  intro p
  have key : ∀ q : Option Nat, connConnected (match q with
      | some cid => updCell s cid (fun c => { c with slot := { c.slot with blocked := b } })
      | none => s) p = connConnected s p := by
    intro q
    cases q with
    | none => rfl
    | some cid => exact connConnected_updCell_blocked s cid b p
  rcases h with h | h
  all_goals
    conv at h => lhs; whnf
    split at h
    all_goals cases h
    · rfl
    · exact key _

example : ∀ p, connConnected (((Spec.stepSimple exS (.blockC 0 true)).map (·.1)).getD {}) p = connConnected exS p := by
  cases h : Spec.stepSimple exS (.blockC 0 true) with
  | none => exact absurd h (by decide +kernel)
  | some x => exact blocking_keeps_connected exS x.1 x.2 0 true (Or.inl h)

theorem blockC_empty_connection (s : LSt) (i : Nat) (b : Bool) (hp : aget s.C i = some none) :
    Spec.stepSimple s (.blockC i b) = some (s, "0") := by
  conv => lhs; whnf
  simp only [hp, connBlockedStr]

/-- `signal.block(b)`; an entry connected later is not affected (it is not in this list yet:
    `insertCell_adds_one` stores its own flag) -/
theorem blockG_sets_all_current (s : LSt) (g im : Nat) (b : Bool) (h : Handle) (x : LSig)
    (hg : aget s.G g = some h) (hi : h.impl = some im) (hx : aget s.sigs im = some x) :
    ∃ s' x', Spec.stepSimple s (.blockG g b) = some (s', "ok") ∧ aget s'.sigs im = some x' ∧
      (∀ c ∈ x'.cells, c.slot.blocked = b) ∧
      x'.cells.map (·.id) = x.cells.map (·.id) ∧ x'.cells.map (·.slot.rep) = x.cells.map (·.slot.rep) ∧
      x'.cells.length = x.cells.length ∧ x'.active = x.active ∧
      (∀ k, k ≠ im → aget s'.sigs k = aget s.sigs k) ∧ s'.S = s.S := by
  refine ⟨setSig s im { x with cells := x.cells.map (fun c => { c with slot := { c.slot with blocked := b } }) }, _,
    ?_, aget_aset_same _ _ _, ?_, ?_, ?_, by simp, rfl,
    fun k hk => aget_aset_other _ _ _ _ hk, rfl⟩
  · rw [stepSimple_blockG, onList_of s g im h x _ _ _ hg hi hx]
  · intro c hc
    simp only [List.mem_map] at hc
    obtain ⟨c0, _, rfl⟩ := hc
    rfl
  · simp [List.map_map, Function.comp_def]
  · simp [List.map_map, Function.comp_def]

example : ∃ s' x', Spec.stepSimple exS (.blockG 0 true) = some (s', "ok") ∧ aget s'.sigs 1 = some x' ∧
    ∀ c ∈ x'.cells, c.slot.blocked = true := by
  obtain ⟨s', x', h1, h2, h3, _⟩ := blockG_sets_all_current exS 0 1 true _ exSig rfl rfl rfl
  exact ⟨s', x', h1, h2, h3⟩

/-- `signal.blocked()` outside an emission: "all entries blocked" — which is true of an empty list and of
    a signal that never had a list -/
theorem blockedGq_is_all_blocked (s : LSt) (g im : Nat) (h : Handle) (x : LSig)
    (hg : aget s.G g = some h) (hi : h.impl = some im) (hx : aget s.sigs im = some x) (hq : x.active = 0) :
    Spec.stepSimple s (.blockedGq g) = some (s, bstr (x.cells.all (·.slot.blocked))) ∧
    (bstr (x.cells.all (·.slot.blocked)) = "1" ↔ ∀ c ∈ x.cells, c.slot.blocked = true) := by
  refine ⟨?_, ?_⟩
  · rw [stepSimple_blockedGq, onList_of s g im h x _ _ _ hg hi hx]; simp [hq]
  cases hb : x.cells.all (·.slot.blocked)
  · simp only [bstr, Bool.false_eq_true, if_false]
    rw [List.all_eq_false] at hb
    obtain ⟨c, hc, hcb⟩ := hb
    constructor
    · intro h; exact absurd h (by decide)
    · intro h; exact absurd (h c hc) hcb
  · simp only [bstr, if_true, true_iff]
    rw [List.all_eq_true] at hb
    exact hb

theorem blockedGq_vacuous (s : LSt) (g : Nat) (h : Handle) (hg : aget s.G g = some h) :
    (h.impl = none → Spec.stepSimple s (.blockedGq g) = some (s, "1")) ∧
    (∀ im x, h.impl = some im → aget s.sigs im = some x → x.active = 0 → x.cells = [] →
       Spec.stepSimple s (.blockedGq g) = some (s, "1")) :=
  ⟨fun hi => by rw [stepSimple_blockedGq, onList_nolist s g h _ _ _ hg hi],
   fun im x hi hx hq he => by rw [stepSimple_blockedGq, onList_of s g im h x _ _ _ hg hi hx]; simp [hq, he, bstr]⟩

example : Spec.stepSimple exS (.blockedGq 0) = some (exS, "0") ∧ Spec.stepSimple exS (.blockedGq 2) = some (exS, "1") :=
  ⟨(blockedGq_is_all_blocked exS 0 1 _ exSig rfl rfl rfl rfl).1, (blockedGq_vacuous exS 2 _ rfl).1 rfl⟩

theorem blocked_entry_skipped (f : Nat) (P : Prog) (s : LSt) (i cid : Nat) (c : LCell)
    (he : entry s i cid = some c) (hb : c.slot.blocked = true) :
    (∀ rest arg r, turns (f+1) P s i (cid :: rest) arg r = turns f P s i rest arg r) ∧
    (∀ snap (it : It) arg, snap[it.pos]? = some cid → Spec.deref (f+1) P s i snap it arg = some (s, .ok, it)) := by
  have hc : callable s i cid = none := not_callable s i cid (Or.inr ⟨c, he, Or.inl hb⟩)
  refine ⟨fun rest arg r => turns_skips_not_callable f P s i cid rest arg r hc, ?_⟩
  intro snap it arg hp
  rw [deref_unfold]
  simp [hp, hc]

example : turns 3 exP exS 1 [3] 5 7 = some (exS, .ok, 7) := by
  rw [(blocked_entry_skipped 2 exP exS 1 3 _ rfl rfl).1, turns_done]

theorem callS_blocked_does_nothing (f : Nat) (P : Prog) (s : LSt) (i arg : Nat) (v : SlotVar)
    (hv : aget s.S i = some v) (hd : ¬ s.depth ≥ P.maxdepth) (hs : ¬ s.steps > P.maxsteps)
    (hb : v.slot.blocked = true) :
    Spec.execOp (f+1) P s (.callS i arg) = some (s, .ok (showRes v.isVoid 0)) := by
  rw [Spec.execOp]
  simp only [hv, hd, hs, if_false]
  split <;> simp [hb]

example : (Spec.execOp 5 exP exS (.callS 0 5)).map (fun x => (x.2.toOption, x.1.trace.length)) = some (some "r=0", 0) := by
  decide +kernel

/-! ## C13 — emission results: last slot's value, or the accumulator's verdict -/

theorem emit_without_list (f : Nat) (P : Prog) (s : LSt) (fl : Flavour) (arg : Nat) (strat : Strat) :
    emitSig (f+1) P s fl none arg strat = some (s, .ok, 0) := by
  rw [emitSig]

example : emitSig 1 exP exS .A none 5 .sum = some (exS, .ok, 0) := emit_without_list 0 _ _ _ _ _

theorem turns_value_is_last_invoked (f : Nat) (P : Prog) (s s' : LSt) (i : Nat) (snap : List Nat) (arg r v : Nat)
    (o : Outcome) (l : List Inv) (h : turnsT f P s i snap arg r = some ((s', o, v), l)) :
    v = ((l.map (·.val)).getLast?).getD r :=
  turnsT_rules P i arg (Q := fun _ _ r y => y.1.2.2 = ((y.2.map Inv.val).getLast?).getD r) (fun _ _ => rfl)
    (fun _ _ _ _ _ _ h => h) (fun _ _ _ _ _ _ _ _ _ _ => rfl)
    (fun _ _ _ _ _ _ _ v y _ _ h => by
      rw [h]
      cases y.2 with
      | nil => rfl
      | cons a t => simp [List.getLast?_cons]) f s snap r _ h

theorem emit_value_is_last_invoked (f : Nat) (P : Prog) (s s' : LSt) (fl : Flavour) (i arg : Nat) (strat : Strat)
    (g : LSig) (o : Outcome) (v : Nat) (hg : aget s.sigs i = some g) (hacc : fl.isAcc = false)
    (hk : (s.k2 && g.cells.isEmpty) = false)
    (h : emitSig (f+1) P s fl (some i) arg strat = some (s', o, v)) :
    ∃ s2 l, turnsT f P (enter s i g) i (snapOf s.k2 fl g) arg 0 = some ((s2, o, v), l) ∧
      v = ((l.map (·.val)).getLast?).getD 0 ∧ s' = epi i s.next s2 := by
  obtain ⟨s2, hb, hs⟩ := emitSig_epilogue_same f P s s' fl i arg strat g o v hg (by simpa [hacc] using hk) h
  simp only [body, hacc, Bool.false_eq_true, if_false] at hb
  obtain ⟨l, hl⟩ := turns_has_log f P _ i _ arg 0 _ hb
  exact ⟨s2, l, hl, turns_value_is_last_invoked f P _ s2 i _ arg 0 v o l hl, hs⟩

example : (emitSig 10 exP exS .I (some 1) 5 .sum).map (fun x => x.2) = some (.ok, resultOf 1 5) := by
  decide +kernel

theorem deref_at_most_once (f : Nat) (P : Prog) (s : LSt) (i : Nat) (snap : List Nat) (it : It) (arg : Nat)
    (hinv : it.invoked = true) : Spec.deref (f+1) P s i snap it arg = some (s, .ok, it) := by
  rw [deref_unfold]
  split
  · rfl
  · split
    · rfl
    · simp [hinv]

theorem deref_skips_not_callable (f : Nat) (P : Prog) (s : LSt) (i : Nat) (snap : List Nat) (it : It) (arg cid : Nat)
    (hp : snap[it.pos]? = some cid) (hc : callable s i cid = none) :
    Spec.deref (f+1) P s i snap it arg = some (s, .ok, it) := by
  rw [deref_unfold]; simp [hp, hc]

theorem deref_invokes_and_buffers (f : Nat) (P : Prog) (s s1 : LSt) (i : Nat) (snap : List Nat) (it : It) (arg cid v : Nat)
    (fn : Fun) (hp : snap[it.pos]? = some cid) (hc : callable s i cid = some fn) (hinv : it.invoked = false)
    (hi : Spec.invokeFun f P s fn arg = some (s1, .ok, v)) :
    Spec.deref (f+1) P s i snap it arg = some (s1, .ok, { it with buf := v, invoked := true }) := by
  rw [deref_unfold]; simp [hp, hc, hinv, hi]

theorem deref_keeps_position (f : Nat) (P : Prog) (s s1 : LSt) (i : Nat) (snap : List Nat) (it it' : It) (arg : Nat)
    (o : Outcome) (h : Spec.deref f P s i snap it arg = some (s1, o, it')) : it'.pos = it.pos := by
  cases f with
  | zero => simp [Spec.deref] at h
  | succ f =>
    rw [deref_unfold] at h
    split at h
    · simp at h; rw [← h.2.2]
    · split at h
      · simp at h; rw [← h.2.2]
      · split at h
        · simp at h; rw [← h.2.2]
        · split at h
          · simp at h
          · simp at h; rw [← h.2.2]
          · simp at h; rw [← h.2.2]

example : (Spec.deref 5 exP exS 1 [2, 3, 4] { pos := 0 } 5).map (fun x => (x.2.2.invoked, x.2.2.buf, x.1.trace.length)) =
      some (true, 15, 2) ∧
    (Spec.deref 5 exP exS 1 [2, 3, 4] { pos := 0, invoked := true, buf := 15 } 5).map
      (fun x => (x.2.2.invoked, x.2.2.buf, x.1.trace.length)) = some (true, 15, 0) ∧
    (Spec.deref 5 exP exS 1 [2, 3, 4] { pos := 1 } 5).map (fun x => (x.2.2.invoked, x.2.2.buf, x.1.trace.length)) =
      some (false, 0, 0) := by decide +kernel

theorem accumulator_called_once_on_snapshot (f : Nat) (P : Prog) (s : LSt) (fl : Flavour) (i arg : Nat) (strat : Strat)
    (g : LSig) (hg : aget s.sigs i = some g) (hacc : fl.isAcc = true) :
    emitSig (f+1) P s fl (some i) arg strat =
      (Spec.runStrat f P (enter s i g) i (snapOf s.k2 fl g) arg (strat.forFlavour fl)).map
        (fun x => (epi i s.next x.1, x.2.1, x.2.2)) := by
  rw [emitSig_eq f P s fl i arg strat g hg (by simp [hacc])]
  simp only [body, hacc, if_true]

theorem accumulator_range_pure (s : LSt) (fl : Flavour) (g : LSig) (hk : s.k2 = false) :
    snapOf s.k2 fl g = (g.cells.filter (fun c => !c.marker && !c.zombie)).map (·.id) := by
  simp [snapOf, hk]

theorem runStrat_unfold (f : Nat) (P : Prog) (s : LSt) (i : Nat) (snap : List Nat) (arg : Nat) :
    Spec.runStrat (f+1) P s i snap arg .sum = Spec.accLoop f P s i snap { pos := 0 } arg 0 0 0 ∧
    (∀ k, Spec.runStrat (f+1) P s i snap arg (.stop k) = Spec.accLoop f P s i snap { pos := 0 } arg 1 k 0) ∧
    Spec.runStrat (f+1) P s i snap arg .twice = Spec.accLoop f P s i snap { pos := 0 } arg 2 0 0 ∧
    Spec.runStrat (f+1) P s i snap arg .never = Spec.accLoop f P s i snap { pos := 0 } arg 3 0 0 ∧
    Spec.runStrat (f+1) P s i snap arg .postinc = Spec.accLoop f P s i snap { pos := 0 } arg 4 0 0 ∧
    Spec.runStrat (f+1) P s i snap arg .rev = Spec.revLoop f P s i snap { pos := snap.length } arg 0 ∧
    (∀ ops, Spec.runStrat (f+1) P s i snap arg (.walk ops) = Spec.walkLoop f P s i snap { pos := 0 } arg ops 0) := by
  refine ⟨?_, fun k => ?_, ?_, ?_, ?_, ?_, fun ops => ?_⟩ <;> rw [Spec.runStrat]

theorem accLoop_end (f : Nat) (P : Prog) (s : LSt) (i : Nat) (snap : List Nat) (it : It) (arg mode k r : Nat)
    (hpos : it.pos ≥ snap.length) : Spec.accLoop (f+1) P s i snap it arg mode k r = some (s, .ok, r) := by
  rw [Spec.accLoop]; simp [hpos]

theorem accLoop_sum_step (f : Nat) (P : Prog) (s s1 : LSt) (i : Nat) (snap : List Nat) (it it' : It) (arg k r : Nat)
    (hpos : it.pos < snap.length) (hd : Spec.deref f P s i snap it arg = some (s1, .ok, it')) :
    Spec.accLoop (f+1) P s i snap it arg 0 k r =
      Spec.accLoop f P s1 i snap { it' with pos := it'.pos + 1, invoked := false } arg 0 k (r + it'.buf) := by
  rw [Spec.accLoop]; simp [Nat.not_le.2 hpos, hd]

theorem accLoop_stop_step (f : Nat) (P : Prog) (s s1 : LSt) (i : Nat) (snap : List Nat) (it it' : It) (arg k r : Nat)
    (hpos : it.pos < snap.length) (hd : Spec.deref f P s i snap it arg = some (s1, .ok, it')) :
    Spec.accLoop (f+1) P s i snap it arg 1 k r =
      if r + it'.buf ≥ k then some (s1, .ok, r + it'.buf)
      else Spec.accLoop f P s1 i snap { it' with pos := it'.pos + 1, invoked := false } arg 1 k (r + it'.buf) := by
  rw [Spec.accLoop]; simp [Nat.not_le.2 hpos, hd]

/-- by `deref_at_most_once` the second dereference of the same position invokes nothing -/
theorem accLoop_twice_step (f : Nat) (P : Prog) (s s1 s2 : LSt) (i : Nat) (snap : List Nat) (it it' it'' : It) (arg k r : Nat)
    (hpos : it.pos < snap.length) (hd : Spec.deref f P s i snap it arg = some (s1, .ok, it'))
    (hd2 : Spec.deref f P s1 i snap it' arg = some (s2, .ok, it'')) :
    Spec.accLoop (f+1) P s i snap it arg 2 k r =
      Spec.accLoop f P s2 i snap { it'' with pos := it''.pos + 1, invoked := false } arg 2 k (r + it'.buf + it''.buf) := by
  rw [Spec.accLoop]; simp [Nat.not_le.2 hpos, hd, hd2]

theorem accLoop_never_step (f : Nat) (P : Prog) (s : LSt) (i : Nat) (snap : List Nat) (it : It) (arg k r : Nat)
    (hpos : it.pos < snap.length) :
    Spec.accLoop (f+1) P s i snap it arg 3 k r =
      Spec.accLoop f P s i snap { it with pos := it.pos + 1, invoked := false } arg 3 k (r + 1) := by
  rw [Spec.accLoop]; simp [Nat.not_le.2 hpos]

theorem revLoop_step (f : Nat) (P : Prog) (s s1 : LSt) (i : Nat) (snap : List Nat) (it it' : It) (arg r : Nat)
    (hpos : it.pos ≠ 0)
    (hd : Spec.deref f P s i snap { it with pos := it.pos - 1, invoked := false } arg = some (s1, .ok, it')) :
    Spec.revLoop (f+1) P s i snap it arg r = Spec.revLoop f P s1 i snap it' arg (r + it'.buf) := by
  rw [Spec.revLoop]; simp [hpos, hd]

theorem revLoop_end (f : Nat) (P : Prog) (s : LSt) (i : Nat) (snap : List Nat) (it : It) (arg r : Nat)
    (hpos : it.pos = 0) : Spec.revLoop (f+1) P s i snap it arg r = some (s, .ok, r) := by
  rw [Spec.revLoop]; simp [hpos]

theorem walkLoop_moves (f : Nat) (P : Prog) (s : LSt) (i : Nat) (snap : List Nat) (it : It) (arg r : Nat) (cs : List Char) :
    (it.pos < snap.length → Spec.walkLoop (f+1) P s i snap it arg ('i' :: cs) r =
       Spec.walkLoop f P s i snap { it with pos := it.pos + 1, invoked := false } arg cs r) ∧
    (it.pos ≠ 0 → Spec.walkLoop (f+1) P s i snap it arg ('x' :: cs) r =
       Spec.walkLoop f P s i snap { it with pos := it.pos - 1, invoked := false } arg cs r) ∧
    (∀ s1 it', it.pos < snap.length → Spec.deref f P s i snap it arg = some (s1, .ok, it') →
       Spec.walkLoop (f+1) P s i snap it arg ('d' :: cs) r = Spec.walkLoop f P s1 i snap it' arg cs (r + it'.buf)) ∧
    Spec.walkLoop (f+1) P s i snap it arg [] r = some (s, .ok, r) := by
  refine ⟨fun h => ?_, fun h => ?_, fun s1 it' h hd => ?_, ?_⟩
  · rw [Spec.walkLoop]; simp [Nat.not_le.2 h]
  · rw [Spec.walkLoop]; simp [h]
  · rw [Spec.walkLoop]; simp [Nat.not_le.2 h, hd]
  · rw [Spec.walkLoop]

/-- list 1 of `exS` (entry 2 disconnects entry 4 when invoked, entry 3 is blocked) under the strategies:
    "twice" invokes entry 2 once (one `call` and one result line in the trace) although every position is
    dereferenced twice; "never" invokes nothing; "rev" invokes entry 4 first, then entry 2 -/
example : (emitSig 12 exP exS .A (some 1) 5 .twice).map (fun x => (x.2.2, x.1.trace.length)) = some (90, 2) ∧
    (emitSig 12 exP exS .A (some 1) 5 .never).map (fun x => (x.2.2, x.1.trace.length)) = some (3, 0) ∧
    (emitSig 12 exP exS .A (some 1) 5 .rev).map (fun x => (x.2.2, x.1.trace.length)) = some (85, 4) := by
  decide +kernel

/-! ## C14 — signal objects are shared handles; the list lives as long as any handle -/

/-- copy-construction `cpG j i`: afterwards both signal objects refer to one and the same list -/
theorem cpG_shares (s s' : LSt) (j i : Nat) (h : Spec.stepSimple s (.cpG j i) = some (s', "ok")) :
    ∃ hi hj im, aget s'.G i = some hi ∧ aget s'.G j = some hj ∧ hi.impl = some im ∧ hj.impl = some im ∧
      hj.fl = hi.fl := by
  conv at h => lhs; whnf
  cases hgi : aget s.G i with
  | none => simp [hgi] at h
  | some h0 =>
    cases hgj : aget s.G j with
    | some _ => simp [hgi, hgj] at h
    | none =>
      have hne : i ≠ j := by intro e; rw [e, hgj] at hgi; cases hgi
      cases he : ensureSig s i with
      | none => simp [hgi, hgj, he] at h
      | some x =>
        obtain ⟨s1, im⟩ := x
        obtain ⟨h0', h1, e0, e1, e2, _⟩ := ensureSig_spec s s1 i im he
        simp only [hgi, hgj, he, e1, LSt.fresh, Option.some.injEq, Prod.mk.injEq, and_true] at h
        subst h
        refine ⟨h1, _, im, ?_, aget_aset_same _ _ _, e2, rfl, rfl⟩
        simp only
        rw [aget_aset_other _ _ _ _ hne]
        exact e1

example : ∃ s' hi hj im, Spec.stepSimple exS (.cpG 5 2) = some (s', "ok") ∧ aget s'.G 2 = some hi ∧
    aget s'.G 5 = some hj ∧ hi.impl = some im ∧ hj.impl = some im := by
  cases h : Spec.stepSimple exS (.cpG 5 2) with
  | none => exact absurd h (by decide +kernel)
  | some x =>
    obtain ⟨s', r⟩ := x
    have hr : r = "ok" := by
      have : (Spec.stepSimple exS (.cpG 5 2)).map (·.2) = some "ok" := by decide +kernel
      rw [h] at this; simpa using this
    subst hr
    obtain ⟨hi, hj, im, h1, h2, h3, h4, _⟩ := cpG_shares exS s' 5 2 h
    exact ⟨s', hi, hj, im, rfl, h1, h2, h3, h4⟩

/-- copy-assignment `asgG j i` (`j ≠ i`): afterwards both signal objects refer to one and the same list -/
theorem asgG_shares (s s' : LSt) (j i : Nat) (hne : j ≠ i) (h : Spec.stepSimple s (.asgG j i) = some (s', "ok")) :
    ∃ hi hj im, aget s'.G i = some hi ∧ aget s'.G j = some hj ∧ hi.impl = some im ∧ hj.impl = some im := by
  conv at h => lhs; whnf
  cases hgj : aget s.G j with
  | none => simp [hgj] at h
  | some d =>
    cases hgi : aget s.G i with
    | none => simp [hgj, hgi] at h
    | some h0 =>
      simp only [hgj, hgi, hne, if_false] at h
      by_cases hfl : d.fl ≠ h0.fl
      · simp [hfl] at h
      · by_cases hlv : d.lvl ≠ h0.lvl
        · simp [hfl, hlv] at h
        · simp only [hfl, hlv, if_false] at h
          cases he : ensureSig s i with
          | none => simp [he] at h
          | some x =>
            obtain ⟨s1, im⟩ := x
            obtain ⟨h0', h1, e0, e1, e2, _, _, _, _, e3, _⟩ := ensureSig_spec s s1 i im he
            have hd1 : aget s1.G j = some d := by rw [e3 j hne]; exact hgj
            simp only [he] at h
            by_cases hsame : d.impl = some im
            · simp only [hsame, if_true, Option.some.injEq, Prod.mk.injEq, and_true] at h
              subst h
              exact ⟨h1, d, im, e1, hd1, e2, hsame⟩
            · simp only [hsame, if_false, Option.some.injEq, Prod.mk.injEq, and_true] at h
              have hG : s'.G = aset s1.G j { d with impl := some im } := by
                subst h
                cases d.impl <;> simp [(gcSig_frame _ _).1]
              refine ⟨h1, { d with impl := some im }, im, ?_, ?_, e2, rfl⟩
              · rw [hG, aget_aset_other _ _ _ _ (Ne.symm hne)]; exact e1
              · rw [hG]; exact aget_aset_same _ _ _

theorem handles_agree (s : LSt) (g1 g2 : Nat) (h1 h2 : Handle) (hg1 : aget s.G g1 = some h1) (hg2 : aget s.G g2 = some h2)
    (himpl : h1.impl = h2.impl) :
    Spec.stepSimple s (.sizeq g1) = Spec.stepSimple s (.sizeq g2) ∧
    Spec.stepSimple s (.emptyGq g1) = Spec.stepSimple s (.emptyGq g2) ∧
    Spec.stepSimple s (.blockedGq g1) = Spec.stepSimple s (.blockedGq g2) ∧
    (∀ b, Spec.stepSimple s (.blockG g1 b) = Spec.stepSimple s (.blockG g2 b)) ∧
    Spec.stepSimple s (.clear g1) = Spec.stepSimple s (.clear g2) ∧
    (∀ k fid first im, h1.impl = some im →
       Spec.stepSimple s (.connfn k g1 (.fn fid) first) = Spec.stepSimple s (.connfn k g2 (.fn fid) first)) ∧
    (∀ f P arg strat t, h1.fl = h2.fl →
       Spec.execOp f P s (.emit g1 arg strat t) = Spec.execOp f P s (.emit g2 arg strat t)) := by
  refine ⟨?_, ?_, ?_, fun b => ?_, ?_, ?_, ?_⟩
  · rw [stepSimple_sizeq, stepSimple_sizeq]; exact onList_congr s g1 g2 h1 h2 _ _ _ hg1 hg2 himpl
  · rw [stepSimple_emptyGq, stepSimple_emptyGq]; exact onList_congr s g1 g2 h1 h2 _ _ _ hg1 hg2 himpl
  · rw [stepSimple_blockedGq, stepSimple_blockedGq]; exact onList_congr s g1 g2 h1 h2 _ _ _ hg1 hg2 himpl
  · rw [stepSimple_blockG, stepSimple_blockG]; exact onList_congr s g1 g2 h1 h2 _ _ _ hg1 hg2 himpl
  · rw [stepSimple_clear, stepSimple_clear]; exact onList_congr s g1 g2 h1 h2 _ _ _ hg1 hg2 himpl
  · intro k fid first im hi
    rw [stepSimple_connfn_fn s k g1 fid first h1 im hg1 hi, stepSimple_connfn_fn s k g2 fid first h2 im hg2 (himpl ▸ hi)]
  · intro f P arg strat t hfl
    cases f with
    | zero => simp [Spec.execOp]
    | succ f =>
      rw [Spec.execOp, Spec.execOp]
      simp only [hg1, hg2, himpl, hfl]

example : Spec.stepSimple exS (.sizeq 0) = Spec.stepSimple exS (.sizeq 1) ∧
    Spec.execOp 9 exP exS (.emit 0 5 .sum false) = Spec.execOp 9 exP exS (.emit 1 5 .sum false) := by
  have := handles_agree exS 0 1 _ _ rfl rfl rfl
  exact ⟨this.1, this.2.2.2.2.2.2 9 exP 5 .sum false rfl⟩

/-- move-construction `mvG j i` of a `signal` / `trackable_signal` without accumulator: the list goes to
    the new object, the source is left without list (an empty, reusable signal) -/
theorem mvG_transfers (s : LSt) (j i : Nat) (h0 : Handle) (hi : aget s.G i = some h0) (hj : aget s.G j = none)
    (hacc : h0.fl.isAcc = false) :
    ∃ s' hj', Spec.stepSimple s (.mvG j i) = some (s', "ok") ∧ aget s'.G j = some hj' ∧ hj'.impl = h0.impl ∧
      hj'.fl = h0.fl ∧ aget s'.G i = some { h0 with impl := none } ∧
      (h0.fl.isTrackable = false → s'.sigs = s.sigs) := by
  have hne : i ≠ j := by intro e; rw [e, hj] at hi; cases hi
  have hs : ∃ s', Spec.stepSimple s (.mvG j i) = some (s', "ok") ∧
      s'.G = aset (aset s.G i { h0 with impl := none }) j
               { obj := s.next, fl := h0.fl, impl := h0.impl, trk := s.next + 1, lvl := h0.lvl } ∧
      (h0.fl.isTrackable = false → s'.sigs = s.sigs) := by
    conv => enter [1, s', 1]; lhs; whnf
    simp only [hi, hj, hacc, Bool.false_eq_true, if_false, LSt.fresh]
    cases ht : h0.fl.isTrackable
    · exact ⟨_, rfl, rfl, fun _ => rfl⟩
    · exact ⟨_, rfl, by simp only [if_true, invalidateTrackable_G], fun h => by cases h⟩
  obtain ⟨s', h1, h2, h3⟩ := hs
  refine ⟨s', { obj := s.next, fl := h0.fl, impl := h0.impl, trk := s.next + 1, lvl := h0.lvl }, h1, ?_, rfl, rfl, ?_, h3⟩
  · rw [h2]; exact aget_aset_same _ _ _
  · rw [h2, aget_aset_other _ _ _ _ hne]; exact aget_aset_same _ _ _

example : ∃ s' hj', Spec.stepSimple exS (.mvG 5 0) = some (s', "ok") ∧ aget s'.G 5 = some hj' ∧ hj'.impl = some 1 ∧
    (aget s'.G 0).map (·.impl) = some none := by
  obtain ⟨s', hj', h1, h2, h3, _, h5, _⟩ := mvG_transfers exS 5 0 _ rfl rfl rfl
  exact ⟨s', hj', h1, h2, h3, by rw [h5]; rfl⟩

/-- move-assignment `masgG j i` (`j ≠ i`, no accumulator): the destination takes over the source's list,
    the source is left without list.  The operation is refused (`owned`, see `masgG_owned_refused`) when a functor
    owns the source, or — for a `trackable_signal` — the destination; `hown` excludes exactly that -/
theorem masgG_transfers (s : LSt) (j i : Nat) (d h0 : Handle) (hj : aget s.G j = some d) (hi : aget s.G i = some h0)
    (hne : j ≠ i) (hfl : d.fl = h0.fl) (hlvl : d.lvl = h0.lvl) (hacc : h0.fl.isAcc = false)
    (hown : (s.ownedG.any (fun p => p.2 = i) || s.ownedG.any (fun p => p.2 = j)) = false) :
    ∃ s', Spec.stepSimple s (.masgG j i) = some (s', "ok") ∧ aget s'.G j = some { d with impl := h0.impl } ∧
      aget s'.G i = some { h0 with impl := none } := by
  have hnf : ¬ (d.fl ≠ h0.fl) := fun h => h hfl
  have hnl : ¬ (d.lvl ≠ h0.lvl) := fun h => h hlvl
  have hs : ∃ s', Spec.stepSimple s (.masgG j i) = some (s', "ok") ∧
      s'.G = aset (aset s.G j { d with impl := h0.impl }) i { h0 with impl := none } := by
    conv => enter [1, s', 1]; lhs; whnf
    simp only [hj, hi, hnf, hnl, if_false, hacc, Bool.false_eq_true, hne, hown, Bool.not_false, Bool.and_false]
    refine ⟨_, rfl, ?_⟩
    cases d.impl <;> simp only <;> split <;> simp only [invalidateTrackable_G, (gcSig_frame _ _).1]
  obtain ⟨s', h1, h2⟩ := hs
  refine ⟨s', h1, ?_, ?_⟩
  · rw [h2, aget_aset_other _ _ _ _ hne]; exact aget_aset_same _ _ _
  · rw [h2]; exact aget_aset_same _ _ _

example : ∃ s', Spec.stepSimple exS (.masgG 1 0) = some (s', "ok") ∧ (aget s'.G 1).map (·.impl) = some (some 1) ∧
    (aget s'.G 0).map (·.impl) = some none := by
  obtain ⟨s', h1, h2, h3⟩ := masgG_transfers exS 1 0 _ _ rfl rfl (by decide) rfl rfl rfl rfl
  exact ⟨s', h1, by rw [h2]; rfl, by rw [h3]; rfl⟩

/-- the list dies exactly when no signal object refers to it and no emission of it is running -/
theorem gcSig_drops_iff (s : LSt) (i : Nat) (g : LSig) (hg : aget s.sigs i = some g) :
    (aget (gcSig s i).sigs i = none ↔ (g.active = 0 ∧ ∀ p ∈ s.G, p.2.impl ≠ some i)) ∧
    (¬ (g.active = 0 ∧ ∀ p ∈ s.G, p.2.impl ≠ some i) → gcSig s i = s) ∧
    (∀ k, k ≠ i → aget (gcSig s i).sigs k = aget s.sigs k) ∧ (gcSig s i).G = s.G := by
  refine ⟨?_, fun hn => by rw [gcSig_eq s i g hg, if_neg hn], fun k hk => gcSig_sigs_other s i k hk, (gcSig_frame s i).1⟩
  rw [gcSig_eq s i g hg]
  split
  · next hc => exact ⟨fun _ => hc, fun _ => aget_adel_same _ _⟩
  · next hc => exact ⟨fun h => (nomatch hg.symm.trans h), fun h => absurd h hc⟩

example : gcSig exS 1 = exS ∧ aget (gcSig { exS with G := [] } 1).sigs 1 = none :=
  ⟨(gcSig_drops_iff exS 1 exSig rfl).2.1 (by decide),
   (gcSig_drops_iff { exS with G := [] } 1 exSig rfl).1.2 (by decide)⟩

/-! ## reachable states: `active` is restored, ids are fresh, lists are well-formed

`WF`, `Step`: `Sigc/Lemmas/SpecPWF.lean` (`WF_iff` spells `WF` out).  Every function of the mutual block is a `Step`
(`allStep`, by induction on fuel). -/

theorem WF_iff (s : LSt) :
    WF s ↔ ∀ i g, aget s.sigs i = some g →
      i < s.next ∧ (∀ c ∈ g.cells, c.id < s.next) ∧ (g.cells.map (·.id)).Nodup ∧
      (s.k2 = false → ∀ c ∈ g.cells, c.marker = false ∧ c.zombie = false) ∧ (s.k1 = false → g.dirty = false) := by
  constructor
  · intro h i g hg
    obtain ⟨h1, h2⟩ := h i g hg
    exact ⟨h1, h2.lt, h2.nodup, h2.pure, h2.clean⟩
  · intro h i g hg
    obtain ⟨h1, h2, h3, h4, h5⟩ := h i g hg
    exact ⟨h1, h2, h3, h4, h5⟩

/-- C03: after `emitSig` returns — normally or with an exception, whatever the functors did, however
    deeply they re-emitted — every list has as many emissions in progress as before (in particular the
    emitted one); the state is well-formed again and `next` has not decreased -/
theorem emitSig_restores_active (f : Nat) (P : Prog) (s s' : LSt) (fl : Flavour) (impl : Option Nat) (arg : Nat)
    (strat : Strat) (o : Outcome) (v : Nat) (hw : WF s) (h : emitSig f P s fl impl arg strat = some (s', o, v)) :
    (∀ i, actOf s' i = actOf s i) ∧ WF s' ∧ s.next ≤ s'.next :=
  ((allStep f).emitSig P s fl impl arg strat s' o v h).restores hw

example : actOf (((emitSig 10 exP exS2 .I (some 1) 5 .sum).map (·.1)).getD {}) 1 = 0 := by decide +kernel

example : ∀ s' o v, emitSig 10 exP exS2 .I (some 1) 5 .sum = some (s', o, v) → ∀ i, actOf s' i = actOf exS2 i :=
  fun s' o v h => (emitSig_restores_active 10 exP exS2 s' .I (some 1) 5 .sum o v exS2_WF h).1

theorem user_code_restores_active (f : Nat) (P : Prog) (s : LSt) (hw : WF s) :
    (∀ fn arg s' o v, Spec.invokeFun f P s fn arg = some (s', o, v) →
       (∀ i, actOf s' i = actOf s i) ∧ WF s' ∧ s.next ≤ s'.next) ∧
    (∀ op s' e, Spec.execOp f P s op = some (s', e) → (∀ i, actOf s' i = actOf s i) ∧ WF s' ∧ s.next ≤ s'.next) ∧
    (∀ l s' o, Spec.execLine f P s l = some (s', o) → (∀ i, actOf s' i = actOf s i) ∧ WF s' ∧ s.next ≤ s'.next) := by
  exact ⟨fun fn arg s' o v h => ((allStep f).invokeFun P s fn arg s' o v h).restores hw,
    fun op s' e h => ((allStep f).execOp P s op s' e h).restores hw,
    fun l s' o h => ((allStep f).execLine P s l s' o h).restores hw⟩

example : ∀ s' e, Spec.execOp 12 exP exS (.emit 0 5 .sum false) = some (s', e) → WF s' ∧ exS.next ≤ s'.next :=
  fun s' e h => ((user_code_restores_active 12 exP exS exS_WF).2.1 _ s' e h).2

theorem turns_keep_active (f : Nat) (P : Prog) (s s' : LSt) (i : Nat) (snap : List Nat) (arg r : Nat) (o : Outcome) (v : Nat)
    (hw : WF s) (h : turns f P s i snap arg r = some (s', o, v)) : ∀ j, actOf s' j = actOf s j :=
  (((allStep f).turns P s i snap arg r s' o v h).restores hw).1

/-- every state reached by a top-level run — of any program, from the empty state, with any flags — is
    well-formed, and *quiescent*: no emission is in progress in any list (so `size()`, `empty()`,
    `blocked()` are never answered `*` at top level) -/
theorem run_WF (f : Nat) (P : Prog) (k1 k2 : Bool) (ls : List Line) (s : LSt)
    (h : Spec.runTop f P { k1 := k1, k2 := k2 } ls = some s) :
    WF s ∧ (∀ i g, aget s.sigs i = some g → g.active = 0) ∧ s.k1 = k1 ∧ s.k2 = k2 := by
  obtain ⟨_, h1, h2, hr⟩ := step_runTop f P ls _ s h
  obtain ⟨hw, ha, _⟩ := hr (WF_init k1 k2)
  refine ⟨hw, ?_, h1, h2⟩
  intro i g hg
  have := ha i
  simpa [actOf, actL, hg, aget] using this

/-- the program "g0 := signal<int(int)>; connect f3 (which connects f1 when invoked); emit; emit" -/
example : ∀ s, Spec.runTop 30 exP {}
      [{ text := "newG 0 I", op := .newG 0 (some .I) }, { text := "connfn 1 0 fn:3", op := .connfn 1 0 (.fn 3) false },
       { text := "emit 0 5", op := .emit 0 5 .sum false }, { text := "emit 0 6", op := .emit 0 6 .sum false }] = some s →
    WF s ∧ ∀ i g, aget s.sigs i = some g → g.active = 0 :=
  fun s h => ⟨(run_WF 30 exP false false _ s h).1, (run_WF 30 exP false false _ s h).2.1⟩

theorem size_at_top_level (f : Nat) (P : Prog) (k1 k2 : Bool) (ls : List Line) (s : LSt) (g im : Nat) (h : Handle) (x : LSig)
    (hrun : Spec.runTop f P { k1 := k1, k2 := k2 } ls = some s)
    (hg : aget s.G g = some h) (hi : h.impl = some im) (hx : aget s.sigs im = some x) :
    Spec.stepSimple s (.sizeq g) = some (s, toString x.cells.length) ∧
    Spec.stepSimple s (.emptyGq g) = some (s, bstr x.cells.isEmpty) ∧
    Spec.stepSimple s (.blockedGq g) = some (s, bstr (x.cells.all (·.slot.blocked))) := by
  have hq := (run_WF f P k1 k2 ls s hrun).2.1 im x hx
  have hsz := size_is_length s g im h x hg hi hx hq
  exact ⟨hsz.1, hsz.2.1, (blockedGq_is_all_blocked s g im h x hg hi hx hq).1⟩

/-- the snapshot of a well-formed list has no duplicates, so a non-accumulated emission invokes no entry twice -/
theorem no_entry_invoked_twice (f : Nat) (P : Prog) (s0 s : LSt) (fl : Flavour) (i : Nat) (g : LSig) (arg r : Nat)
    (x : LSt × Outcome × Nat) (l : List Inv) (hw : WF s0) (hg : aget s0.sigs i = some g)
    (h : turnsT f P s i (snapOf s0.k2 fl g) arg r = some (x, l)) : (l.map (·.cid)).Nodup := by
  have hn : (snapOf s0.k2 fl g).Nodup := (List.filter_sublist.map _).nodup (hw i g hg).2.nodup
  exact (invoked_in_snapshot_order_once f P s i _ arg r x l h).2.2 hn

example : ∀ x l, turnsT 10 exP (enter exS 1 exSig) 1 (snapOf exS.k2 .I exSig) 5 0 = some (x, l) → (l.map (·.cid)).Nodup :=
  fun x l h => no_entry_invoked_twice 10 exP exS _ .I 1 exSig 5 0 x l exS_WF rfl h

theorem connected_during_emission_not_in_snapshot_wf (s s1 : LSt) (fl : Flavour) (i : Nat) (g : LSig) (j : Nat)
    (first : Bool) (sl : SlotB) (hw : WF s) (hg : aget s.sigs i = some g) (hstep : Step (enter s i g) s1) :
    (insertCell s1 j first sl).2 ∉ snapOf s.k2 fl g :=
  connected_during_emission_not_in_snapshot s s1 fl g j first sl (hw i g hg).2.lt
    (Nat.le_trans (Nat.le_succ _) hstep.1)

example : ∀ s1 o v fn, Spec.invokeFun 9 exP (enter exS 1 exSig) fn 5 = some (s1, o, v) →
    (insertCell s1 1 false (exSlot 9)).2 ∉ snapOf exS.k2 .I exSig :=
  fun s1 o v fn h => connected_during_emission_not_in_snapshot_wf exS s1 .I 1 exSig 1 false _ exS_WF rfl
    ((allStep 9).invokeFun exP _ fn 5 s1 o v h)

/-- C03, the specification proper (`k1 = k2 = false`): when an emission of a well-formed state returns,
    the emitted list is exactly as its body left it — the entries connected during it are there, the
    entries disconnected during it are not — with `active` back to its value at the start -/
theorem emission_leaves_list_as_body_left_it (f : Nat) (P : Prog) (s s' : LSt) (fl : Flavour) (i arg : Nat)
    (strat : Strat) (g : LSig) (o : Outcome) (v : Nat) (hw : WF s) (hk1 : s.k1 = false) (hk2 : s.k2 = false)
    (hg : aget s.sigs i = some g) (h : emitSig (f+1) P s fl (some i) arg strat = some (s', o, v)) :
    ∃ s2 g2, body f P (enter s i g) fl i (snapOf s.k2 fl g) arg strat = some (s2, o, v) ∧
      aget s2.sigs i = some g2 ∧ g2.active = g.active + 1 ∧
      s' = Spec.collect (gcSig (setSig s2 i (closeSig s.next g2)) i) ∧
      (closeSig s.next g2).cells = g2.cells ∧ (closeSig s.next g2).active = g.active := by
  obtain ⟨s2, hb, hs⟩ := emitSig_epilogue_same f P s s' fl i arg strat g o v hg (by simp [hk2]) h
  obtain ⟨_, e1, e2, hr⟩ := step_body f (allStep f) P _ fl i _ arg strat s2 o v hb
  obtain ⟨hw2, ha, hi⟩ := hr (WF_enter s i g hw hg)
  have hact := ha i
  rw [actOf_enter s i i g] at hact
  simp only [if_true] at hact
  cases hg2 : aget s2.sigs i with
  | none => simp [actOf, actL, hg2] at hact
  | some g2 =>
    have hact2 : g2.active = g.active + 1 := by simpa [actOf, actL, hg2] using hact
    have hk1' : s2.k1 = false := by rw [e1]; exact hk1
    have hk2' : s2.k2 = false := by rw [e2]; exact hk2
    have hwg := (hw2 i g2 hg2).2
    refine ⟨s2, g2, hb, hg2, hact2, ?_, ?_, ?_⟩
    · rw [hs, epi_eq i s.next s2 g2 hg2]
    · refine closeSig_cells s.next g2 (fun c hc => (hwg.pure hk2' c hc).2) (hwg.clean hk1') ?_
      intro c hc he
      have h1 : idsL (enter s i g).sigs s.next := hi s.next (Nat.lt_succ_self _) ⟨i, g2, c, hg2, hc, he⟩
      rcases ids_enter s i g hg _ h1 with ⟨j, x, c0, hx, hc0, he0⟩ | ⟨hk, _⟩
      · exact Nat.lt_irrefl _ (he0 ▸ (hw j x hx).2.lt c0 hc0)
      · rw [hk2] at hk; cases hk
    · rw [closeSig_active, hact2]; rfl

example : ((emitSig 10 exP exS2 .I (some 1) 5 .sum).map
    (fun x => (aget x.1.sigs 1).map (fun g => (g.active, g.cells.map (·.id))))) = some (some (0, [2, 4, 6, 21])) := by
  decide +kernel

/-- C01: in a well-formed state the id `insertCell` hands out is fresh — no entry of any list has it -/
theorem insertCell_id_fresh_wf (s : LSt) (i : Nat) (first : Bool) (sl : SlotB) (hw : WF s) :
    ∀ j g, aget s.sigs j = some g → ∀ c ∈ g.cells, c.id ≠ (insertCell s i first sl).2 :=
  fun j g hg => insertCell_id_fresh s i first sl g (hw j g hg).2.lt

example : ∀ c ∈ exSig.cells, c.id ≠ (insertCell exS 1 true (exSlot 9)).2 :=
  insertCell_id_fresh_wf exS 1 true _ exS_WF 1 exSig rfl

theorem delG_is_dropHandle (s : LSt) (g : Nat) (h : Handle) (hg : aget s.G g = some h)
    (hpin : (h.everFwd && !h.fl.isTrackable) = false) (hown : s.ownedG.any (fun p => p.2 = g) = false) :
    Spec.stepSimple s (.delG g) = some (dropHandle s g, "ok") := by
  rw [stepSimple_delG]
  simp only [hg, hpin, hown, Bool.false_eq_true, if_false]

example : Spec.stepSimple exS (.delG 0) = some (dropHandle exS 0, "ok") := delG_is_dropHandle exS 0 _ rfl rfl rfl

/-- C14: destroying the last signal object that refers to a list (no emission of it running) destroys
    the list; while another signal object refers to it, the list stays, with the same entries -/
theorem delG_last_handle_drops_list (s : LSt) (g im : Nat) (h : Handle) (x : LSig)
    (hg : aget s.G g = some h) (hi : h.impl = some im) (hx : aget s.sigs im = some x)
    (hpin : (h.everFwd && !h.fl.isTrackable) = false) (hown : s.ownedG.any (fun p => p.2 = g) = false) :
    ∃ s', Spec.stepSimple s (.delG g) = some (s', "ok") ∧ aget s'.G g = none ∧
      ((x.active = 0 ∧ ∀ p ∈ s.G, p.1 ≠ g → p.2.impl ≠ some im) → aget s'.sigs im = none) ∧
      ((∃ p ∈ s.G, p.1 ≠ g ∧ p.2.impl = some im) → h.fl.isTrackable = false → aget s'.sigs im = some x) := by
  refine ⟨_, delG_is_dropHandle s g h hg hpin hown, (dropHandle_G _ _ _).trans (aget_adel_same _ _), fun ⟨ha, hno⟩ => ?_, fun ⟨p, hp, hne, himp⟩ ht => ?_⟩
  · -- `gcSig` finds the list with no emission in progress and no signal object referring to it
    have hmem : ∀ G : List (Nat × Handle), G = s.G → ∀ p ∈ adel G g, p.2.impl ≠ some im :=
      fun G e p hp => hno p (e ▸ (Emit.mem_adel hp).1) (Emit.mem_adel hp).2
    rw [dropHandle_eq s g h hg, hi]
    cases h.fl.isTrackable
    · exact (gcSig_drops_iff _ im x (by exact hx)).1.2 ⟨ha, hmem _ rfl⟩
    · refine (gcSig_drops_iff _ im (x.remove s.k1 s.k2 true (fun c => c.slot.tracksObj h.trk)) ?_).1.2 ⟨ha, hmem _ rfl⟩
      simp only [if_true, invalidateTrackable, aget_amap, hx, Option.map_some]
  · obtain ⟨x', h1, _, h2⟩ := dropHandle_keeps_list s g im p x hp hne himp hx
    rw [h1, h2 (fun hd e => by rw [hg] at e; cases e; exact ht)]

/-- `exS`: signal objects 0 and 1 share list 1 — deleting 0 keeps the list, deleting both drops it -/
example : ((Spec.stepSimple exS (.delG 0)).map (fun x => (aget x.1.sigs 1).map (·.cells.length))) = some (some 3) ∧
    (((Spec.stepSimple exS (.delG 0)).bind (fun x => Spec.stepSimple x.1 (.delG 1))).map
      (fun x => (aget x.1.sigs 1).map (·.cells.length))) = some none := by decide +kernel

/-! ## functor-owned signal objects (`ownG:`): a functor family keeps a signal object alive

`s.ownedG` lists the pairs (owner id `k`, name `g` of the signal object in `G`); the functor copies of the
family carry `k` in their `ownsK` list, so `heldK s k` says whether a copy is still alive.  The name stays
in `G` (the program may go on using it), but the program cannot destroy the object any more: `delG` is refused
(`owned`), as are a move-assignment that would destroy it and a second `ownG:` of it.  The object dies in
`collect`, once no functor copy holds `k`: `dropHandle`, which is exactly what an unrefused `delG` does. -/

theorem delG_owned_refused (s : LSt) (k g : Nat) (hm : (k, g) ∈ s.ownedG) :
    Spec.stepSimple s (.delG g) =
      some (s, match aget s.G g with
               | none => "dead"
               | some h => if (h.everFwd && !h.fl.isTrackable) = true then "pinned" else "owned") := by
  have hown : s.ownedG.any (fun p => p.2 = g) = true := by
    simp only [List.any_eq_true, decide_eq_true_eq]; exact ⟨(k, g), hm, rfl⟩
  rw [stepSimple_delG]
  cases aget s.G g with
  | none => rfl
  | some h =>
    simp only [hown, if_true]
    split <;> rfl

example : Spec.stepSimple { exS with ownedG := [(30, 1)] } (.delG 1) = some ({ exS with ownedG := [(30, 1)] }, "owned") :=
  delG_owned_refused { exS with ownedG := [(30, 1)] } 30 1 (by decide)

/-- move-assignment `masgG j i` (no accumulator) is refused when a functor owns the source, or — for a
    `trackable_signal` — the destination: the complement of the hypothesis `hown` of `masgG_transfers` -/
theorem masgG_owned_refused (s : LSt) (j i : Nat) (d h0 : Handle) (hj : aget s.G j = some d) (hi : aget s.G i = some h0)
    (hfl : d.fl = h0.fl) (hlvl : d.lvl = h0.lvl) (hacc : h0.fl.isAcc = false)
    (hown : (s.ownedG.any (fun p => p.2 = i) || s.ownedG.any (fun p => p.2 = j)) = true) :
    Spec.stepSimple s (.masgG j i) = some (s, "owned") := by
  have hnf : ¬ (d.fl ≠ h0.fl) := fun h => h hfl
  have hnl : ¬ (d.lvl ≠ h0.lvl) := fun h => h hlvl
  conv => lhs; whnf
  simp only [hj, hi, hnf, hnl, if_false, hacc, hown, Bool.not_false, Bool.and_self, if_true]

example : Spec.stepSimple { exS with ownedG := [(30, 0)] } (.masgG 1 0) = some ({ exS with ownedG := [(30, 0)] }, "owned") :=
  masgG_owned_refused _ 1 0 _ _ rfl rfl rfl rfl rfl rfl

/-- `ownG:fid:g` — the functor takes a share in the signal object `g`: a fresh owner id `k = s.next`, held by the
    functor, is registered for the name `g`; nothing else changes (in particular `g` stays in `G`).  Refused for a
    dead, a pinned (`fwd:`-referenced non-trackable) and an already owned signal object -/
theorem ownG_registers (s : LSt) (isVoid : Bool) (fid g : Nat) (h : Handle) (hg : aget s.G g = some h)
    (hpin : (h.everFwd && !h.fl.isTrackable) = false) (hown : s.ownedG.any (fun p => p.2 = g) = false) :
    Spec.mkFun s isVoid (.ownG fid g) =
      .ok (.owner fid [] [s.next], { s with next := s.next + 1, ownedG := (s.next, g) :: s.ownedG }) := by
  rw [mkFun_ownG]
  simp only [hg, hpin, hown, Bool.false_eq_true, if_false]

example : Spec.mkFun exS false (.ownG 7 2) =
    .ok (.owner 7 [] [20], { exS with next := 21, ownedG := [(20, 2)] }) := ownG_registers exS false 7 2 _ rfl rfl rfl

/-- C14 (S-level counterpart of `functor_owned_handle_keeps_list`), first half: after a successful
    `connfn k g ownG:fid:g0` the signal object `g0` is registered as owned by the new owner id, it is still a live
    signal object, and `delG g0` is refused without any effect -/
theorem connfn_ownG_keeps_handle (s s' : LSt) (k g fid g0 : Nat) (first : Bool)
    (h : Spec.stepSimple s (.connfn k g (.ownG fid g0) first) = some (s', "ok")) :
    s'.ownedG = (s.next, g0) :: s.ownedG ∧
    ∃ h0, aget s'.G g0 = some h0 ∧
      Spec.stepSimple s' (.delG g0) =
        some (s', if (h0.everFwd && !h0.fl.isTrackable) = true then "pinned" else "owned") := by
  have key : s'.ownedG = (s.next, g0) :: s.ownedG ∧ ∃ h0, aget s'.G g0 = some h0 := by
    conv at h => lhs; whnf
    cases hg : aget s.G g with
    | none => simp [hg] at h
    | some hd =>
      simp only [hg, mkFun_ownG] at h
      cases hg0 : aget s.G g0 with
      | none => simp [hg0] at h
      | some h0 =>
        cases hpin : (h0.everFwd && !h0.fl.isTrackable) with
        | true => simp [hg0, hpin] at h
        | false =>
          cases hown : s.ownedG.any (fun p => p.2 = g0) with
          | true => simp [hg0, hpin, hown] at h
          | false =>
            have l1 : ¬ ((-1 : Int) ≥ (hd.lvl : Int)) := by omega
            simp only [hg0, hpin, hown, Bool.false_eq_true, if_false, Spec.specTaint, l1] at h
            cases he : ensureSig { s with next := s.next + 1, ownedG := (s.next, g0) :: s.ownedG } g with
            | none => simp [he] at h
            | some x =>
              obtain ⟨s2, im⟩ := x
              simp only [he, Option.some.injEq, Prod.mk.injEq, and_true] at h
              subst h
              obtain ⟨_, h1, _, e1, _, _, _, _, _, e3, _, _, e4⟩ := ensureSig_spec _ s2 g im he
              refine ⟨?_, ?_⟩
              · show (insertCell s2 im first _).1.ownedG = _
                rw [(insertCell_frame _ _ _ _).2.1, e4]
              · show ∃ h0, aget (insertCell s2 im first _).1.G g0 = some h0
                rw [(insertCell_frame _ _ _ _).1]
                by_cases e : g0 = g
                · subst e; exact ⟨h1, e1⟩
                · rw [e3 g0 e]; exact ⟨h0, hg0⟩
  obtain ⟨ho, h0, hg0⟩ := key
  refine ⟨ho, h0, hg0, ?_⟩
  have := delG_owned_refused s' s.next g0 (by rw [ho]; exact List.mem_cons_self)
  rw [hg0] at this
  exact this

/-- C14 (S-level counterpart of `functor_owned_handle_keeps_list`), second half, for every state: `delG g` —
    whatever it answers — leaves every other signal object `g0` of `G` (named by the program, or owned by a
    functor: it is in `G` all the same) as it is, and the list `g0` refers to alive, with the same emissions in
    progress, and with the same entries unless `g` is a `trackable_signal` (whose death disconnects the slots
    tracking it) -/
theorem delG_keeps_list_of_other_handle (s s' : LSt) (g g0 im : Nat) (h0 : Handle) (x : LSig) (r : String) (hne : g0 ≠ g)
    (hg0 : aget s.G g0 = some h0) (hi : h0.impl = some im) (hx : aget s.sigs im = some x)
    (h : Spec.stepSimple s (.delG g) = some (s', r)) :
    aget s'.G g0 = some h0 ∧ ∃ x', aget s'.sigs im = some x' ∧ x'.active = x.active ∧
      ((∀ hd, aget s.G g = some hd → hd.fl.isTrackable = false) → x' = x) := by
  have hsame : s' = s → aget s'.G g0 = some h0 ∧ ∃ x', aget s'.sigs im = some x' ∧ x'.active = x.active ∧
      ((∀ hd, aget s.G g = some hd → hd.fl.isTrackable = false) → x' = x) := by
    intro e; subst e; exact ⟨hg0, x, hx, rfl, fun _ => rfl⟩
  rw [stepSimple_delG] at h
  split at h
  · cases h; exact hsame rfl
  · split at h
    · cases h; exact hsame rfl
    · split at h
      · cases h; exact hsame rfl
      · cases h
        refine ⟨?_, dropHandle_keeps_list s g im (g0, h0) x (Emit.aget_some_mem hg0) hne hi hx⟩
        rw [dropHandle_G, aget_adel_other _ _ _ hne]; exact hg0

/-- `exS`: signal objects 0 and 1 share list 1; whatever `delG 1` does, list 1 stays, referred to by 0 -/
example : ∀ s' r, Spec.stepSimple exS (.delG 1) = some (s', r) → ∃ x', aget s'.sigs 1 = some x' ∧ x'.active = 0 :=
  fun s' r h => by
    obtain ⟨_, x', h1, h2, _⟩ := delG_keeps_list_of_other_handle exS s' 1 0 1 _ exSig r (by decide) rfl rfl rfl h
    exact ⟨x', h1, h2⟩

/-- C14 (S-level counterpart of `collect_drops_unheld_owned_handle`), one step: when every owned trackable and
    every owned scoped connection is still held, and `(k, g)` is the first functor-owned signal object whose owner
    id no functor copy holds, `collectStep` removes the entries of `k` and destroys the signal object `g`
    (`dropHandle`, i.e. what an unrefused `delG g` does): the name `g` is gone, every other name is untouched -/
theorem collectStep_drops_unheld_owned_handle (s : LSt) (k g : Nat)
    (hT : ∀ o ∈ s.ownedT, heldT s o = true) (hK : ∀ p ∈ s.ownedK, heldK s p.1 = true)
    (hG : s.ownedG.find? (fun p => !heldK s p.1) = some (k, g)) :
    ∃ s', collectStep s = some s' ∧
      s' = dropHandle { s with ownedG := s.ownedG.filter (fun q => q.1 ≠ k) } g ∧
      aget s'.G g = none ∧ (∀ g', g' ≠ g → aget s'.G g' = aget s.G g') ∧
      s'.ownedG = s.ownedG.filter (fun q => q.1 ≠ k) ∧ s'.ownedT = s.ownedT ∧ s'.ownedK = s.ownedK := by
  have h1 : s.ownedT.find? (fun o => !heldT s o) = none := by
    rw [List.find?_eq_none]; intro o ho; simp [hT o ho]
  have h2 : s.ownedK.find? (fun p => !heldK s p.1) = none := by
    rw [List.find?_eq_none]; intro p hp; simp [hK p hp]
  refine ⟨_, ?_, rfl, ?_, ?_, ?_, ?_, ?_⟩
  · simp only [collectStep, h1, h2, hG]
  · rw [dropHandle_G]; exact aget_adel_same _ _
  · intro g' hne; rw [dropHandle_G]; exact aget_adel_other _ _ _ hne
  · rw [(dropHandle_owned _ _).2.2]
  · rw [(dropHandle_owned _ _).1]
  · rw [(dropHandle_owned _ _).2.1]

theorem collect_only_releases (s : LSt) :
    (∀ g, aget s.G g = none → aget (Spec.collect s).G g = none) ∧
    (Spec.collect s).ownedT.Sublist s.ownedT ∧ (Spec.collect s).ownedK.Sublist s.ownedK ∧
    (Spec.collect s).ownedG.Sublist s.ownedG ∧ (∀ k, heldK (Spec.collect s) k = true → heldK s k = true) := by
  have := shrink_releases.collect s
  exact ⟨this.G, this.oT, this.oK, this.oG, this.held⟩

theorem collect_complete (s : LSt) :
    (∀ o ∈ (Spec.collect s).ownedT, heldT (Spec.collect s) o = true) ∧
    (∀ p ∈ (Spec.collect s).ownedK, heldK (Spec.collect s) p.1 = true) ∧
    (∀ p ∈ (Spec.collect s).ownedG, heldK (Spec.collect s) p.1 = true) :=
  (collectStep_none_iff _).1 (collectStep_collect s)

/-- C14 (S-level counterpart of `collect_drops_unheld_owned_handle`): a functor-owned signal object whose owner id
    no functor copy holds does not survive `collect` — its name is no longer in `G`, its owner id no longer
    registered.  (`hnd`: owner ids are pairwise distinct — they are handed out by `fresh`, but for `S` no theorem says so:
    `WF` does not speak of `ownedG`; for `P` see `C14.collect_drops_unheld_owned_handle_wf`.  Without it, the same holds
    for the *first* name registered for `k`.) -/
theorem collect_drops_unheld_owned_handle (s : LSt) (k g : Nat) (hnd : (s.ownedG.map (·.1)).Nodup)
    (hm : (k, g) ∈ s.ownedG) (hh : heldK s k = false) :
    aget (Spec.collect s).G g = none ∧ ∀ g', (k, g') ∉ (Spec.collect s).ownedG :=
  collectN_drops k g _ s (Nat.le_refl _) hnd hm hh

/-- `exS`: the functor of connection 9 takes a share in signal object 2; while the connection is there, `delG 2`
    is refused; once it is disconnected, `collect` destroys signal object 2 -/
example :
    let s1 := ((Spec.stepSimple exS (.connfn 9 0 (.ownG 7 2) false)).map (·.1)).getD {}
    let s2 := ((Spec.stepSimple s1 (.disc 9)).map (·.1)).getD {}
    s1.ownedG = [(20, 2)] ∧ heldK s1 20 = true ∧ (Spec.stepSimple s1 (.delG 2)).map (·.2) = some "owned" ∧
    (aget (Spec.collect s1).G 2).isSome = true ∧
    heldK s2 20 = false ∧ (aget s2.G 2).isSome = true ∧ aget (Spec.collect s2).G 2 = none ∧
    (Spec.collect s2).ownedG = [] := by decide +kernel

example : ∀ s1 s2 r, Spec.stepSimple exS (.connfn 9 0 (.ownG 7 2) false) = some (s1, "ok") →
    Spec.stepSimple s1 (.disc 9) = some (s2, r) → heldK s2 20 = false → (s2.ownedG.map (·.1)).Nodup →
    (20, 2) ∈ s2.ownedG → aget (Spec.collect s2).G 2 = none :=
  fun _ s2 _ _ _ hh hnd hm => (collect_drops_unheld_owned_handle s2 20 2 hnd hm hh).1

end Sigc.SpecP
