import Sigc.Lemmas.FuelMonoSpec
import Sigc.Lemmas.FuelTerm
import Sigc.Props.Refine
/-!
The fuel argument of the two interpreters is only a device.  The mechanism model `P` (`Sigc.Model`) and the specification `S` (`Sigc.Spec`) are defined by structural
recursion on a fuel argument and answer `none` when it runs out.  All property theorems quantify over the
fuel (`∀ fuel, runTop fuel P {} P.top = some s → …`).  This file shows that the fuel does not influence
a result:

* **monotonicity** — every function of the two mutual blocks, `runTop` and `teardown`: a result `some r`
  obtained with fuel `f` is obtained, unchanged, with every fuel `f' ≥ f`;
* **independence** — two sufficient fuels give the same result; the text printed by the driver
  (`runProgram`) does not depend on `defaultFuel` unless it is the fuel notice;
* **termination** — every program of the operation language terminates: for every `P` some fuel suffices for
  `runTop` (and for the driver's `teardown`), with no hypothesis on `P`.  The argument (`Sigc.Lemmas.FuelTerm`,
  `Sigc.Lemmas.FuelLvl`): nesting of functor bodies is cut at `P.maxdepth`; a chain of forwarded emissions
  (`make_slot()`) has strictly decreasing levels (the level invariant `LvlInv`: every forwarder held by a slot
  variable is bounded by the variable's `taint`, every forwarder held by a slot list by the `lvl` of the signal
  objects sharing the list — preserved by all operations); `nest` functors are structurally smaller; and the walk
  of an emission stays inside the block `[first, marker]` that the list had when the emission started
  (`Emit.Frame`), moving one position per step.
-/
namespace Sigc.Fuel
open Sigc.Model

/-- more fuel, same result, for the eleven functions of the mutual block of `Sigc.Model` (the fields of `Mono`) -/
theorem model_fuel_mono {f g : Nat} (h : f ≤ g) : Mono f g := mono h

theorem runTop_fuel_mono {f f' : Nat} {P : Prog} {s r : St} {ls : List Line} (hle : f ≤ f')
    (h : runTop f P s ls = some r) : runTop f' P s ls = some r := runTop_mono hle P ls s r h

theorem runTop_fuel_independent {f f' : Nat} {P : Prog} {s r r' : St} {ls : List Line}
    (h : runTop f P s ls = some r) (h' : runTop f' P s ls = some r') : r = r' :=
  unique_of_mono (F := fun f => runTop f P s ls) (fun hle h => runTop_mono hle P ls s _ h) h h'

theorem teardown_fuel_mono {f f' : Nat} {P : Prog} {s r : St} (hle : f ≤ f')
    (h : teardown f P s = some r) : teardown f' P s = some r := teardown_mono hle P s r h

theorem teardown_fuel_independent {f f' : Nat} {P : Prog} {s r r' : St}
    (h : teardown f P s = some r) (h' : teardown f' P s = some r') : r = r' :=
  unique_of_mono (F := fun f => teardown f P s) (fun hle h => teardown_mono hle P s _ h) h h'

theorem driver_fuel_independent (lines : List String) (s t : St)
    (h1 : runTop defaultFuel (parseProg lines) {} (parseProg lines).top = some s)
    (h2 : teardown defaultFuel (parseProg lines) s = some t) :
    ∀ fuel, defaultFuel ≤ fuel →
      runTop fuel (parseProg lines) {} (parseProg lines).top = some s ∧
      teardown fuel (parseProg lines) s = some t :=
  fun _ hle => ⟨runTop_mono hle _ _ _ _ h1, teardown_mono hle _ _ _ h2⟩

/-- the text the driver prints does not depend on the fuel unless it is the fuel notice
    (`Model.runProgram = runProgramWith defaultFuel`, by `rfl`) -/
theorem runProgramWith_fuel_independent {f f' : Nat} (hle : f ≤ f') (lines : List String)
    (h : runProgramWith f lines ≠ ["MODEL-FUEL"]) : runProgramWith f' lines = runProgramWith f lines :=
  runProgramWith_mono hle h

theorem runProgram_fuel_independent (lines : List String) (h : Model.runProgram lines ≠ ["MODEL-FUEL"]) :
    ∀ fuel, defaultFuel ≤ fuel → runProgramWith fuel lines = Model.runProgram lines :=
  fun _ hle => runProgramWith_mono hle h

theorem runProgramWith_unique {f f' : Nat} (lines : List String)
    (h : runProgramWith f lines ≠ ["MODEL-FUEL"]) (h' : runProgramWith f' lines ≠ ["MODEL-FUEL"]) :
    runProgramWith f lines = runProgramWith f' lines := by
  rcases Nat.le_total f f' with hle | hle
  · exact (runProgramWith_mono hle h).symm
  · exact runProgramWith_mono hle h'

theorem spec_fuel_mono {f g : Nat} (h : f ≤ g) : S.Mono f g := S.mono h

theorem spec_runTop_fuel_mono {f f' : Nat} {P : Prog} {s r : Spec.LSt} {ls : List Line} (hle : f ≤ f')
    (h : Spec.runTop f P s ls = some r) : Spec.runTop f' P s ls = some r := S.runTop_mono hle P ls s r h

theorem spec_runTop_fuel_independent {f f' : Nat} {P : Prog} {s r r' : Spec.LSt} {ls : List Line}
    (h : Spec.runTop f P s ls = some r) (h' : Spec.runTop f' P s ls = some r') : r = r' :=
  unique_of_mono (F := fun f => Spec.runTop f P s ls) (fun hle h => S.runTop_mono hle P ls s _ h) h h'

theorem spec_teardown_fuel_mono {f f' : Nat} {P : Prog} {s r : Spec.LSt} (hle : f ≤ f')
    (h : Spec.teardown f P s = some r) : Spec.teardown f' P s = some r := S.teardown_mono hle P s r h

theorem spec_teardown_fuel_independent {f f' : Nat} {P : Prog} {s r r' : Spec.LSt}
    (h : Spec.teardown f P s = some r) (h' : Spec.teardown f' P s = some r') : r = r' :=
  unique_of_mono (F := fun f => Spec.teardown f P s) (fun hle h => S.teardown_mono hle P s _ h) h h'

theorem spec_runProgram_fuel_independent (k1 k2 : Bool) (lines : List String)
    (h : Spec.runProgram k1 k2 lines ≠ ["SPEC-FUEL"]) :
    ∀ fuel, defaultFuel ≤ fuel → S.runProgramWith fuel k1 k2 lines = Spec.runProgram k1 k2 lines :=
  fun _ hle => S.runProgramWith_mono hle h

/-- every program terminates: for every program of the operation language some fuel suffices for the
    interpreter `runTop` (no hypothesis on `P`: any bodies, `maxdepth`, `maxsteps`, mode) -/
theorem terminates (P : Prog) : ∃ fuel s, runTop fuel P {} P.top = some s :=
  runTop_term lvlStable P P.top {} ⟨Emit.inv_init, JK.init, Nat.zero_le _⟩

theorem terminates_stable (P : Prog) : ∃ fuel s, ∀ f, fuel ≤ f → runTop f P {} P.top = some s :=
  let ⟨fuel, s, h⟩ := terminates P
  ⟨fuel, s, fun _ hle => runTop_mono hle P P.top {} s h⟩

/-- the level invariant behind the termination argument (head of this file) -/
theorem lvlInv_reachable (fuel : Nat) (P : Prog) (s : St) (h : runTop fuel P {} P.top = some s) : LvlInv s :=
  (Sigc.Inv.runTop_preservedCore lvlStable.core fuel none P P.top {} s JK.init h).1

/-- the driver (`runTop` followed by `teardown`) terminates on every program text -/
theorem driver_terminates (lines : List String) :
    ∃ fuel, ∀ f, fuel ≤ f → runProgramWith f lines ≠ ["MODEL-FUEL"] ∧
      runProgramWith f lines = runProgramWith fuel lines := by
  obtain ⟨f0, s, h1⟩ := terminates (parseProg lines)
  obtain ⟨t, h2⟩ := Sigc.Refine.Td.teardown_terminates f0 (parseProg lines) s
  have h1' := runTop_mono (Nat.le_succ f0) _ _ _ _ h1
  have hne : runProgramWith (f0 + 1) lines ≠ ["MODEL-FUEL"] := by
    unfold runProgramWith
    simp only []
    rw [h1']
    simp only []
    rw [h2]
    simp only []
    cases t.err with
    | none => exact (Sigc.Refine.body_ne_fuel _ _).1
    | some e => exact (Sigc.Refine.body_ne_fuel _ _).2 _
  refine ⟨f0 + 1, fun f hle => ?_⟩
  have e := runProgramWith_mono hle hne
  exact ⟨by rw [e]; exact hne, e⟩

/-- the specification `S'` (both known findings, the configuration the model refines) terminates on every program,
    together with its teardown -/
theorem spec_known_terminates (P : Prog) :
    ∃ fuel t t', Spec.runTop fuel P { k1 := true, k2 := true } P.top = some t ∧ Spec.teardown fuel P t = some t' := by
  obtain ⟨f0, s, h1⟩ := terminates P
  obtain ⟨s', h2⟩ := Sigc.Refine.Td.teardown_terminates f0 P s
  have h1' := runTop_mono (Nat.le_succ f0) _ _ _ _ h1
  obtain ⟨t, t', hr, ht, _⟩ := Sigc.Refine.refines_driver (f0 + 1) P s s' h1' h2
  exact ⟨f0 + 1, t, t', hr, ht⟩

/-- a program with forwarders: signal 2 forwards to signal 1 (`make_slot()`), whose slot body re-emits signal 2 and
    calls a slot variable that forwards to signal 2; the attempt to make signal 1 forward to signal 2 is refused -/
def exFwd : Prog :=
  { bodies := [(1, [⟨"emit 2 1", .emit 2 1 .sum false⟩, ⟨"callS 1 2", .callS 1 2⟩])],
    top := [⟨"newG 1 V", .newG 1 (some .V)⟩, ⟨"newG 2 V", .newG 2 (some .V)⟩,
            ⟨"connfn 1 2 fwd 1", .connfn 1 2 (.fwd 1) false⟩, ⟨"connfn 2 1 fn 1", .connfn 2 1 (.fn 1) false⟩,
            ⟨"mkS 1 V fwd 2", .mkS 1 "V" (.fwd 2)⟩, ⟨"connfn 3 1 fwd 2", .connfn 3 1 (.fwd 2) false⟩,
            ⟨"emit 2 0", .emit 2 0 .rev false⟩] }

open Sigc.Refine in
example : ∃ s, runTop 15 exProg {} exProg.top = some s ∧ ∀ f, 15 ≤ f → runTop f exProg {} exProg.top = some s := by
  have h : (runTop 15 exProg {} exProg.top).isSome = true := by decide +kernel
  obtain ⟨s, hs⟩ := Option.isSome_iff_exists.mp h
  exact ⟨s, hs, fun f hle => runTop_fuel_mono hle hs⟩

open Sigc.Refine in
/-- fuel 14 is not enough: the hypothesis `= some r` of monotonicity matters -/
example : runTop 14 exProg {} exProg.top = none := by decide +kernel

open Sigc.Refine in
example : ∃ t, Spec.runTop 13 exProg {} exProg.top = some t ∧
    ∀ f, 13 ≤ f → Spec.runTop f exProg {} exProg.top = some t := by
  have h : (Spec.runTop 13 exProg {} exProg.top).isSome = true := by decide +kernel
  obtain ⟨s, hs⟩ := Option.isSome_iff_exists.mp h
  exact ⟨s, hs, fun f hle => spec_runTop_fuel_mono hle hs⟩

example : ∀ fuel, runProgramWith fuel [] = ["0 final live=0"] := by
  intro fuel
  have h0 : runProgramWith 0 [] = ["0 final live=0"] := by decide +kernel
  rw [runProgramWith_fuel_independent (Nat.zero_le fuel) [] (by rw [h0]; decide), h0]

example : ∃ fuel s, runTop fuel Sigc.Refine.exProg {} Sigc.Refine.exProg.top = some s := terminates _

/-- `exFwd` terminates by the theorem (nesting ends at `maxdepth`), and with fuel 68 by evaluation (67 is not enough) -/
example : (∃ fuel s, runTop fuel exFwd {} exFwd.top = some s) ∧ (runTop 68 exFwd {} exFwd.top).isSome = true ∧
    runTop 67 exFwd {} exFwd.top = none :=
  ⟨terminates _, by decide +kernel, by decide +kernel⟩

example : ∀ fuel s, runTop fuel exFwd {} exFwd.top = some s → LvlInv s := fun fuel s h => lvlInv_reachable fuel _ s h

example : ∃ fuel, ∀ f, fuel ≤ f → runProgramWith f ["newG g1 V", "connfn c1 g1 fn:1", "emit g1 5"] ≠ ["MODEL-FUEL"] :=
  let ⟨fuel, h⟩ := driver_terminates _
  ⟨fuel, fun f hle => (h f hle).1⟩

end Sigc.Fuel
