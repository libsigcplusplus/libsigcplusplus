import Sigc.TrkLemmas3
/-!
  # C16 — trackable notifications fire exactly once, and copies do not inherit them

  Model: `Sigc/Trk.lean` (`sigc::trackable`, `trackable_callback_list`, function by function).
  Every statement is for **all** histories (`History` = callback bodies + any list of operations over
  any number of trackables) or all states.

  Vocabulary (defined in `Sigc/Trk.lean`, mechanism-free, to be read against `properties.jsonl`):
  * the trace of a run is the list of events `add r t d` (registration `r` — a fresh id per call — of data
    `d` on trackable `t`), `rem t d`, `trig t … done t` (one triggering event on `t`: destruction, being
    assigned to, being moved from, `notify_callbacks()`), `deliver r d k`; `added`, `delivered` — the ids
    `r` of its `add`, of its `deliver` events;
  * `present t pre` — the registrations of `t` after the events `pre`: added to `t`, not matched by a
    `remove` (a `remove d` matches the **first** present registration with data `d`), and no triggering
    event on `t` has completed since;
  * `inRound pre` — the trackable whose triggering event is in progress after `pre`;
  * `h.Domain` — C16's domain: callbacks only *remove* registrations (no `add`, no nested
    `notify_callbacks()` inside a delivery round; DESIGN §5 C16, §6);
  * `h.Domain2` — the wider domain: callbacks remove and add, only the nested `notify_callbacks()` is out;
  * `present2 t pre` — `present`, an `add` on `t` during a triggering event on `t` counted as no
    registration, as the code has it (`add_callback` does nothing while `clearing_`).
-/
namespace Sigc.C16
open Sigc.Trk

theorem Domain_sub_Domain2 (h : History) : h.Domain = true → h.Domain2 = true := by
  unfold History.Domain History.Domain2
  simp only [List.all_eq_true]
  intro hd b hb o ho
  rw [BodyOp.isNotify_of_isRem (hd b hb o ho)]; rfl

/-- **C16.** Exactly-once on the wider domain: clauses 2–5 of `exactly_once` (below) read with `present2` for
    `present` (an in-round `add` is no registration), except what 5 says of `add`, which may now come
    inside a round; clause 1 is `added_nodup_wide`. -/
theorem exactly_once_wide (h : History) (dom : h.Domain2 = true) :
    let tr := (run h).trace
    (delivered tr).Nodup ∧
    (∀ pre post r d k, tr = pre ++ Ev.deliver r d k :: post →
        r ∉ delivered pre ∧ ∃ t, inRound pre = some t ∧ (r, d) ∈ present2 t pre) ∧
    (∀ pre post t, tr = pre ++ Ev.done t :: post →
        inRound pre = some t ∧ ∀ x ∈ present2 t pre, x.1 ∈ delivered pre) ∧
    (∀ pre post t, tr = pre ++ Ev.trig t :: post → inRound pre = none) ∧
    inRound tr = none := by
  have inv := W.run_inv dom
  refine ⟨inv.valid.delivered_nodup, ?_, ?_, ?_, inv.idle⟩
  · intro pre post r d k e
    obtain ⟨_, t, h1, h2, h3⟩ := inv.valid.split pre _ post e
    exact ⟨h3, t, h1, h2⟩
  · intro pre post t e
    exact (inv.valid.split pre _ post e).2
  · intro pre post t e
    exact (inv.valid.split pre _ post e).2

/-- every `add` of the run, in a round or not, has its own registration id (wider domain) -/
theorem added_nodup_wide (h : History) (dom : h.Domain2 = true) : (added (run h).trace).Nodup :=
  (W.run_inv dom).valid.added_nodup

/-- non-vacuity of `exactly_once_wide`: in the first round callback 0 adds (id 3: no registration for
    `present2`, one for `present`) and removes registration 2, which is not delivered; a later add of the
    same data (id 4) is delivered in the second round -/
example :
    let h : History := ⟨[[.add 2 0, .rem 5], []],
      [.new 0, .add 0 1 0, .add 0 1 1, .add 0 5 1, .notify 0, .add 0 2 1, .notify 0, .del 0]⟩
    h.Domain2 = true ∧ h.Domain = false ∧ delivered (run h).trace = [0, 1, 4] ∧
      added (run h).trace = [0, 1, 2, 3, 4] ∧
      (run h).trace.take 7 = [.add 0 0 1, .add 1 0 1, .add 2 0 5, .trig 0, .deliver 0 1 0, .add 3 0 2, .rem 0 5] ∧
      present2 0 ((run h).trace.take 7) = [(0, 1), (1, 1)] ∧
      present 0 ((run h).trace.take 7) = [(0, 1), (1, 1), (3, 2)] := by
  decide

/--
  **C16.**  For every history in the domain, on the trace `tr` of the whole run:
  1. every `add` has its own registration id;
  2. no registration is delivered twice;
  3. a delivery of `r` happens only *during a triggering event* on a trackable `t` on which `r` is
     present at that moment — i.e. `r` was added to `t`, no `remove` matched it before (never after
     removal), and no earlier triggering event on `t` has completed since the `add` (so it is the first);
  4. when a triggering event on `t` completes, every registration present on `t` has been delivered
     (so an unremoved registration *is* delivered at the first triggering event after its `add`),
     and from then on `t` has no registration (`present t (pre ++ [done t]) = []` by definition);
  5. triggering events are properly bracketed: a `trig` and an `add` only occur outside rounds, and at the
     end of the history no round is open.
-/
theorem exactly_once (h : History) (dom : h.Domain = true) :
    let tr := (run h).trace
    (added tr).Nodup ∧
    (delivered tr).Nodup ∧
    (∀ pre post r d k, tr = pre ++ Ev.deliver r d k :: post →
        r ∉ delivered pre ∧ ∃ t, inRound pre = some t ∧ (r, d) ∈ present t pre ∧ Ev.add r t d ∈ pre) ∧
    (∀ pre post t, tr = pre ++ Ev.done t :: post →
        inRound pre = some t ∧ ∀ x ∈ present t pre, x.1 ∈ delivered pre) ∧
    (∀ pre post t, tr = pre ++ Ev.trig t :: post → inRound pre = none) ∧
    (∀ pre post r t d, tr = pre ++ Ev.add r t d :: post → inRound pre = none ∧ r ∉ added pre) ∧
    inRound tr = none := by
  obtain ⟨inv, ha⟩ := run_inv_addsIdle dom
  obtain ⟨w2, w3, w4, w5, w6⟩ := exactly_once_wide h (Domain_sub_Domain2 h dom)
  have hp : ∀ {pre post : List Ev} (t : Nat), (run h).trace = pre ++ post → present2 t pre = present t pre :=
    fun t e => W.present2_eq_present_of_domain dom t _ _ e
  refine ⟨added_nodup_wide h (Domain_sub_Domain2 h dom), w2, ?_, ?_, w5, ?_, w6⟩
  · intro pre post r d k e
    obtain ⟨h3, t, h1, h2⟩ := w3 pre post r d k e
    exact ⟨h3, t, h1, hp t e ▸ h2, W.add_mem_of_mem_present2 (inv.valid.split pre _ post e).1 h2⟩
  · intro pre post t e
    obtain ⟨h1, h2⟩ := w4 pre post t e
    exact ⟨h1, hp t e ▸ h2⟩
  · intro pre post r t d e
    exact ⟨ha pre post r t d e, (inv.valid.split pre _ post e).2⟩

/-- non-vacuity: four registrations on one trackable, one removed from outside, one removed by the first
    callback during the round (never delivered), the first removing itself as well; then a second round -/
def ex1 : History :=
  { scripts := [[.rem 1, .rem 3], []],
    ops := [.new 0, .add 0 1 0, .add 0 2 1, .add 0 3 1, .add 0 2 1, .rem 0 2, .notify 0, .notify 0, .del 0] }

example : ex1.Domain = true ∧ delivered (run ex1).trace = [0, 3] ∧ added (run ex1).trace = [0, 1, 2, 3] :=
  by decide

/--
  **C16** (safety).  For every history in the domain the run never reaches an error
  state: the callback list is never restructured under the destructor's iterator (`iterInvalid`), never
  deleted twice (`doubleDelete`), and the iteration reaches `end()` (`fuel`).  This covers callbacks
  removing any other registration of the trackable being notified, earlier or later in the list, already
  delivered or not, and themselves.  The *effect* of such a removal is clause 3/4 of `exactly_once`
  (`present` drops the first present registration with that data, whether or not a round is in progress).
-/
theorem remove_during_round (h : History) (dom : h.Domain = true) : (run h).err = none :=
  (run_inv_addsIdle dom).1.noerr

example : ex1.Domain = true ∧ (run ex1).err = none := by decide

/-- the domain restriction "no nested `notify_callbacks()`" cannot be dropped from safety -/
theorem nested_notify_witness :
    ∃ h : History, (run h).err = some Err.doubleDelete :=
  ⟨{ scripts := [[.notify]], ops := [.new 0, .add 0 1 0, .notify 0] }, by decide⟩

/-- the domain restriction "no `add` inside a round" cannot be dropped from exactly-once: the call is
    silently ignored, its registration is never delivered, not even when the trackable is destroyed -/
theorem add_in_round_witness :
    ∃ h : History, (run h).err = none ∧ 1 ∈ added (run h).trace ∧ 1 ∉ delivered (run h).trace ∧
      (run h).objs 0 = none :=
  ⟨{ scripts := [[.add 2 0]], ops := [.new 0, .add 0 1 0, .notify 0, .del 0] }, by decide⟩

/--
  **C16.**  In *any* state, copy-constructing `dst` from a live `src` delivers
  nothing, leaves `src` (and everything else) exactly as it was and gives `dst` no callback list.
-/
theorem copy_transfers_nothing (sc : Scripts) (s : State) (src dst : Nat)
    (hok : (Op.copyCtor src dst).ok s = true) :
    let s' := step sc (.copyCtor src dst) s
    s'.trace = s.trace ∧ s'.err = s.err ∧ s'.nextReg = s.nextReg ∧
      (s.err = none → s'.objs dst = some ⟨none⟩) ∧ (∀ t, t ≠ dst → s'.objs t = s.objs t) := by
  simp only [step, hok, if_true, exec]
  split
  · exact ⟨rfl, rfl, rfl, fun h => by simp_all, fun _ _ => rfl⟩
  · exact ⟨rfl, rfl, rfl, fun _ => by simp, fun t ht => upd_objs_other _ _ ht⟩

/-- **C16** (copies do not inherit).  For every history in the domain, whatever is delivered during a
    triggering event on a trackable (e.g. a copy's destruction) was registered **on that very trackable**:
    the copy's life never reaches the original's registrations, and vice versa -/
theorem copy_life_independent (h : History) (dom : h.Domain = true) :
    ∀ pre post r d k, (run h).trace = pre ++ Ev.deliver r d k :: post →
      ∃ t, inRound pre = some t ∧ Ev.add r t d ∈ pre := by
  intro pre post r d k e
  obtain ⟨_, t, h1, _, h3⟩ := (exactly_once h dom).2.2.1 pre post r d k e
  exact ⟨t, h1, h3⟩

/-- non-vacuity: the copy dies, the original's registration stays and is delivered when the original dies -/
example :
    let h : History := { scripts := [[]], ops := [.new 0, .add 0 7 0, .copyCtor 0 1, .del 1] }
    h.Domain = true ∧ delivered (run h).trace = [] ∧
      delivered (run { h with ops := h.ops ++ [.del 0] }).trace = [0] := by decide

/--
  **C16.**  In *any* state, copy- or move-assigning a trackable to itself changes
  nothing at all (no delivery, no event, no state change).
-/
theorem self_assign_silent (sc : Scripts) (s : State) (t : Nat) :
    step sc (.assign t t) s = s ∧ step sc (.moveAssign t t) s = s := by
  constructor <;> (simp only [step, exec]; split <;> simp)

example :
    let h : History := { scripts := [[]], ops := [.new 0, .add 0 7 0, .assign 0 0, .moveAssign 0 0] }
    (run h).trace = [.add 0 0 7] ∧ entriesOf (run h) 0 = [⟨7, some 0, 0⟩] := by decide

/--
  **C16** (ties the events `trig … done` of `exactly_once` to the operations of the property
  statement).  After any history in the domain, an applicable operation `op` extends the trace by:
  destruction / `notify_callbacks()` of `t`: one triggering event on `t`; copy assignment `dst = src`:
  one on `dst` (nothing if `dst` is `src`); move construction from `src`: one on `src`; move assignment:
  one on `dst`, then one on `src` (nothing if same); default and copy construction: nothing;
  `add`: one `add` event with a fresh id; `remove`: one `rem` event.
-/
theorem trigger_ops (h : History) (dom : h.Domain = true) (op : Op) (hok : op.ok (run h) = true) :
    let s := run h
    let s' := step h.sc op s
    match op with
    | .notify t | .del t => ∃ mid, s'.trace = s.trace ++ Ev.trig t :: mid ++ [Ev.done t]
    | .assign dst src =>
        if dst = src then s'.trace = s.trace
        else ∃ mid, s'.trace = s.trace ++ Ev.trig dst :: mid ++ [Ev.done dst]
    | .moveCtor src _ => ∃ mid, s'.trace = s.trace ++ Ev.trig src :: mid ++ [Ev.done src]
    | .moveAssign dst src =>
        if dst = src then s'.trace = s.trace
        else ∃ m1 m2, s'.trace =
          s.trace ++ Ev.trig dst :: m1 ++ [Ev.done dst] ++ Ev.trig src :: m2 ++ [Ev.done src]
    | .new _ | .copyCtor _ _ => s'.trace = s.trace
    | .add t d _ => s'.trace = s.trace ++ [Ev.add s.nextReg t d]
    | .rem t d => s'.trace = s.trace ++ [Ev.rem t d] := by
  have inv := (run_inv_addsIdle dom).1
  have hsc := History.remOnly dom
  simp only [step, inv.noerr, Option.isSome_none, Bool.false_eq_true, if_false, hok, if_true]
  cases op with
  | new t => rfl
  | copyCtor src dst => rfl
  | add t d k =>
    obtain ⟨o, ho⟩ := alive_iff.1 hok
    simp [exec, addDestroyNotify, ho, State.emit]
  | rem t d =>
    obtain ⟨o, ho⟩ := alive_iff.1 hok
    simp [exec, removeDestroyNotify, ho]
  | notify t => exact (notify_live hsc inv hok).2.2.1
  | del t =>
    obtain ⟨h1, -, h3, -⟩ := notify_live hsc inv hok
    simp only [exec, h1.noerr, Option.isSome_none, Bool.false_eq_true, if_false, upd_trace]
    exact h3
  | assign dst src =>
    simp only [exec]
    by_cases e : dst = src
    · simp [e]
    · simp only [e, if_false, ne_eq, not_false_eq_true, if_true]
      exact (notify_live hsc inv (Bool.and_eq_true_iff.1 hok).1).2.2.1
  | moveCtor src dst =>
    obtain ⟨-, inv', ha⟩ := moveCtor_ok inv hok
    simpa [exec] using (notify_live hsc inv' ha).2.2.1
  | moveAssign dst src =>
    obtain ⟨hd, hs⟩ := Bool.and_eq_true_iff.1 hok
    simp only [exec]
    by_cases e : dst = src
    · simp [e]
    · obtain ⟨h1, -, ⟨m1, hm1⟩, hobj⟩ := notify_live hsc inv hd
      obtain ⟨-, -, ⟨m2, hm2⟩, -⟩ := notify_live hsc h1
        (show State.alive _ src = true by rw [State.alive, hobj src (Ne.symm e)]; exact hs)
      simp only [e, if_false, ne_eq, not_false_eq_true, if_true, h1.noerr, Option.isSome_none,
        Bool.false_eq_true]
      exact ⟨m1, m2, by rw [hm2, hm1]⟩

/--
  **C16.**  After any history in the domain, a triggering event on a live trackable
  `t` leaves `t` without any registration (`callback_list_ == nullptr`), and a second triggering event
  right after it delivers nothing (its trace is the empty bracket `trig t, done t`).
-/
theorem list_empty_after_round (h : History) (dom : h.Domain = true) (t : Nat) (o : Trackable)
    (ho : (run h).objs t = some o) :
    let s' := notifyCallbacks h.sc t (run h)
    s'.err = none ∧ s'.objs t = some ⟨none⟩ ∧ entriesOf s' t = [] ∧ present t s'.trace = [] ∧
      (notifyCallbacks h.sc t s').trace = s'.trace ++ [Ev.trig t, Ev.done t] := by
  have hsc := History.remOnly dom
  obtain ⟨inv, hai⟩ := run_inv_addsIdle dom
  obtain ⟨h1, h3, -, -⟩ := notify_live hsc inv (alive_iff.2 ⟨o, ho⟩)
  have ha := hai.ext (notify_ext hsc t _).1
  refine ⟨h1.noerr, h3, by simp [entriesOf, h3], by rw [← present2_eq_present ha, h1.pres t, h3]; rfl, ?_⟩
  generalize notifyCallbacks h.sc t (run h) = s' at h3
  simp [notifyCallbacks, h3]

/-- **C16.**  After any history in the domain, the operations of the property leave the trackable they
    trigger without a callback list: `notify_callbacks()`, being the target of an assignment from another
    trackable, being moved from (`ok`: the names are live / free) -/
theorem list_empty_after_op (h : History) (dom : h.Domain = true) (op : Op) (hok : op.ok (run h) = true) :
    let s' := step h.sc op (run h)
    match op with
    | .notify t => s'.objs t = some ⟨none⟩
    | .assign dst src => dst ≠ src → s'.objs dst = some ⟨none⟩
    | .moveCtor src dst => s'.objs src = some ⟨none⟩ ∧ s'.objs dst = some ⟨none⟩
    | .moveAssign dst src => dst ≠ src → s'.objs dst = some ⟨none⟩ ∧ s'.objs src = some ⟨none⟩
    | .del t => s'.objs t = none
    | _ => True := by
  have inv := (run_inv_addsIdle dom).1
  have hsc := History.remOnly dom
  simp only [step, inv.noerr, Option.isSome_none, Bool.false_eq_true, if_false, hok, if_true]
  cases op with
  | notify t => exact (notify_live hsc inv hok).2.1
  | del t => simp [exec, (notify_live hsc inv hok).1.noerr]
  | assign dst src =>
    intro e
    simp only [exec, e, ne_eq, not_false_eq_true, if_true]
    exact (notify_live hsc inv (Bool.and_eq_true_iff.1 hok).1).2.1
  | moveCtor src dst =>
    obtain ⟨hne, inv', ha⟩ := moveCtor_ok inv hok
    obtain ⟨-, h2, -, h4⟩ := notify_live hsc inv' ha
    exact ⟨h2, by simp only [exec]; rw [h4 dst (Ne.symm hne)]; exact upd_objs_same ..⟩
  | moveAssign dst src =>
    intro e
    obtain ⟨hd, hs⟩ := Bool.and_eq_true_iff.1 hok
    obtain ⟨h1, h2, -, h4⟩ := notify_live hsc inv hd
    obtain ⟨-, k2, -, k4⟩ := notify_live hsc h1
      (show State.alive _ src = true by rw [State.alive, h4 src (Ne.symm e)]; exact hs)
    simp only [exec, e, ne_eq, not_false_eq_true, if_true, h1.noerr, Option.isSome_none,
      Bool.false_eq_true, if_false]
    exact ⟨by rw [k4 dst e]; exact h2, k2⟩
  | _ => trivial

example :
    let h : History := { scripts := [[.rem 5]], ops := [.new 0, .add 0 5 0, .add 0 6 0] }
    h.Domain = true ∧ (run h).objs 0 ≠ none ∧
      delivered (notifyCallbacks h.sc 0 (run h)).trace = [0, 1] ∧
      delivered (notifyCallbacks h.sc 0 (notifyCallbacks h.sc 0 (run h))).trace = [0, 1] := by decide

/-- **C16** (safety on the wider domain).  Callbacks that remove registrations and call
    `add_destroy_notify_callback` during a round, in any mix, never drive the callback list into one of
    the error states of `remove_during_round`. -/
theorem add_in_round_safe (h : History) (dom : h.Domain2 = true) : (run h).err = none :=
  (W.run_inv dom).noerr

/-- **C16.** In any state, an `add` on a trackable whose list is being destroyed leaves the list as it is. -/
theorem add_in_round_ignored (s : State) (t d k : Nat) (l : CbList) (hc : l.clearing = true)
    (ho : s.objs t = some ⟨some l⟩) : (addDestroyNotify t d k s).objs t = some ⟨some l⟩ := by
  simp [addDestroyNotify, ho, getList, CbList.addCallback, hc]

/-- non-vacuity of `add_in_round_safe`: a callback that adds and removes during the round; the round runs
    to the end, both registrations are delivered, the in-round `add` leaves nothing behind -/
example :
    let h : History := ⟨[[.add 2 0, .rem 1]], [.new 0, .add 0 1 0, .add 0 1 0, .notify 0, .del 0]⟩
    h.Domain2 = true ∧ h.Domain = false ∧ (run h).err = none ∧ delivered (run h).trace = [0, 1] ∧
      added (run h).trace = [0, 1, 2, 3] := by decide

/-- **C16.** On the wider domain too, no registration is delivered twice. -/
theorem add_in_round_once (h : History) (dom : h.Domain2 = true) : (delivered (run h).trace).Nodup :=
  (W.run_inv dom).valid.delivered_nodup

/-- **C16.** On the narrow domain `present2` is `present` after every prefix of the run: the two readings coincide. -/
theorem present2_eq_present_of_domain (h : History) (dom : h.Domain = true) (t : Nat) (pre post : List Ev)
    (e : (run h).trace = pre ++ post) : present2 t pre = present t pre :=
  W.present2_eq_present_of_domain dom t pre post e

end Sigc.C16
