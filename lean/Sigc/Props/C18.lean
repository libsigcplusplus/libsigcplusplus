import Sigc.Model
import Sigc.Lemmas.Basic
import Sigc.Lemmas.StepHandles
import Sigc.Lemmas.StepTrack
import Sigc.Lemmas.StepWFRun
import Sigc.Lemmas.InvOwnG
import Sigc.Run
import Sigc.Spec
import Sigc.Props.SpecProps
/-!
# C18 — signals chain through make_slot(); a dying trackable_signal unhooks itself

Per-operation theorems about the mechanism model.  Theorems about slot variables hold for every state; those about list
cells need `UniqueCells` (impl keys and cell ids unique: `Lemmas/StepTrack`), `copy_is_distinct` needs `TracksBelow` (every
trackable identity a functor refers to is below `next`).  Both follow from `Sigc.StepWF.WF`, which every run keeps
(`runTop_WF`, `execOp_WF`): the `…_run` forms at the end are about every state a run reaches, the `…_wf` forms about every
state inside a run (also inside emissions).
-/
namespace Sigc.C18
open Sigc.Model Sigc.StepHandles Sigc.StepTrack Sigc.StepWF

/-- invoking a `make_slot()` forwarder emits the target signal object with the same argument and
    yields that emission's outcome and result -/
theorem forwarder_emits_target (f : Nat) (P : Prog) (s : St) (o arg g : Nat) (ts : List Nat) (h : Handle)
    (hh : handleByObj s o = some (g, h)) :
    invokeFun (f+1) P s (.fwd o ts) arg = emitImpl f P s h.fl h.impl arg .sum := by
  rw [invokeFun]
  simp [hh]

/-- a forwarder refers to the trackable base of its target exactly when the target is a trackable_signal -/
theorem forwarder_tracks_iff_trackable (s s' : St) (g : Nat) (h : Handle) (isVoid : Bool) (fn : Fun)
    (hg : aget s.G g = some h) (hm : mkFun s isVoid (.fwd g) = .ok (fn, s')) :
    fn = .fwd h.obj (if h.fl.isTrackable then [h.trk] else []) ∧
    fn.tracks = (if h.fl.isTrackable then [h.trk] else []) := by
  simp only [mkFun, hg] at hm
  split at hm
  · cases hm
  · split at hm
    · cases hm
    · simp at hm
      obtain ⟨rfl, _⟩ := hm
      exact ⟨rfl, rfl⟩

/-- copy construction gives the copy its own, fresh trackable identity -/
theorem cpG_fresh_trackable (s s' : St) (r : String) (j i im : Nat) (h0 : Handle)
    (hi : aget s.G i = some h0) (hj : aget s.G j = none) (himpl : h0.impl = some im)
    (h : stepSimple s (.cpG j i) = some (s', r)) :
    ∃ hd, aget s'.G j = some hd ∧ hd.trk = s.next + 1 ∧ hd.obj = s.next ∧ hd.impl = some im ∧ hd.fl = h0.fl := by
  simp only [stepSimple, hi, hj, ensureImpl, himpl] at h
  simp [St.fresh] at h
  obtain ⟨rfl, _⟩ := h
  exact ⟨{ obj := s.next, fl := h0.fl, impl := some im, trk := s.next + 1, lvl := h0.lvl }, by simp, rfl, rfl, rfl, rfl⟩

/-- destroying a trackable_signal object (not refused: no functor owns it) invalidates every slot variable
    holding a forwarder to it -/
theorem delG_invalidates_forwarders (s s' : St) (r : String) (g : Nat) (h0 : Handle)
    (hg : aget s.G g = some h0) (ht : h0.fl.isTrackable = true) (hown : s.ownedG.any (fun p => p.2 = g) = false)
    (h : stepSimple s (.delG g) = some (s', r)) :
    r = "ok" ∧ ∀ i v, aget s'.S i = some v → v.slot.tracksObj h0.trk = false := by
  simp only [stepSimple, hg, ht, hown] at h
  simp at h
  obtain ⟨rfl, rfl⟩ := h
  refine ⟨rfl, fun i v hv => invalidateTrackable_S_no_tracker s h0.trk i v ?_⟩
  cases himpl : h0.impl <;> simpa [himpl, gcImpl_S] using hv

example : invokeFun 2 { bodies := [], top := [] }
    { G := [(0, { obj := 4, fl := .I, impl := none, trk := 5, lvl := 0 })] } (.fwd 4 []) 3
      = some ({ G := [(0, { obj := 4, fl := .I, impl := none, trk := 5, lvl := 0 })] }, .ok, 0) := by
  rw [forwarder_emits_target 1 _ _ 4 3 0 [] { obj := 4, fl := .I, impl := none, trk := 5, lvl := 0 } (by simp [handleByObj])]
  rw [emitImpl]

/-- a forwarder whose target object no longer exists is a model error (the library would touch a
    destroyed signal); the theorems below show trackable_signal forwarders are invalidated before that -/
theorem forwarder_to_destroyed_object (f : Nat) (P : Prog) (s : St) (o arg : Nat) (ts : List Nat)
    (hh : handleByObj s o = none) :
    invokeFun (f+1) P s (.fwd o ts) arg = some (s.fail "forward to a destroyed signal object", .ok, 0) := by
  rw [invokeFun]
  simp [hh]

example : (invokeFun 2 { bodies := [], top := [] } {} (.fwd 4 []) 3).map (fun x => (x.1.err, x.2)) =
    some (some "forward to a destroyed signal object", .ok, 0) := by
  simp [invokeFun, handleByObj, St.fail]

/-- when the emission loop of `b` reaches a connected, unblocked `a.make_slot()` it emits `a`
    (the signal object, through its current list) with the same argument; an exception of `a`'s emission
    propagates, otherwise `a`'s result becomes that slot's result (the running result of `b`'s emission) -/
theorem forwards (f : Nat) (P : Prog) (s : St) (i cur m arg r o g : Nat) (ts : List Nat) (im : Impl) (c : Cell) (h : Handle)
    (hne : cur ≠ m) (hi : aget s.impls i = some im) (hc : im.cells.find? (·.id = cur) = some c)
    (hrep : c.slot.rep = some { call := true, fn := some (.fwd o ts) }) (hb : c.slot.blocked = false)
    (hh : handleByObj s o = some (g, h)) :
    emitLoop (f+2) P s i cur m arg r =
      match emitImpl f P s h.fl h.impl arg .sum with
      | none => none
      | some (s1, .exc, v) => some (s1, .exc, v)
      | some (s1, .ok, v) =>
        match aget s1.impls i with
        | none => some (s1.fail "loop: impl destroyed", .ok, v)
        | some im2 =>
          match succId im2.cells cur with
          | none => some (s1.fail "loop: iterator invalidated", .ok, v)
          | some nxt => emitLoop (f+1) P s1 i nxt m arg v := by
  rw [emitLoop]
  simp only [hne, if_false, hi, hc, hrep, hb, Bool.false_eq_true]
  rw [forwarder_emits_target f P s o arg g ts h hh]
  cases emitImpl f P s h.fl h.impl arg .sum with
  | none => rfl
  | some res =>
    obtain ⟨s1, oc, v⟩ := res
    cases oc <;> rfl

/-- chain `b → a`: emitting `b` (list 6: forwarder cell 5, then leaf 8) emits `a` (list 3: leaf 7) with the
    same argument and then runs `b`'s remaining slot -/
example : (emitImpl 10 { bodies := [], top := [] } exStT .I (some 6) 4 .sum).map (fun x => (callsOf x.1.trace, x.2)) =
    some ([(0, 8, 4), (0, 7, 4)], .ok, resultOf 8 4) := by
  decide +kernel

/-- … and with the forwarder as the last slot, `b`'s result is `a`'s result -/
example : (emitImpl 10 { bodies := [], top := [] }
      { exStT with impls := [(3, { cells := [{ id := 4, slot := { rep := some { call := true, fn := some (.leaf 7 []) } }, linked := true }] }),
                             (6, { cells := [{ id := 5, slot := { rep := some { call := true, fn := some (.fwd 1 [2]) } }, linked := true }] })] }
      .I (some 6) 4 .sum).map (fun x => (callsOf x.1.trace, x.2)) =
    some ([(0, 7, 4)], .ok, resultOf 7 4) := by
  decide +kernel

/-- a trackable_signal object dies (`dropHandle`: what `delG` does when it does not refuse, and what `collect`
    runs when the last functor copy holding an owned one is gone): nothing refers to it afterwards -/
theorem dropHandle_dies_with_object (s : St) (g : Nat) (h0 : Handle)
    (hg : aget s.G g = some h0) (ht : h0.fl.isTrackable = true) (hU : UniqueCells s.impls) :
    NoTracker (dropHandle s g) h0.trk ∧ UniqueCells (dropHandle s g).impls ∧ aget (dropHandle s g).G g = none := by
  obtain ⟨hU1, hS, hC⟩ := invalidateTrackable_no_tracker s h0.trk hU
  unfold dropHandle
  simp only [hg, ht, if_true]
  cases himpl : h0.impl with
  | none => exact ⟨⟨hS, hC⟩, hU1, by simp⟩
  | some im =>
    refine ⟨⟨fun k v hv => hS k v ?_, fun c hc => hC c ?_⟩, UniqueCells_gcImpl _ im hU1, by simp [gcImpl_G]⟩
    · simpa only [gcImpl_S] using hv
    · have h3 := gcImpl_cells_subset _ im c hc
      exact h3

/-- destroying a trackable_signal object (not refused: no functor owns
    it — an owned one dies in `collect`, through the same code: `dropHandle_dies_with_object`) invalidates every
    representation holding a forwarder made from it — slot variables and cells of every list — so no
    signal can emit the destroyed object afterwards; well-formedness is kept -/
theorem delG_dies_with_object (s s' : St) (r : String) (g : Nat) (h0 : Handle)
    (hg : aget s.G g = some h0) (ht : h0.fl.isTrackable = true) (hU : UniqueCells s.impls)
    (hown : s.ownedG.any (fun p => p.2 = g) = false)
    (h : stepSimple s (.delG g) = some (s', r)) :
    r = "ok" ∧ NoTracker s' h0.trk ∧ UniqueCells s'.impls := by
  rw [Model.delG_eq_dropHandle hg (by simp [ht]) hown] at h
  cases h
  obtain ⟨a, b, _⟩ := dropHandle_dies_with_object s g h0 hg ht hU
  exact ⟨rfl, a, b⟩

example : UniqueCells exStT.impls ∧ TracksBelow exStT := by decide

example : NoTracker (dropHandle exStT 0) 2 := (dropHandle_dies_with_object exStT 0 _ rfl rfl (by decide)).1

/-- on the concrete state: destroying signal object 0 empties slot variable 0 and erases the forwarder
    cell 5 from list 6 (connection 0 reports disconnected); the other cells stay -/
example : (stepSimple exStT (.delG 0)).map (fun x =>
      (x.1.S.map (fun p => p.2.slot.empty), x.1.impls.map (fun p => p.2.cells.map (·.id)), x.1.C)) =
    some ([true], [[4], [12]], [(0, none)]) := by
  decide

/-- move-constructing another signal from a trackable_signal
    (not `accumulated`: that is a copy) invalidates every forwarder made from the source -/
theorem mvG_dies_with_object (s s' : St) (r : String) (j i : Nat) (h0 : Handle)
    (hi : aget s.G i = some h0) (hj : aget s.G j = none) (ht : h0.fl.isTrackable = true) (hacc : h0.fl.isAcc = false)
    (hU : UniqueCells s.impls) (h : stepSimple s (.mvG j i) = some (s', r)) :
    r = "ok" ∧ NoTracker s' h0.trk ∧ UniqueCells s'.impls := by
  simp only [stepSimple, hi, hj, hacc, ht] at h
  simp [St.fresh] at h
  obtain ⟨rfl, rfl⟩ := h
  refine ⟨rfl, And.symm ?_⟩
  exact invalidateTrackable_no_tracker _ _ hU

example : (stepSimple exStT (.mvG 3 0)).map (fun x =>
      (x.1.S.map (fun p => p.2.slot.empty), x.1.impls.map (fun p => p.2.cells.map (·.id)), x.1.G.map (fun p => p.2.impl))) =
    some ([true], [[4], [12]], [none, some 3, some 6, some 3]) := by
  decide

/-- move-assigning a trackable_signal that has a list to another
    signal object (not refused as `owned`: `StepHandles.masgOwned`) invalidates every forwarder made from the
    source -/
theorem masgG_dies_with_object (s s' : St) (r : String) (j i : Nat) (d h0 : Handle)
    (hj : aget s.G j = some d) (hi : aget s.G i = some h0) (hfl : d.fl = h0.fl) (hlvl : d.lvl = h0.lvl) (hji : j ≠ i)
    (ht : h0.fl.isTrackable = true) (hacc : h0.fl.isAcc = false) (hsome : h0.impl.isSome = true)
    (hU : UniqueCells s.impls) (hown : masgOwned s h0.fl j i = false)
    (h : stepSimple s (.masgG j i) = some (s', r)) :
    r = "ok" ∧ NoTracker s' h0.trk ∧ UniqueCells s'.impls := by
  unfold masgOwned at hown
  simp only [stepSimple, hj, hi] at h
  rw [if_neg (by simp [hfl]), if_neg (by simp [hlvl])] at h
  simp only [hacc, hown, Bool.not_false, Bool.and_false] at h
  simp only [hji, if_false, Bool.false_eq_true, ht, hsome, Bool.and_self, if_true, Option.some.injEq, Prod.mk.injEq] at h
  obtain ⟨rfl, rfl⟩ := h
  have hU2 : UniqueCells (match d.impl with
      | some old => gcImpl { s with G := aset (aset s.G j { d with impl := h0.impl }) i { h0 with impl := none } } old
      | none => { s with G := aset (aset s.G j { d with impl := h0.impl }) i { h0 with impl := none } }).impls := by
    cases d.impl with
    | none => exact hU
    | some old => exact UniqueCells_gcImpl _ old hU
  refine ⟨rfl, And.symm ?_⟩
  exact invalidateTrackable_no_tracker _ _ hU2

example : (stepSimple exStT (.masgG 1 0)).map (fun x =>
      (x.1.S.map (fun p => p.2.slot.empty), x.1.impls.map (fun p => p.2.cells.map (·.id)), x.1.G.map (fun p => p.2.impl))) =
    some ([true], [[4], [12]], [none, some 3, some 6]) := by
  decide

/-- a copy of a trackable_signal has its own, fresh trackable base; destroying the
    copy invalidates nothing — every slot variable, every list (with all forwarders made from the
    original) and every connection is untouched, and the shared list lives on.
    `hnown`: no functor owns the (unused) name `j` — in every reachable state a consequence of `hj`, see
    `copy_is_distinct_run` -/
theorem copy_is_distinct (s s1 s2 : St) (r1 r2 : String) (j i : Nat) (h0 : Handle)
    (hi : aget s.G i = some h0) (hj : aget s.G j = none) (hfresh : TracksBelow s)
    (hnown : s.ownedG.any (fun p => p.2 = j) = false)
    (h1 : stepSimple s (.cpG j i) = some (s1, r1)) (h2 : stepSimple s1 (.delG j) = some (s2, r2)) :
    r2 = "ok" ∧ s2.S = s.S ∧ s2.impls = s1.impls ∧ s2.C = s.C ∧ s2.K = s.K ∧
    aget s2.G i = aget s1.G i ∧ aget s2.G j = none := by
  have hji : j ≠ i := by intro e; rw [e, hi] at hj; cases hj
  obtain ⟨sa, im, he, hga, hoth, hSa, hCa, hKa, _, _, hcase⟩ := ensureImpl_cases s i h0 hi
  simp only [stepSimple, hi, hj, he, hga] at h1
  simp [St.fresh] at h1
  obtain ⟨rfl, rfl⟩ := h1
  -- the copy's trackable base `sa.next + 1` is fresh: nothing refers to it
  have hnext : sa.next ≥ s.next := by
    rcases hcase with ⟨_, rfl⟩ | ⟨_, _, rfl⟩
    · exact Nat.le_refl _
    · simp [allocImpl]
  have hsub : ∀ c ∈ allCells sa.impls, c ∈ allCells s.impls := by
    rcases hcase with ⟨_, rfl⟩ | ⟨_, _, rfl⟩
    · exact fun c hc => hc
    · exact fun c hc => allCells_aset_empty_subset _ _ c hc
  obtain ⟨fS, fI⟩ := TracksBelow_fresh s hfresh (sa.next + 1) (by omega)
  have hnoop : ∀ (G' : List (Nat × Handle)) (n : Nat),
      invalidateTrackable { sa with next := n, G := G' } (sa.next + 1) = { sa with next := n, G := G' } := by
    intro G' n
    apply invalidateTrackable_noop
    · intro p hp; exact fS p (by rw [← hSa]; exact hp)
    · intro c hc; exact fI c (hsub c hc)
  have hownA : sa.ownedG.any (fun p => p.2 = j) = false := by
    rcases hcase with ⟨_, rfl⟩ | ⟨_, _, rfl⟩
    · exact hnown
    · exact hnown
  simp only [stepSimple, aget_aset_same, Bool.false_and, Bool.false_eq_true, if_false, hnoop, ite_self, hownA] at h2
  -- the list survives `gcImpl`: handle `i` still refers to `im`
  have hkeep : ∀ (n : Nat), gcImpl { sa with next := n, G := adel (aset sa.G j
        { obj := sa.next, fl := h0.fl, impl := some im, trk := sa.next + 1, lvl := h0.lvl }) j } im
      = { sa with next := n, G := adel (aset sa.G j
        { obj := sa.next, fl := h0.fl, impl := some im, trk := sa.next + 1, lvl := h0.lvl }) j } := by
    intro n
    apply gcImpl_referred
    apply refersTo_of_aget _ i im { h0 with impl := some im }
    · simp only []
      rw [aget_adel_other _ _ _ (Ne.symm hji), aget_aset_other _ _ _ _ (Ne.symm hji)]
      exact hga
    · rfl
  simp only [hkeep, Option.some.injEq, Prod.mk.injEq] at h2
  obtain ⟨rfl, rfl⟩ := h2
  refine ⟨rfl, hSa, rfl, hCa, hKa, ?_, by simp⟩
  simp only []
  rw [aget_adel_other _ _ _ (Ne.symm hji)]

example :
    let run := fun (s : Option (St × String)) (op : Op) => s.bind (fun x => stepSimple x.1 op)
    let s2 := [Op.cpG 3 0, .delG 3].foldl run (some (exStT, ""))
    s2.map (fun x => (x.1.S.map (fun p => p.2.slot.empty), x.1.impls.map (fun p => p.2.cells.map (·.id)), x.1.C)) =
      some ([false], [[4], [5, 12]], [(0, some 5)]) := by
  decide

/-! ## top-level forms: every run of every program -/

/-- in every well-formed state (every state in which any operation of any run
    executes, also from inside an emission of `b` that is currently forwarding — `execOp_WF`): the three
    notifying operations leave nothing referring to the trackable_signal object, and keep well-formedness -/
theorem dies_with_object_wf (s s' : St) (r : String) (op : Op) (h0 : Handle) (hw : WF s)
    (hop : (∃ g, op = .delG g ∧ aget s.G g = some h0 ∧ s.ownedG.any (fun p => p.2 = g) = false) ∨
           (∃ j i, op = .mvG j i ∧ aget s.G i = some h0 ∧ aget s.G j = none ∧ h0.fl.isAcc = false) ∨
           (∃ j i d, op = .masgG j i ∧ aget s.G j = some d ∧ aget s.G i = some h0 ∧ d.fl = h0.fl ∧ d.lvl = h0.lvl ∧
              j ≠ i ∧ h0.fl.isAcc = false ∧ h0.impl.isSome = true ∧ masgOwned s h0.fl j i = false))
    (ht : h0.fl.isTrackable = true) (h : stepSimple s op = some (s', r)) :
    r = "ok" ∧ NoTracker s' h0.trk ∧ WF s' := by
  have hw' : WF s' := stepSimple_WF hw h
  rcases hop with ⟨g, rfl, hg, hown⟩ | ⟨j, i, rfl, hi, hj, hacc⟩ | ⟨j, i, d, rfl, hj, hi, hfl, hlvl, hji, hacc, hsome, hown⟩
  · obtain ⟨a, b, _⟩ := delG_dies_with_object s s' r g h0 hg ht hw.uniqueCells hown h
    exact ⟨a, b, hw'⟩
  · obtain ⟨a, b, _⟩ := mvG_dies_with_object s s' r j i h0 hi hj ht hacc hw.uniqueCells h
    exact ⟨a, b, hw'⟩
  · obtain ⟨a, b, _⟩ := masgG_dies_with_object s s' r j i d h0 hj hi hfl hlvl hji ht hacc hsome hw.uniqueCells hown h
    exact ⟨a, b, hw'⟩

example : WF exStT := by decide

/-- in the state reached by running any lines of any program at any
    fuel, destroying a trackable_signal object leaves no slot variable and no cell of any list referring
    to it — `b` can never emit the destroyed signal -/
theorem delG_dies_with_object_run (f : Nat) (P : Prog) (ls : List Line) (s s' : St) (r : String) (g : Nat) (h0 : Handle)
    (hrun : runTop f P {} ls = some s) (hg : aget s.G g = some h0) (ht : h0.fl.isTrackable = true)
    (hown : s.ownedG.any (fun p => p.2 = g) = false)
    (h : stepSimple s (.delG g) = some (s', r)) :
    r = "ok" ∧ NoTracker s' h0.trk :=
  let ⟨a, b, _⟩ := delG_dies_with_object s s' r g h0 hg ht (reachable_UniqueCells f P ls s hrun) hown h
  ⟨a, b⟩

/-- … and so does move construction from it -/
theorem mvG_dies_with_object_run (f : Nat) (P : Prog) (ls : List Line) (s s' : St) (r : String) (j i : Nat) (h0 : Handle)
    (hrun : runTop f P {} ls = some s) (hi : aget s.G i = some h0) (hj : aget s.G j = none)
    (ht : h0.fl.isTrackable = true) (hacc : h0.fl.isAcc = false) (h : stepSimple s (.mvG j i) = some (s', r)) :
    r = "ok" ∧ NoTracker s' h0.trk :=
  let ⟨a, b, _⟩ := mvG_dies_with_object s s' r j i h0 hi hj ht hacc (reachable_UniqueCells f P ls s hrun) h
  ⟨a, b⟩

/-- in every reachable state, copying a signal object and destroying
    the copy changes no slot variable, no list and no connection -/
theorem copy_is_distinct_run (f : Nat) (P : Prog) (ls : List Line) (s s1 s2 : St) (r1 r2 : String) (j i : Nat) (h0 : Handle)
    (hrun : runTop f P {} ls = some s) (hi : aget s.G i = some h0) (hj : aget s.G j = none)
    (h1 : stepSimple s (.cpG j i) = some (s1, r1)) (h2 : stepSimple s1 (.delG j) = some (s2, r2)) :
    r2 = "ok" ∧ s2.S = s.S ∧ s2.impls = s1.impls ∧ s2.C = s.C ∧ s2.K = s.K := by
  -- in a reachable state every functor-owned name is live (`Inv.OG`), so the unused name `j` is not owned
  have hog : Sigc.Inv.OG s := Sigc.Inv.OG.stable.runTop_from f P ls {} s Sigc.Inv.OG.init hrun
  have hnown : s.ownedG.any (fun p => p.2 = j) = false := by
    cases hc : s.ownedG.any (fun p => p.2 = j) with
    | false => rfl
    | true =>
      obtain ⟨p, hp, e⟩ := List.any_eq_true.1 hc
      obtain ⟨hd, hg, _⟩ := hog.1 p hp
      have e' : p.2 = j := by simpa using e
      rw [e', hj] at hg; cases hg
  obtain ⟨a, b, c, d, e, _⟩ :=
    copy_is_distinct s s1 s2 r1 r2 j i h0 hi hj (reachable_TracksBelow f P ls s hrun) hnown h1 h2
  exact ⟨a, b, c, d, e⟩

/-- a run: `newG 0 TI; newG 1 I; connfn 0 1 (fwd 0); cpG 2 0; delG 2; sizeq 1 → 1; delG 0; sizeq 1 → 0`
    (destroying the copy keeps the forwarder, destroying the original removes it) -/
example :
    let run := fun (s : Option (St × String)) (op : Op) => s.bind (fun x => stepSimple x.1 op)
    let s5 := [Op.newG 0 (some .TI), .newG 1 (some .I), .connfn 0 1 (.fwd 0) false, .cpG 2 0, .delG 2].foldl run (some ({}, ""))
    (run s5 (.sizeq 1)).map (·.2) = some "1" ∧ (run (run s5 (.delG 0)) (.sizeq 1)).map (·.2) = some "0" := by
  decide


/-! ## the specification `S` -/

/-- in `S`, too, invoking a `make_slot()` forwarder is an emission of the target signal object with the
    same argument, whose outcome and result it yields -/
theorem spec_forwarder_emits_target (f : Nat) (P : Prog) (s : Spec.LSt) (o arg g : Nat) (ts : List Nat) (h : Handle)
    (hh : Spec.handleByObj s o = some (g, h)) :
    Spec.invokeFun (f+1) P s (.fwd o ts) arg = Spec.emitSig f P s h.fl h.impl arg .sum := by
  rw [Spec.invokeFun]
  simp [hh]

/-- in `S`, destroying a trackable_signal object (not refused: no functor owns it) empties every slot variable
    holding a forwarder to it -/
theorem spec_delG_invalidates_forwarders (s s' : Spec.LSt) (r : String) (g : Nat) (h0 : Handle)
    (hg : aget s.G g = some h0) (ht : h0.fl.isTrackable = true) (hown : s.ownedG.any (fun p => p.2 = g) = false)
    (h : Spec.stepSimple s (.delG g) = some (s', r)) :
    r = "ok" ∧ s'.S = amap s.S (invVar h0.trk) := by
  cases (SpecP.delG_is_dropHandle s g h0 hg (by simp [ht]) hown).symm.trans h
  refine ⟨rfl, ?_⟩
  rw [Spec.dropHandle_eq s g h0 hg]
  cases h0.impl <;> simp only [ht, (SpecP.gcSig_frame _ _).2.1] <;> rfl

example :
    let s : Spec.LSt := { G := [(0, { obj := 1, fl := .TI, impl := none, trk := 2, lvl := 0 })],
                          S := [(0, { isVoid := false, slot := { rep := some { call := true, fn := some (.fwd 1 [2]) } } })],
                          next := 3 }
    (Spec.stepSimple s (.delG 0)).map (fun x => x.1.S.map (fun p => p.2.slot.empty)) = some [true] := by decide

end Sigc.C18
