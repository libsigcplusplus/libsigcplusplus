import Sigc.Model
import Sigc.Run
import Sigc.Lemmas.EmitMutual
import Sigc.Lemmas.EmitTeardown
/-!
# C03 — slots may connect, disconnect, destroy or re-emit during an emission, safely

Every state the interpreter of the mechanism model `P` (`Sigc.Model`) can reach satisfies the invariant `Sigc.Emit.Inv`: ids
unique and below the allocator; per impl `exec_count_ = #holders = #end markers`; `deferred_` set whenever an unlinked invalid
cell waits for the sweep (only this direction is proved) and never while `exec_count_ = 0`; every handle's impl exists; every
`make_slot()` forwarder held by a slot refers to a live signal object; a signal object owned by a functor (`ownG:`) is not
pinned by a forwarder; no model error.  Everything that runs, at top level or inside an emission at any depth, is a
`Sigc.Emit.Frame` step: the emission counters are restored and the cell sequence of an impl that is emitting survives as a
contiguous block (nothing an active emission still points at is erased).  For every fuel, program and state, by mutual
induction on fuel (`Sigc.Emit.all_ok`).
-/
namespace Sigc.C03
open Sigc.Model Sigc.Emit

/-- `Sigc.Emit.inv_init`, stated here so that the audit of C03 covers it -/
theorem inv_init : Inv ({} : St) := Sigc.Emit.inv_init

/-- every state reached by the driver's `runTop` (after any number of top-level operations, i.e. for
    every prefix `ls` of a program) satisfies the invariant -/
theorem inv_reachable (fuel : Nat) (P : Prog) (ls : List Line) (s : St)
    (h : runTop fuel P {} ls = some s) : Inv s :=
  (good_reachable fuel P ls s h).inv

/-- the model never reports "iterator invalidated", "end marker missing", "impl destroyed
    during emission", "dangling impl", "forward to a destroyed signal object", "slot variable destroyed
    during its own call" or "insert: no impl": for every fuel, every program and every terminating run -/
theorem safe (fuel : Nat) (P : Prog) (s : St) (h : runTop fuel P {} P.top = some s) : s.err = none :=
  (inv_reachable fuel P P.top s h).noerr

/-- `safe` also after the driver's `teardown()` (which destroys everything the program left alive, including
    the pinned signal objects) -/
theorem safe_driver (fuel : Nat) (P : Prog) (s s' : St) (h : runTop fuel P {} P.top = some s)
    (ht : teardown fuel P s = some s') : s'.err = none :=
  teardown_err fuel P s s' (inv_reachable fuel P P.top s h) ht

/-- what the driver prints (`runProgram`, the function the correspondence check runs on every generated
    program) never contains a `MODEL-ERROR` line: it is the fuel notice or the rendered trace plus the
    final `live` line -/
theorem driver_no_model_error (lines : List String) :
    runProgram lines = ["MODEL-FUEL"] ∨
    ∃ s : St, runProgram lines = (s.trace.reverse.map renderEvent) ++ [s!"0 final live={liveTotal s}"] := by
  unfold runProgram
  simp only
  cases h1 : runTop defaultFuel (parseProg lines) {} (parseProg lines).top with
  | none => left; rfl
  | some s =>
    simp only
    cases h2 : teardown defaultFuel (parseProg lines) s with
    | none => left; rfl
    | some s' =>
      right
      have := safe_driver defaultFuel (parseProg lines) s s' h1 h2
      exact ⟨s', by simp [this]⟩

theorem safe_prefix (fuel : Nat) (P : Prog) (ls : List Line) (s : St) (h : runTop fuel P {} ls = some s) :
    s.err = none :=
  (inv_reachable fuel P ls s h).noerr

/-- `safe` inside emissions: from any state satisfying the invariant, every function of the
    interpreter — one operation, a functor body, a functor invocation, an emission — ends in a state
    satisfying the invariant (in particular without error), at every nesting depth -/
theorem safe_inside (f : Nat) (P : Prog) (s : St) (hs : Inv s) :
    (∀ op s' r, execOp f P s op = some (s', r) → Inv s' ∧ s'.err = none) ∧
    (∀ l s' o, execLine f P s l = some (s', o) → Inv s' ∧ s'.err = none) ∧
    (∀ ls s' o, runBody f P s ls = some (s', o) → Inv s' ∧ s'.err = none) ∧
    (∀ fn arg s' o v, FunOK s.G fn → invokeFun f P s fn arg = some (s', o, v) → Inv s' ∧ s'.err = none) ∧
    (∀ g h arg strat s' o v, aget s.G g = some h →
        emitImpl f P s h.fl h.impl arg strat = some (s', o, v) → Inv s' ∧ s'.err = none) := by
  have A := all_ok f
  refine ⟨?_, ?_, ?_, ?_, ?_⟩
  · intro op s' r h; have := (A.op P s op s' r hs h).inv; exact ⟨this, this.noerr⟩
  · intro l s' o h; have := (A.line P s l s' o hs h).inv; exact ⟨this, this.noerr⟩
  · intro ls s' o h; have := (A.body P s ls s' o hs h).inv; exact ⟨this, this.noerr⟩
  · intro fn arg s' o v hf h; have := (A.invoke P s fn arg s' o v hs hf h).inv; exact ⟨this, this.noerr⟩
  · intro g hd arg strat s' o v hg h; have := (emit_good f P hs hg h).inv; exact ⟨this, this.noerr⟩

/-- whatever an operation or a whole functor body does (including nested emissions of
    the same or other signals, `clear()`, destroying trackables or signal handles, exceptions), it is a
    `Frame` step (`frame_spelled_out`) -/
theorem frame (f : Nat) (P : Prog) (s : St) (hs : Inv s) :
    (∀ op s' r, execOp f P s op = some (s', r) → Frame s s') ∧
    (∀ ls s' o, runBody f P s ls = some (s', o) → Frame s s') :=
  ⟨fun op s' r h => ((all_ok f).op P s op s' r hs h).frame,
   fun ls s' o h => ((all_ok f).body P s ls s' o hs h).frame⟩

/-- a `Frame` step, for every impl that is emitting (`exec_count_ > 0`): it still exists afterwards, `exec_count_`
    and the number of holders are unchanged, and its old cell-id sequence survives as a contiguous block
    `pre ++ old ++ post` — no cell of an active emission's `[begin, marker]` range is erased -/
theorem frame_spelled_out (s s' : St) (hs : Inv s) (hs' : Inv s') (hf : Frame s s') (i : Nat) (im : Impl)
    (hi : aget s.impls i = some im) (hx : 0 < im.exec) :
    ∃ im', aget s'.impls i = some im' ∧ im'.exec = im.exec ∧ im'.holders = im.holders ∧
      ∃ pre post, im'.cells.map (·.id) = pre ++ im.cells.map (·.id) ++ post := by
  obtain ⟨im', hi', pre, post, hk⟩ := hf.keep i im hi hx
  have he := hf.exec i
  rw [execOf_pos hi', execOf_pos hi] at he
  refine ⟨im', hi', he, ?_, pre.map (·.1), post.map (·.1), ?_⟩
  · have a := (hs.ok i im hi).eh; have b := (hs'.ok i im' hi').eh; omega
  · have := congrArg (List.map (·.1)) hk
    rw [← cids_eq_skel] at this
    simp only [List.map_append] at this
    rw [← cids_eq_skel] at this
    exact this

/-- an emission restores `exec_count_` of every impl (also of the ones created or destroyed meanwhile:
    absent counts as 0), whether it ends normally or by an exception -/
theorem emit_restores_exec (f : Nat) (P : Prog) (s : St) (hs : Inv s) (g : Nat) (h : Handle) (arg : Nat)
    (strat : Strat) (s' : St) (o : Outcome) (v : Nat) (hg : aget s.G g = some h)
    (he : emitImpl f P s h.fl h.impl arg strat = some (s', o, v)) : ∀ i, execOf s' i = execOf s i :=
  (emit_good f P hs hg he).frame.exec

/-- between top-level operations every signal is quiescent and clean:
    `exec_count_ = 0`, `deferred_ = false`, no holder, no end marker, and every cell is still linked
    (either valid, or the dummy of a slot that was empty when connected): "the signal holds exactly the
    still-connected slots" -/
theorem quiescent_clean (fuel : Nat) (P : Prog) (ls : List Line) (s : St)
    (h : runTop fuel P {} ls = some s) (i : Nat) (im : Impl) (hi : aget s.impls i = some im) :
    im.exec = 0 ∧ im.deferred = false ∧ im.holders = 0 ∧
    ∀ c ∈ im.cells, c.slot.rep.isSome = true ∧ c.linked = true :=
  quiescent_of_good (good_reachable fuel P ls s h) hi

/-- in particular no cell is invalid *and* unlinked (a disconnected slot is gone) -/
theorem quiescent_no_dead_cell (fuel : Nat) (P : Prog) (ls : List Line) (s : St)
    (h : runTop fuel P {} ls = some s) (i : Nat) (im : Impl) (hi : aget s.impls i = some im) :
    ∀ c ∈ im.cells, ¬ (c.slot.empty = true ∧ c.linked = false) := by
  intro c hc hcon
  have := (quiescent_clean fuel P ls s h i im hi).2.2.2 c hc
  rw [this.2] at hcon
  exact absurd hcon.2 (by simp)


/-! ## a concrete instance

`demo`: a void signal with two slots; the first slot, when invoked, disconnects itself, connects a new
slot, re-emits the same signal recursively (until the depth limit 3 answers `toodeep`) and clears the
signal — all from inside the emission. -/

def demo : Prog := {
  bodies := [(1, [⟨"disc c1", .disc 1⟩, ⟨"connfn c3 g0 fn:2", .connfn 3 0 (.fn 2) false⟩,
                  ⟨"emit g0 5", .emit 0 5 .sum false⟩, ⟨"clear g0", .clear 0⟩])],
  top := [⟨"newG g0 V", .newG 0 (some .V)⟩, ⟨"connfn c1 g0 fn:1", .connfn 1 0 (.fn 1) false⟩,
          ⟨"connfn c2 g0 fn:2", .connfn 2 0 (.fn 2) false⟩, ⟨"emit g0 7", .emit 0 7 .sum false⟩],
  maxdepth := 3 }

/-- the run terminates with fuel 30, so the theorems below are not vacuous on it -/
example : (runTop 30 demo {} demo.top).isSome = true := by decide +kernel

/-- `safe` and `quiescent_clean` applied to it -/
example (s : St) (h : runTop 30 demo {} demo.top = some s) : s.err = none := safe 30 demo s h

example (s : St) (h : runTop 30 demo {} demo.top = some s) (i : Nat) (im : Impl)
    (hi : aget s.impls i = some im) : im.exec = 0 ∧ im.deferred = false :=
  let q := quiescent_clean 30 demo demo.top s h i im hi
  ⟨q.1, q.2.1⟩

/-! `demoOwn` (program mode `owners`): the signal object `g0` is owned by a functor connected to `g1`
(`ownG:3:g0`; `delG g0` answers `owned`).  During the emission of `g0` its first slot disconnects that
functor: the last owning copy is gone, `collect` destroys the signal object *while it is emitting* (the
name is dead for the rest of the body), the emission goes on (the second slot is invoked) and the slot
list dies in the epilogue.  `safe` covers this run. -/

def demoOwn : Prog := {
  bodies := [(1, [⟨"disc c1", .disc 1⟩, ⟨"sizeq g0", .sizeq 0⟩])],
  top := [⟨"newG g0 V", .newG 0 (some .V)⟩, ⟨"newG g1 V", .newG 1 (some .V)⟩,
          ⟨"connfn c1 g1 ownG:3:g0", .connfn 1 1 (.ownG 3 0) false⟩,
          ⟨"connfn c2 g0 fn:1", .connfn 2 0 (.fn 1) false⟩,
          ⟨"connfn c3 g0 fn:2", .connfn 3 0 (.fn 2) false⟩,
          ⟨"delG g0", .delG 0⟩,
          ⟨"emit g0 7", .emit 0 7 .sum false⟩],
  owners := true }

/-- handles left, impls left, number of owned signal objects left, error, number of calls -/
example : (runTop 30 demoOwn {} demoOwn.top).map (fun s =>
      (s.G.map (·.1), s.impls.map (·.1), s.ownedG.length, s.err,
       (s.trace.filter (fun e => match e with | .call _ _ _ => true | _ => false)).length))
    = some ([1], [6], 0, none, 2) := by decide +kernel

/-- `delG g0` was refused (`owned`); inside the first slot's body, after `disc c1`, the name `g0` is dead -/
example : (runTop 30 demoOwn {} demoOwn.top).map (fun s =>
      s.trace.reverse.filterMap (fun e => match e with | .res _ _ r => some r | _ => none))
    = some ["ok", "ok", "ok", "ok", "ok", "owned", "ok", "dead", "r=void"] := by decide +kernel

example (s : St) (h : runTop 30 demoOwn {} demoOwn.top = some s) : s.err = none := safe 30 demoOwn s h

/-- the part of the invariant about functor-owned signal objects (`Sigc.Emit.OwnOK`), spelled out: in every
    reachable state a signal object owned by a functor is not pinned — if a forwarder (`fwd:`) was ever made
    of it, it is of a trackable flavour, so every forwarder tracks it and dies with it -/
theorem owned_not_pinned (fuel : Nat) (P : Prog) (ls : List Line) (s : St) (h : runTop fuel P {} ls = some s)
    (k g : Nat) (hd : Handle) (hk : (k, g) ∈ s.ownedG) (hg : aget s.G g = some hd) (he : hd.everFwd = true) :
    hd.fl.isTrackable = true :=
  (inv_reachable fuel P ls s h).own (k, g) hk hd hg he

/-- non-vacuity: `g0` (trackable flavour) is owned *and* forwarded to; `g2` (not trackable) is owned, so the
    forwarder is refused (`owned`) and `g2` stays unpinned -/
def demoOwnFwd : Prog := {
  bodies := [],
  top := [⟨"newG g0 TV", .newG 0 (some .TV)⟩, ⟨"newG g1 V", .newG 1 (some .V)⟩, ⟨"newG g2 V", .newG 2 (some .V)⟩,
          ⟨"connfn c1 g1 ownG:3:g0", .connfn 1 1 (.ownG 3 0) false⟩,
          ⟨"connfn c2 g1 ownG:4:g2", .connfn 2 1 (.ownG 4 2) false⟩,
          ⟨"mkS s0 V fwd:g0", .mkS 0 "V" (.fwd 0)⟩,
          ⟨"mkS s1 V fwd:g2", .mkS 1 "V" (.fwd 2)⟩],
  owners := true }

example : (runTop 30 demoOwnFwd {} demoOwnFwd.top).map (fun s =>
      (s.ownedG.map (·.2), s.G.map (fun p => (p.1, p.2.everFwd, p.2.fl.isTrackable)),
       s.trace.reverse.filterMap (fun e => match e with | .res _ _ r => some r | _ => none)))
    = some ([2, 0], [(0, true, true), (1, false, false), (2, false, false)],
            ["ok", "ok", "ok", "ok", "ok", "ok", "owned"]) := by decide +kernel

def exImplA : Impl := { cells := [{ id := 2, slot := {}, linked := false }], exec := 1, holders := 1 }
def exImplB : Impl :=
  { cells := [{ id := 2, slot := {}, linked := false },
              { id := 3, slot := { rep := some { call := true, fn := none } }, linked := true }],
    exec := 1, holders := 1 }

/-- `Frame` on a concrete pair of states: a connect during an emission appends after the block -/
example : Frame ({ impls := [(1, exImplA)], next := 3 } : St) ({ impls := [(1, exImplB)], next := 4 } : St) := by
  refine ⟨by decide, ?_, ?_, fun _ => rfl⟩
  · intro i; simp only [execOf, aget]; by_cases e : 1 = i <;> simp [e, exImplA, exImplB]
  · intro i im hi _
    simp only [aget] at hi
    by_cases e : 1 = i
    · simp [e] at hi; subst hi
      exact ⟨exImplB, by simp [aget, e], [], [(3, false)], by simp [skel, exImplA, exImplB]⟩
    · simp [e] at hi

end Sigc.C03
