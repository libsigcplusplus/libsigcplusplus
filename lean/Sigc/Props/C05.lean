import Sigc.Types
import Sigc.TypesLemmas
import Sigc.Props.C20Types
/-!
  Property C05 — *type-unsafe connections are rejected at compile time; well-typed ones compile.*

  "A functor can be converted to a slot, or connected to a signal, only if it can be called with the signal's
  parameter types as the library passes them and its result can be returned as the signal's result type.  A
  mismatch in arity, a parameter that is not convertible, a non-const reference parameter that would bind to a
  value or const argument, a non-const method on a const object, or an incompatible result type is a compile
  error; a functor that is callable with standard implicit conversions is accepted."

  The theorems are about the executable model `Sigc/Types.lean` (`accepts`, `acceptsRoute`, `binds`, `retOk`,
  `passed`, `chain`), for all arities, all base types and shapes of the universe, all functor kinds and every
  adaptor hop where stated; then the sixteen `connect` entry points (`entryAccepts`) and the erased call type.
  The model is tied to `/repo` by the compile-probe correspondence of `checks/props/c05.py` (oracle: g++ and
  clang++).
-/
namespace Sigc.C05
open Sigc.Types

/-- **C05.passed_as** — for every declared signature parameter, the expression that `std::invoke` hands to the
    stored functor.  `T&&` arrives as an xvalue, not an lvalue: `take_t<T&&> = T&&`, and every hop uses
    `std::forward<T&&>`. -/
theorem passed_as (a : Param) :
    passed a = match a.shape with
      | .val => ⟨a.base, true, .lvalue⟩
      | .lref => ⟨a.base, false, .lvalue⟩
      | .cref => ⟨a.base, true, .lvalue⟩
      | .rref => ⟨a.base, false, .xvalue⟩ := by
  obtain ⟨b, sh⟩ := a
  cases sh <;> rfl

example : passed ⟨.clsA, .val⟩ = ⟨.clsA, true, .lvalue⟩ ∧ passed ⟨.long, .rref⟩ = ⟨.long, false, .xvalue⟩ := by
  decide +kernel

/-- **C05.chain_passed** — the plumbing `slot::operator()` → `call_it` → explicit `operator()<take_t<A>>` (reference
    collapsing) → `std::invoke` never fails on its own, and what it hands to the functor does not depend on the
    caller's (admissible) expression `e0`. -/
theorem chain_passed (a : Param) (e0 : ExprTy) (h : binds (take a) e0 = true) :
    chain a e0 = some (passed a) := by
  have hf : hop (take a) (take a) (fwd (take a)) = some (fwd (take a)) := hop_eq _ _ _ (binds_fwd_self _)
  simp only [chain, hopSlotCall, hopCallIt, hopAdaptorFunctor, collapse_take, hop_eq _ _ _ h, hf,
    Option.bind_some, passed]

example : chain ⟨.int, .val⟩ ⟨.long, false, .prvalue⟩ = some ⟨.int, true, .lvalue⟩ := by decide +kernel

/-- `accepts` unfolded once: the adaptor hop yields the expressions `args`, `fn` can be invoked with them and its
    result returned; the `accepts_…_iff` below are this one with `adaptArgs` computed for their adaptor -/
theorem accepts_iff_adaptArgs (sig : Sig) (ad : Adaptor) (fn : Fn) :
    accepts sig ad fn = true ↔ ∃ args, adaptArgs ad fn sig.params = some args ∧
      bindsAll fn.params args = true ∧ fn.kind.objOk = true ∧ retOk fn.ret sig.ret = true := by
  simp only [accepts]
  cases adaptArgs ad fn sig.params with
  | none => simp
  | some args => simp [invokeOk_eq, and_assoc, and_left_comm]

/-- **C05.accepts_iff** — a functor is accepted for a signature exactly when the arities agree, every
    functor parameter binds the expression the library passes at that position, the functor object can be formed
    (`mem_fun`: const object ⇒ const method) and the result can be returned as the signature's result. -/
theorem accepts_iff (sig : Sig) (fn : Fn) :
    accepts sig .none fn = true ↔
      fn.params.length = sig.params.length ∧
      (∀ (i : Nat) (h1 : i < fn.params.length) (h2 : i < sig.params.length),
          binds fn.params[i] (passed sig.params[i]) = true) ∧
      fn.kind.objOk = true ∧ retOk fn.ret sig.ret = true := by
  simp only [accepts_iff_adaptArgs, adaptArgs, Option.some.injEq, exists_eq_left', bindsAll_iff, List.length_map,
    List.getElem_map, and_assoc]

/-- non-vacuity: a binary signature `int(int, A&)` and a const method `long m(const long&, A&) const` on a const
    object — conversions at both the parameter and the result; accepted. -/
example : accepts ⟨[⟨.int, .val⟩, ⟨.clsA, .lref⟩], some ⟨.long, .val⟩⟩ .none
    ⟨.memFun true .const, [⟨.long, .cref⟩, ⟨.clsA, .lref⟩], some ⟨.int, .val⟩⟩ = true := by decide +kernel

/-- the three routes `slot<Sig> s = f;`, `signal<Sig>::connect(f)` and `signal<Sig>::accumulated<Acc>::connect(f)`
    decide alike (they all construct the same `slot<Sig>`) -/
theorem routes_agree (sig : Sig) (ad : Adaptor) (fn : Fn) :
    acceptsRoute .slotInit sig ad fn = acceptsRoute .connect sig ad fn ∧
      acceptsRoute .connectAccum sig ad fn = acceptsRoute .connect sig ad fn := ⟨rfl, rfl⟩

/-- every route goes through `slot<Sig>`'s converting constructor -/
theorem acceptsRoute_accepts {r : Route} {sig : Sig} {ad : Adaptor} {fn : Fn}
    (h : acceptsRoute r sig ad fn = true) : accepts sig ad fn = true := by
  cases r
  case signalConnect =>
    simp only [acceptsRoute, Bool.and_eq_true, beq_iff_eq] at h
    rw [h.1.1]
    exact h.2
  all_goals exact h

/-- every route goes through the typed call of `call_it` -/
theorem acceptsRoute_retOk (r : Route) (sig : Sig) (ad : Adaptor) (fn : Fn)
    (h : acceptsRoute r sig ad fn = true) : retOk fn.ret sig.ret = true :=
  let ⟨_, _, _, _, hr⟩ := (accepts_iff_adaptArgs sig ad fn).1 (acceptsRoute_accepts h)
  hr

theorem wrong_arity_rejected (sig : Sig) (fn : Fn) (h : fn.params.length ≠ sig.params.length) :
    accepts sig .none fn = false :=
  Bool.eq_false_iff.2 fun hacc => h ((accepts_iff sig fn).1 hacc).1

example : accepts ⟨[⟨.int, .val⟩], none⟩ .none ⟨.lambda, [⟨.int, .val⟩, ⟨.int, .val⟩], none⟩ = false := by decide +kernel

/-- **non-convertible parameter ⇒ rejected**: where the signature's object type has no standard conversion to the
    functor parameter's, no declared shape on either side helps. -/
theorem nonconvertible_param_rejected (sig : Sig) (fn : Fn) (i : Nat)
    (h1 : i < fn.params.length) (h2 : i < sig.params.length)
    (h : conv sig.params[i].base fn.params[i].base = false) :
    accepts sig .none fn = false :=
  Bool.eq_false_iff.2 fun hacc => by
    have hc := conv_of_binds (((accepts_iff sig fn).1 hacc).2.1 i h1 h2)
    rw [passed_base, h] at hc
    cases hc

example : accepts ⟨[⟨.ptrA, .val⟩], none⟩ .none ⟨.freeFn, [⟨.int, .val⟩], none⟩ = false := by decide +kernel

/-- in particular a scoped enumeration argument does not reach an `int` parameter nor an `int` argument a scoped
    enumeration parameter (`conv` is *implicit* convertibility), whatever the declared shapes; the same type does -/
example : conv .enumE .int = false ∧ conv .int .enumE = false ∧ conv .clsXb .bool = false
    ∧ accepts ⟨[⟨.enumE, .val⟩], none⟩ .none ⟨.freeFn, [⟨.int, .cref⟩], none⟩ = false
    ∧ accepts ⟨[⟨.int, .val⟩], none⟩ .none ⟨.lambda, [⟨.enumE, .val⟩], none⟩ = false
    ∧ accepts ⟨[⟨.enumE, .val⟩], none⟩ .none ⟨.lambda, [⟨.enumE, .cref⟩], none⟩ = true := by decide +kernel

/-- **non-const reference from a value or const argument ⇒ rejected**: a `T&` functor parameter facing a signature
    parameter declared `U`, `const U&` (passed as const lvalue) or `U&&` (passed as xvalue). -/
theorem nonconst_ref_from_value_or_const_rejected (sig : Sig) (fn : Fn) (i : Nat)
    (h1 : i < fn.params.length) (h2 : i < sig.params.length)
    (hf : fn.params[i].shape = .lref) (hs : sig.params[i].shape ≠ .lref) :
    accepts sig .none fn = false :=
  Bool.eq_false_iff.2 fun hacc => hs (lref_binds_passed hf (((accepts_iff sig fn).1 hacc).2.1 i h1 h2)).1

example : accepts ⟨[⟨.int, .val⟩], none⟩ .none ⟨.lambda, [⟨.int, .lref⟩], none⟩ = false := by decide +kernel
example : accepts ⟨[⟨.int, .lref⟩], none⟩ .none ⟨.lambda, [⟨.int, .lref⟩], none⟩ = true := by decide +kernel

theorem nonconst_ref_needs_same_object (sig : Sig) (fn : Fn) (i : Nat)
    (h1 : i < fn.params.length) (h2 : i < sig.params.length)
    (hf : fn.params[i].shape = .lref) (hacc : accepts sig .none fn = true) :
    sig.params[i].shape = .lref ∧ sameOrBaseOf fn.params[i].base sig.params[i].base = true :=
  lref_binds_passed hf (((accepts_iff sig fn).1 hacc).2.1 i h1 h2)

theorem nonconst_method_on_const_object_rejected (r : Route) (sig : Sig) (ad : Adaptor) (ps : List Param)
    (ret : Ret) (mq : MQ) (h : mq.isConst = false) :
    acceptsRoute r sig ad ⟨.memFun true mq, ps, ret⟩ = false :=
  Bool.eq_false_iff.2 fun hacc => by
    obtain ⟨_, _, _, ho, _⟩ := (accepts_iff_adaptArgs sig ad _).1 (acceptsRoute_accepts hacc)
    rw [show Kind.objOk (.memFun true mq) = mq.isConst from rfl, h] at ho
    cases ho

example : accepts ⟨[], none⟩ .none ⟨.memFun true .none, [], none⟩ = false
    ∧ accepts ⟨[], none⟩ .none ⟨.memFun true .const, [], none⟩ = true
    ∧ accepts ⟨[], none⟩ .none ⟨.memFun false .none, [], none⟩ = true := by decide +kernel

theorem incompatible_result_rejected (sig : Sig) (ad : Adaptor) (fn : Fn)
    (h : retOk fn.ret sig.ret = false) : accepts sig ad fn = false :=
  Bool.eq_false_iff.2 fun hacc => by
    rw [acceptsRoute_retOk .connect sig ad fn hacc] at h
    cases h

/-- a result whose object type does not convert is incompatible, whatever the declared shapes (the other ways to be
    incompatible: a `void` functor for a value signature, a value functor for a `void` signature — `return f(...)` in
    `void call_it`) -/
theorem retOk_false_of_conv {f s : Param} (h : conv f.base s.base = false) : retOk (some f) (some s) = false :=
  Bool.eq_false_iff.2 fun hb => by
    have := conv_of_binds (p := s) (e := retExpr f) hb
    rw [retExpr_base, h] at this
    cases this

example : accepts ⟨[⟨.int, .val⟩], some ⟨.ptrB, .val⟩⟩ .none ⟨.lambda, [⟨.int, .val⟩], some ⟨.ptrA, .val⟩⟩ = false := by
  decide +kernel
example : accepts ⟨[⟨.int, .val⟩], none⟩ .none ⟨.freeFn, [⟨.int, .val⟩], some ⟨.int, .val⟩⟩ = false := by decide +kernel

/-! ### results that are only *explicitly* convertible

  `call_it` returns the functor's result with a plain `return`, i.e. by copy-initialisation: a conversion that exists
  only as a `static_cast` / direct-initialisation (scoped enumeration → arithmetic, `explicit operator bool()`,
  `explicit operator double()`) does not make the result compatible. -/

/-- **C05.explicit_only_result_rejected** — a result that converts to the signature's result type only explicitly
    (`onlyExplicit`) cannot be returned, whatever the declared shapes (value / reference) on either side. -/
theorem explicit_only_result_rejected (f s : Param) (h : onlyExplicit f.base s.base = true) :
    retOk (some f) (some s) = false :=
  retOk_false_of_conv (conv_false_of_onlyExplicit h)

/-- non-vacuity: the relation `onlyExplicit` is inhabited exactly where the C++ rules put it — scoped enumeration to
    every arithmetic type and back, `Xb → bool`, `Xd → double` (but not `Xb → int`: an explicit conversion function is
    a candidate for its own target type only) — and the same programs with an *implicit* conversion are accepted. -/
example : onlyExplicit .enumE .int = true ∧ onlyExplicit .enumE .bool = true ∧ onlyExplicit .enumE .double = true
    ∧ onlyExplicit .long .enumE = true ∧ onlyExplicit .clsXb .bool = true ∧ onlyExplicit .clsXd .double = true
    ∧ onlyExplicit .clsXb .int = false ∧ onlyExplicit .int .long = false
    ∧ retOk (some ⟨.enumE, .val⟩) (some ⟨.int, .val⟩) = false
    ∧ retOk (some ⟨.clsXb, .cref⟩) (some ⟨.bool, .val⟩) = false
    ∧ retOk (some ⟨.double, .val⟩) (some ⟨.int, .val⟩) = true
    ∧ retOk (some ⟨.ptrA, .val⟩) (some ⟨.bool, .val⟩) = true := by decide +kernel

/-- **C05.explicit_only_type_result_rejected_for_arithmetic** — by type instead of by pair: a scoped enumeration or a
    class with an `explicit operator bool()` / `double()` (`isExplicitOnly`) cannot be returned as any arithmetic
    type, also where not even a `static_cast` exists (`Xb` as `int`). -/
theorem explicit_only_type_result_rejected_for_arithmetic (f s : Param)
    (hs : s.base.isArith = true) (hf : f.base.isExplicitOnly = true) :
    retOk (some f) (some s) = false :=
  retOk_false_of_conv (conv_false_arith_of_isExplicitOnly hf hs)

example : Base.isArith .bool = true ∧ Base.isExplicitOnly .clsXb = true ∧ Base.isExplicitOnly .enumE = true
    ∧ Base.isExplicitOnly .int = false := by decide +kernel

/-- … and so is the connection, on every route and under every adaptor hop (`retype` casts the *arguments*, never the
    result). -/
theorem explicit_only_result_connection_rejected (r : Route) (sig : Sig) (ad : Adaptor) (fn : Fn) (f s : Param)
    (hfr : fn.ret = some f) (hsr : sig.ret = some s)
    (h : onlyExplicit f.base s.base = true ∨ (s.base.isArith = true ∧ f.base.isExplicitOnly = true)) :
    acceptsRoute r sig ad fn = false :=
  Bool.eq_false_iff.2 fun hacc => by
    have hr := acceptsRoute_retOk r sig ad fn hacc
    rw [hfr, hsr, h.elim (explicit_only_result_rejected f s)
      (fun h => explicit_only_type_result_rejected_for_arithmetic f s h.1 h.2)] at hr
    cases hr

/-- non-vacuity, one per route / wrapper: `Level f()` into `slot<int()>`, `signal<bool()>::connect`,
    `signal<int()>::accumulated<Acc>::connect`, through `bind` and `hide`, a const method returning the enumeration
    into `signal<long()>`; and the positive controls: the same type is accepted, an arithmetic result is accepted. -/
example :
    acceptsRoute .slotInit ⟨[], some ⟨.int, .val⟩⟩ .none ⟨.ptrFun, [], some ⟨.enumE, .val⟩⟩ = false
    ∧ acceptsRoute .connect ⟨[], some ⟨.bool, .val⟩⟩ .none ⟨.freeFn, [], some ⟨.clsXb, .val⟩⟩ = false
    ∧ acceptsRoute .connectAccum ⟨[], some ⟨.int, .val⟩⟩ .none ⟨.freeFn, [], some ⟨.enumE, .val⟩⟩ = false
    ∧ acceptsRoute .slotInit ⟨[], some ⟨.double, .val⟩⟩ (.bind none [.int])
        ⟨.memFun false .none, [⟨.int, .val⟩], some ⟨.clsXd, .val⟩⟩ = false
    ∧ acceptsRoute .connect ⟨[⟨.int, .val⟩], some ⟨.long, .val⟩⟩ (.hide none)
        ⟨.memFun false .const, [], some ⟨.enumE, .val⟩⟩ = false
    ∧ acceptsRoute .slotInit ⟨[], some ⟨.enumE, .val⟩⟩ .none ⟨.ptrFun, [], some ⟨.enumE, .val⟩⟩ = true
    ∧ acceptsRoute .connectAccum ⟨[], some ⟨.clsXb, .val⟩⟩ .none ⟨.freeFn, [], some ⟨.clsXb, .cref⟩⟩ = true
    ∧ acceptsRoute .slotInit ⟨[], some ⟨.double, .val⟩⟩ (.bind none [.int])
        ⟨.memFun false .none, [⟨.int, .val⟩], some ⟨.long, .val⟩⟩ = true
    ∧ acceptsRoute .connectAccum ⟨[], some ⟨.int, .val⟩⟩ .none ⟨.freeFn, [], some ⟨.double, .val⟩⟩ = true := by
  decide +kernel

/-- the same type is always returnable: the explicit-only types are not banned, only their conversions are -/
theorem same_result_type_returnable (r : Ret) : retOk r r = true := retOk_self r

example : retOk (some ⟨.enumE, .val⟩) (some ⟨.enumE, .val⟩) = true
    ∧ retOk (some ⟨.clsXb, .lref⟩) (some ⟨.clsXb, .val⟩) = true := by decide +kernel

/-- **callable with standard implicit conversions ⇒ accepted** (the last clause of the property): equal arity,
    parameters taken by value or `const&` from convertible object types, however the signature declares its own
    (`U`, `U&`, `const U&`, `U&&`); a result that is `void` for `void` or converts to the signature's by-value result. -/
theorem convertible_accepted (sig : Sig) (fn : Fn)
    (hl : fn.params.length = sig.params.length)
    (hp : ∀ (i : Nat) (h1 : i < fn.params.length) (h2 : i < sig.params.length),
        (fn.params[i].shape = .val ∨ fn.params[i].shape = .cref) ∧
          conv sig.params[i].base fn.params[i].base = true)
    (ho : fn.kind.objOk = true)
    (hr : (sig.ret = none ∧ fn.ret = none) ∨
        (∃ b f, sig.ret = some ⟨b, .val⟩ ∧ fn.ret = some f ∧ conv f.base b = true)) :
    accepts sig .none fn = true := by
  refine (accepts_iff sig fn).2 ⟨hl, fun i h1 h2 => ?_, ho, ?_⟩
  · rw [val_binds _ _ (hp i h1 h2).1, passed_base]
    exact (hp i h1 h2).2
  · obtain ⟨hs, hf⟩ | ⟨b, f, hs, hf, hc⟩ := hr <;> rw [hs, hf]
    · rfl
    · rw [← retExpr_base] at hc
      exact hc

example : accepts ⟨[⟨.int, .rref⟩, ⟨.clsB, .lref⟩, ⟨.ptrB, .cref⟩], some ⟨.double, .val⟩⟩ .none
    ⟨.fobj, [⟨.double, .val⟩, ⟨.clsA, .cref⟩, ⟨.cptrA, .val⟩], some ⟨.bool, .cref⟩⟩ = true := by decide +kernel

/-- reference-preserving acceptance: a functor whose declared signature is literally the signal's is accepted
    (every shape, every arity) — in particular `T&` and `T&&` parameters are reachable -/
theorem identical_signature_accepted (ps : List Param) (r : Ret) (k : Kind) (ho : k.objOk = true) :
    accepts ⟨ps, r⟩ .none ⟨k, ps, r⟩ = true := by
  simp [accepts, adaptArgs, invokeOk_eq, ho, bindsAll_map_self binds_passed_self, retOk_self]

/-- `signal_connect(sig, f)` is accepted exactly on identical signatures (and the existing overloads): the typed call
    inside `call_it` can then never fail, so exactness is the whole condition. -/
theorem signal_connect_iff (sig : Sig) (ad : Adaptor) (fn : Fn) :
    acceptsRoute .signalConnect sig ad fn = true ↔ ad = .none ∧ sigConnExact sig fn = true := by
  simp only [acceptsRoute, Bool.and_eq_true, beq_iff_eq, and_iff_left_iff_imp]
  rintro ⟨_, h2⟩
  obtain ⟨sp, sr⟩ := sig
  obtain ⟨k, fp, fr⟩ := fn
  simp only [sigConnExact, Bool.and_eq_true, beq_iff_eq] at h2
  obtain ⟨⟨hk, rfl⟩, rfl⟩ := h2
  apply identical_signature_accepted
  cases k with
  | memFun oc mq => cases mq <;> cases oc <;> first | rfl | cases hk
  | _ => rfl

example : acceptsRoute .signalConnect ⟨[⟨.int, .val⟩], none⟩ .none ⟨.freeFn, [⟨.long, .val⟩], none⟩ = false
    ∧ acceptsRoute .signalConnect ⟨[⟨.int, .val⟩], none⟩ .none ⟨.freeFn, [⟨.int, .val⟩], none⟩ = true := by decide +kernel

/-- `hide<I>(f)` under a signature: every forwarded element must survive the tuple rebuild (no rvalue reference) and
    is seen by `f` as the stored lvalue; the hidden element may be anything when it is first or last, but is rebuilt
    as well (hence must not be an rvalue reference) in a middle position; then `f` is judged as above. -/
theorem accepts_hide_iff (sig : Sig) (i : Nat) (fn : Fn) (hi : i < sig.params.length) :
    accepts sig (.hide (some i)) fn = true ↔
      (hiddenRebuilt i sig.params.length = true → sig.params[i].shape ≠ .rref) ∧
      (∀ a ∈ sig.params.take i ++ sig.params.drop (i + 1), a.shape ≠ .rref) ∧
      bindsAll fn.params ((sig.params.take i ++ sig.params.drop (i + 1)).map stored) = true ∧
      fn.kind.objOk = true ∧ retOk fn.ret sig.ret = true := by
  have hn : (sig.params.length == 0) = false := beq_false_of_ne (Nat.ne_of_gt (Nat.zero_lt_of_lt hi))
  simp only [accepts_iff_adaptArgs, adaptArgs, tupleElems_eq, hn, Option.getD_some, ge_iff_le, Nat.not_le.2 hi,
    List.getElem?_eq_getElem hi, Option.map_some, if_false, Bool.false_eq_true]
  simp [and_assoc]

example : accepts ⟨[⟨.int, .lref⟩, ⟨.clsA, .rref⟩], none⟩ (.hide (some 1)) ⟨.lambda, [⟨.int, .lref⟩], none⟩ = true
    ∧ accepts ⟨[⟨.clsA, .rref⟩, ⟨.int, .val⟩], none⟩ (.hide (some 1)) ⟨.lambda, [⟨.clsA, .rref⟩], none⟩ = false
    ∧ accepts ⟨[⟨.int, .val⟩, ⟨.clsA, .rref⟩, ⟨.int, .val⟩], none⟩ (.hide (some 1))
        ⟨.lambda, [⟨.int, .val⟩, ⟨.int, .val⟩], none⟩ = false := by
  decide +kernel

/-- `bind(f, b...)` (append): no signature element may be an rvalue reference; `f` sees the stored lvalues followed by
    modifiable lvalues of the bound types. -/
theorem accepts_bind_last_iff (sig : Sig) (bound : List Base) (fn : Fn) :
    accepts sig (.bind none bound) fn = true ↔
      (∀ a ∈ sig.params, a.shape ≠ .rref) ∧
      bindsAll fn.params (sig.params.map stored ++ bound.map boundExpr) = true ∧
      fn.kind.objOk = true ∧ retOk fn.ret sig.ret = true := by
  simp only [accepts_iff_adaptArgs, adaptArgs, tupleElems_eq, Option.getD_none, gt_iff_lt, Nat.lt_irrefl, if_false]
  simp [and_assoc, ← List.map_take, ← List.map_drop]

example : accepts ⟨[⟨.int, .lref⟩], none⟩ (.bind none [.long]) ⟨.freeFn, [⟨.int, .lref⟩, ⟨.long, .lref⟩], none⟩ = true
    ∧ accepts ⟨[⟨.int, .lref⟩], none⟩ (.bind none [.long]) ⟨.freeFn, [⟨.int, .lref⟩, ⟨.long, .rref⟩], none⟩ = false := by
  decide +kernel

/-- `bind<I>(f, b...)` (positional): `I` must not exceed the number of signature parameters, no signature element may
    be an rvalue reference, and `f` sees the first `I` stored lvalues, then modifiable lvalues of the bound types, then
    the remaining stored lvalues — each forwarded argument with the const-ness its signature parameter gives it. -/
theorem accepts_bind_at_iff (sig : Sig) (i : Nat) (bound : List Base) (fn : Fn) :
    accepts sig (.bind (some i) bound) fn = true ↔
      i ≤ sig.params.length ∧ (∀ a ∈ sig.params, a.shape ≠ .rref) ∧
      bindsAll fn.params
        ((sig.params.take i).map stored ++ bound.map boundExpr ++ (sig.params.drop i).map stored) = true ∧
      fn.kind.objOk = true ∧ retOk fn.ret sig.ret = true := by
  simp only [accepts_iff_adaptArgs, adaptArgs, tupleElems_eq, Option.getD_some, gt_iff_lt]
  simp [and_assoc, List.map_take, List.map_drop]

/-- `k` is the position of `f`'s parameter that faces signature position `j`: `j` itself before `I`, `j + #bound` from
    `I` on -/
theorem bind_at_binds {sig : Sig} {i : Nat} {bound : List Base} {fn : Fn}
    (hacc : accepts sig (.bind (some i) bound) fn = true) (j : Nat) {k : Nat}
    (hk : k = if j < i then j else j + bound.length) (h1 : k < fn.params.length) (h2 : j < sig.params.length) :
    binds fn.params[k] (stored sig.params[j]) = true := by
  obtain ⟨hle, _, hb, _, _⟩ := (accepts_bind_at_iff sig i bound fn).1 hacc
  obtain ⟨hlen, hall⟩ := (bindsAll_iff _ _).1 hb
  have hel := getElem?_insert (sig.params.map stored) (bound.map boundExpr) i j (by rw [List.length_map]; exact hle)
  rw [List.length_map, ← hk, ← List.map_take, ← List.map_drop, List.getElem?_map, List.getElem?_eq_getElem h2,
    Option.map_some] at hel
  have := hall k h1 (hlen ▸ h1)
  rwa [(List.getElem_eq_iff _).2 hel] at this

/-- a `T&` parameter does not bind the stored tuple element of a signature parameter declared by value or `const&`:
    that element is a *const* lvalue -/
theorem lref_not_binds_stored {p a : Param} (hf : p.shape = .lref) (hs : a.shape ≠ .lref) (hr : a.shape ≠ .rref) :
    binds p (stored a) = false := by
  obtain ⟨pb, ps⟩ := p
  obtain ⟨ab, sh⟩ := a
  cases hf
  cases sh <;> first | rfl | exact absurd rfl hs | exact absurd rfl hr

/-- **positional bind does not launder const-ness** (the property's "a non-const reference parameter that would bind
    to a value or const argument … is a compile error", *through* `bind<I>`): if `f`'s parameter facing signature
    position `j` (`k` as in `bind_at_binds`) is a non-const reference while the signature declares that parameter by
    value or `const&`, `bind<I>(f, b...)` is rejected.  The two corollaries spell `k` out: `j < I`, `I ≤ j`. -/
theorem bind_at_nonconst_ref_rejected (sig : Sig) (i j : Nat) (bound : List Base) (fn : Fn) {k : Nat}
    (hk : k = if j < i then j else j + bound.length) (h1 : k < fn.params.length) (h2 : j < sig.params.length)
    (hf : fn.params[k].shape = .lref) (hs : sig.params[j].shape ≠ .lref) :
    accepts sig (.bind (some i) bound) fn = false :=
  Bool.eq_false_iff.2 fun hacc => by
    have hr := ((accepts_bind_at_iff sig i bound fn).1 hacc).2.1 _ (List.getElem_mem h2)
    have := bind_at_binds hacc j hk h1 h2
    rw [lref_not_binds_stored hf hs hr] at this
    cases this

theorem bind_at_nonconst_ref_from_value_or_const_rejected (sig : Sig) (i j : Nat) (bound : List Base) (fn : Fn)
    (hj : j < i) (h1 : j < fn.params.length) (h2 : j < sig.params.length)
    (hf : fn.params[j].shape = .lref) (hs : sig.params[j].shape ≠ .lref) :
    accepts sig (.bind (some i) bound) fn = false :=
  bind_at_nonconst_ref_rejected sig i j bound fn (if_pos hj).symm h1 h2 hf hs

theorem bind_at_nonconst_ref_after_bound_rejected (sig : Sig) (i j : Nat) (bound : List Base) (fn : Fn)
    (hj : i ≤ j) (h1 : j + bound.length < fn.params.length) (h2 : j < sig.params.length)
    (hf : fn.params[j + bound.length].shape = .lref) (hs : sig.params[j].shape ≠ .lref) :
    accepts sig (.bind (some i) bound) fn = false :=
  bind_at_nonconst_ref_rejected sig i j bound fn (if_neg (Nat.not_lt.2 hj)).symm h1 h2 hf hs

example : accepts ⟨[⟨.int, .val⟩], none⟩ (.bind (some 0) [.long]) ⟨.freeFn, [⟨.long, .val⟩, ⟨.int, .lref⟩], none⟩ = false
    ∧ accepts ⟨[⟨.int, .val⟩, ⟨.int, .val⟩], none⟩ (.bind (some 1) [.long])
        ⟨.freeFn, [⟨.int, .lref⟩, ⟨.long, .val⟩, ⟨.int, .val⟩], none⟩ = false
    ∧ accepts ⟨[⟨.int, .lref⟩, ⟨.int, .val⟩], none⟩ (.bind (some 1) [.long])
        ⟨.freeFn, [⟨.int, .lref⟩, ⟨.long, .val⟩, ⟨.int, .cref⟩], none⟩ = true := by
  decide +kernel

/-- `retype(f)` (f a sigc functor with declared parameter types): accepted iff the arities agree, every passed
    expression can be `static_cast` to the declared parameter type, and the result converts — binding the cast
    results can then not fail. -/
theorem accepts_retype_iff (sig : Sig) (fn : Fn) (hw : fn.kind.wrapped = true) :
    accepts sig .retype fn = true ↔
      fn.params.length = sig.params.length ∧
      (∀ (i : Nat) (h1 : i < fn.params.length) (h2 : i < sig.params.length),
          castOk fn.params[i] (passed sig.params[i]) = true) ∧
      fn.kind.objOk = true ∧ retOk fn.ret sig.ret = true := by
  simp only [accepts_iff_adaptArgs, adaptArgs, hw, if_true, castAll_iff, List.length_map, List.getElem_map]
  constructor
  · rintro ⟨_, ⟨hl, hc, rfl⟩, _, ho, hr⟩
    exact ⟨hl, hc, ho, hr⟩
  · rintro ⟨hl, hc, ho, hr⟩
    exact ⟨_, ⟨hl, hc, rfl⟩, bindsAll_map_self binds_retExpr_self _, ho, hr⟩

example : accepts ⟨[⟨.clsA, .lref⟩], none⟩ .retype ⟨.ptrFun, [⟨.clsB, .lref⟩], none⟩ = true
    ∧ accepts ⟨[⟨.clsA, .val⟩], none⟩ .retype ⟨.ptrFun, [⟨.clsB, .lref⟩], none⟩ = false
    ∧ accepts ⟨[⟨.clsA, .lref⟩], none⟩ .none ⟨.ptrFun, [⟨.clsB, .lref⟩], none⟩ = false := by decide +kernel

/-- `retype` is the one place where an explicit-only conversion is *meant* to be performed (`static_cast<P>` on each
    argument): a scoped-enumeration signature parameter reaches an `int` parameter through it and not without it; the
    result is not cast, so an explicit-only result stays rejected under `retype`. -/
example : accepts ⟨[⟨.enumE, .val⟩], none⟩ .retype ⟨.ptrFun, [⟨.int, .val⟩], none⟩ = true
    ∧ accepts ⟨[⟨.enumE, .val⟩], none⟩ .none ⟨.ptrFun, [⟨.int, .val⟩], none⟩ = false
    ∧ accepts ⟨[⟨.enumE, .val⟩], none⟩ .retype ⟨.ptrFun, [⟨.int, .cref⟩], none⟩ = false
    ∧ accepts ⟨[⟨.clsXb, .val⟩], none⟩ .retype ⟨.ptrFun, [⟨.bool, .val⟩], none⟩ = true
    ∧ accepts ⟨[⟨.clsXb, .val⟩], none⟩ .retype ⟨.ptrFun, [⟨.int, .val⟩], none⟩ = false
    ∧ accepts ⟨[⟨.int, .val⟩], some ⟨.int, .val⟩⟩ .retype ⟨.ptrFun, [⟨.enumE, .val⟩], some ⟨.enumE, .val⟩⟩ = false := by
  decide +kernel

/-! ## The connect entry points

  `signal<>`, `signal<>::accumulated<>`, `trackable_signal<>`, `trackable_signal<>::accumulated<>` ×
  `connect`, `connect_first` × `(const slot_type&)`, `(slot_type&&)`: sixteen declared members (`entryDecl`, the
  table read off signal.h).  Their bodies hand the argument to `signal_base`, which stores any `slot_base`
  unchecked — so the declared parameter type is the type check.  It is the *same* check at all sixteen: what is
  not already a `slot_type` must pass `slot_type`'s converting constructor; in particular a slot **object** of
  another slot type `slot<U>` is judged like any functor with `U`'s signature, however it is written (lvalue,
  const lvalue, rvalue). -/

/-- the table as it is: every entry point takes `slot_type` (never the untyped base `slot_base`), by `const&` or
    `&&` as its overload says -/
theorem entry_table_slot_type (ep : EntryPoint) :
    (entryDecl ep).ty = .slotType ∧
      (entryDecl ep).shape = (match ep.ov with | .constRef => .cref | .rvalueRef => .rref) := by
  rw [entryDecl_eq]
  exact ⟨rfl, rfl⟩

theorem allEntryPoints_complete (ep : EntryPoint) : ep ∈ allEntryPoints := by
  obtain ⟨⟨c, a, f⟩, o⟩ := ep
  simp only [allEntryPoints, List.mem_flatMap, List.mem_map]
  exact ⟨c, by cases c <;> simp, a, by cases a <;> simp, f, by cases f <;> simp, o, by cases o <;> simp, rfl⟩

example : allEntryPoints.length = 16 := by decide +kernel

/-- an argument is recognised as a slot object only when it is one (no adaptor, kind `slotObj`); of the signal's own
    slot type it has literally the signal's signature, which `slot_type`'s constructor accepts -/
theorem accepts_own_slot {sig : Sig} {ad : Adaptor} {fn : Fn} {form : ArgForm}
    (h : argSlotSig ad fn = some (sig, form)) : accepts sig ad fn = true := by
  obtain ⟨k, ps, r⟩ := fn
  unfold argSlotSig at h
  split at h
  · next f hk =>
    cases h
    cases hk
    exact identical_signature_accepted ps r _ rfl
  · cases h

/-- **C05.entry_points_agree** — every one of the sixteen entry points accepts exactly what `slot_type`'s constructors
    accept (`slot<Sig> s = x;`), for every argument that is not already an object of the signal's own `slot_type`
    (that one binds directly, see `same_slot_type_entry`). -/
theorem entry_points_agree (ep : EntryPoint) (sig : Sig) (ad : Adaptor) (fn : Fn)
    (h : ∀ form, argSlotSig ad fn ≠ some (sig, form)) :
    entryAccepts ep sig ad fn = acceptsRoute .slotInit sig ad fn := by
  rw [entryAccepts_eq]
  cases hs : argSlotSig ad fn with
  | none => rfl
  | some uf =>
    obtain ⟨u, form⟩ := uf
    exact if_neg fun e : u = sig => h form (e ▸ hs)

theorem entry_points_agree_pairwise (ep ep' : EntryPoint) (sig : Sig) (ad : Adaptor) (fn : Fn)
    (h : ∀ form, argSlotSig ad fn ≠ some (sig, form)) :
    entryAccepts ep sig ad fn = entryAccepts ep' sig ad fn := by
  rw [entry_points_agree ep sig ad fn h, entry_points_agree ep' sig ad fn h]

/-- non-vacuity: a functor, an adaptor and slot objects of other slot types at `trackable_signal::connect_first(const
    slot_type&)` and at `signal::accumulated::connect(slot_type&&)`; the hypothesis holds, both verdicts occur -/
example :
    (∀ form, argSlotSig .none (slotArg ⟨[⟨.long, .val⟩], none⟩ .lvalue) ≠ some (⟨[⟨.int, .val⟩], none⟩, form))
    ∧ entryAccepts ⟨⟨.trackable, false, .connectFirst⟩, .constRef⟩ ⟨[⟨.int, .val⟩], none⟩ .none
        (slotArg ⟨[⟨.long, .val⟩], none⟩ .lvalue) = true
    ∧ entryAccepts ⟨⟨.trackable, false, .connectFirst⟩, .constRef⟩ ⟨[⟨.int, .val⟩], none⟩ .none
        (slotArg ⟨[⟨.ptrA, .val⟩], none⟩ .lvalue) = false
    ∧ entryAccepts ⟨⟨.signal, true, .connect⟩, .rvalueRef⟩ ⟨[⟨.int, .val⟩], none⟩ .none
        (slotArg ⟨[⟨.int, .lref⟩], none⟩ .rvalue) = false
    ∧ entryAccepts ⟨⟨.signal, true, .connect⟩, .rvalueRef⟩ ⟨[⟨.int, .val⟩], some ⟨.long, .val⟩⟩ (.hide none)
        ⟨.lambda, [], some ⟨.int, .val⟩⟩ = true
    ∧ entryAccepts ⟨⟨.trackable, true, .connectFirst⟩, .rvalueRef⟩ ⟨[⟨.int, .val⟩], some ⟨.int, .val⟩⟩ .none
        ⟨.freeFn, [⟨.int, .val⟩], some ⟨.enumE, .val⟩⟩ = false := by
  refine ⟨?_, by decide +kernel, by decide +kernel, by decide +kernel, by decide +kernel, by decide +kernel⟩
  intro form
  cases form <;> decide

/-- a slot object as a functor: `slot<U>` is accepted by `slot<Sig>`'s constructor exactly like a function object
    with a const `operator()` of `U`'s declared signature — however the object is written, directly and under `hide` /
    `bind` (`retype` has an overload of its own for slots and none for arbitrary function objects) -/
theorem slot_object_as_functor (sig u : Sig) (form : ArgForm) (ad : Adaptor) (had : ad ≠ .retype) :
    accepts sig ad (slotArg u form) = accepts sig ad ⟨.fobjConst, u.params, u.ret⟩ := by
  have h : adaptArgs ad (slotArg u form) sig.params = adaptArgs ad ⟨.fobjConst, u.params, u.ret⟩ sig.params := by
    cases ad with
    | retype => exact absurd rfl had
    | _ => rfl
  simp only [accepts, h]
  simp only [slotArg, invokeOk_eq]
  rfl

/-- **slot object into entry point** — a slot object of **another** slot type `slot<U>` (`U ≠ Sig`), however written,
    is accepted by any of the sixteen entry points exactly when a functor with `U`'s signature is accepted by
    `slot<Sig>`. -/
theorem slot_object_entry_points_agree (ep : EntryPoint) (sig u : Sig) (form : ArgForm) (h : u ≠ sig) :
    entryAccepts ep sig .none (slotArg u form) = accepts sig .none ⟨.fobjConst, u.params, u.ret⟩ := by
  rw [entryAccepts_eq]
  exact (if_neg h).trans (slot_object_as_functor sig u form .none (by decide +kernel))

theorem slot_object_entry_iff (ep : EntryPoint) (sig u : Sig) (form : ArgForm) (h : u ≠ sig) :
    entryAccepts ep sig .none (slotArg u form) = true ↔
      u.params.length = sig.params.length ∧
      (∀ (i : Nat) (h1 : i < u.params.length) (h2 : i < sig.params.length),
          binds u.params[i] (passed sig.params[i]) = true) ∧
      retOk u.ret sig.ret = true := by
  rw [slot_object_entry_points_agree ep sig u form h, accepts_iff]
  simp [Kind.objOk]

theorem slot_object_forms_alike (ep ep' : EntryPoint) (sig u : Sig) (form form' : ArgForm) (h : u ≠ sig) :
    entryAccepts ep sig .none (slotArg u form) = entryAccepts ep' sig .none (slotArg u form') := by
  rw [slot_object_entry_points_agree ep sig u form h, slot_object_entry_points_agree ep' sig u form' h]

/-- non-vacuity: `slot<long(long, const A&)>` into `signal<int(int, B&)>` (conversions at a parameter, a base class
    reference and the result) is accepted at `trackable_signal::accumulated::connect_first(const slot_type&)`;
    `slot<void(int&)>` into `signal<void(int)>` is not; the two signatures differ -/
example :
    (⟨[⟨.long, .val⟩, ⟨.clsA, .cref⟩], some ⟨.long, .val⟩⟩ : Sig) ≠ ⟨[⟨.int, .val⟩, ⟨.clsB, .lref⟩], some ⟨.int, .val⟩⟩
    ∧ entryAccepts ⟨⟨.trackable, true, .connectFirst⟩, .constRef⟩
        ⟨[⟨.int, .val⟩, ⟨.clsB, .lref⟩], some ⟨.int, .val⟩⟩ .none
        (slotArg ⟨[⟨.long, .val⟩, ⟨.clsA, .cref⟩], some ⟨.long, .val⟩⟩ .constLvalue) = true
    ∧ entryAccepts ⟨⟨.trackable, true, .connectFirst⟩, .constRef⟩ ⟨[⟨.int, .val⟩], none⟩ .none
        (slotArg ⟨[⟨.int, .lref⟩], none⟩ .lvalue) = false := by decide +kernel

/-- an object of the signal's **own** `slot_type` is not converted: the reference parameter binds it directly —
    `const slot_type&` always, `slot_type&&` an rvalue only -/
theorem same_slot_type_entry (ep : EntryPoint) (sig : Sig) (form : ArgForm) :
    entryAccepts ep sig .none (slotArg sig form) = (ep.ov == .constRef || form == .rvalue) := by
  rw [entryAccepts_eq]
  exact if_pos rfl

example : entryAccepts ⟨⟨.signal, false, .connect⟩, .rvalueRef⟩ ⟨[⟨.int, .val⟩], none⟩ .none
      (slotArg ⟨[⟨.int, .val⟩], none⟩ .lvalue) = false
    ∧ entryAccepts ⟨⟨.signal, false, .connect⟩, .rvalueRef⟩ ⟨[⟨.int, .val⟩], none⟩ .none
      (slotArg ⟨[⟨.int, .val⟩], none⟩ .rvalue) = true
    ∧ entryAccepts ⟨⟨.signal, false, .connect⟩, .constRef⟩ ⟨[⟨.int, .val⟩], none⟩ .none
      (slotArg ⟨[⟨.int, .val⟩], none⟩ .lvalue) = true := by decide +kernel

/-- the call expression `sig.connect(x)` / `sig.connect_first(x)` (overload resolution over the pair) is well-formed
    exactly when `slot<Sig> s = x;` is -/
theorem call_accepts_iff (c : CallFamily) (sig : Sig) (ad : Adaptor) (fn : Fn) :
    callAccepts c sig ad fn = accepts sig ad fn := by
  simp only [callAccepts, entryAccepts_eq]
  cases hs : argSlotSig ad fn with
  | none => exact Bool.or_self _
  | some uf =>
    obtain ⟨u, form⟩ := uf
    by_cases hu : u = sig
    · simp only [if_pos hu, accepts_own_slot (hu ▸ hs)]
      rfl
    · simp only [if_neg hu, Bool.or_self]

/-- **nothing enters the list unchecked**: whatever any of the sixteen entry points accepts — functor, adaptor, slot
    object of any slot type, in any form — is accepted by `slot_type`'s own type check (`accepts`), hence has none of
    the defects of the `…_rejected` statements above. -/
theorem entry_accepts_sound (ep : EntryPoint) (sig : Sig) (ad : Adaptor) (fn : Fn)
    (h : entryAccepts ep sig ad fn = true) : accepts sig ad fn = true := by
  obtain ⟨c, ov⟩ := ep
  rw [← call_accepts_iff c, callAccepts, Bool.or_eq_true]
  cases ov
  · exact Or.inl h
  · exact Or.inr h

/-- **incompatible slot object**: if a functor with `U`'s signature is not acceptable for `Sig` (wrong arity,
    non-convertible parameter, non-const reference from a value, incompatible / explicit-only result …), `slot<U>`
    does not get into a `signal<Sig>`: at no entry point, by no call expression, in no form. -/
theorem incompatible_slot_object_rejected (sig u : Sig) (form : ArgForm)
    (h : accepts sig .none ⟨.fobjConst, u.params, u.ret⟩ = false) :
    (∀ ep, entryAccepts ep sig .none (slotArg u form) = false) ∧
      (∀ c, callAccepts c sig .none (slotArg u form) = false) := by
  have h' := (slot_object_as_functor sig u form .none (by decide +kernel)).trans h
  exact ⟨fun ep => Bool.eq_false_iff.2 fun he => Bool.false_ne_true (h' ▸ entry_accepts_sound ep sig .none _ he),
    fun c => (call_accepts_iff c sig .none _).trans h'⟩

/-- non-vacuity, one per defect flavour (`signal<int(int)>` / `signal<void(int)>`): wrong arity, non-convertible
    parameter, non-const reference from a value, incompatible result, explicit-only result -/
example :
    accepts ⟨[⟨.int, .val⟩], none⟩ .none ⟨.fobjConst, [], none⟩ = false
    ∧ accepts ⟨[⟨.int, .val⟩], none⟩ .none ⟨.fobjConst, [⟨.ptrA, .val⟩], none⟩ = false
    ∧ accepts ⟨[⟨.int, .val⟩], none⟩ .none ⟨.fobjConst, [⟨.int, .lref⟩], none⟩ = false
    ∧ accepts ⟨[⟨.int, .val⟩], some ⟨.int, .val⟩⟩ .none ⟨.fobjConst, [⟨.int, .val⟩], some ⟨.ptrA, .val⟩⟩ = false
    ∧ accepts ⟨[⟨.int, .val⟩], some ⟨.int, .val⟩⟩ .none ⟨.fobjConst, [⟨.int, .val⟩], some ⟨.enumE, .val⟩⟩ = false
    ∧ callAccepts ⟨.trackable, false, .connectFirst⟩ ⟨[⟨.int, .val⟩], none⟩ .none
        (slotArg ⟨[⟨.ptrA, .val⟩], none⟩ .constLvalue) = false
    ∧ callAccepts ⟨.trackable, false, .connectFirst⟩ ⟨[⟨.int, .val⟩], none⟩ .none
        (slotArg ⟨[⟨.double, .cref⟩], none⟩ .rvalue) = true := by decide +kernel

/-! ## The erased call (the anchor of C05 in `properties.jsonl`: "function_pointer_cast erases and restores the exact call_it signature") -/

/-- **C05.erased_call_type_exact** — all the type checking above happens in `call_it`'s body under the function type
    `callItType`; every call site restores exactly that type before calling (C20.call_through_original_type), and the
    arguments it passes initialise that type's parameters (`C20.call_site_args_ok`). -/
theorem erased_call_type_exact (site : CallSite) (r : Ret) (as : List Param)
    (h : siteApplies site r = true) :
    castBackTo site r as = callItType r as ∧
      (∀ a ∈ as, a.shape ≠ .rref → siteOk site a = true) :=
  ⟨Sigc.C20.call_through_original_type site r as h,
   fun a _ ha => Sigc.C20.call_site_args_ok site a (Or.inl ha)⟩

example : siteApplies .slotCall (some ⟨.int, .val⟩) = true := by decide +kernel

end Sigc.C05
