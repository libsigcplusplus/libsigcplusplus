import Sigc.SlotGLemmasFrame
import Sigc.SlotGLemmasBlock
/-!
  # SlotG — object graphs among slot variables (C06, C07, C12, C04/C15 flavour)

  Model: `Sigc/SlotG.lean` (`slot_base`/`slot_rep`/`typed_slot_rep`, `connection(slot_base&)` with its
  `weak_raw_ptr`, `trackable`), language and totality rules: `docs/SLOTG.md`.  All theorems quantify over **all**
  programs (`run ops`, `ops : List Op` arbitrary) or over all well-formed states and all operations; they are proved
  by induction over the operation list and over the fuel of the cascades (`destroyRep`, `notifyInv`), nothing is
  enumerated.  Lemmas: `Sigc/SlotGLemmas*.lean`.

  * (a) `wf_reachable`, `no_dangling`, `no_fuel_error` — the well-formedness invariant of every reachable state
    (C06: no dangling pointer in either direction); `invalidated_holds_no_functor` (C07: an invalidated
    representation has destroyed its functor);
  * (b) `block_returns_previous` … `blocked_or_empty_callS` — blocking (C12) and how the four copy/move operations
    transfer `blocked_` (C15);
  * (c) `connected_iff`, `connected_stays`, `connected_false_forever`, `conn_false_after_*` — a connection made from
    a slot variable tells the truth (C04);
  * (d) `rep_held_unique`, `live_count_spec`, `owned_has_owner` — functor accounting.

  The model is the library *after* the fixes of findings F10 (a8d1bb0), F11 (6def444) and F12 (1467ef2)
  (docs/SLOTG.md): both assignment operators let the variable refer to the new representation before the old one
  is deleted, and `delete_rep_with_check()` clears `rep_` before it deletes; and after the fix of F14 (076d91d):
  in these places the observers of the old representation are notified before it is deleted
  (`assign_owned_connection_safe`).  No rule of `check0` refuses an assignment for what its destination
  stores or owns: `wf_reachable` holds for every program;
  `exchange_no_dead_parent` and `delete_rep_self_owned_safe` state the F10 and F12 situations explicitly.
-/
namespace Sigc.SlotG
open Blk

/-! ## (a) well-formedness of every reachable state -/

/-- the fuel of the cascades never runs out -/
theorem no_fuel_error (ops : List Op) : (run ops).err = false := run_no_err ops

theorem wf_reachable (ops : List Op) : WF (run ops) := by
  suffices h : ∀ (ops : List Op) s, WF s → WF (ops.foldl (fun s op => stepState op s) s) from h ops _ wf_init
  intro ops
  induction ops with
  | nil => exact fun _ hw => hw
  | cons op ops ih => exact fun s hw => ih _ (step_wf hw op)

/-- **C06, no dangling access in either direction.**  In every reachable state
  1. a connection is null or points to a live slot variable whose *current* representation exists and carries the
     registration of exactly this connection, once;
  2. every registration on a representation belongs to a live connection that points to the variable holding it;
  3. every `parent_` points to a live representation, whose functor refers to (`sref`) or binds by value (`nest`)
     the variable holding the child;
  4. every `rep_` points to a live representation, no two variables share one, every representation is held;
  5. a representation whose functor refers to a trackable is registered on that (live) trackable, exactly once;
  6. a trackable holds no entry of a dead representation or of one that does not refer to it, no nulled entry,
     and is not clearing;
  7. a functor that refers to / owns a slot variable refers to / owns a live one (one of the program's), and a
     functor that binds a slot by value holds a live anonymous variable of its own (`anonBase + r`);
  8. a functor that owns a connection object owns a live one (and by 1./2. that connection, like every other, is
     registered exactly where it points — also when it points at the very slot variable that stores the functor). -/
theorem no_dangling (ops : List Op) :
    let s := run ops
    (∀ c v, s.conns c = some (some v) →
      ∃ V r R, s.slots v = some V ∧ V.rep = some r ∧ s.reps r = some R ∧ c ∈ R.cbs ∧ R.cbs.Nodup) ∧
    (∀ r R c, s.reps r = some R → c ∈ R.cbs → ∃ v, s.conns c = some (some v) ∧ repOf s v = some r) ∧
    (∀ r R p, s.reps r = some R → R.parent = some p →
      ∃ P f v, s.reps p = some P ∧ P.fn = some f ∧ f.ref = some v ∧ repOf s v = some r) ∧
    ((∀ v r, repOf s v = some r → ∃ R, s.reps r = some R) ∧
      (∀ v1 v2 r, repOf s v1 = some r → repOf s v2 = some r → v1 = v2) ∧
      (∀ r R, s.reps r = some R → ∃ v, repOf s v = some r)) ∧
    (∀ r R f t, s.reps r = some R → R.fn = some f → f.trk = some t →
      ∃ T, s.trks t = some T ∧ (r, true) ∈ T.entries ∧ (T.entries.map Prod.fst).Nodup) ∧
    (∀ t T r b, s.trks t = some T → (r, b) ∈ T.entries →
      b = true ∧ T.clearing = false ∧ ∃ R f, s.reps r = some R ∧ R.fn = some f ∧ f.trk = some t) ∧
    (∀ r R fid v, s.reps r = some R → R.fn = some (.sref fid v) → v < anonBase ∧ ∃ V, s.slots v = some V) ∧
    (∀ r R fid v t, s.reps r = some R → R.fn = some (.own fid v t) → v < anonBase ∧ ∃ V, s.slots v = some V) ∧
    (∀ r R fid v d, s.reps r = some R → R.fn = some (.nest fid v d) →
      v = anonBase + r ∧ ∃ V, s.slots v = some V) ∧
    (∀ r R fid c, s.reps r = some R → R.fn = some (.ownc fid c) → ∃ p, s.conns c = some p) := by
  intro s
  have hw : WF s := wf_reachable ops
  have h := hw.inv
  refine ⟨?_, fun r R c hR hm => hw.inv.regOk.bwd hR hm, ?_, ⟨h.repAlive, h.repUniq, hw.held⟩, ?_, ?_, ?_, h.ownOk,
    h.nestOk, h.ownCOk⟩
  · intro c v hc
    obtain ⟨r, R, hr, hR, hm⟩ := hw.inv.regOk.fwd hc
    obtain ⟨V, hV, hVr⟩ := repOf_eq.mp hr
    exact ⟨V, r, R, hV, hVr, hR, hm, h.cbsNodup r R hR⟩
  · intro r R p hR hp
    obtain ⟨v, hv⟩ := hw.held r R hR
    obtain ⟨P, f, hP, hPf, hfr⟩ := h.parentOk r R p v hR hp hv
    exact ⟨P, f, v, hP, hPf, hfr, hv⟩
  · intro r R f t hR hf ht
    obtain ⟨T, hT, hm⟩ := h.trkReg r R f t hR hf ht
    exact ⟨T, hT, hm, h.trkNodup t T hT⟩
  · intro t T r b hT hm
    obtain ⟨hcl, hfl⟩ := hw.idle t T hT
    have hb : b = true := by
      cases b with
      | true => rfl
      | false => exact absurd hm (hfl r)
    subst hb
    exact ⟨rfl, hcl, h.trkEnt t T r hT hm⟩
  · intro r R fid v hR hf
    exact ⟨(h.refOk r R fid v hR hf).1, (h.refOk r R fid v hR hf).2.1⟩

/-- non-vacuity: a program whose final state has a live connection, a parent link, a trackable registration, an
    owned variable and a slot bound by value (so every clause of `no_dangling` but the last speaks about something;
    `exF14` has an owned connection) -/
def exGraph : List Op :=
  [.newT 1, .mkS 1 (.mem 1 1), .mkS 2 (.sref 2 1), .connS 1 1, .mkS0 3, .mkS 4 (.own 3 3 none),
   .mkS 5 (.nest 4 1 0)]

example : (run exGraph).conns 1 = some (some 1) ∧ repOf (run exGraph) 1 = some 0 ∧
    ((run exGraph).reps 0).map (·.parent) = some (some 1) ∧ ((run exGraph).reps 0).map (·.cbs) = some [1] ∧
    ((run exGraph).trks 1).map (·.entries) = some [(0, true), (4, true)] ∧ ownedBy (run exGraph) 3 = true ∧
    -- `S5 = bind(F4, copy of S1)`: representation 3 binds the anonymous variable `anonBase + 3`, whose
    -- representation 4 (a clone of S1's: registered on the trackable too) has 3 as parent
    ((run exGraph).reps 3).map (·.fn) = some (some (.nest 4 (anonBase + 3) 1)) ∧
    repOf (run exGraph) (anonBase + 3) = some 4 ∧
    ((run exGraph).reps 4).map (·.parent) = some (some 3) := by decide +kernel

/-- **F10, the situation itself.**  After an assignment of any kind to a slot variable (`asgS`, `masgS`, `setS`) —
    also when deleting the old representation destroys its parent, because the old representation *is* its own
    parent or because the old functor owns the variable whose functor refers to this one — no representation is
    left with a dead `parent_`, and the parent of the representation now stored in the variable still refers to
    that variable. -/
theorem exchange_no_dead_parent {s : State} (hw : WF s) (op : Op)
    (_hop : (∃ d x, op = .asgS d x) ∨ (∃ d x, op = .masgS d x) ∨ (∃ d f, op = .setS d f))
    (hc : check s op = none) (he : (apply op s).err = false) :
    ∀ r R p, (apply op s).reps r = some R → R.parent = some p →
      ∃ P f v, (apply op s).reps p = some P ∧ P.fn = some f ∧ f.ref = some v ∧
        repOf (apply op s) v = some r := by
  have hw' := apply_wf hw op hc
  intro r R p hR hp
  obtain ⟨v, hv⟩ := hw'.held r R hR
  obtain ⟨P, f, hP, hPf, hfr⟩ := hw'.inv.parentOk r R p v hR hp hv
  exact ⟨P, f, v, hP, hPf, hfr, hv⟩

/-- non-vacuity: the F10 program `s = F(); s = bind(g, std::ref(s)); s = F();` — before the third assignment the
    representation of `S1` is its own parent, the assignment is performed (not refused), deleting the old
    representation destroys that parent, and the new representation is left without a parent; the ownership
    variant likewise -/
def exF10 : State := run [.mkS 1 (.fn 1), .setS 1 (.sref 2 1)]
def exF10own : State := run [.mkS 1 (.fn 1), .mkS 2 (.sref 2 1), .setS 1 (.own 3 2 none), .mkS 3 (.fn 4)]

example : repOf exF10 1 = some 1 ∧ (exF10.reps 1).map (·.parent) = some (some 1) ∧
    check exF10 (.setS 1 (.fn 3)) = none ∧ (apply (.setS 1 (.fn 3)) exF10).err = false ∧
    repOf (apply (.setS 1 (.fn 3)) exF10) 1 = some 2 ∧
    ((apply (.setS 1 (.fn 3)) exF10).reps 2).map (·.parent) = some none ∧
    (apply (.setS 1 (.fn 3)) exF10).reps 1 = none := by decide +kernel

example : repOf exF10own 1 = some 2 ∧ repOf exF10own 2 = some 1 ∧
    (exF10own.reps 2).map (·.parent) = some (some 1) ∧ check exF10own (.asgS 1 3) = none ∧
    (apply (.asgS 1 3) exF10own).slots 2 = none ∧ (apply (.asgS 1 3) exF10own).reps 1 = none ∧
    repOf (apply (.asgS 1 3) exF10own) 1 = some 4 ∧
    ((apply (.asgS 1 3) exF10own).reps 4).map (·.parent) = some none := by decide +kernel

/-- **F12, the situation itself.**  `delete_rep_with_check()` — what `*d = slot()` (`clrS` on a variable with a
    representation) and both assignments from an empty source perform — keeps every well-formed state
    well-formed, whatever the representation of `d` stores: also the functor that keeps `d` itself alive.  The old
    representation is freed (exactly once: representation identities are never reused and it is gone), and `d`,
    if it still exists, holds no representation.  None of these operations is refused on live variables. -/
theorem delete_rep_self_owned_safe {s : State} (hw : WF s) (d : Nat) (hnm : d < anonBase)
    (he : (deleteRepWithCheck d s).err = false) :
    (WF (deleteRepWithCheck d s) ∧
      (∀ r, repOf s d = some r → (deleteRepWithCheck d s).reps r = none) ∧
      (∀ D', (deleteRepWithCheck d s).slots d = some D' → D'.rep = none)) ∧
    ((s.slots d).isSome = true → check s (.clrS d) = none ∧
      (repOf s d ≠ none → apply (.clrS d) s = deleteRepWithCheck d s)) ∧
    (∀ x, x < anonBase → (s.slots d).isSome = true → (s.slots x).isSome = true → repOf s d ≠ repOf s x →
      emptyVar s x = true →
      check s (.asgS d x) = none ∧ check s (.masgS d x) = none ∧
      apply (.asgS d x) s = deleteRepWithCheck d s ∧ apply (.masgS d x) s = deleteRepWithCheck d s) := by
  have dead : ∀ {v}, (s.slots v).isSome = true → deadS s v = false := fun h => by
    rw [deadS, ← Option.not_isSome, h]; rfl
  have hnd : decide (d < anonBase) = true := decide_eq_true hnm
  have hw' := deleteRepWithCheck_spec hw d hnm
  refine ⟨⟨hw', deleteRepWithCheck_gone d s, fun D' hD' => ?_⟩, fun hd => ?_, fun x hnx hd hx hne hemp => ?_⟩
  · -- what the variable holds afterwards exists: it is not the representation that is gone
    obtain ⟨D, hD, -, -, h⟩ := deleteRepWithCheck_slots d s d D' hD'
    rcases h rfl with h | ⟨rfl, r, hr, hgone⟩
    · exact h
    · obtain ⟨R, hR⟩ := hw'.inv.repAlive d r ((repOf_of_slot hD').trans hr)
      rw [hgone] at hR; cases hR
  · refine ⟨?_, fun hr => ?_⟩
    · simp only [check, check0, Op.named, Op.names, List.all_cons, List.all_nil, hnd, dead hd, Bool.and_self,
        if_true, Bool.false_eq_true, if_false]
    · dsimp only [apply]
      cases hq : repOf s d with
      | none => exact absurd hq hr
      | some q => rfl
  · obtain ⟨X, hX⟩ := Option.isSome_iff_exists.mp hx
    have hck : ∀ op, op.names.1 = [d, x] → (check0 s op = if deadS s d || deadS s x then some "dead" else none) →
        check s op = none := fun op hn h0 => by
      rw [check, Op.named, hn, h0]
      simp only [List.all_cons, List.all_nil, hnd, decide_eq_true hnx, dead hd, dead hx, Bool.and_self, Bool.or_self,
        if_true, Bool.false_eq_true, if_false]
    exact ⟨hck _ rfl (by simp only [check0, ite_self]), hck _ rfl (by simp only [check0, ite_self]),
      (apply_asg_empty hX hne hemp).1, (apply_asg_empty hX hne hemp).2⟩

/-- **F14, the situation itself** (fixed: 076d91d).  A functor may own (`shared_ptr`) a `sigc::connection` — also
    one made from the very slot variable that stores the functor.  When that variable loses the functor by an
    assignment of any kind (`asgS`, `masgS`, `setS`, `clrS`; also from an empty source) `rep_` is switched first
    (F10/F12), so the dying connection can only deregister through the *new* `rep_`; the library therefore tells the
    observers of the old representation (`notify_callbacks()`) before it deletes it.  Consequence, for every
    well-formed state and whatever the old functor owns: afterwards the state is well-formed — in particular no
    representation carries the registration of a dead connection, every connection that still exists and is not null
    is registered on the current representation of a live variable, and a connection owned by a dead functor is
    gone. -/
theorem assign_owned_connection_safe {s : State} (hw : WF s) (op : Op)
    (_hop : (∃ d x, op = .asgS d x) ∨ (∃ d x, op = .masgS d x) ∨ (∃ d f, op = .setS d f) ∨ (∃ d, op = .clrS d))
    (hc : check s op = none) (he : (apply op s).err = false) :
    WF (apply op s) ∧
    (∀ r R c, (apply op s).reps r = some R → c ∈ R.cbs →
      ∃ v, (apply op s).conns c = some (some v) ∧ repOf (apply op s) v = some r) ∧
    (∀ c v, (apply op s).conns c = some (some v) →
      ∃ r R, repOf (apply op s) v = some r ∧ (apply op s).reps r = some R ∧ c ∈ R.cbs) ∧
    (∀ r R fid c, (apply op s).reps r = some R → R.fn = some (.ownc fid c) →
      ∃ p, (apply op s).conns c = some p) := by
  have hw' := apply_wf hw op hc
  exact ⟨hw', fun r R c hR hm => hw'.inv.regOk.bwd hR hm, fun c v hcv => hw'.inv.regOk.fwd hcv, hw'.inv.ownCOk⟩

/-- non-vacuity, the F14 program: `S1`'s functor owns `C1`, `C1` was made from `S1` (registered on `S1`'s
    representation 0).  `*S1 = slot()`, `*S1 = *S2` and `*S1 = std::move(*S2)` are performed, the old representation
    and the connection are gone, nothing dangles; with two functor copies sharing the connection the first
    assignment only nulls it. -/
def exF14 : State :=
  run [.mkS0 1, .newC 1, .setS 1 (.ownc 1 1), .connS 2 1, .asgC 1 2, .delC 2, .mkS 2 (.fn 2)]

example : exF14.conns 1 = some (some 1) ∧ repOf exF14 1 = some 0 ∧ (exF14.reps 0).map (·.cbs) = some [1] ∧
    ownedCBy exF14 1 = true ∧ check exF14 (.delC 1) = some "owned" ∧
    check exF14 (.clrS 1) = none ∧ (apply (.clrS 1) exF14).conns 1 = none ∧
    (apply (.clrS 1) exF14).reps 0 = none ∧
    check exF14 (.asgS 1 2) = none ∧ (apply (.asgS 1 2) exF14).conns 1 = none ∧
    (apply (.asgS 1 2) exF14).reps 0 = none ∧ repOf (apply (.asgS 1 2) exF14) 1 = some 2 ∧
    ((apply (.asgS 1 2) exF14).reps 2).map (·.cbs) = some [] ∧
    (apply (.masgS 1 2) exF14).conns 1 = none ∧ repOf (apply (.masgS 1 2) exF14) 1 = some 1 ∧
    -- a copy of the owning slot shares the connection: it survives the first assignment, nulled
    (apply (.asgS 1 2) (stepState (.cpS 3 1) exF14)).conns 1 = some none ∧
    ownedCBy (apply (.asgS 1 2) (stepState (.cpS 3 1) exF14)) 1 = true := by decide +kernel

/-- non-vacuity: the F12 program — `S1` is kept alive by the functor it stores; `*S1 = slot()` is performed, the
    functor's destruction destroys `S1`, nothing is left; and the same through an assignment from an empty slot -/
def exF12 : State := run [.mkS0 1, .setS 1 (.own 1 1 none), .mkS0 2]

example : ownedBy exF12 1 = true ∧ repOf exF12 1 = some 0 ∧ check exF12 (.clrS 1) = none ∧
    (apply (.clrS 1) exF12).err = false ∧ (apply (.clrS 1) exF12).slots 1 = none ∧
    (apply (.clrS 1) exF12).reps 0 = none ∧ liveCount (apply (.clrS 1) exF12) none = 0 ∧
    check exF12 (.asgS 1 2) = none ∧ (apply (.asgS 1 2) exF12).slots 1 = none ∧
    (apply (.masgS 1 2) exF12).reps 0 = none := by decide +kernel

/-- **C07, an invalidated representation has destroyed its functor.**  In every reachable state a slot variable
    whose representation is invalid (`call_ == nullptr`: `empty()` is true although `rep_` is set) stores no
    functor any more — however it got invalidated: because a trackable its functor refers to died, because the
    variable its functor refers to or the slot it binds by value was invalidated (`notify_slot_rep_invalidated`
    up the `parent_` chain, any number of levels), or because it was destroyed — with one exception, which is the
    library's documented behaviour: `disconnect()` called on this very representation by name
    (`slot_base::disconnect()`, `connection::disconnect()`) only tells the parent and keeps the functor until the
    slot is destroyed or reassigned.  Consequently the resources the functor holds (bound slots, owned variables,
    the trackable registrations) are released at invalidation time, not when the variable dies. -/
theorem invalidated_holds_no_functor (ops : List Op) :
    ∀ v r R, repOf (run ops) v = some r → (run ops).reps r = some R → R.call = false →
      R.fn = none ∨ disconnectedBy State.init ops r = true := by
  intro v r R _ hR hc
  have := NF.foldl_nf ops State.init (fun _ => False) (by intro r R hR; simp [State.init] at hR) r R hR hc
  rcases this with g | g | g
  · exact .inl g
  · exact absurd g id
  · exact .inr g

/-- non-vacuity: `S1 = mem_fun(T1)`, `S2 = bind(F2, S1)` (a copy of `S1` by value),
    `S3 = bind(F3, std::ref(S2))`; `delete T1` invalidates `S1` and the copy bound in `S2`'s functor, hence
    `S2` (its parent), hence `S3`: all three representations are invalid **and hold no functor**, the bound copy
    is gone, `live?` reports 0 for all three functor ids.  And the exemption is a real one: after
    `S1.disconnect()` the representation of `S1` is invalid and still holds `F1`. -/
def exC07 : List Op :=
  [.newT 1, .mkS 1 (.mem 1 1), .mkS 2 (.nest 2 1 0), .mkS 3 (.sref 3 2)]

example :
    -- before: three valid slots, four functor copies (`F1` twice)
    emptyVar (run exC07) 1 = false ∧ emptyVar (run exC07) 2 = false ∧ emptyVar (run exC07) 3 = false ∧
    liveCount (run exC07) (some 1) = 2 ∧ liveCount (run exC07) (some 2) = 1 ∧
    (run exC07).slots (anonBase + 1) = some ⟨some 2, false⟩ ∧
    -- after `delete T1`
    emptyVar (run (exC07 ++ [.delT 1])) 1 = true ∧ emptyVar (run (exC07 ++ [.delT 1])) 2 = true ∧
    emptyVar (run (exC07 ++ [.delT 1])) 3 = true ∧
    repOf (run (exC07 ++ [.delT 1])) 2 = some 1 ∧
    ((run (exC07 ++ [.delT 1])).reps 1).map (·.fn) = some none ∧
    ((run (exC07 ++ [.delT 1])).reps 3).map (·.fn) = some none ∧
    (run (exC07 ++ [.delT 1])).slots (anonBase + 1) = none ∧
    liveCount (run (exC07 ++ [.delT 1])) none = 0 ∧
    disconnectedBy State.init (exC07 ++ [.delT 1]) 1 = false := by decide +kernel

example : ((run [.mkS 1 (.fn 1), .discS 1]).reps 0).map (fun R => (R.call, R.fn)) = some (false, some (.fn 1)) ∧
    disconnectedBy State.init [.mkS 1 (.fn 1), .discS 1] 0 = true := by decide +kernel

/-! ## (b) blocking (C12) and the transfer of `blocked_` by the copy/move operations (C15) -/

theorem block_returns_previous (s : State) (v : Nat) (b : Bool) (h : check s (.blockS v b) = none) :
    result s (.blockS v b) = b2s (blockedVar s v) ∧
    blockedVar (apply (.blockS v b) s) v = b ∧
    repOf (apply (.blockS v b) s) v = repOf s v ∧
    (∀ w, w ≠ v → (apply (.blockS v b) s).slots w = s.slots w) ∧
    (apply (.blockS v b) s).reps = s.reps ∧
    (apply (.blockS v b) s).trks = s.trks ∧
    (apply (.blockS v b) s).conns = s.conns := by
  obtain ⟨V, hV⟩ := Option.isSome_iff_exists.mp (check_live (check_named h).2).1
  exact ⟨rfl, (setBlocked_spec s v b V hV).2⟩

example : check exA (.blockS 1 false) = none ∧ blockedVar exA 1 = true ∧
    blockedVar (apply (.blockS 1 false) exA) 1 = false := by decide +kernel

/-- `unblock()` is `block(false)` -/
theorem unblock_returns_previous (s : State) (v : Nat) (h : check s (.unblockS v) = none) :
    result s (.unblockS v) = b2s (blockedVar s v) ∧
    blockedVar (apply (.unblockS v) s) v = false ∧
    repOf (apply (.unblockS v) s) v = repOf s v ∧
    (∀ w, w ≠ v → (apply (.unblockS v) s).slots w = s.slots w) ∧
    (apply (.unblockS v) s).reps = s.reps ∧
    (apply (.unblockS v) s).trks = s.trks ∧
    (apply (.unblockS v) s).conns = s.conns :=
  block_returns_previous s v false h

example : check exA (.unblockS 1) = none ∧ blockedVar exA 1 = true ∧
    blockedVar (apply (.unblockS 1) exA) 1 = false := by decide +kernel

/-- `connection::block(b)`: through a connection whose slot variable `v` is alive -/
theorem blockC_returns_previous (s : State) (c : Nat) (b : Bool) :
    (∀ v V, connTarget s c = some v → s.slots v = some V →
      result s (.blockC c b) = b2s (blockedVar s v) ∧
      blockedVar (apply (.blockC c b) s) v = b ∧
      repOf (apply (.blockC c b) s) v = repOf s v ∧
      (∀ w, w ≠ v → (apply (.blockC c b) s).slots w = s.slots w) ∧
      (apply (.blockC c b) s).reps = s.reps ∧
      (apply (.blockC c b) s).trks = s.trks ∧
      (apply (.blockC c b) s).conns = s.conns) ∧
    (connTarget s c = none → result s (.blockC c b) = "0" ∧ apply (.blockC c b) s = s) ∧
    (∀ v, connTarget s c = some v → s.slots v = none →
      result s (.blockC c b) = "0" ∧ apply (.blockC c b) s = s) := by
  unfold result apply
  refine ⟨fun v V hc hV => ?_, fun hc => ?_, fun v hc hV => ?_⟩
  · simp only [hc]
    exact ⟨trivial, (setBlocked_spec s v b V hV).2⟩
  · simp only [hc, and_self]
  · simp only [hc, blockedVar, hV, State.modSlot]
    exact ⟨rfl, trivial⟩

example : connTarget exE 1 = some 1 ∧ exE.slots 1 = some ⟨some 0, true⟩ ∧
    blockedVar (apply (.blockC 1 false) exE) 1 = false ∧
    connTarget exE 2 = none ∧ check exE (.blockC 2 true) = none := by decide +kernel

theorem unblockC_returns_previous (s : State) (c : Nat) :
    (∀ v V, connTarget s c = some v → s.slots v = some V →
      result s (.unblockC c) = b2s (blockedVar s v) ∧
      blockedVar (apply (.unblockC c) s) v = false ∧
      repOf (apply (.unblockC c) s) v = repOf s v ∧
      (∀ w, w ≠ v → (apply (.unblockC c) s).slots w = s.slots w) ∧
      (apply (.unblockC c) s).reps = s.reps ∧
      (apply (.unblockC c) s).trks = s.trks ∧
      (apply (.unblockC c) s).conns = s.conns) ∧
    (connTarget s c = none → result s (.unblockC c) = "0" ∧ apply (.unblockC c) s = s) ∧
    (∀ v, connTarget s c = some v → s.slots v = none →
      result s (.unblockC c) = "0" ∧ apply (.unblockC c) s = s) :=
  blockC_returns_previous s c false

example : connTarget exE 1 = some 1 ∧ exE.slots 1 = some ⟨some 0, true⟩ ∧
    blockedVar (apply (.unblockC 1) exE) 1 = false ∧
    connTarget exE 2 = none ∧ check exE (.unblockC 2) = none := by decide +kernel

theorem query_pure (s : State) (op : Op) (h : op.isQuery = true) : apply op s = s := by
  cases op <;> first | rfl | cases h

example : Op.isQuery (.callS 1 2) = true ∧ Op.isQuery (.blockS 1 true) = false := by decide

theorem cpS_blocked (s : State) (j i : Nat) (X : SVar) (hX : s.slots i = some X) (hji : j ≠ i)
    (_h : check s (.cpS j i) = none) :
    (apply (.cpS j i) s).slots i = some X ∧
    blockedVar (apply (.cpS j i) s) j =
      (if (repOf s i).isSome && emptyVar s i then false else X.blocked) := by
  have hij : i ≠ j := fun h => hji h.symm
  rw [apply_cpS hX, repOf_of_slot hX]
  cases hr : X.rep with
  | none => exact ⟨(if_neg hij).trans hX, blockedVar_setSlot ..⟩
  | some r =>
    simp only [Option.isSome_some, Bool.true_and]
    split
    · exact ⟨(if_neg hij).trans hX, blockedVar_setSlot ..⟩
    · rename_i he
      exact ⟨(if_neg hij).trans ((cloneRep_slots r s (NF.valid_of_nonempty hX hr he) i
        (named_of_check _h rfl).2).trans hX), blockedVar_setSlot ..⟩

example : exA.slots 1 = some ⟨some 0, true⟩ ∧ check exA (.cpS 4 1) = none ∧ emptyVar exA 1 = false ∧
    blockedVar (apply (.cpS 4 1) exA) 4 = true := by decide +kernel

-- a blocked, invalidated source: the copy is the default slot
example : exC.slots 1 = some ⟨some 0, true⟩ ∧ check exC (.cpS 4 1) = none ∧ emptyVar exC 1 = true ∧
    blockedVar (apply (.cpS 4 1) exC) 4 = false := by decide +kernel

-- a blocked, rep-less source: the flag is copied
example : exD.slots 2 = some ⟨none, true⟩ ∧ check exD (.cpS 4 2) = none ∧
    blockedVar (apply (.cpS 4 2) exD) 4 = true := by decide +kernel

theorem mvS_blocked (s : State) (j i : Nat) (X : SVar) (hX : s.slots i = some X) (hji : j ≠ i)
    (_h : check s (.mvS j i) = none) :
    (repOf s i = none →
      (apply (.mvS j i) s).slots i = some X ∧ (apply (.mvS j i) s).slots j = some ⟨none, X.blocked⟩) ∧
    (hasParent s i = true →
      (apply (.mvS j i) s).slots i = some X ∧
      blockedVar (apply (.mvS j i) s) j = (if emptyVar s i then false else X.blocked)) ∧
    (∀ r, repOf s i = some r → hasParent s i = false →
      (apply (.mvS j i) s).slots j = some ⟨some r, X.blocked⟩ ∧
      (apply (.mvS j i) s).slots i = some ⟨none, false⟩) := by
  have hij : i ≠ j := fun h => hji h.symm
  rw [apply_mvS hX, repOf_of_slot hX]
  refine ⟨fun hr => ?_, fun hp => ?_, fun r hr hp => ?_⟩
  · rw [hr]
    exact ⟨(if_neg hij).trans hX, if_pos rfl⟩
  · -- a source with a parent has a representation and is copied
    have hc := cpS_blocked s j i X hX hji _h
    rw [repOf_of_slot hX] at hc
    cases hr : X.rep with
    | none => simp [hasParent, repObj, repOf, hX, hr] at hp
    | some r => simpa only [hr, hp, if_true, Option.isSome_some, Bool.true_and] using hc
  · rw [hr]
    simp only [hp, Bool.false_eq_true, if_false]
    exact ⟨if_pos rfl, (if_neg hij).trans (if_pos rfl)⟩

example : exD.slots 2 = some ⟨none, true⟩ ∧ check exD (.mvS 4 2) = none ∧ repOf exD 2 = none ∧
    (apply (.mvS 4 2) exD).slots 4 = some ⟨none, true⟩ := by decide +kernel

-- a source with a parent is cloned
example : exA.slots 1 = some ⟨some 0, true⟩ ∧ check exA (.mvS 4 1) = none ∧ hasParent exA 1 = true ∧
    emptyVar exA 1 = false ∧ (apply (.mvS 4 1) exA).slots 1 = some ⟨some 0, true⟩ ∧
    (apply (.mvS 4 1) exA).slots 4 = some ⟨some 2, true⟩ := by decide +kernel

-- a source without parent is really moved
example : exB.slots 1 = some ⟨some 0, true⟩ ∧ check exB (.mvS 4 1) = none ∧ hasParent exB 1 = false ∧
    (apply (.mvS 4 1) exB).slots 4 = some ⟨some 0, true⟩ ∧
    (apply (.mvS 4 1) exB).slots 1 = some ⟨none, false⟩ := by decide +kernel

theorem asgS_blocked (s : State) (d x : Nat) (D X : SVar) (hD : s.slots d = some D) (hX : s.slots x = some X)
    (_h : check s (.asgS d x) = none) :
    -- (a) same representation: only the flag is copied
    (repOf s d = repOf s x →
      (apply (.asgS d x) s).slots d = some { D with blocked := X.blocked } ∧
      (∀ w, w ≠ d → (apply (.asgS d x) s).slots w = s.slots w) ∧
      (apply (.asgS d x) s).reps = s.reps ∧ (apply (.asgS d x) s).trks = s.trks ∧
      (apply (.asgS d x) s).conns = s.conns) ∧
    -- (b) the source is empty: the destination's flag is not touched
    (repOf s d ≠ repOf s x → emptyVar s x = true →
      (∀ D', (apply (.asgS d x) s).slots d = some D' →
        D'.blocked = D.blocked ∧
        (D'.rep = none ∨ (D' = D ∧ ∃ r, D.rep = some r ∧ (apply (.asgS d x) s).reps r = none))) ∧
      (∀ w W', w ≠ d → (apply (.asgS d x) s).slots w = some W' → s.slots w = some W')) ∧
    -- (c) otherwise: the flag is copied, the source is untouched
    (repOf s d ≠ repOf s x → emptyVar s x = false →
      (∀ D', (apply (.asgS d x) s).slots d = some D' → D'.blocked = X.blocked ∧ D'.rep = some s.nextRep) ∧
      (∀ w W', w ≠ d → w < anonBase → (apply (.asgS d x) s).slots w = some W' → s.slots w = some W') ∧
      (∀ X', x ≠ d → (apply (.asgS d x) s).slots x = some X' → X' = X)) := by
  refine ⟨fun hr => ?_, fun hr he => ?_, fun hr he => ?_⟩
  · rw [(apply_asg_same hX hr).1]
    exact ⟨(setBlocked_spec s d X.blocked D hD).1, (setBlocked_spec s d X.blocked D hD).2.2.2⟩
  · rw [(apply_asg_empty hX hr he).1]
    exact deleteRepWithCheck_dest hD
  · obtain ⟨r, hXr⟩ := rep_of_nonempty hX he
    rw [(apply_asg_valid hX hr he hXr).1]
    have hoth : ∀ w W', w ≠ d → w < anonBase →
        (exchangeRep d s.nextRep ((cloneRep r s).modSlot d fun D => { D with blocked := X.blocked })).slots w
          = some W' → s.slots w = some W' := by
      intro w W' hw hwn h
      have h1 := exchangeRep_other hw h
      rwa [slots_modSlot, if_neg hw,
        cloneRep_slots r s (NF.valid_of_nonempty hX hXr (by rw [he]; exact Bool.false_ne_true)) w hwn] at h1
    refine ⟨fun D' hD' => exchangeRep_dest (fun _ => blocked_of_modSlot) hD', hoth, fun X' hxd h => ?_⟩
    exact Option.some.inj ((hoth x X' hxd (named_of_check _h rfl).2 h).symm.trans hX)

example : check exD (.asgS 1 2) = none ∧ repOf exD 1 = repOf exD 2 ∧
    (apply (.asgS 1 2) exD).slots 1 = some ⟨none, true⟩ := by decide +kernel

-- (b): the destination stays blocked although the (empty) source is unblocked
example : check exB (.asgS 1 2) = none ∧ repOf exB 1 ≠ repOf exB 2 ∧ emptyVar exB 2 = true ∧
    exB.slots 2 = some ⟨none, false⟩ ∧ (apply (.asgS 1 2) exB).slots 1 = some ⟨none, true⟩ := by decide +kernel

-- (c): a valid source
example : check exF (.asgS 1 2) = none ∧ repOf exF 1 ≠ repOf exF 2 ∧ emptyVar exF 2 = false ∧
    exF.slots 1 = some ⟨some 0, false⟩ ∧ (apply (.asgS 1 2) exF).slots 1 = some ⟨some 2, true⟩ ∧
    (apply (.asgS 1 2) exF).slots 2 = some ⟨some 1, true⟩ := by decide +kernel

theorem masgS_blocked (s : State) (d x : Nat) (D X : SVar) (hD : s.slots d = some D) (hX : s.slots x = some X)
    (_h : check s (.masgS d x) = none) :
    -- (a) same representation: only the flag is copied
    (repOf s d = repOf s x →
      (apply (.masgS d x) s).slots d = some { D with blocked := X.blocked } ∧
      (∀ w, w ≠ d → (apply (.masgS d x) s).slots w = s.slots w) ∧
      (apply (.masgS d x) s).reps = s.reps ∧ (apply (.masgS d x) s).trks = s.trks ∧
      (apply (.masgS d x) s).conns = s.conns) ∧
    -- (b) the source is empty: the destination's flag is not touched
    (repOf s d ≠ repOf s x → emptyVar s x = true →
      (∀ D', (apply (.masgS d x) s).slots d = some D' →
        D'.blocked = D.blocked ∧
        (D'.rep = none ∨ (D' = D ∧ ∃ r, D.rep = some r ∧ (apply (.masgS d x) s).reps r = none))) ∧
      (∀ w W', w ≠ d → (apply (.masgS d x) s).slots w = some W' → s.slots w = some W')) ∧
    -- (c1) clone branch: the flag is copied, the source keeps representation and flag
    (repOf s d ≠ repOf s x → emptyVar s x = false → hasParent s x = true →
      (∀ D', (apply (.masgS d x) s).slots d = some D' → D'.blocked = X.blocked ∧ D'.rep = some s.nextRep) ∧
      (∀ w W', w ≠ d → w < anonBase → (apply (.masgS d x) s).slots w = some W' → s.slots w = some W') ∧
      (∀ X', x ≠ d → (apply (.masgS d x) s).slots x = some X' → X' = X)) ∧
    -- (c2) really-move branch: flag and representation move, the source becomes the default slot
    (repOf s d ≠ repOf s x → emptyVar s x = false → hasParent s x = false →
      x ≠ d ∧
      (∀ D', (apply (.masgS d x) s).slots d = some D' → D'.blocked = X.blocked ∧ D'.rep = repOf s x) ∧
      (∀ X', (apply (.masgS d x) s).slots x = some X' → X' = ⟨none, false⟩) ∧
      (∀ w W', w ≠ d → w ≠ x → (apply (.masgS d x) s).slots w = some W' → s.slots w = some W')) := by
  have hnm := named_of_check _h rfl
  refine ⟨fun hr => ?_, fun hr he => ?_, fun hr he hp => ?_, fun hr he hp => ?_⟩
  · rw [(apply_asg_same hX hr).2]
    exact ⟨(setBlocked_spec s d X.blocked D hD).1, (setBlocked_spec s d X.blocked D hD).2.2.2⟩
  · rw [(apply_asg_empty hX hr he).2]
    exact deleteRepWithCheck_dest hD
  · obtain ⟨r, hXr⟩ := rep_of_nonempty hX he
    rw [(apply_asg_valid hX hr he hXr).2, if_pos hp]
    have hval : ∀ R, (s.modSlot d fun D => { D with blocked := X.blocked }).reps r = some R → R.call = true :=
      fun R hR => NF.valid_of_nonempty hX hXr (by rw [he]; exact Bool.false_ne_true) R (by rwa [reps_modSlot] at hR)
    have hoth : ∀ w W', w ≠ d → w < anonBase →
        (exchangeRep d s.nextRep
          (cloneRep r (s.modSlot d fun D => { D with blocked := X.blocked }))).slots w = some W' →
        s.slots w = some W' := by
      intro w W' hw hwn h
      have h1 := exchangeRep_other hw h
      rwa [cloneRep_slots _ _ hval w hwn, slots_modSlot, if_neg hw] at h1
    refine ⟨fun D' hD' => exchangeRep_dest (fun D0 h0 => ?_) hD', hoth, fun X' hxd h => ?_⟩
    · rw [cloneRep_slots _ _ hval d hnm.1] at h0
      exact blocked_of_modSlot h0
    · exact Option.some.inj ((hoth x X' hxd hnm.2 h).symm.trans hX)
  · obtain ⟨r, hXr⟩ := rep_of_nonempty hX he
    have hxd : x ≠ d := fun h => hr (by rw [h])
    have hdx : d ≠ x := fun h => hxd h.symm
    rw [(apply_asg_valid hX hr he hXr).2, if_neg (by rw [hp]; exact Bool.false_ne_true), repOf_of_slot hX, hXr]
    refine ⟨hxd, fun D' hD' => exchangeRep_dest (fun D0 h0 => ?_) hD', fun X' h => ?_, fun w W' hwd hwx h => ?_⟩
    · rw [slots_setSlot, if_neg hdx, slots_weakNotify] at h0
      exact blocked_of_modSlot h0
    · have h1 := exchangeRep_other hxd h
      rw [slots_setSlot, if_pos rfl] at h1
      exact (Option.some.inj h1).symm
    · have h1 := exchangeRep_other hwd h
      rwa [slots_setSlot, if_neg hwx, slots_weakNotify, slots_modSlot, if_neg hwd] at h1

example : check exD (.masgS 1 2) = none ∧ repOf exD 1 = repOf exD 2 ∧
    (apply (.masgS 1 2) exD).slots 1 = some ⟨none, true⟩ := by decide +kernel

-- (b): an empty source
example : check exB (.masgS 1 2) = none ∧ repOf exB 1 ≠ repOf exB 2 ∧ emptyVar exB 2 = true ∧
    (apply (.masgS 1 2) exB).slots 1 = some ⟨none, true⟩ := by decide +kernel

-- (c1): a source with a parent
example : check exA (.masgS 3 1) = none ∧ repOf exA 3 ≠ repOf exA 1 ∧ emptyVar exA 1 = false ∧
    hasParent exA 1 = true ∧ (apply (.masgS 3 1) exA).slots 3 = some ⟨some 2, true⟩ ∧
    (apply (.masgS 3 1) exA).slots 1 = some ⟨some 0, true⟩ := by decide +kernel

-- (c2): a source without parent
example : check exB (.masgS 2 1) = none ∧ repOf exB 2 ≠ repOf exB 1 ∧ emptyVar exB 1 = false ∧
    hasParent exB 1 = false ∧ (apply (.masgS 2 1) exB).slots 2 = some ⟨some 0, true⟩ ∧
    (apply (.masgS 2 1) exB).slots 1 = some ⟨none, false⟩ := by decide +kernel

theorem setS_unblocks (s : State) (d : Nat) (f : Fun) (_h : check s (.setS d f) = none) :
    ∀ D', (apply (.setS d f) s).slots d = some D' → D'.blocked = false ∧ D'.rep = some s.nextRep :=
  fun _ hD' => exchangeRep_dest (fun _ => blocked_of_modSlot) hD'

example : check exB (.setS 1 (.fn 5)) = none ∧ blockedVar exB 1 = true ∧
    (apply (.setS 1 (.fn 5)) exB).slots 1 = some ⟨some 1, false⟩ := by decide +kernel

theorem clrS_blocked (s : State) (d : Nat) (D : SVar) (hD : s.slots d = some D) :
    (repOf s d = none → (apply (.clrS d) s).slots d = some { D with blocked := false }) ∧
    (repOf s d ≠ none → ∀ D', (apply (.clrS d) s).slots d = some D' → D'.blocked = D.blocked) := by
  unfold apply
  refine ⟨fun hr => ?_, fun hr D' hD' => ?_⟩
  · simp only [hr]
    exact (setBlocked_spec s d false D hD).1
  · cases hq : repOf s d with
    | none => exact absurd hq hr
    | some q =>
      simp only [hq] at hD'
      exact ((deleteRepWithCheck_dest hD).1 D' hD').1

example : exD.slots 2 = some ⟨none, true⟩ ∧ repOf exD 2 = none ∧ check exD (.clrS 2) = none ∧
    (apply (.clrS 2) exD).slots 2 = some ⟨none, false⟩ := by decide +kernel

-- with a representation and blocked: stays blocked
example : exB.slots 1 = some ⟨some 0, true⟩ ∧ repOf exB 1 ≠ none ∧ check exB (.clrS 1) = none ∧
    (apply (.clrS 1) exB).slots 1 = some ⟨none, true⟩ := by decide +kernel

theorem blocked_or_empty_call (s : State) (n v a : Nat)
    (h : blockedVar s v = true ∨ emptyVar s v = true) : callVar s n v a = ([], 0) := by
  unfold callVar
  cases hV : s.slots v with
  | none => rfl
  | some V =>
    simp only []
    split
    · rfl
    · rename_i hb
      have he : emptyVar s v = true := h.resolve_left (by simpa only [blockedVar, hV] using hb)
      cases hr : V.rep with
      | none => rfl
      | some r =>
        simp only []
        cases hR : s.reps r with
        | none => rfl
        | some R =>
          have : (!R.call) = true := by simpa only [emptyVar, repObj, repOf, hV, hr, hR] using he
          simp only [this, if_true]

theorem blocked_or_empty_callS (s : State) (v a : Nat)
    (h : blockedVar s v = true ∨ emptyVar s v = true) :
    callLines s (.callS v a) = [] ∧ result s (.callS v a) = "0" := by
  unfold callLines result
  simp only [blocked_or_empty_call s maxDepth v a h]
  exact ⟨trivial, by decide⟩

example : blockedVar exA 1 = true ∧ emptyVar exA 1 = false ∧ (callVar exA maxDepth 1 7).2 = 0 ∧
    (callVar (apply (.unblockS 1) exA) maxDepth 1 7).2 = 17 := by decide +kernel

-- empty but not blocked
example : blockedVar exA 3 = false ∧ emptyVar exA 3 = true ∧ (callVar exA maxDepth 3 7).2 = 0 := by decide +kernel

theorem foreign_block_untouched (s : State) (op : Op) (v w : Nat) (b : Bool)
    (hop : op = .blockS v b ∨ op = .unblockS v) (hw : w ≠ v) :
    blockedVar (apply op s) w = blockedVar s w := by
  have key : ∀ b, blockedVar (s.modSlot v fun V => { V with blocked := b }) w = blockedVar s w := fun b => by
    simp only [blockedVar, slots_modSlot, if_neg hw]
  rcases hop with rfl | rfl
  · exact key b
  · exact key false

example : blockedVar exA 1 = true ∧ blockedVar (apply (.blockS 2 true) exA) 1 = true ∧
    blockedVar (apply (.blockS 2 true) exA) 2 = true := by decide +kernel

/-! ## (c) connections made from slot variables (C04 flavour) -/

theorem connected_true_iff (s : State) (c : Nat) :
    connected s c = true ↔ ∃ v, s.conns c = some (some v) ∧ emptyVar s v = false := by
  unfold connected
  cases hc : connTarget s c with
  | none =>
    simp only [Bool.false_eq_true, false_iff]
    rintro ⟨v, hv, -⟩
    rw [connTarget_eq.mpr hv] at hc; cases hc
  | some v =>
    have := connTarget_eq.mp hc
    simp only [Bool.not_eq_true', this, Option.some.injEq]
    constructor
    · intro h; exact ⟨v, rfl, h⟩
    · rintro ⟨w, hw, h⟩; subst hw; exact h

/-- **`connected()` tells the truth**: in a well-formed state it is true exactly when the connection points to a
    variable that holds a valid representation — and then it is registered on exactly that representation -/
theorem connected_iff {s : State} (hw : WF s) (c : Nat) :
    connected s c = true ↔
      ∃ v r R, s.conns c = some (some v) ∧ repOf s v = some r ∧ s.reps r = some R ∧ R.call = true ∧
        c ∈ R.cbs := by
  rw [connected_true_iff]
  constructor
  · rintro ⟨v, hv, he⟩
    obtain ⟨r, R, hr, hR, hcall⟩ := (emptyVar_false_iff s v).mp he
    obtain ⟨r', R', hr', hR', hm⟩ := hw.inv.regOk.fwd hv
    rw [hr] at hr'; cases hr'
    rw [hR] at hR'; cases hR'
    exact ⟨v, r, R, hv, hr, hR, hcall, hm⟩
  · rintro ⟨v, r, R, hv, hr, hR, hcall, -⟩
    exact ⟨v, hv, (emptyVar_false_iff s v).mpr ⟨r, R, hr, hR, hcall⟩⟩

/-- **a connection that is connected after an operation was connected before — to the same variable holding the
    same representation** (unless the operation is the one that binds this connection).  Contrapositive: once the
    variable has been destroyed, moved from, reassigned, or its representation invalidated, the connection reports
    `false`. -/
theorem connected_stays {s : State} (hw : WF s) (op : Op) (c : Nat) (hb : boundConn op ≠ some c)
    (hc : connected (stepState op s) c = true) :
    connected s c = true ∧
      ∃ v r, s.conns c = some (some v) ∧ (stepState op s).conns c = some (some v) ∧
        repOf s v = some r ∧ repOf (stepState op s) v = some r := by
  have hw' : WF (stepState op s) := step_wf hw op
  rcases stepState_cases op s with hs | ⟨-, hck, hs⟩
  · rw [hs] at hc ⊢
    refine ⟨hc, ?_⟩
    obtain ⟨v, r, R, hv, hr, -⟩ := (connected_iff hw c).mp hc
    exact ⟨v, r, hv, hv, hr, hr⟩
  · rw [hs] at hc hw' ⊢
    have hF := frame_apply op s
    obtain ⟨v, r, R', hv', hr', hR', hcall', hm'⟩ := (connected_iff hw' c).mp hc
    obtain ⟨X, hX, hmX, hcallX⟩ := hF.regs r R' c hR' hm' (fun h => hb h.symm) hcall'
    obtain ⟨v0, hv0, hr0⟩ := hw.inv.regOk.bwd hX hmX
    have hvv : v0 = v := by
      rcases hF.conns c (fun h => hb h.symm) with h | h | h
      · rw [hv', hv0] at h; cases h; rfl
      · rw [hv'] at h; cases h
      · rw [hv'] at h; cases h
    subst hvv
    exact ⟨(connected_iff hw c).mpr ⟨v0, r, X, hv0, hr0, hX, hcallX, hmX⟩, v0, r, hv0, hv', hr0, hr'⟩

/-- **once false, false forever**: whatever operations follow — as long as none of them re-binds the connection -/
theorem connected_false_forever (ops1 ops2 : List Op) (c : Nat)
    (hb : ∀ op ∈ ops2, boundConn op ≠ some c) (hc : connected (run ops1) c = false) :
    connected (run (ops1 ++ ops2)) c = false := by
  induction ops2 generalizing ops1 with
  | nil => simpa using hc
  | cons op ops2 ih =>
    have hrun : run (ops1 ++ [op]) = stepState op (run ops1) := by
      unfold run; rw [List.foldl_append]; rfl
    have h1 : connected (run (ops1 ++ [op])) c = false := by
      cases hx : connected (run (ops1 ++ [op])) c with
      | false => rfl
      | true =>
        have := (connected_stays (wf_reachable ops1) op c (hb op (List.mem_cons_self ..))
          (by rw [← hrun]; exact hx)).1
        rw [hc] at this; exact absurd this (by simp)
    have := ih (ops1 ++ [op]) (fun o ho => hb o (List.mem_cons_of_mem _ ho)) h1
    rw [List.append_assoc] at this
    exact this

example : connected (run [.mkS 1 (.fn 1), .connS 1 1]) 1 = true ∧
    connected (run ([.mkS 1 (.fn 1), .connS 1 1] ++ [.mkS0 2, .masgS 2 1])) 1 = false ∧
    connected (run ([.mkS 1 (.fn 1), .connS 1 1] ++ [.mkS0 2, .masgS 2 1] ++ [.setS 1 (.fn 2), .delS 1])) 1 = false := by
  decide +kernel

theorem stepState_eq_apply {s : State} {op : Op} (hse : s.err = false) (hck : check s op = none) :
    stepState op s = apply op s := by
  unfold stepState step
  simp only [hse, Bool.false_eq_true, if_false, hck]
  split <;> rfl

/-- the common part of `conn_false_after_delS`, `_move`, `_setS`: if the connection is still connected after the
    operation, the variable it pointed to still holds the representation it held before -/
theorem still_connected {s : State} (hw : WF s) (hse : s.err = false) (op : Op) (c v : Nat)
    (hck : check s op = none) (hb : boundConn op ≠ some c)
    (hc : s.conns c = some (some v)) (hx : connected (apply op s) c = true) :
    ∃ r, repOf s v = some r ∧ repOf (apply op s) v = some r := by
  have hst := stepState_eq_apply hse hck
  obtain ⟨-, w, r, hw1, -, hr1, hr2⟩ := connected_stays hw op c hb (by rw [hst]; exact hx)
  rw [hst] at hr2
  rw [hc] at hw1; cases hw1
  exact ⟨r, hr1, hr2⟩

/-- after `delete S` every connection that pointed to `S` reports false -/
theorem conn_false_after_delS {s : State} (hw : WF s) (hse : s.err = false) (v c : Nat)
    (hck : check s (.delS v) = none) (he : (apply (.delS v) s).err = false)
    (hc : s.conns c = some (some v)) : connected (apply (.delS v) s) c = false := by
  cases hx : connected (apply (.delS v) s) c with
  | false => rfl
  | true =>
    obtain ⟨r, -, hr2⟩ := still_connected hw hse (.delS v) c v hck (by simp [boundConn]) hc hx
    rw [apply_delS] at hr2
    cases hv : repOf s v with
    | none => simp [hv, repOf_setSlot] at hr2
    | some q => simp [hv, repOf_setSlot] at hr2

/-- after the variable was really moved from (`mvS`/`masgS`, source without parent) the connection reports false -/
theorem conn_false_after_move {s : State} (hw : WF s) (hse : s.err = false) (j i c : Nat) (X : SVar) (r : Nat)
    (hX : s.slots i = some X) (hji : j ≠ i) (hck : check s (.mvS j i) = none)
    (hr : repOf s i = some r) (hnp : hasParent s i = false)
    (he : (apply (.mvS j i) s).err = false) (hc : s.conns c = some (some i)) :
    connected (apply (.mvS j i) s) c = false := by
  cases hx : connected (apply (.mvS j i) s) c with
  | false => rfl
  | true =>
    obtain ⟨r', -, hr2⟩ := still_connected hw hse (.mvS j i) c i hck (by simp [boundConn]) hc hx
    have := ((mvS_blocked s j i X hX hji hck).2.2 r hr hnp).2
    simp [repOf, this] at hr2

/-- after `setS` (a new functor is assigned) the connection reports false -/
theorem conn_false_after_setS {s : State} (hw : WF s) (hse : s.err = false) (d c : Nat) (f : Fun)
    (hck : check s (.setS d f) = none) (he : (apply (.setS d f) s).err = false)
    (hc : s.conns c = some (some d)) : connected (apply (.setS d f) s) c = false := by
  cases hx : connected (apply (.setS d f) s) c with
  | false => rfl
  | true =>
    obtain ⟨r, hr1, hr2⟩ := still_connected hw hse (.setS d f) c d hck (by simp [boundConn]) hc hx
    obtain ⟨D', hD', hDr⟩ := repOf_eq.mp hr2
    have := (setS_unblocks s d f hck D' hD').2
    rw [hDr] at this; cases this
    obtain ⟨R, hR⟩ := hw.inv.repAlive d _ hr1
    exact absurd (hw.inv.repBound _ R hR) (Nat.lt_irrefl _)

/-- after `disconnect()` of the variable the connection reports false -/
theorem conn_false_after_discS {s : State} (hw : WF s) (hse : s.err = false) (v c : Nat)
    (hck : check s (.discS v) = none) (he : (apply (.discS v) s).err = false)
    (hc : s.conns c = some (some v)) : connected (apply (.discS v) s) c = false := by
  cases hx : connected (apply (.discS v) s) c with
  | false => rfl
  | true =>
    -- still registered on a valid representation: it was so before, on the representation of `v`
    obtain ⟨v', r, R', -, -, hR', hcall, hm⟩ := (connected_iff (apply_wf hw _ hck) c).mp hx
    obtain ⟨X, hX, hmX, -⟩ := (frame_apply (.discS v) s).regs r R' c hR' hm nofun hcall
    obtain ⟨v0, hv0, hr0⟩ := hw.inv.regOk.bwd hX hmX
    rw [hc] at hv0; cases hv0
    -- `disconnect()` invalidates it first, and no teardown switches `call_` on again
    simp only [apply, hr0] at hR'
    obtain ⟨X2, hX2, -, hc2⟩ := (repDisconnect_tail (ex := NF.noEx) (wr := NF.noEx) (fl := True) (c0 := none) hX
      (.inl trivial)).frame.regs r R' c hR' hm nofun hcall
    rw [clrParF, reps_setRep, if_pos rfl] at hX2
    cases hX2; cases hc2

example : connected (run [.mkS 1 (.fn 1), .connS 1 1]) 1 = true ∧
    connected (apply (.delS 1) (run [.mkS 1 (.fn 1), .connS 1 1])) 1 = false ∧
    connected (apply (.mvS 2 1) (run [.mkS 1 (.fn 1), .connS 1 1])) 1 = false ∧
    connected (apply (.setS 1 (.fn 2)) (run [.mkS 1 (.fn 1), .connS 1 1])) 1 = false ∧
    connected (apply (.discS 1) (run [.mkS 1 (.fn 1), .connS 1 1])) 1 = false := by decide +kernel

/-! ## (d) functor accounting -/

/-- every representation (hence every functor copy the library holds) is stored in exactly one live slot
    variable: nothing exists outside the slot variables -/
theorem rep_held_unique (ops : List Op) (r : Nat) (R : Rep) (hR : (run ops).reps r = some R) :
    ∃ v, repOf (run ops) v = some r ∧ ∀ w, repOf (run ops) w = some r → w = v := by
  have hw := wf_reachable ops
  obtain ⟨v, hv⟩ := hw.held r R hR
  exact ⟨v, hv, fun w hw' => hw.inv.repUniq w v r hw' hv⟩

/-- `live?`, the definition of `liveCount` spelled out: the representations whose functor has the id.  The examples
    below show that this includes the clones inside `nest` functors. -/
theorem live_count_spec (s : State) (fid : Nat) :
    liveCount s (some fid) =
      ((List.range s.nextRep).filter fun r =>
        match s.reps r with
        | some R => (match R.fn with | some f => f.fid == fid | none => false)
        | none => false).length := rfl

/-- a slot variable that has a holder is kept alive by a functor copy stored in a **live** slot variable: an
    ownership cycle keeps itself alive (the real library does not free it either — a `shared_ptr` cycle through
    `slot_rep::functor_`) until some slot of the cycle is emptied or a trackable its functor refers to dies; since
    the fix of F12 emptying (`clrS`) is always possible, which is what the teardown does -/
theorem owned_has_owner (ops : List Op) (v : Nat) (ho : ownedBy (run ops) v = true) :
    ∃ w r R f, repOf (run ops) w = some r ∧ (run ops).reps r = some R ∧ R.fn = some f ∧ f.owns = some v ∧
      ∃ V, (run ops).slots v = some V := by
  have hw := wf_reachable ops
  obtain ⟨r, R, f, hR, hf, hfo⟩ := (ownedBy_iff hw.inv.repBound v).mp ho
  obtain ⟨w, hw'⟩ := hw.held r R hR
  refine ⟨w, r, R, f, hw', hR, hf, hfo, ?_⟩
  cases f with
  | own fid v' t =>
    simp only [Fun.owns, Option.some.injEq] at hfo; subst hfo
    exact (hw.inv.ownOk r R fid _ t hR hf).2
  | nest fid v' d =>
    simp only [Fun.owns, Option.some.injEq] at hfo; subst hfo
    exact (hw.inv.nestOk r R fid _ d hR hf).2
  | _ => simp [Fun.owns] at hfo

-- functors that bind a slot by value: every copy of the outer slot clones the inner one
example : liveCount (run [.mkS 1 (.fn 1), .mkS 2 (.nest 2 1 0), .cpS 3 2]) (some 1) = 3 ∧
    liveCount (run [.mkS 1 (.fn 1), .mkS 2 (.nest 2 1 0), .cpS 3 2]) (some 2) = 2 ∧
    liveCount (run [.mkS 1 (.fn 1), .mkS 2 (.nest 2 1 0), .cpS 3 2, .delS 2]) (some 1) = 2 ∧
    ownedBy (run [.mkS 1 (.fn 1), .mkS 2 (.nest 2 1 0)]) (anonBase + 1) = true := by decide +kernel

example : ownedBy (run [.mkS0 1, .setS 1 (.own 1 1 none)]) 1 = true ∧
    liveCount (run [.mkS0 1, .setS 1 (.own 1 1 none)]) (some 1) = 1 ∧
    -- destroying another variable does not free the cycle …
    liveCount (run [.mkS0 1, .setS 1 (.own 1 1 none), .mkS0 2, .delS 2]) none = 1 ∧
    -- … the teardown (which empties every variable) does …
    liveCount ((teardownOps [.mkS0 1, .setS 1 (.own 1 1 none)]).foldl (fun s op => stepState op s)
      (run [.mkS0 1, .setS 1 (.own 1 1 none)])) none = 0 ∧
    -- … and so does a trackable the functor refers to
    liveCount (run [.mkS0 1, .newT 1, .setS 1 (.own 1 1 (some 1)), .delT 1]) none = 0 := by decide +kernel

end Sigc.SlotG
