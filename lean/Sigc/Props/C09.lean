import Sigc.VisitLemmas
/-!
  C09 — auto-disconnection reaches through every adaptor and nesting.

  All statements quantify over *every* functor expression `e : FExpr` (any nesting depth, any number of
  bound values at any position — plain values, `std::ref`/`std::cref`, by-value objects, objects bound with
  an explicitly spelled reference type (`bind_return<X&>(f, x)`, `bind<I, F, X&>(f, x)`) and *functor
  expressions bound by value* (`bind(&run_then, continuation_slot)`, `bind(&apply, mem_fun(obj, …))`,
  `bind_return(f, some_slot)`), any assignment of trackables to leaves, slots stored inside the
  expression) and are proved by structural induction (mutual: expression ↔ bound argument ↔ bound tuple)
  about the visitor table `codeTable` exactly as it is written in `Sigc/Visit.lean` (one row per
  `sigc::visitor<>` specialisation).  Three tables one row away from it (`unrepairedTable`, `boundLeafTable`,
  `byTypeDroppedTable`) fail the statement; the last two agree with `codeTable` on the expressions said at the end.
-/
namespace Sigc.C09
open Sigc.Visit

mutual
/-- the rep tree of a slot made from `e` registers itself (own rep + the inner reps it owns) in exactly
    the trackables `e` refers to by reference, with multiplicity -/
theorem scan_perm_referenced (e : FExpr) : (E (scan codeTable e)).Perm (referenced e) := by
  match e with
  | .leaf => exact .refl _
  | .memFun o | .makeSlot o | .signalConnect o =>
    simp [scan, E_row, codeTable, referenced, E_visitLimRef]
  | .bind pos f bs =>
    cases pos <;>
    · simp only [scan, E_row, codeTable, List.flatMap_cons, List.flatMap_nil, List.append_nil, E_stored,
        referenced]
      exact (scan_perm_referenced f).append (tuple_perm_refs bs)
  | .bindReturn f b =>
    simp only [scan, E_row, codeTable, List.flatMap_cons, List.flatMap_nil, List.append_nil, E_stored,
      referenced]
    exact List.perm_append_comm.trans ((scan_perm_referenced f).append (bound_perm_refs b))
  | .hide _ f | .hideReturn f | .retype f | .retypeReturn f | .slot f =>
    simp only [scan, E_row, codeTable, List.flatMap_cons, List.flatMap_nil, List.append_nil, E_stored,
      referenced, E_kid]
    exact scan_perm_referenced f
  | .compose1 s g | .exceptionCatch s g =>
    simp only [scan, E_row, codeTable, List.flatMap_cons, List.flatMap_nil, List.append_nil, E_stored,
      referenced]
    exact (scan_perm_referenced s).append (scan_perm_referenced g)
  | .compose2 s g1 g2 =>
    simp only [scan, E_row, codeTable, List.flatMap_cons, List.flatMap_nil, List.append_nil, E_stored,
      referenced, List.append_assoc]
    exact (scan_perm_referenced s).append ((scan_perm_referenced g1).append (scan_perm_referenced g2))
  | .trackObj f ts =>
    simp only [scan, E_row, codeTable, List.flatMap_cons, List.flatMap_nil, List.append_nil, E_stored,
      referenced, E_visitObjs]
    exact (scan_perm_referenced f).append (.refl _)

/-- `visitor<bound_argument<T>>` reaches exactly what the bound argument refers to — for a functor bound by
    value: what that functor expression refers to (recursion into the bound value) -/
theorem bound_perm_refs (b : BArg) : (E (visitBound codeTable b)).Perm b.refs := by
  match b with
  | .val | .copy o => simp [visitBound, E_row, codeTable, E_visitPrimary_own, BArg.refs]
  | .ref o | .cref o => simp [visitBound, E_row, codeTable, E_visitLimRef, BArg.refs]
  | .xref o | .xcref o => simp [visitBound, E_row, codeTable, E_visitPrimary_ext, BArg.refs]
  | .fn e => simpa [visitBound, E_row, codeTable, BArg.refs] using scan_perm_referenced e

/-- `tuple_for_each<TupleVisitorVisitEach>` over all bound arguments -/
theorem tuple_perm_refs (bs : List BArg) : (E (visitTuple codeTable bs)).Perm (refsOf bs) := by
  match bs with
  | [] => exact .refl _
  | b :: bs =>
    simp only [visitTuple, refsOf, E_append]
    exact (bound_perm_refs b).append (tuple_perm_refs bs)
end

/-- **C09**, general form (slots stored inside the expression included): the
    registrations made by the slot's rep together with those of the inner reps it owns are, as a
    multiset, the trackables the expression refers to by reference. -/
theorem visitedAll_eq_referenced (e : FExpr) : (visitedAll e).Perm (referenced e) :=
  (show visitedAll e = E (scan codeTable e) from E_stored ..) ▸ scan_perm_referenced e

/-- **C09**: for an expression without an inner slot, the callbacks the slot's own
    rep registers (`visit_each_trackable(slot_do_bind(rep), functor)`) are, as a multiset, exactly the
    trackables referred to by reference — any depth, any number of bound values at any position. -/
theorem visited_eq_referenced (e : FExpr) (h : slotFree e = true) :
    (visited e).Perm (referenced e) := by
  have hk : (repOf codeTable e).noKids = true := (noKids_stored _ _).trans (noKids_scan e h)
  have : visited e = visitedAll e := by
    simp [visited, visitedWith, visitedAll, visitedAllWith, Rep.regs_eq_allRegs_of_noKids _ hk]
  rw [this]; exact visitedAll_eq_referenced e

example : slotFree (.compose2 .leaf (.bind (some 1) (.memFun ⟨1, .vbase⟩) [.val, .ref ⟨2, .direct⟩, .cref ⟨1, .vbase⟩])
    (.bindReturn (.trackObj .leaf [⟨3, .direct⟩, ⟨3, .direct⟩]) (.copy ⟨2, .direct⟩))) = true
    ∧ visited (.compose2 .leaf (.bind (some 1) (.memFun ⟨1, .vbase⟩) [.val, .ref ⟨2, .direct⟩, .cref ⟨1, .vbase⟩])
    (.bindReturn (.trackObj .leaf [⟨3, .direct⟩, ⟨3, .direct⟩]) (.copy ⟨2, .direct⟩))) = [1, 2, 1, 3, 3] := by
  decide

/-- bound types spelled as explicit references: `bind_return<X&>(f, t1)`, `bind<0, F, int, X&, const Y&>(f, 5, t2, t1)`
    (first / middle / last of the tuple), through a virtual base, next to `std::ref` and by-value copies of the
    same objects; an untracked object bound as `U&` is not registered -/
example : slotFree (.bindReturn (.bind (some 0) (.memFun ⟨3, .direct⟩) [.val, .xref ⟨2, .vbase⟩, .xcref ⟨1, .direct⟩])
      (.xref ⟨1, .direct⟩)) = true
    ∧ visited (.bindReturn (.bind (some 0) (.memFun ⟨3, .direct⟩) [.val, .xref ⟨2, .vbase⟩, .xcref ⟨1, .direct⟩])
      (.xref ⟨1, .direct⟩)) = [1, 3, 2, 1]
    ∧ visited (.bind none .leaf [.xref ⟨1, .vbase⟩, .copy ⟨1, .vbase⟩, .ref ⟨1, .vbase⟩, .xcref ⟨4, .untracked⟩]) = [1, 1]
    ∧ (repOf codeTable (.bind none .leaf [.xref ⟨1, .vbase⟩, .copy ⟨1, .vbase⟩, .ref ⟨1, .vbase⟩])).regs
        = [.ext 1, .own 1, .ext 1]
    ∧ ties (.hide none (.hideReturn (.bindReturn .leaf (.xref ⟨1, .direct⟩)))) 1 = true
    ∧ visitedAll (.bind none .leaf [.fn (.slot (.bindReturn .leaf (.xcref ⟨2, .vbase⟩)))]) = [2] := by
  decide

/-- functors bound by value: `bind<0>(f, 5, mem_fun(t1), hide(mem_fun(t2)))`, `bind_return(f, mem_fun(t3))` —
    the outer rep registers itself in the objects of the bound functors -/
example : slotFree (.bind (some 0) .leaf [.val, .fn (.memFun ⟨1, .direct⟩), .fn (.hide none (.memFun ⟨2, .vbase⟩))]) = true
    ∧ visited (.bind (some 0) .leaf [.val, .fn (.memFun ⟨1, .direct⟩), .fn (.hide none (.memFun ⟨2, .vbase⟩))]) = [1, 2]
    ∧ visited (.bindReturn (.memFun ⟨1, .direct⟩) (.fn (.memFun ⟨3, .direct⟩))) = [3, 1]
    ∧ visited (.bind none .leaf [.fn (.bind none .leaf [.fn (.memFun ⟨4, .vbase⟩), .ref ⟨5, .direct⟩])]) = [4, 5] := by
  decide

/-- a slot bound by value (`bind(&run_then, continuation_slot)`): the outer rep registers nothing, it becomes the
    parent of the bound slot's rep, which holds the registration -/
example : visited (.bind none .leaf [.fn (.slot (.memFun ⟨1, .direct⟩))]) = []
    ∧ visitedAll (.bind none .leaf [.fn (.slot (.memFun ⟨1, .direct⟩))]) = [1]
    ∧ (repOf codeTable (.bind none .leaf [.fn (.slot (.memFun ⟨1, .direct⟩))])).innerCount = 1
    ∧ ties (.bind none .leaf [.fn (.slot (.memFun ⟨1, .direct⟩))]) 1 = true
    ∧ visitedAll (.bindReturn .leaf (.fn (.slot (.bind none .leaf [.ref ⟨2, .vbase⟩])))) = [2] := by decide

/-- for an inner slot the outer rep registers nothing; the inner rep does, and its parent is the outer -/
example : visited (.hide none (.slot (.memFun ⟨1, .direct⟩))) = []
    ∧ visitedAll (.hide none (.slot (.memFun ⟨1, .direct⟩))) = [1]
    ∧ (repOf codeTable (.hide none (.slot (.memFun ⟨1, .direct⟩)))).innerCount = 1 := by decide

/-- **C09.ties_all**: destroying any trackable the expression refers to invalidates a slot made from it
    (directly, or through the parent chain of an inner slot). -/
theorem ties_all (e : FExpr) (t : Nat) (h : t ∈ referenced e) : ties e t = true :=
  (Rep.invalidatedBy_iff t _).2 ((mem_extIds t _).1 ((visitedAll_eq_referenced e).mem_iff.2 h))

/-- converse: nothing else invalidates it (no spurious disconnection) -/
theorem ties_only (e : FExpr) (t : Nat) (h : ties e t = true) : t ∈ referenced e :=
  (visitedAll_eq_referenced e).mem_iff.1 ((mem_extIds t _).2 ((Rep.invalidatedBy_iff t _).1 h))

example : 2 ∈ referenced (.bind (some 0) (.slot (.bindReturn .leaf (.ref ⟨2, .vbase⟩))) [.ref ⟨1, .direct⟩, .val])
    ∧ ties (.bind (some 0) (.slot (.bindReturn .leaf (.ref ⟨2, .vbase⟩))) [.ref ⟨1, .direct⟩, .val]) 2 = true
    ∧ ties (.bind none .leaf [.copy ⟨1, .direct⟩]) 1 = false
    ∧ 3 ∈ referenced (.hideReturn (.bindReturn .leaf (.fn (.compose1 .leaf (.memFun ⟨3, .vbase⟩)))))
    ∧ ties (.hideReturn (.bindReturn .leaf (.fn (.compose1 .leaf (.memFun ⟨3, .vbase⟩))))) 3 = true := by decide

/-- `no_trace` (next) for any list of targets: the argument uses nothing of where the list came from -/
theorem no_trace_list (ts : List Tgt) (r : Nat) (oth s : List Op) (w : World)
    (hoth : ∀ x ∈ oth, x.data ≠ r) (hfresh : ∀ u, liveCount r (w u) = 0)
    (hi : Interleave (bindOps r ts ++ unbindOps r ts) oth s) :
    (∀ u, liveCount r (run w s u) = 0) ∧ (∀ u, others r (run w s u) = others r (run w oth u)) := by
  have ha : ∀ x ∈ bindOps r ts ++ unbindOps r ts, x.data = r := by
    intro x hx
    simp only [bindOps, unbindOps, List.mem_append, List.mem_map] at hx
    obtain ⟨t, _, rfl⟩ | ⟨t, _, rfl⟩ := hx <;> rfl
  constructor
  · intro u
    rw [liveCount_interleave r hi ha hoth w u, run_append, liveCount_run_unbindOps, liveCount_run_bindOps,
      hfresh u]
    omega
  · exact others_interleave r hi ha hoth w

/-- **C09.no_trace**: a slot rep `r` that is constructed (`bindOps`: one `add` per visited target) and later
    destroyed before its trackables (`unbindOps`: `destroy()` walks the same visitors with
    `slot_do_unbind`, `remove_callback` erases the first live entry with that data) leaves, in every
    registration target, no live entry of `r`, and everybody else's entries exactly as they would be had
    `r` never existed — for every expression, under any interleaving `s` with operations `oth` of other
    slots in the same trackables, from any starting world without entries of `r`.
    (The inner reps of stored slots are slots made from sub-expressions, so the same statement covers
    them; `visitor<slot>` itself registers nothing.) -/
theorem no_trace (e : FExpr) (r : Nat) (oth s : List Op) (w : World)
    (hoth : ∀ x ∈ oth, x.data ≠ r)
    (hfresh : ∀ u, liveCount r (w u) = 0)
    (hi : Interleave (bindOps r (repOf codeTable e).regs ++ unbindOps r (repOf codeTable e).regs) oth s) :
    (∀ u, liveCount r (run w s u) = 0) ∧ (∀ u, others r (run w s u) = others r (run w oth u)) :=
  no_trace_list _ r oth s w hoth hfresh hi

/-- non-vacuity: rep 7 made from `bind(mem_fun(t1), ref t1, ref t2)` (t1 registered twice), another
    slot (rep 9) registering and unregistering in t1 in between -/
example :
    let e : FExpr := .bind none (.memFun ⟨1, .direct⟩) [.ref ⟨1, .direct⟩, .ref ⟨2, .direct⟩]
    let w : World := fun u => if u = .ext 1 then [⟨9, true⟩] else []
    (repOf codeTable e).regs = [.ext 1, .ext 1, .ext 2]
    ∧ Interleave (bindOps 7 (repOf codeTable e).regs ++ unbindOps 7 (repOf codeTable e).regs)
        [.add (.ext 1) 9, .remove (.ext 1) 9]
        [.add (.ext 1) 7, .add (.ext 1) 9, .add (.ext 1) 7, .add (.ext 2) 7, .remove (.ext 1) 7,
         .remove (.ext 1) 9, .remove (.ext 1) 7, .remove (.ext 2) 7]
    ∧ run w [.add (.ext 1) 7, .add (.ext 1) 9, .add (.ext 1) 7, .add (.ext 2) 7, .remove (.ext 1) 7,
         .remove (.ext 1) 9, .remove (.ext 1) 7, .remove (.ext 2) 7] (.ext 1) = [⟨9, true⟩] := by
  refine ⟨by decide, ?_, by decide⟩
  exact .left _ (.right _ (.left _ (.left _ (.left _ (.right _ (.left _ (.left _ .nil)))))))

/-- **F1 witness**: with the table as it was before the repair (`visitor<bind_functor<I,…>>` visiting only
    `std::get<0>(bound_)`) the statement of `visited_eq_referenced` is false — the second bound reference is not registered. -/
theorem f1_witness :
    ¬ (visitedWith unrepairedTable
          (.bind (some 0) .leaf [.ref ⟨1, .direct⟩, .ref ⟨2, .direct⟩])).Perm
        (referenced (.bind (some 0) .leaf [.ref ⟨1, .direct⟩, .ref ⟨2, .direct⟩])) := by
  decide

/-- and consequently destroying `t2` would not invalidate that slot -/
theorem f1_witness_ties :
    (repOf unrepairedTable (.bind (some 0) .leaf [.ref ⟨1, .direct⟩, .ref ⟨2, .direct⟩])).invalidatedBy 2
      = false := by
  decide

/-! ### "a value bound by copy is a leaf"

  `boundLeafTable` is `codeTable` with the `bound_argument` row changed from "`visit_each` of what `visit()`
  returns" to "`visit_each` only for a `reference_wrapper`; a stored value is handed to the action directly". -/

/-- **witness**: with that row the statement of `visited_eq_referenced` is false — the object of a `mem_fun` functor bound by value
    (`bind(f, mem_fun(t1, …))`) is not registered -/
theorem bound_leaf_witness :
    ¬ (visitedWith boundLeafTable (.bind none .leaf [.fn (.memFun ⟨1, .direct⟩)])).Perm
        (referenced (.bind none .leaf [.fn (.memFun ⟨1, .direct⟩)])) := by
  decide

/-- … destroying `t1` would not invalidate that slot -/
theorem bound_leaf_witness_ties :
    (repOf boundLeafTable (.bind none .leaf [.fn (.memFun ⟨1, .direct⟩)])).invalidatedBy 1 = false := by
  decide

/-- … and a slot bound by value (`bind<0>(f, 5, continuation_slot)`, `bind_return(f, some_slot)`) gets no
    parent: no rep of the tree is tied to `t1` -/
theorem bound_leaf_witness_slot :
    ¬ (visitedAllWith boundLeafTable (.bind (some 0) .leaf [.val, .fn (.slot (.memFun ⟨1, .direct⟩))])).Perm
        (referenced (.bind (some 0) .leaf [.val, .fn (.slot (.memFun ⟨1, .direct⟩))]))
    ∧ (repOf boundLeafTable (.bindReturn .leaf (.fn (.slot (.memFun ⟨1, .direct⟩))))).innerCount = 0
    ∧ (repOf boundLeafTable (.bindReturn .leaf (.fn (.slot (.memFun ⟨1, .direct⟩))))).invalidatedBy 1 = false := by
  decide

/-! ### "an object that arrives with its own type is a copy"

  `byTypeDroppedTable` is `codeTable` with one more overload in the action (`slot_do_bind` / `slot_do_unbind`):
  `template<typename T> void operator()(const T&) const noexcept {}`.  Every visitor row is unchanged. -/

/-- **witness**: with that overload set the statement of `visitedAll_eq_referenced` is false — `bind_return<X&>(f, t1)`
    keeps a reference to `t1` (nothing is copied) and the slot is not registered in it -/
theorem by_type_dropped_witness :
    ¬ (visitedAllWith byTypeDroppedTable (.bindReturn .leaf (.xref ⟨1, .direct⟩))).Perm
        (referenced (.bindReturn .leaf (.xref ⟨1, .direct⟩))) := by
  decide

/-- … destroying `t1` would not invalidate that slot; the same for `bind<I, F, X&>`, for `const X&`, through a
    virtual base, at any position of the tuple, below other adaptors and inside a slot bound by value -/
theorem by_type_dropped_witness_ties :
    (repOf byTypeDroppedTable (.bindReturn .leaf (.xref ⟨1, .direct⟩))).invalidatedBy 1 = false
    ∧ (repOf byTypeDroppedTable (.bind (some 0) .leaf [.val, .xcref ⟨1, .vbase⟩])).invalidatedBy 1 = false
    ∧ (repOf byTypeDroppedTable (.hide none (.retypeReturn (.bind none (.memFun ⟨2, .direct⟩) [.xref ⟨1, .direct⟩])))).regs
        = [.ext 2]
    ∧ (repOf byTypeDroppedTable (.bind none .leaf [.fn (.slot (.bindReturn .leaf (.xref ⟨1, .direct⟩)))])).invalidatedBy 1
        = false := by
  decide

/-- … while everything that goes through a `limit_reference` (`std::ref`, `mem_fun`, `track_object`) is still
    registered, and the private copies are not -/
example : (repOf byTypeDroppedTable (.bind none (.trackObj (.memFun ⟨1, .vbase⟩) [⟨3, .direct⟩])
      [.ref ⟨2, .direct⟩, .copy ⟨2, .direct⟩, .cref ⟨1, .vbase⟩])).regs = [.ext 1, .ext 3, .ext 2, .ext 1]
    ∧ (repOf codeTable (.bind none (.trackObj (.memFun ⟨1, .vbase⟩) [⟨3, .direct⟩])
      [.ref ⟨2, .direct⟩, .copy ⟨2, .direct⟩, .cref ⟨1, .vbase⟩])).regs = [.ext 1, .ext 3, .ext 2, .own 2, .ext 1] := by
  decide

mutual
/-- why the extra overload goes unnoticed: on every expression in which objects are referred to only through
    `limit_reference` (`mem_fun`, `make_slot`, `signal_connect`, `std::ref`/`std::cref`, `track_obj`; plain values and
    functors bound by value at any position and depth, slots stored inside) the two tables produce the same rep tree -/
theorem byType_same_when_limited (e : FExpr) (h : limitedOnly e = true) :
    scan byTypeDroppedTable e = scan codeTable e := by
  match e with
  | .leaf => rfl
  | .memFun o | .makeSlot o | .signalConnect o =>
    simp only [scan, visitLimRef_byType]; rfl
  | .bind pos f bs =>
    simp only [limitedOnly, Bool.and_eq_true] at h
    cases pos <;>
    · simp only [scan, byType_same_when_limited f h.1, byType_tuple bs h.2]; rfl
  | .bindReturn f b =>
    simp only [limitedOnly, Bool.and_eq_true] at h
    simp only [scan, byType_same_when_limited f h.1, byType_bound b h.2]; rfl
  | .hide _ f | .hideReturn f | .retype f | .retypeReturn f | .slot f | .trackObj f _ =>
    simp only [scan, byType_same_when_limited f (by simpa [limitedOnly] using h), visitObjs_byType]; rfl
  | .compose1 s g | .exceptionCatch s g =>
    simp only [limitedOnly, Bool.and_eq_true] at h
    simp only [scan, byType_same_when_limited s h.1, byType_same_when_limited g h.2]; rfl
  | .compose2 s g1 g2 =>
    simp only [limitedOnly, Bool.and_eq_true] at h
    simp only [scan, byType_same_when_limited s h.1.1, byType_same_when_limited g1 h.1.2,
      byType_same_when_limited g2 h.2]; rfl

theorem byType_bound (b : BArg) (h : b.limited = true) :
    visitBound byTypeDroppedTable b = visitBound codeTable b := by
  match b with
  | .val => rfl
  | .ref o | .cref o => simp only [visitBound, visitLimRef_byType]; rfl
  | .copy o | .xref o | .xcref o => cases h
  | .fn e => simp only [visitBound, byType_same_when_limited e (by simpa [BArg.limited] using h)]; rfl

theorem byType_tuple (bs : List BArg) (h : limitedArgs bs = true) :
    visitTuple byTypeDroppedTable bs = visitTuple codeTable bs := by
  match bs with
  | [] => rfl
  | b :: bs =>
    simp only [limitedArgs, Bool.and_eq_true] at h
    simp only [visitTuple, byType_bound b h.1, byType_tuple bs h.2]
end

example : limitedOnly (.bind (some 1) (.slot (.memFun ⟨1, .vbase⟩)) [.val, .fn (.trackObj .leaf [⟨2, .direct⟩]), .cref ⟨1, .vbase⟩]) = true
    ∧ (repOf byTypeDroppedTable (.bind (some 1) (.slot (.memFun ⟨1, .vbase⟩))
        [.val, .fn (.trackObj .leaf [⟨2, .direct⟩]), .cref ⟨1, .vbase⟩])).allRegs = [.ext 1, .ext 2, .ext 1] := by decide

mutual
/-- why the changed row goes unnoticed: on every expression without a functor-valued bound argument (plain
    values, `std::ref`/`std::cref`, by-value objects at any position and depth) the two tables produce the same
    rep tree -/
theorem boundLeaf_same_without_bound_functor (e : FExpr) (h : plainBound e = true) :
    scan boundLeafTable e = scan codeTable e := by
  match e with
  | .leaf | .memFun o | .makeSlot o | .signalConnect o => rfl
  | .bind pos f bs =>
    simp only [plainBound, Bool.and_eq_true] at h
    cases pos <;>
    · simp only [scan, boundLeaf_same_without_bound_functor f h.1, boundLeaf_tuple bs h.2]; rfl
  | .bindReturn f b =>
    simp only [plainBound, Bool.and_eq_true] at h
    simp only [scan, boundLeaf_same_without_bound_functor f h.1, boundLeaf_bound b h.2]; rfl
  | .hide _ f | .hideReturn f | .retype f | .retypeReturn f | .slot f | .trackObj f _ =>
    simp only [scan, boundLeaf_same_without_bound_functor f (by simpa [plainBound] using h)]; rfl
  | .compose1 s g | .exceptionCatch s g =>
    simp only [plainBound, Bool.and_eq_true] at h
    simp only [scan, boundLeaf_same_without_bound_functor s h.1, boundLeaf_same_without_bound_functor g h.2]; rfl
  | .compose2 s g1 g2 =>
    simp only [plainBound, Bool.and_eq_true] at h
    simp only [scan, boundLeaf_same_without_bound_functor s h.1.1, boundLeaf_same_without_bound_functor g1 h.1.2,
      boundLeaf_same_without_bound_functor g2 h.2]; rfl

/-- a stored value handed to the action directly is what the primary visitor does with it anyway -/
theorem boundLeaf_bound (b : BArg) (h : b.plain = true) :
    visitBound boundLeafTable b = visitBound codeTable b := by
  match b with
  | .val | .ref o | .cref o => rfl
  | .copy o | .xref o | .xcref o =>
    simp [visitBound, row, boundLeafTable, codeTable, visitPrimary, Rep.seq, Rep.append_done, act_boundLeafTable]
  | .fn e => cases h

theorem boundLeaf_tuple (bs : List BArg) (h : plainArgs bs = true) :
    visitTuple boundLeafTable bs = visitTuple codeTable bs := by
  match bs with
  | [] => rfl
  | b :: bs =>
    simp only [plainArgs, Bool.and_eq_true] at h
    simp only [visitTuple, boundLeaf_bound b h.1, boundLeaf_tuple bs h.2]
end

example : plainBound (.bind (some 1) (.memFun ⟨1, .vbase⟩) [.val, .copy ⟨2, .direct⟩, .cref ⟨1, .vbase⟩]) = true
    ∧ (scan boundLeafTable (.bind (some 1) (.memFun ⟨1, .vbase⟩) [.val, .copy ⟨2, .direct⟩, .cref ⟨1, .vbase⟩])).regs
        = [.ext 1, .own 2, .ext 1] := by decide

end Sigc.C09
