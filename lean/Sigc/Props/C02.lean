import Sigc.Model
import Sigc.Spec
import Sigc.Lemmas.InvObj
import Sigc.Lemmas.InvTeardown
import Sigc.Lemmas.InvLive
import Sigc.Lemmas.InvExamples
/-!
# C02 — destroying a trackable invalidates and disconnects every slot that refers to it

Model-level content (mechanism model `P`): a functor refers to trackable objects by identity
(`Fun.tracks`, nested functors included); `invalidateTrackable s o` is `trackable::notify_callbacks()`
of object `o` restricted to the registrations made by slot reps.

* `tracks_live*` — in every reachable state (and at every operation boundary inside emissions) every
  object any rep refers to is alive: the object of a live trackable name, the `trackable` base of a live
  `trackable_signal` handle, or an object kept alive by an owning functor.  So the library never holds
  a registration in — and never reads or writes — a destroyed object.
* `invalidates_all` — after `notify_callbacks()` of `o` no rep refers to `o`; every user slot that
  referred to it is empty (invalidated, functor released); every cell that referred to it is erased or
  invalid, unlinked and without functor; every connection to such a cell reports `connected() = false`.
* `delT_invalidates_all` — the same for the operation `delT` (destruction of a trackable), and the
  object is no longer reachable under that name.
* `destroyed_stays_dead`, `destroyed_never_tracked(_line)`, `dead_never_tracked` — object ids are never reused: once `o` is
  destroyed, no rep of any later state refers to it, however the program goes on.
-/
namespace Sigc.C02
open Sigc.Model Sigc.Inv

/-- `Inv.TL s` in the terms of look-ups -/
def TracksLive (s : St) : Prop :=
  (∀ k v o, aget s.S k = some v → v.slot.tracksObj o = true → LiveObj s.T s.G s.ownedT o) ∧
  (∀ i im c o, aget s.impls i = some im → c ∈ im.cells → c.slot.tracksObj o = true →
      LiveObj s.T s.G s.ownedT o)

/-- **every terminating run of every program**: every object referred to by the functor of any user slot
    or any connected slot (directly or through a nested slot) is alive -/
theorem tracks_live (fuel : Nat) (P : Prog) (s : St) (h : runTop fuel P {} P.top = some s) : TracksLive s := by
  obtain ⟨_, htl⟩ := WTL.reachable fuel P s h
  exact ⟨fun k v o hk ho => SlotsAll.getS htl hk o ho,
         fun i im c o hi hc ho => SlotsAll.cells htl hi c hc o ho⟩

/-- … at every operation boundary, inside or outside an emission, at any nesting depth -/
theorem tracks_live_op (fuel : Nat) (P : Prog) (s : St) (op : Op) (r : St × Except Unit String)
    (hs : WTL s) (h : execOp fuel P s op = some r) : WTL r.1 :=
  WTL.stable.execOp hs h

theorem tracks_live_emit (fuel : Nat) (P : Prog) (s : St) (fl : Flavour) (impl : Option Nat) (arg : Nat)
    (strat : Strat) (r : St × Outcome × Nat) (hs : WTL s) (h : emitImpl fuel P s fl impl arg strat = some r) :
    WTL r.1 :=
  WTL.stable.emitImpl hs h

theorem tracks_live_invoke (fuel : Nat) (P : Prog) (s : St) (fn : Fun) (arg : Nat) (r : St × Outcome × Nat)
    (hs : WTL s) (h : invokeFun fuel P s fn arg = some r) : WTL r.1 :=
  WTL.stable.invokeFun hs h

theorem tracks_live_teardown (fuel fuel' : Nat) (P : Prog) (s s' : St)
    (h : runTop fuel P {} P.top = some s) (ht : teardown fuel' P s = some s') : WTL s' :=
  WTL.stable.teardown fuel' P s s' (WTL.reachable fuel P s h) ht

/-- **`notify_callbacks()` reaches every rep that refers to the object** (any well-formed, hence any
    reachable, state; any object):
    1. afterwards no user slot and no cell refers to `o`;
    2. every user slot that referred to `o` is now invalidated: `empty()`, functor released;
    3. every cell that referred to `o` is erased, or invalid, unlinked and without functor
       (its erase is deferred to the sweep of the running emission);
    4. every connection to such a cell reports `connected() = false`;
    nothing else about trackables, handles or user slots that did not refer to `o` changes -/
theorem invalidates_all {s : St} (hw : WF s) (o : Nat) :
    NoTrack o (invalidateTrackable s o) ∧
    (∀ k v, aget s.S k = some v → v.slot.tracksObj o = true →
        aget (invalidateTrackable s o).S k = some { v with slot := v.slot.invalidate } ∧
        v.slot.invalidate.empty = true ∧ v.slot.invalidate.liveAll = 0) ∧
    (∀ i im c, aget s.impls i = some im → c ∈ im.cells → c.slot.tracksObj o = true →
        Gone c.id (invalidateTrackable s o) ∧ connConnected (invalidateTrackable s o) (some c.id) = false) ∧
    (∀ k v, aget s.S k = some v → v.slot.tracksObj o = false → aget (invalidateTrackable s o).S k = some v) ∧
    (invalidateTrackable s o).T = s.T ∧ (invalidateTrackable s o).G = s.G := by
  obtain ⟨fT, fG, _, _, fS⟩ := invalidateTrackable_frame s o
  refine ⟨invalidateTrackable_notrack hw o, fun k v hk ht => ⟨?_, Model.invalidate_empty _, liveAll_invalidate _⟩,
    fun i im c hi hc ht => ?_, fun k v hk ht => ?_, fT, fG⟩
  · rw [fS, aget_amap, hk]; simp [ht]
  · exact ⟨invalidateTrackable_gone hw hi hc ht, not_connected_of_gone (invalidateTrackable_gone hw hi hc ht)⟩
  · rw [fS, aget_amap, hk]; simp [ht]

/-- the operation `delT t` (destruction of the trackable named `t`, object `o`): the name is gone and the
    cascade of `invalidates_all` has run -/
theorem delT_invalidates_all {s s' : St} {r : String} (hw : WF s) (t o : Nat) (ht : aget s.T t = some o)
    (h : stepSimple s (.delT t) = some (s', r)) :
    aget s'.T t = none ∧ NoTrack o s' ∧
    (∀ k v, aget s.S k = some v → v.slot.tracksObj o = true →
        aget s'.S k = some { v with slot := v.slot.invalidate }) ∧
    (∀ i im c, aget s.impls i = some im → c ∈ im.cells → c.slot.tracksObj o = true →
        Gone c.id s' ∧ connConnected s' (some c.id) = false) := by
  simp only [stepSimple, ht, Option.some.injEq, Prod.mk.injEq] at h
  obtain ⟨rfl, _⟩ := h
  have hw0 : WF { s with T := adel s.T t } := hw
  obtain ⟨h1, h2, h3, _, h5, _⟩ := invalidates_all hw0 o
  refine ⟨by rw [h5]; simp, h1, fun k v hk hv => (h2 k v hk hv).1, h3⟩

/-- object ids are never reused and a dead object never comes back: "allocated and not alive" is
    preserved by every operation, emission and functor invocation -/
theorem destroyed_stays_dead (o : Nat) (fuel : Nat) (P : Prog) (s : St) (op : Op) (r : St × Except Unit String)
    (hd : OD o s) (h : execOp fuel P s op = some r) : OD o r.1 :=
  (OD.stable o).execOp hd h

/-- **the library never refers to the destroyed object again**: take any reachable state, destroy the
    trackable named `t` (object `o`), then continue the program in any way (any operations, any emissions,
    re-use of the name `t` for a new trackable included).  In every later state no rep of any user slot or
    connected slot refers to `o` — nothing is left through which the library could read or write it -/
theorem destroyed_never_tracked (fuel fuel' : Nat) (P : Prog) (s s1 s2 : St) (r : String) (ls : List Line)
    (t o : Nat) (h : runTop fuel P {} P.top = some s) (ht : aget s.T t = some o)
    (hd : stepSimple s (.delT t) = some (s1, r)) (h2 : runTop fuel' P s1 ls = some s2) : NoTrack o s2 := by
  have hwtl := WTL.reachable fuel P s h
  have hou := OU.reachable fuel P s h
  have hwtl1 : WTL s1 := WTL.stable.simple s _ s1 r trivial hwtl hd
  have hod1 : OD o s1 := dead_after_delT hou ht hd
  have hwtl2 := WTL.stable.runTop_from fuel' P ls s1 s2 hwtl1 h2
  have hod2 := (OD.stable o).runTop_from fuel' P ls s1 s2 hod1 h2
  exact noTrack_of_dead hwtl2.1 hwtl2.2 hod2

/-- the same with the destruction executed as a program line (`execLine`: step count, operation, trace
    entry, collection of owned objects), exactly as the driver runs it -/
theorem destroyed_never_tracked_line (fuel f f' : Nat) (P : Prog) (s s1 s2 : St) (txt : String) (oc : Outcome)
    (ls : List Line) (t o : Nat) (h : runTop fuel P {} P.top = some s) (ht : aget s.T t = some o)
    (hl : execLine f P s ⟨txt, .delT t⟩ = some (s1, oc)) (h2 : runTop f' P s1 ls = some s2) :
    NoTrack o s2 := by
  have hwtl := WTL.reachable fuel P s h
  have hou := OU.reachable fuel P s h
  have hwtl1 : WTL s1 := WTL.stable.execLine hwtl hl
  have hod1 : OD o s1 := by
    cases f with
    | zero => rw [execLine] at hl; cases hl
    | succ f =>
      rw [execLine] at hl
      simp only at hl
      have key : ∀ (s0 : St) (res : Except Unit String),
          execOp f P { s with steps := s.steps + 1 } (.delT t) = some (s0, res) → OD o s0 := by
        intro s0 res he
        have hou' : OU { s with steps := s.steps + 1 } := hou
        rcases execOp_simple_of t (by simp) he with ⟨r0, hs⟩ | ⟨hs, _⟩
        · exact dead_after_delT hou' ht hs
        · simp [stepSimple] at hs
          split at hs <;> cases hs
      split at hl
      · cases hl
      · rename_i s0 _ he
        simp only [Option.some.injEq, Prod.mk.injEq] at hl
        rw [← hl.1]
        exact (OD.stable o).collect _ trivial ((OD.stable o).log _ _ trivial (key _ _ he))
      · rename_i s0 _ he
        simp only [Option.some.injEq, Prod.mk.injEq] at hl
        rw [← hl.1]
        exact (OD.stable o).collect _ trivial ((OD.stable o).log _ _ trivial (key _ _ he))
  have hwtl2 := WTL.stable.runTop_from f' P ls s1 s2 hwtl1 h2
  have hod2 := (OD.stable o).runTop_from f' P ls s1 s2 hod1 h2
  exact noTrack_of_dead hwtl2.1 hwtl2.2 hod2

theorem dead_never_tracked (o : Nat) (fuel : Nat) (P : Prog) (s : St) (op : Op) (r : St × Except Unit String)
    (hs : WTL s) (hd : OD o s) (h : execOp fuel P s op = some r) : NoTrack o r.1 := by
  have h1 := WTL.stable.execOp hs h
  exact noTrack_of_dead h1.1 h1.2 ((OD.stable o).execOp hd h)

/-- on the example state `Sigc.Inv.exT`: a user slot and a connected cell both bound to object 7 -/
example : NoTrack 7 (invalidateTrackable exT 7) := (invalidates_all exT_wf 7).1

example : connConnected (invalidateTrackable exT 7) (some 4) = false :=
  ((invalidates_all exT_wf 7).2.2.1 3 _ _ (by simp [exT, aget]; rfl) (List.mem_cons_self) (by decide)).2

end Sigc.C02
