import Sigc.Lemmas.RefineMutual
import Sigc.Lemmas.RefineTd
/-!
Refinement: the mechanism model `P` (`Sigc.Model`) is simulated by the statement-level specification
`S'` = `Sigc.Spec` run with `k1 := true, k2 := true` (the specification with the two known findings
reproduced).

The simulation relation `R : Model.St → Spec.LSt → Prop`, the trace relation `Allows` and the result
relation `ResAllows` are defined in `Sigc/Lemmas/RefineDefs.lean`; the line-level relation `AllowsLines`
(`LineAllows`: equal lines, or `<depth> <operation> => *` in the specification) in `Sigc/Lemmas/RefineTd.lean`;
`RE e s t` (`R s t` and `t.err = e`) in `Sigc/Lemmas/RefineSimDefs.lean`.
-/
namespace Sigc.Refine
open Sigc.Model

theorem init_related : R ({} : St) ({ k1 := true, k2 := true } : Spec.LSt) :=
  ⟨rfl, rfl, rfl, .nil, .nil, .nil, rfl, .nil, rfl, rfl, rfl, rfl, .nil, rfl, rfl⟩

/-- every operation that runs no user code is simulated.  `Emit.Inv` and `Quiet` (no emission in progress
    when `depth = 0`) hold in every state in which `execOp` is entered, see `Emit.good_reachable`.
    Covers all operations except `callS`, `emit`, `throw_` (on which both `stepSimple`s are `none`),
    hence every history without emission. -/
theorem step_simulates (op : Op) {s : St} {t : Spec.LSt} (hs : Emit.Inv s) (hR : R s t) (hq : Quiet s) :
    (∀ s' r, Model.stepSimple s op = some (s', r) →
      ∃ t' r', Spec.stepSimple t op = some (t', r') ∧ R s' t' ∧ ResAllows r' r) ∧
    (Model.stepSimple s op = none → Spec.stepSimple t op = none) :=
  have h := stepSim_all op s t hs hR hq
  ⟨fun _ _ hm => let ⟨t', r', ht', hR', _, hr⟩ := h.of_some hm; ⟨t', r', ht', hR', hr⟩, h.of_none⟩

example : ∀ s' r, Model.stepSimple ({} : St) (.newG 1 (some .V)) = some (s', r) →
    ∃ t' r', Spec.stepSimple ({ k1 := true, k2 := true } : Spec.LSt) (.newG 1 (some .V)) = some (t', r') ∧
      R s' t' ∧ ResAllows r' r :=
  (step_simulates (.newG 1 (some .V)) Emit.inv_init init_related quiet_init).1

/-- the refinement theorem, with the final states: the matching run of the specification (both known findings
    K1, K2 reproduced) uses the same fuel and ends in a related state (in particular `Allows t.trace s.trace`). -/
theorem refines_state (fuel : Nat) (P : Prog) (s : St) (h : Model.runTop fuel P {} P.top = some s) :
    ∃ t, Spec.runTop fuel P { k1 := true, k2 := true } P.top = some t ∧ R s t ∧ Emit.Inv s :=
  let ⟨t, ht, hR⟩ := runTop_simE fuel P P.top none {} _ s Emit.inv_init ⟨init_related, rfl⟩ quiet_init h
  ⟨t, ht, hR.r, (Emit.good_reachable fuel P P.top s h).inv⟩

example : ∀ fuel s, Model.runTop fuel exProg {} exProg.top = some s →
    ∃ t, Spec.runTop fuel exProg { k1 := true, k2 := true } exProg.top = some t ∧ R s t ∧ Emit.Inv s :=
  fun fuel s h => refines_state fuel exProg s h

example : ∀ fuel s, Model.runTop fuel exProgG {} exProgG.top = some s →
    ∃ t, Spec.runTop fuel exProgG { k1 := true, k2 := true } exProgG.top = some t ∧ R s t ∧ Emit.Inv s :=
  fun fuel s h => refines_state fuel exProgG s h

/-- the refinement theorem: for every fuel and program, if the mechanism model's run terminates
    in `s`, some run of the specification `S'` (`k1 := true, k2 := true`) terminates in a `t` whose
    trace allows the model's trace, event by event (equal, or `*` in the specification for a result the
    statements leave open). -/
theorem refines (fuel : Nat) (P : Prog) (s : St) (h : Model.runTop fuel P {} P.top = some s) :
    ∃ fuel' t, Spec.runTop fuel' P { k1 := true, k2 := true } P.top = some t ∧ Allows t.trace s.trace :=
  let ⟨t, ht, hR, _⟩ := refines_state fuel P s h
  ⟨fuel, t, ht, hR.trace⟩

example : ∀ fuel s, Model.runTop fuel exProg {} exProg.top = some s →
    ∃ fuel' t, Spec.runTop fuel' exProg { k1 := true, k2 := true } exProg.top = some t ∧ Allows t.trace s.trace :=
  fun fuel s h => refines fuel exProg s h

/-! What the correspondence check compares with the real library is `runProgram`: the trace of `runTop` followed by
`teardown` (destroy every scoped connection, connection and slot variable, `clear()` every signal, destroy every
signal object — also the pinned and the functor-owned ones — and every trackable) and the line
`0 final live=<liveTotal>`. -/

/-- the specification's run reports no error: the run of `S'` that matches a terminating run of the mechanism
    model (`refines_state`) never sets the specification's own error flag (`Spec.LSt.err`: "insert: no list",
    "emit: no list", "emit: list died during its emission", "forward to a destroyed signal object", "callS: slot
    variable destroyed during its own call") — the flag is not part of `R`; the simulation is proved for
    `RE e s t` = `R s t` and `t.err = e`. -/
theorem refines_state_noerr (fuel : Nat) (P : Prog) (s : St) (h : Model.runTop fuel P {} P.top = some s) :
    ∃ t, Spec.runTop fuel P { k1 := true, k2 := true } P.top = some t ∧ R s t ∧ t.err = none :=
  let ⟨t, ht, hR⟩ := runTop_simE fuel P P.top none {} _ s Emit.inv_init ⟨init_related, rfl⟩ quiet_init h
  ⟨t, ht, hR.r, hR.err⟩

example : ∀ fuel s, Model.runTop fuel exProg {} exProg.top = some s →
    ∃ t, Spec.runTop fuel exProg { k1 := true, k2 := true } exProg.top = some t ∧ R s t ∧ t.err = none :=
  fun fuel s h => refines_state_noerr fuel exProg s h

/-- the teardown is simulated, with the same fuel and without touching the specification's error flag; the
    hypotheses hold after every terminating `runTop`, see `refines_driver`. -/
theorem teardown_sim (fuel : Nat) (P : Prog) (s : St) (t : Spec.LSt) (s' : St) (hs : Emit.Inv s) (hR : R s t)
    (hc : ∀ i, Emit.execOf s i = 0) (htd : Inv.TdInv s) (h : Model.teardown fuel P s = some s') :
    ∃ t', Spec.teardown fuel P t = some t' ∧ R s' t' ∧ Emit.Inv s' ∧ t'.err = t.err :=
  let ⟨t', ht', hb⟩ := Td.teardown_bun fuel P (e := t.err) ⟨hs, hR, rfl, hc, htd⟩ h
  ⟨t', ht', hb.rel, hb.inv, hb.err⟩

/-- on the initial states (nothing to destroy) -/
example : ∀ fuel s', Model.teardown fuel exProg {} = some s' →
    ∃ t', Spec.teardown fuel exProg { k1 := true, k2 := true } = some t' ∧ R s' t' ∧ Emit.Inv s' ∧ t'.err = none :=
  fun fuel s' h => teardown_sim fuel exProg {} _ s' Emit.inv_init init_related (quiet_init rfl)
    ⟨Inv.WF.init, Inv.Bal.init, Inv.Inc.init⟩ h

/-- the refinement theorem for the driver (`runTop` followed by `teardown`): every terminating run of the
    mechanism model is matched, with the same fuel, by a run of the specification `S'`; the final states are
    related (`Allows t'.trace s'.trace`), neither side reports an error, and neither side holds a functor copy
    (`final live=0` on both sides). -/
theorem refines_driver (fuel : Nat) (P : Prog) (s s' : St) (h : Model.runTop fuel P {} P.top = some s)
    (ht : Model.teardown fuel P s = some s') :
    ∃ t t', Spec.runTop fuel P { k1 := true, k2 := true } P.top = some t ∧ Spec.teardown fuel P t = some t' ∧
      R s' t' ∧ Emit.Inv s' ∧ t'.err = none ∧ Model.liveTotal s' = 0 ∧ Spec.liveTotal t' = 0 := by
  obtain ⟨t, hrun, hR, he⟩ := refines_state_noerr fuel P s h
  have g := Emit.good_reachable fuel P P.top s h
  have hc : ∀ i, Emit.execOf s i = 0 := fun i => by rw [g.frame.exec i]; simp [Emit.execOf]
  have htd := Inv.TdInv.reachable fuel P s h
  obtain ⟨t', ht', hR', hs', he'⟩ := teardown_sim fuel P s t s' g.inv hR hc htd ht
  obtain ⟨_, _, _, hS, _, _, hI⟩ := Inv.teardown_empty fuel P s s' htd ht
  exact ⟨t, t', hrun, ht', hR', hs', he'.trans he, Inv.liveTotal_nil hS hI, spec_liveTotal_zero hR' hS hI⟩

example : ∀ fuel s s', Model.runTop fuel exProgG {} exProgG.top = some s → Model.teardown fuel exProgG s = some s' →
    ∃ t t', Spec.runTop fuel exProgG { k1 := true, k2 := true } exProgG.top = some t ∧
      Spec.teardown fuel exProgG t = some t' ∧ R s' t' ∧ Emit.Inv s' ∧ t'.err = none ∧
      Model.liveTotal s' = 0 ∧ Spec.liveTotal t' = 0 :=
  fun fuel s s' h ht => refines_driver fuel exProgG s s' h ht

/-- the model's output is the fuel notice exactly when `runTop` runs out of fuel (the teardown runs no user code
    and terminates with one unit of fuel) -/
theorem runProgram_fuel_iff (lines : List String) :
    Model.runProgram lines ≠ ["MODEL-FUEL"] ↔
      ∃ s, Model.runTop defaultFuel (parseProg lines) {} (parseProg lines).top = some s := by
  unfold Model.runProgram
  simp only
  cases h1 : Model.runTop defaultFuel (parseProg lines) {} (parseProg lines).top with
  | none => simp
  | some s =>
    simp only
    -- `defaultFuel` is `999999 + 1` by unfolding
    obtain ⟨s', h2⟩ := Td.teardown_terminates 999999 (parseProg lines) s
    have h2' : Model.teardown defaultFuel (parseProg lines) s = some s' := h2
    rw [h2']
    simp only
    refine ⟨fun _ => ⟨s, rfl⟩, fun _ => ?_⟩
    cases s'.err with
    | none => exact (body_ne_fuel _ _).1
    | some e => exact (body_ne_fuel _ _).2 _

/-- the refinement theorem for what the driver prints: for every program text whose model run does not run
    out of fuel (both runners use `defaultFuel`), the output of the specification `S'` — driver mode `spec-known`,
    `Spec.runProgram true true` — allows the model's output `Model.runProgram` line by line: equal lines, or
    `<depth> <operation> => *` in the specification for a result the statements leave open; the last line is
    `0 final live=0` on both sides, and there is neither a `MODEL-ERROR` nor a `SPEC-ERROR` nor a `SPEC-FUEL`
    line. -/
theorem runProgram_refines (lines : List String) (h : Model.runProgram lines ≠ ["MODEL-FUEL"]) :
    AllowsLines (Spec.runProgram true true lines) (Model.runProgram lines) := by
  obtain ⟨s, h1⟩ := (runProgram_fuel_iff lines).1 h
  obtain ⟨s', h2⟩ : ∃ s', Model.teardown defaultFuel (parseProg lines) s = some s' :=
    Td.teardown_terminates 999999 (parseProg lines) s
  obtain ⟨t, t', hr, ht, hR, hs', he, hl, hl'⟩ := refines_driver _ _ s s' h1 h2
  unfold Model.runProgram Spec.runProgram
  simp only
  rw [h1, hr]
  simp only
  rw [h2, ht]
  simp only
  rw [hs'.noerr, he]
  simp only
  rw [hl, hl']
  exact (lines_of_allows hR.trace).snoc_same _

example : ∃ s s' t t', Model.runTop defaultFuel exProg {} exProg.top = some s ∧
    Model.teardown defaultFuel exProg s = some s' ∧
    Spec.runTop defaultFuel exProg { k1 := true, k2 := true } exProg.top = some t ∧
    Spec.teardown defaultFuel exProg t = some t' ∧ R s' t' ∧ s'.err = none ∧ t'.err = none := by
  have h : (Model.runTop defaultFuel exProg {} exProg.top).isSome = true := by decide +kernel
  obtain ⟨s, hs⟩ := Option.isSome_iff_exists.mp h
  obtain ⟨s', hs'⟩ : ∃ s', Model.teardown defaultFuel exProg s = some s' := Td.teardown_terminates 999999 exProg s
  obtain ⟨t, t', a, b, c, d, e, _⟩ := refines_driver defaultFuel exProg s s' hs hs'
  exact ⟨s, s', t, t', hs, hs', a, b, c, d.noerr, e⟩

example : Model.runProgram [] ≠ ["MODEL-FUEL"] ∧
    AllowsLines (Spec.runProgram true true []) (Model.runProgram []) ∧ Model.runProgram [] = ["0 final live=0"] :=
  have h : Model.runProgram [] = ["0 final live=0"] := by decide +kernel
  ⟨by rw [h]; decide, runProgram_refines [] (by rw [h]; decide), h⟩

theorem allows_calls {ts tm : List Event} (h : Allows ts tm) : calls ts = calls tm := by
  induction h with
  | nil => rfl
  | @cons a b l m hab _ ih =>
    cases hab with
    | same e => simp only [calls, List.filterMap_cons] at ih ⊢; rw [ih]
    | star d text r => simp only [calls, List.filterMap_cons] at ih ⊢; exact ih

/-- corollary — which slots are invoked, in which order, nesting and with which arguments, is exactly
    what the specification says (snapshot semantics of emission, immediate removal): the sequence of
    slot invocations of every terminating run of the mechanism model equals that of the specification's
    run. -/
theorem refines_calls (fuel : Nat) (P : Prog) (s : St) (h : Model.runTop fuel P {} P.top = some s) :
    ∃ t, Spec.runTop fuel P { k1 := true, k2 := true } P.top = some t ∧ calls t.trace = calls s.trace :=
  let ⟨t, ht, hR, _⟩ := refines_state fuel P s h
  ⟨t, ht, allows_calls hR.trace⟩

example : ∀ fuel s, Model.runTop fuel exProg {} exProg.top = some s →
    ∃ t, Spec.runTop fuel exProg { k1 := true, k2 := true } exProg.top = some t ∧ calls t.trace = calls s.trace :=
  fun fuel s h => refines_calls fuel exProg s h

example : calls [.res 0 "emit 1 7" "r=void", .call 0 2 7, .res 0 "newG 1 V" "ok"] = [(0, 2, 7)] := rfl

end Sigc.Refine
