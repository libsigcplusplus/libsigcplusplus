import Sigc.AdaptLemmas
/-!
  C10 — adaptors transform arguments and results exactly as documented.

  `callImpl` follows the call operators of `sigc++/adaptors/*.h` literally (tuple slicing with `tuple_start` /
  `tuple_end` (recursive, via `tuple_cdr`) / `tuple_transform_each`); `callSpec` is the documentation (insert at I,
  append, erase index, drop last, convert, constant result, composition, catcher iff throw, identity).  All theorems
  hold for every arity, every position, every number of bound values and every nesting depth.

  Results have identity: a target may return `T&` / `const T&` to a designated object (`Val.ref`); "returns the
  result of the wrapped functor" means that very reference.  How each call operator hands the result on is the
  explicit table `resultMode`, one row per call operator — the non-template nullary overloads `operator()()` of
  `adaptor_functor`, `bind_return_functor` and `exception_catch_functor` are rows of their own (`decltype(auto)` or
  `unwrap_reference<T_return>::type` in every row); `impl_eq_spec` is proved for the table as it is, `decay_witness` /
  `nullary_decay_witness` / `getter_decay_witness` show that it fails as soon as one row goes through a by-value type
  (`std::common_type_t`, `auto`).

  Parameters have declared types (`Par`): `retype(f)` converts each argument to the declared type, then binds
  (`castPar`).  Exceptions have a type and catchers may be partial (`exception_catch_partial_propagates`).
-/
namespace Sigc.C10
open Sigc.Adapt

theorem tupleStart_eq_take (n : Nat) (l : List α) : tupleStart n l = l.take n :=
  tupleStart_take n l

example : tupleStart 2 [10, 20, 30, 40] = [10, 20] := by decide +kernel

theorem tupleEnd_eq_drop (k : Nat) (l : List α) (h : k ≤ l.length) :
    tupleEnd k l = l.drop (l.length - k) :=
  tupleEnd_drop k l h

example : tupleEnd 2 [10, 20, 30, 40, 50] = [40, 50] ∧ tupleEnd 4 [10, 20, 30, 40, 50] = [20, 30, 40, 50]
    ∧ tupleEnd 5 [10, 20, 30, 40, 50] = [10, 20, 30, 40, 50] ∧ tupleEnd 0 [10, 20] = [] := by decide +kernel

/-- `tuple_transform_each<TransformEachInvoker>(bound_)` yields the invoked bound values, all of them, in order -/
theorem bound_in_order (f : α → β) (bs : List α) : invokeEach f bs = bs.map f :=
  invokeEach_eq_map f bs

example : invokeEach (fun n : Nat => n + 1) [1, 2, 3] = [2, 3, 4] := by decide +kernel

/-- `bind<I>(f, b...)` calls `f` with the bound values inserted at position `I` -/
theorem bind_insert (i : Nat) (bs args : List Val) (f : FExpr) (h : i ≤ args.length) :
    callImpl (.un (.bind (some i) bs) f) args = callImpl f (args.take i ++ bs ++ args.drop i) := by
  rw [callImpl_forwards rfl, (argsImpl_spec (.bind (some i) bs) args _ (if_pos h)).1, argsSpec]

example : (callImpl (.un (.bind (some 1) [.num .int 7, .num .int 8]) (.leaf 0 [.int, .int, .int, .int] none none))
    [.num .int 1, .num .int 2]).log = [⟨0, [.num .int 1, .num .int 7, .num .int 8, .num .int 2]⟩] := by decide +kernel

/-- `bind(f, b...)` appends the bound values -/
theorem bind_append (bs args : List Val) (f : FExpr) :
    callImpl (.un (.bind none bs) f) args = callImpl f (args ++ bs) := by
  rw [callImpl_forwards rfl, (argsImpl_spec (.bind none bs) args _ rfl).1, argsSpec]

example : (callImpl (.un (.bind none [.num .int 7, .num .int 8]) (.leaf 0 [.int, .int, .int] none none))
    [.num .int 1]).log = [⟨0, [.num .int 1, .num .int 7, .num .int 8]⟩] := by decide +kernel

/-- `hide<I>(f)` calls `f` without argument `I` -/
theorem hide_erase (i : Nat) (args : List Val) (f : FExpr) (h : i < args.length) :
    callImpl (.un (.hide (some i)) f) args = callImpl f (args.eraseIdx i) := by
  rw [callImpl_forwards rfl, (argsImpl_spec (.hide (some i)) args _ (if_pos h)).1, argsSpec]

example : (callImpl (.un (.hide (some 1)) (.leaf 0 [.int, .int, .int] none none))
    [.num .int 1, .num .int 2, .num .int 3, .num .int 4]).log = [⟨0, [.num .int 1, .num .int 3, .num .int 4]⟩] := by
  decide +kernel

/-- `hide(f)` (position -1) calls `f` without the last argument -/
theorem hide_last (args : List Val) (f : FExpr) (h : args ≠ []) :
    callImpl (.un (.hide none) f) args = callImpl f args.dropLast := by
  rw [callImpl_forwards rfl, (argsImpl_spec (.hide none) args _ (if_pos (List.length_pos_iff.2 h))).1, argsSpec]

example : (callImpl (.un (.hide none) (.leaf 0 [.int, .int] none none))
    [.num .int 1, .num .int 2, .num .int 3]).log = [⟨0, [.num .int 1, .num .int 2]⟩] := by decide +kernel

/-- **Bound arguments are handed on as they were bound.**  A bound argument whose type is spelled as a reference —
    `bind<I, F, T&>(f, x)`, `bind<F, const T&>(f, x)` (bind.h: "the types of the arguments can optionally be specified") —
    is the object `x` itself: a target parameter declared `const T&` at that position IS `x` (identity, no copy),
    whatever is bound around it; a bound *value* reaches the target as the value that was bound (the adaptor stores a
    copy of it, nothing else). -/
theorem bind_reference_identity (i : Nat) (bs args : List Val) (id : Nat) (ps : List Ty) (ret : Option Ty)
    (h : i ≤ args.length) :
    (callImpl (.un (.bind (some i) bs) (.pleaf id ps ret none)) args).log
        = [⟨id, List.zipWith bindCRef ps (args.take i ++ bs ++ args.drop i)⟩]
    ∧ (callImpl (.un (.bind none bs) (.pleaf id ps ret none)) args).log
        = [⟨id, List.zipWith bindCRef ps (args ++ bs)⟩]
    ∧ (∀ t c cell n, bindCRef t (.ref c t cell n) = .ref true t cell n) := by
  refine ⟨?_, ?_, ?_⟩
  · rw [bind_insert i bs args _ h]; rfl
  · rw [bind_append]; rfl
  · intro t c cell n; simp [bindCRef]

-- bind<1, F, long&, const double&>(f, x, y)(1, 2) with f(const int&, const long&, const double&, const int&): the
-- parameters 1 and 2 are the pool objects x (100) and y (101); bind(f, Json(7))(1) and bind_return(f, Json(7))():
-- the JSON number 7 as it was bound
example :
    let f := FExpr.pleaf 0 [.int, .long, .dbl, .int] none none
    (callImpl (.un (.bind (some 1) [.ref false .long 100 5, .ref true .dbl 101 25]) f) [.num .int 1, .num .int 2]).log
        = [⟨0, [.num .int 1, .ref true .long 100 5, .ref true .dbl 101 25, .num .int 2]⟩]
    ∧ (callImpl (.un (.bind none [.num .json 7]) (.leaf 1 [.int, .json] none none)) [.num .int 1]).log
        = [⟨1, [.num .int 1, .num .json 7]⟩]
    ∧ (callImpl (.un (.bindReturn (.num .json 7)) (.leaf 2 [] none none)) []).res = .ok (.num .json 7) := by decide +kernel

/-- the code equals the documentation for every functor expression (adaptors nested to any depth) and all arguments -/
theorem impl_eq_spec (e : FExpr) (args : List Val) (h : wellTyped e args.length = true) :
    callImpl e args = callSpec e args :=
  callImplT_eq_callSpec resultMode resultMode_ne_decays e false args h

-- hide(bind<1>(compose(s, g), 2.7)) applied to three arguments
example :
    let e := FExpr.un (.hide none) (.un (.bind (some 1) [.num .dbl 27])
      (.compose1 (.leaf 1 [.long] (some .long) none) (.leaf 0 [.int, .int, .int] (some .dbl) none)))
    wellTyped e 3 = true ∧
    callImpl e [.num .int 1, .num .int 5, .num .int 9]
      = ⟨[⟨0, [.num .int 1, .num .int 2, .num .int 5]⟩, ⟨1, [.num .long 20]⟩], .ok (.num .long 120)⟩ := by
  decide +kernel

/-- the result side of the documentation, adaptor by adaptor, when the wrapped functor returns `v` -/
theorem result_clauses (f : FExpr) (args : List Val) (v : Val) (h : (callImpl f args).res = .ok v) :
    (∀ r, (callImpl (.un (.retypeReturn r) f) args).res = .ok (conv r v))
    ∧ (callImpl (.un .hideReturn f) args).res = .ok .unit
    ∧ (∀ b, (callImpl (.un (.bindReturn b) f) args).res = .ok b)
    ∧ (∀ n, callImpl (.un (.trackObj n) f) args = callImpl f args)
    ∧ (∀ c, callImpl (.exceptionCatch f c) args = callImpl f args)
    ∧ (∀ s, (callImpl (.compose1 s f) args).res = (callImpl s [v]).res) :=
  ⟨fun r => callImpl_un_res (n := .retypeReturn r) h, callImpl_un_res (n := .hideReturn) h,
   fun b => callImpl_un_res (n := .bindReturn b) h, fun _ => callImpl_forwards rfl f args,
   callImpl_exceptionCatch_ok h, fun _ => callImpl_compose1_res h⟩

example : (callImpl (.leaf 3 [.dbl] (some .dbl) none) [.num .dbl 27]).res = .ok (.num .dbl 3025) := by decide +kernel

/-- `exception_catch(f, c)` returns `c()` exactly when `f` throws (an exception that the catcher handles: every
    exception for a catcher that does not rethrow; see `exception_catch_partial_propagates` for the other case) -/
theorem exception_catch_throw (f c : FExpr) (args : List Val) (x : Exc) (h : (callImpl f args).res = .threw x)
    (hc : c.handles x = true) :
    (callImpl (.exceptionCatch f c) args).res = (callImpl c []).res
    ∧ (callImpl (.exceptionCatch f c) args).log = (callImpl f args).log ++ (callImpl c []).log := by
  rw [callImpl_exceptionCatch_threw h, if_pos hc]
  exact ⟨rfl, rfl⟩

example : (callImpl (.leaf 3 [.int] (some .int) (some .k1)) [.num .int 1]).res = .threw .k1
    ∧ (FExpr.leaf 4 [] (some .int) none).handles .k1 = true ∧ (FExpr.leaf 4 [] (some .int) none).handles .k2 = true
    ∧ (FExpr.pcatch 4 (some .int) [.k1]).handles .k1 = true := by decide +kernel

/-- **Partial catchers.**  A catcher that rethrows the exception in flight and handles only the types it knows
    (`try { throw; } catch (K1&) {…}`) makes `exception_catch(f, c)` return `c()` when `f` throws one of those types,
    and lets every other exception leave the adaptor unchanged: it reaches the next enclosing `exception_catch`, whose
    catcher returns its value if it handles that type, or — through `slot::operator()` and `signal::emit` as well —
    the caller.  Nothing is recorded after the throwing target in that case (the catcher's body does not run). -/
theorem exception_catch_partial_propagates (f c : FExpr) (args : List Val) (x : Exc)
    (h : (callImpl f args).res = .threw x) (hc : c.handles x = false) :
    callImpl (.exceptionCatch f c) args = callImpl f args
    ∧ (∀ c2, c2.handles x = true →
        (callImpl (.exceptionCatch (.exceptionCatch f c) c2) args).res = (callImpl c2 []).res
        ∧ (callImpl (.exceptionCatch (.exceptionCatch f c) c2) args).log = (callImpl f args).log ++ (callImpl c2 []).log)
    ∧ (∀ c2, c2.handles x = false → (callImpl (.exceptionCatch (.exceptionCatch f c) c2) args).res = .threw x)
    ∧ (∀ s : SlotM, s.f = .exceptionCatch f c → s.callable = true →
        (s.call args).res = .threw x ∧ (viaSignal s.ret [s] args).res = .threw x
        ∧ (viaSignal s.ret [s] args).log = (callImpl f args).log) := by
  have h0 : callImpl (.exceptionCatch f c) args = callImpl f args := by
    rw [callImpl_exceptionCatch_threw h, if_neg (by rw [hc]; exact Bool.false_ne_true)]
  have h' : (callImpl (.exceptionCatch f c) args).res = .threw x := by rw [h0, h]
  refine ⟨h0, fun c2 h2 => ?_, fun c2 h2 => ?_, fun s hf hcl => ?_⟩
  · rw [← h0]
    exact exception_catch_throw _ c2 args x h' h2
  · rw [callImpl_exceptionCatch_threw h', if_neg (by rw [h2]; exact Bool.false_ne_true), h']
  · have hcall : callIt s args = ⟨(callImpl f args).log, .threw x⟩ := by
      rw [callIt_eq, hf, h0, Outcome.mapRes, h]
      rfl
    refine ⟨by rw [SlotM.call, if_pos hcl, hcall], ?_⟩
    rw [viaSignal_single s args hcl, hcall]
    split <;> exact ⟨rfl, rfl⟩

-- f throws K2; the K1-only catcher lets it pass (nothing recorded after f), an outer total catcher handles it,
-- an outer K1-only catcher does not; f throws K1: the K1-only catcher handles it; slot and signal routes
example :
    let f (x : Exc) := FExpr.leaf 0 [.int] (some .long) (some x)
    let pc := FExpr.pcatch 1 (some .long) [.k1]
    let tot := FExpr.leaf 2 [] (some .long) none
    let s : SlotM := ⟨false, false, some .long, .exceptionCatch (f .k2) pc⟩
    wellTyped (.exceptionCatch (.exceptionCatch (f .k2) pc) tot) 1 = true
    ∧ pc.handles .k2 = false ∧ tot.handles .k2 = true
    ∧ callImpl (.exceptionCatch (f .k2) pc) [.num .int 5] = ⟨[⟨0, [.num .int 5]⟩], .threw .k2⟩
    ∧ callImpl (.exceptionCatch (f .k1) pc) [.num .int 5] = ⟨[⟨0, [.num .int 5]⟩, ⟨1, []⟩], .ok (.num .long 100)⟩
    ∧ callImpl (.exceptionCatch (.exceptionCatch (f .k2) pc) tot) [.num .int 5]
        = ⟨[⟨0, [.num .int 5]⟩, ⟨2, []⟩], .ok (.num .long 200)⟩
    ∧ (callImpl (.exceptionCatch (.exceptionCatch (f .k2) pc) pc) [.num .int 5]).res = .threw .k2
    ∧ (s.call [.num .int 5]).res = .threw .k2 ∧ (viaSignal s.ret [s] [.num .int 5]).res = .threw .k2 := by decide +kernel

/-- the documentation (`callSpec`) too lets through what the catcher does not handle: `impl_eq_spec` covers partial
    catchers -/
example :
    let e := FExpr.exceptionCatch (.leaf 0 [.int] (some .long) (some .k2)) (.pcatch 1 (some .long) [.k1])
    wellTyped e 1 = true ∧ callSpec e [.num .int 5] = ⟨[⟨0, [.num .int 5]⟩], .threw .k2⟩ := by decide +kernel

/-- **retype converts, then binds.**  `retype(f)` hands `f` each argument converted to `f`'s declared parameter type
    (`static_cast<T_type>(a)` inside the call expression): a parameter declared `const T&` / `T&&` that needs a
    converting temporary (different arithmetic type, `Str` from a number) is bound to a temporary that lives until the
    call returns, so the target receives the *converted value*; a `const T&` parameter fed a reference result of type
    `T` is that very object. -/
theorem retype_converts_then_binds (ps : List Par) (f : FExpr) (args : List Val) :
    callImpl (.un (.retype ps) f) args = callImpl f (List.zipWith castPar ps args)
    ∧ (∀ id ret thr, (callImpl (.un (.retype ps) (.qleaf id ps ret thr)) args).log
        = [⟨id, List.zipWith castPar ps (List.zipWith castPar ps args)⟩])
    ∧ (∀ (m : PMode) (t s : Ty) (n : Int), castPar ⟨m, t⟩ (.num s n) = convNum t s n)
    ∧ (∀ t c cell n, castPar ⟨.cref, t⟩ (.ref c t cell n) = .ref true t cell n) := by
  refine ⟨callImpl_forwards rfl f args, fun id ret thr => ?_, fun m t s n => ?_, fun t c cell n => ?_⟩
  · rw [callImpl_forwards rfl]
    rfl
  · cases m <;> rfl
  · simp [castPar, bindCRef]

-- retype(ptr_fun(&f)) with f(const long&, Str&&, const Str&, double) called with (int 5, long 7, double 2.9, int 3):
-- the target receives long 5, Str 7, Str 2, double 3.0 — the converted values (converting again changes nothing)
example :
    let ps : List Par := [⟨.cref, .long⟩, ⟨.rref, .str⟩, ⟨.cref, .str⟩, ⟨.val, .dbl⟩]
    let e := FExpr.un (.retype ps) (.qleaf 0 ps (some .long) none)
    wellTyped e 4 = true
    ∧ callImpl e [.num .int 5, .num .long 7, .num .dbl 29, .num .int 3]
        = ⟨[⟨0, [.num .long 5, .num .str 7, .num .str 2, .num .dbl 30]⟩], .ok (.num .long 37)⟩ := by decide +kernel

/-- every row of the result table is `decltype(auto)` or a declared return type — none decays -/
theorem resultMode_forwarding : ∀ k, resultMode k ≠ .decays := resultMode_ne_decays

/-- **Result identity.**  When the wrapped functor returns a reference to object `cell`, so do — for all arguments,
    at any nesting depth of `f` — `bind`, `hide`, `retype`, `track_object`, `exception_catch` (also when the
    reference comes from the catcher), `compose` (the setter's result) and `retype_return<T&>`; conversion to a value
    happens only where a value type is named (`retype_return<T>`, `slot<T(...)>`). -/
theorem result_identity (f : FExpr) (args : List Val) (c : Bool) (t : Ty) (cell : Nat) (n : Int) :
    (∀ nd : Node, nd.forwards = true → (callImpl f (argsImpl nd args)).res = .ok (.ref c t cell n) →
        (callImpl (.un nd f) args).res = .ok (.ref c t cell n))
    ∧ (∀ k, (callImpl f args).res = .ok (.ref c t cell n) → (callImpl (.exceptionCatch f k) args).res = .ok (.ref c t cell n))
    ∧ (∀ g x, (callImpl g args).res = .threw x → f.handles x = true → (callImpl f []).res = .ok (.ref c t cell n) →
        (callImpl (.exceptionCatch g f) args).res = .ok (.ref c t cell n))
    ∧ (∀ g v, (callImpl g args).res = .ok v → (callImpl f [v]).res = .ok (.ref c t cell n) →
        (callImpl (.compose1 f g) args).res = .ok (.ref c t cell n))
    ∧ (∀ g1 g2 v1 v2, (callImpl g1 args).res = .ok v1 → (callImpl g2 args).res = .ok v2 →
        (callImpl f [v1, v2]).res = .ok (.ref c t cell n) →
        (callImpl (.compose2 f g1 g2) args).res = .ok (.ref c t cell n))
    ∧ (∀ c', (callImpl f args).res = .ok (.ref c t cell n) →
        (callImpl (.un (.retypeReturnRef c' t) f) args).res = .ok (.ref c' t cell n))
    ∧ (∀ r, (callImpl f args).res = .ok (.ref c t cell n) →
        (callImpl (.un (.retypeReturn r) f) args).res = .ok (convNum r t n)) := by
  refine ⟨fun nd hk h => ?_, fun k h => ?_, fun g x hg hx h => ?_, fun g v hg h => ?_,
    fun g1 g2 v1 v2 h1 h2 h => ?_, fun c' h => ?_, fun r h => callImpl_un_res (n := .retypeReturn r) h⟩
  · rw [callImpl_forwards hk, h]
  · rw [callImpl_exceptionCatch_ok h, h]
  · rw [(exception_catch_throw g f args x hg hx).1, h]
  · rw [callImpl_compose1_res hg, h]
  · simp only [callImpl_compose2, Outcome.andThen, h1, h2, h]
  · rw [callImpl_un_res (n := .retypeReturnRef c' t) h, resOf, if_pos rfl]

-- bind<0>(exception_catch(hide(track_object(f, t)), c), 4) where f returns `long&` to its pool object 0:
-- the result is that reference; when f throws it is the catcher's reference (object 1)
example :
    let f (thr : Option Exc) := FExpr.un (.bind (some 0) [.num .int 4]) (.exceptionCatch
      (.un (.hide none) (.un (.trackObj 1) (.rleaf 0 [.int] false .long thr))) (.rleaf 1 [] false .long none))
    wellTyped (f none) 1 = true
    ∧ (callImpl (f none) [.num .int 9]).res = .ok (.ref false .long 0 4)
    ∧ (callImpl (f (some .k2)) [.num .int 9]).res = .ok (.ref false .long 1 100)
    ∧ (callImpl (.un (.retypeReturnRef true .long) (f none)) [.num .int 9]).res = .ok (.ref true .long 0 4)
    ∧ (callImpl (.un (.retypeReturn .dbl) (f none)) [.num .int 9]).res = .ok (.num .dbl 40) := by decide +kernel

/-- **Bound references.**  `bind_return(f, std::ref(x))` / `std::cref(x)` returns the reference to `x` itself (zero
    copies) — called without arguments (the separate nullary overload) or with arguments, for every `f` that returns
    normally, and also below `hide`, `bind`, `track_object`, `retype` and as the getter of `compose`, whose setter then
    receives the value of `x`. -/
theorem bound_result_identity (f : FExpr) (c : Bool) (t : Ty) (cell : Nat) (n : Int) :
    let br := FExpr.un (.bindReturn (.ref c t cell n)) f
    (∀ args v, (callImpl f args).res = .ok v → (callImpl br args).res = .ok (.ref c t cell n))
    ∧ (∀ v, (callImpl f []).res = .ok v → (callImpl br []).res = .ok (.ref c t cell n))
    ∧ (∀ nd : Node, nd.forwards = true → ∀ args v, (callImpl f (argsImpl nd args)).res = .ok v →
        (callImpl (.un nd br) args).res = .ok (.ref c t cell n))
    ∧ (∀ s args v, (callImpl f args).res = .ok v →
        (callImpl (.compose1 s br) args).res = (callImpl s [.ref c t cell n]).res) := by
  have key := fun args v h => (result_clauses f args v h).2.2.1 (.ref c t cell n)
  refine ⟨key, key [], fun nd hk args v h => ?_, fun s args v h => callImpl_compose1_res (key args v h)⟩
  rw [callImpl_forwards hk]
  exact key _ v h

-- bind_return(&nullary, std::cref(x))() and hide(bind_return(&nullary, std::cref(x)))(42): the reference to x (pool
-- object 100 holding 7), not a copy
example :
    let br := FExpr.un (.bindReturn (.ref true .long 100 7)) (.leaf 0 [] none none)
    wellTyped br 0 = true ∧ wellTyped (.un (.hide none) br) 1 = true
    ∧ (callImpl br []).res = .ok (.ref true .long 100 7)
    ∧ (callImpl (.un (.hide none) br) [.num .int 42]).res = .ok (.ref true .long 100 7)
    ∧ (callImpl (.compose1 (.leaf 1 [.long] (some .long) none) br) []).res = .ok (.num .long 107) := by decide +kernel

/-- the result table of a code in which `exception_catch` hands both results through
    `static_cast<std::common_type_t<...>>` (both overloads) -/
def tableDecay : ResSite → ResMode
  | .exceptionCatch0 => .decays
  | .exceptionCatch => .decays
  | k => resultMode k

/-- **Decay witness.**  With a decaying row `impl_eq_spec` is false: `exception_catch(f, c)(3)` with `f`, `c`
    returning `long&` yields a copy (a value) where the documentation yields the reference to `f`'s object — also
    below `bind`; value-returning functors do not see the difference. -/
theorem decay_witness :
    let f := FExpr.rleaf 0 [.int] false .long none
    let c := FExpr.rleaf 1 [] false .long none
    let e := FExpr.exceptionCatch f c
    wellTyped e 1 = true
    ∧ (callSpec e [.num .int 3]).res = .ok (.ref false .long 0 3)
    ∧ (callImplT tableDecay e false [.num .int 3]).res = .ok (.num .long 3)
    ∧ (callImplT tableDecay (.un (.bind none [.num .int 3]) (.un (.hide none) e)) false [.num .int 5]).res = .ok (.num .long 5)
    ∧ callImpl e [.num .int 3] = callSpec e [.num .int 3]
    ∧ callImplT tableDecay (.exceptionCatch (.leaf 0 [.int] (some .long) none) (.leaf 1 [] (some .long) none)) false
          [.num .int 3]
        = callSpec (.exceptionCatch (.leaf 0 [.int] (some .long) none) (.leaf 1 [] (some .long) none)) [.num .int 3] := by
  decide +kernel

/-- the result table of a code in which the nullary overload `bind_return_functor::operator()()` is declared `auto` -/
def tableAuto0 : ResSite → ResMode
  | .bindReturn0 => .decays
  | k => resultMode k

/-- **Nullary-overload witness.**  With `auto` in the `bindReturn0` row, `bind_return(&nullary, std::cref(x))()` and
    `hide(bind_return(&nullary, std::cref(x)))(42)` yield a copy of `x`; the call with an argument (variadic overload)
    and the call through `slot_call::call_it` (which names the template overload explicitly) still yield the reference —
    which is why only direct and nested nullary calls expose it. -/
theorem nullary_decay_witness :
    let br0 := FExpr.un (.bindReturn (.ref true .long 100 7)) (.leaf 0 [] none none)
    let br1 := FExpr.un (.bindReturn (.ref true .long 100 7)) (.leaf 0 [.int] none none)
    (callSpec br0 []).res = .ok (.ref true .long 100 7)
    ∧ (callImplT tableAuto0 br0 false []).res = .ok (.num .long 7)
    ∧ (callImplT tableAuto0 (.un (.hide none) br0) false [.num .int 42]).res = .ok (.num .long 7)
    ∧ (callImplT tableAuto0 br1 false [.num .int 1]).res = .ok (.ref true .long 100 7)
    ∧ (callImplT tableAuto0 br0 true []).res = .ok (.ref true .long 100 7)
    ∧ callImpl br0 [] = callSpec br0 [] := by
  decide +kernel

/-- **compose hands the getters' results themselves to the setter** — `compose(s, g)(x) = s(g(x))`,
    `compose(s, g1, g2)(x) = s(g1(x), g2(x))` with the very results as argument expressions: a getter that returns a
    reference gives the setter that object (a setter parameter declared `const T&` / `T&` IS the getter's object). -/
theorem compose_passes_result (s g g1 g2 : FExpr) (args : List Val) :
    callImpl (.compose1 s g) args = (callImpl g args).andThen (fun v => callImpl s [v])
    ∧ callImpl (.compose2 s g1 g2) args
        = (callImpl g1 args).andThen (fun v1 => (callImpl g2 args).andThen (fun v2 => callImpl s [v1, v2])) :=
  ⟨callImpl_compose1 s g args, callImpl_compose2 s g1 g2 args⟩

-- compose(s, g1, g2)(3): g1 returns long& (its pool object 0), g2 returns const long& (object 1); the setter's
-- `const long&` parameters are those two objects; a `const long&` parameter fed from an int& result is a temporary
example :
    let e := FExpr.compose2 (.pleaf 2 [.long, .long] (some .long) none) (.rleaf 0 [.int] false .long none)
      (.rleaf 1 [.int] true .long none)
    wellTyped e 1 = true
    ∧ (callImpl e [.num .int 3]).log
        = [⟨0, [.num .int 3]⟩, ⟨1, [.num .int 3]⟩, ⟨2, [.ref true .long 0 3, .ref true .long 1 103]⟩]
    ∧ (callImpl (.compose1 (.pleaf 1 [.long] none none) (.rleaf 0 [.int] false .int none)) [.num .int 3]).log
        = [⟨0, [.num .int 3]⟩, ⟨1, [.num .long 3]⟩] := by decide +kernel

/-- the result table of a code in which `compose2_functor` first stores the getters' results in `auto` locals -/
def tableAutoLocals : ResSite → ResMode
  | .compose2Arg => .decays
  | k => resultMode k

/-- **Getter-result witness.**  With `auto` locals in `compose2_functor::operator()` the setter receives copies, not
    the getters' objects; getters returning values (and the one-getter `compose`) show no difference. -/
theorem getter_decay_witness :
    let s := FExpr.pleaf 2 [.long, .long] (some .long) none
    let e := FExpr.compose2 s (.rleaf 0 [.int] false .long none) (.rleaf 1 [.int] true .long none)
    let ev := FExpr.compose2 s (.leaf 0 [.int] (some .long) none) (.leaf 1 [.int] (some .long) none)
    (callSpec e [.num .int 3]).log
        = [⟨0, [.num .int 3]⟩, ⟨1, [.num .int 3]⟩, ⟨2, [.ref true .long 0 3, .ref true .long 1 103]⟩]
    ∧ (callImplT tableAutoLocals e false [.num .int 3]).log
        = [⟨0, [.num .int 3]⟩, ⟨1, [.num .int 3]⟩, ⟨2, [.num .long 3, .num .long 103]⟩]
    ∧ callImplT tableAutoLocals ev false [.num .int 3] = callSpec ev [.num .int 3]
    ∧ callImplT tableAutoLocals (.compose1 (.pleaf 2 [.long] none none) (.rleaf 0 [.int] false .long none)) false [.num .int 3]
        = callSpec (.compose1 (.pleaf 2 [.long] none none) (.rleaf 0 [.int] false .long none)) [.num .int 3] := by
  decide +kernel

/-- direct call, call through a slot, emission of a signal holding that single slot: same received arguments,
    same result (the slot's declared return type being the functor's result type) -/
theorem routes_agree (e : FExpr) (args : List Val) (s : SlotM) (hf : s.f = e) (hc : s.callable = true)
    (hret : (direct e args).res.map (retConv s.ret) = (direct e args).res) :
    s.call args = direct e args ∧ viaSignal s.ret [s] args = direct e args := by
  have hcall : callIt s args = direct e args := by
    rw [callIt_eq, hf, Outcome.mapRes, ← direct, hret]
  refine ⟨by rw [SlotM.call, if_pos hc, hcall], ?_⟩
  rw [viaSignal_single s args hc, hcall]
  split
  · next hr =>
    rw [hr] at hret
    exact congrArg (Outcome.mk _) hret
  · rfl

example :
    let e := FExpr.un (.bind (some 0) [.num .int 4]) (.leaf 0 [.int, .dbl] (some .dbl) none)
    let s : SlotM := ⟨false, false, some .dbl, e⟩
    s.callable = true ∧ (direct e [.num .dbl 27]).res.map (retConv s.ret) = (direct e [.num .dbl 27]).res
      ∧ direct e [.num .dbl 27] = ⟨[⟨0, [.num .int 4, .num .dbl 27]⟩], .ok (.num .dbl 85)⟩ := by decide +kernel

end Sigc.C10
