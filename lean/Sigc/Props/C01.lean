import Sigc.Model
import Sigc.Lemmas.Basic
import Sigc.Lemmas.EmitTurns
import Sigc.Lemmas.StepIter
/-!
# C01 — emission invokes exactly the connected, unblocked slots, once each, in order
(`turns_eq_snapshot` and its companions are proved with the invariant of Sigc/Lemmas/Emit*.lean; `turns_ghost_erase` and
`loop_turns_eq_snapshot` are lemmas of `Sigc.Emit` stated here so that the check of C01 audits them)
-/
namespace Sigc.C01
open Sigc.Model

/-- the cell `insert` creates: fresh id, the (copied or moved) slot with a dummy representation if it
    had none, linked to its `self_and_iter` record -/
def newCell (s : St) (sl : SlotB) : Cell :=
  { id := s.next,
    slot := (match sl.rep with
      | none => { sl with rep := some { call := false, fn := none } }
      | some _ => sl),
    linked := true }

/-- `connect()` appends: the new cell (fresh id `s.next`) is the last element of that list, the
    others keep their order; no other list changes -/
theorem connect_appends (s : St) (i : Nat) (im : Impl) (sl : SlotB) (hi : aget s.impls i = some im) :
    (insertCell s i false sl).2 = s.next ∧
    ∃ c : Cell, c.id = s.next ∧ c.linked = true ∧
      aget (insertCell s i false sl).1.impls i = some { im with cells := im.cells ++ [c] } ∧
      ∀ k, k ≠ i → aget (insertCell s i false sl).1.impls k = aget s.impls k := by
  rw [insertCell_some hi]
  exact ⟨rfl, newCell s sl, rfl, rfl, aget_aset_same _ _ _, fun k hk => aget_aset_other _ _ _ _ hk⟩

/-- `connect_first()` prepends -/
theorem connect_first_prepends (s : St) (i : Nat) (im : Impl) (sl : SlotB) (hi : aget s.impls i = some im) :
    ∃ c : Cell, c.id = s.next ∧ c.linked = true ∧
      aget (insertCell s i true sl).1.impls i = some { im with cells := c :: im.cells } ∧
      ∀ k, k ≠ i → aget (insertCell s i true sl).1.impls k = aget s.impls k := by
  rw [insertCell_some hi]
  exact ⟨newCell s sl, rfl, rfl, aget_aset_same _ _ _, fun k hk => aget_aset_other _ _ _ _ hk⟩

/-- a connected slot always has a representation (the dummy one if the slot was empty), so an end
    marker (a cell without representation) is never confused with a connected slot -/
theorem connected_cell_has_rep (s : St) (i : Nat) (first : Bool) (im : Impl) (sl : SlotB)
    (hi : aget s.impls i = some im) :
    ∃ im' c, aget (insertCell s i first sl).1.impls i = some im' ∧ c ∈ im'.cells ∧ c.id = s.next ∧ c.slot.rep.isSome := by
  rw [insertCell_some hi]
  refine ⟨_, newCell s sl, aget_aset_same _ _ _, ?_, rfl, ?_⟩
  · cases first
    · exact List.mem_append_right _ (List.mem_singleton.mpr rfl)
    · exact List.mem_cons_self
  · unfold newCell
    cases hr : sl.rep with
    | none => rfl
    | some v => simp [hr]

/-- one step of the non-accumulating emitter: a cell that is valid and unblocked at its turn is
    invoked with the emitted argument (the loop continues with the functor's result), for every program -/
theorem emitLoop_invokes_callable (f : Nat) (P : Prog) (s : St) (i cur m arg r : Nat) (im : Impl) (c : Cell) (fn : Fun)
    (hne : cur ≠ m) (hi : aget s.impls i = some im) (hc : im.cells.find? (·.id = cur) = some c)
    (hb : c.slot.blocked = false) (hrep : c.slot.rep = some { call := true, fn := some fn }) :
    emitLoop (f+1) P s i cur m arg r =
      (match invokeFun f P s fn arg with
       | none => none
       | some (s, .exc, v) => some (s, .exc, v)
       | some (s, .ok, v) =>
         match aget s.impls i with
         | none => some (s.fail "loop: impl destroyed", .ok, v)
         | some im2 =>
           match succId im2.cells cur with
           | none => some (s.fail "loop: iterator invalidated", .ok, v)
           | some nxt => emitLoop f P s i nxt m arg v) := by
  rw [emitLoop]
  simp only [hne, if_false, hi, hc, hrep, hb]
  rfl

/-- a cell that is empty, invalidated, or an end marker is not invoked -/
theorem emitLoop_skips_invalid (f : Nat) (P : Prog) (s : St) (i cur m arg r : Nat) (im : Impl) (c : Cell)
    (hne : cur ≠ m) (hi : aget s.impls i = some im) (hc : im.cells.find? (·.id = cur) = some c)
    (he : c.slot.empty = true) (nxt : Nat) (hn : succId im.cells cur = some nxt) :
    emitLoop (f+1) P s i cur m arg r = emitLoop f P s i nxt m arg r :=
  StepIter.emitLoop_skip f P s i cur m arg r im c hne hi hc (StepIter.callableAt_empty s i cur im c hi hc he) nxt hn

example : ∃ c : Cell, aget (insertCell { impls := [(5, { cells := [{ id := 1, slot := {}, linked := true }] })], next := 9 } 5 false {}).1.impls 5
    = some { cells := [{ id := 1, slot := {}, linked := true }, c] } := by
  exact ⟨{ id := 9, slot := { rep := some { call := false, fn := none } }, linked := true },
         by simp [insertCell, St.fresh, aget, setImpl, aset]⟩


/-! ## turns = snapshot

`Sigc.Emit.emitLoopT` is `emitLoop` with one ghost result: the list of the ids of the cells that were
offered a turn (visited by the loop), in order.  `turns_ghost_erase` says that forgetting the ghost list
gives back `emitLoop`, so statements about the ghost list are statements about the model's loop. -/

open Sigc.Emit in
theorem turns_ghost_erase (f : Nat) (P : Prog) (s : St) (i cur m arg r : Nat) :
    (emitLoopT f P s i cur m arg r).map (·.1) = emitLoop f P s i cur m arg r :=
  emitLoopT_erase f P s i cur m arg r

open Sigc.Emit in
/-- for every emission of a non-accumulating signal, at any depth, from any
    state satisfying the invariant (every reachable state does: `C03.inv_reachable`, `C03.safe_inside`),
    whatever the invoked slots do (connect, disconnect, clear, destroy, re-emit …): the cells offered a
    turn by the emission's loop are exactly the cells present when the emission started, in list
    order, each once.  If a slot throws, the turns are a non-empty prefix of that snapshot (the thrower
    is the last one). `s2` is the state in which the loop ends, `vis` the ghost list of turns. -/
theorem turns_eq_snapshot (f : Nat) (P : Prog) (s : St) (fl : Flavour) (i arg : Nat) (strat : Strat) (im : Impl)
    (hs : Inv s) (hi : aget s.impls i = some im) (hacc : fl.isAcc = false) (hne : im.cells ≠ [])
    (s' : St) (o : Outcome) (v : Nat)
    (h : emitImpl (f+1) P s fl (some i) arg strat = some (s', o, v)) :
    ∃ s2 vis, emitLoopT f P (emitStart s i im) i (emitFirst s im) s.next arg 0 = some ((s2, o, v), vis) ∧
      (o = .ok → vis = im.cells.map (·.id)) ∧
      (o = .exc → vis ≠ [] ∧ vis <+: im.cells.map (·.id)) := by
  rcases emitImpl_turns f P s fl i arg strat im hs hi hacc s' o v h with ⟨hc, _⟩ | h
  · exact absurd hc hne
  · exact h

open Sigc.Emit in
/-- consequence (C03 "a slot connected during an emission is not invoked by that emission"): every cell
    that gets a turn existed when the emission started — its id is below the allocator value `s.next` of
    that moment, whereas every cell connected later gets an id `≥ s.next` (`connect_appends`) -/
theorem turns_are_old_cells (f : Nat) (P : Prog) (s : St) (i arg : Nat) (im : Impl) (hs : Inv s)
    (hi : aget s.impls i = some im) (res : St × Outcome × Nat) (vis : List Nat)
    (h : emitLoopT f P (emitStart s i im) i (emitFirst s im) s.next arg 0 = some (res, vis)) :
    ∀ k ∈ vis, k ∈ im.cells.map (·.id) ∧ k < s.next := by
  have hsnap := emitLoopT_snapshot f P s i arg im hs hi res vis h
  have hsub : ∀ k ∈ vis, k ∈ cids im := by
    intro k hk
    cases ho : res.2.1 with
    | ok => rw [hsnap.1 ho] at hk; exact hk
    | exc => exact (hsnap.2 ho).2.subset hk
  intro k hk
  exact ⟨hsub k hk, (hs.lt i im hi).2 k (hsub k hk)⟩

open Sigc.Emit in
/-- the same statement for the loop alone, started the way `emitImpl` starts it -/
theorem loop_turns_eq_snapshot (f : Nat) (P : Prog) (s : St) (i arg : Nat) (im : Impl) (hs : Inv s)
    (hi : aget s.impls i = some im) (res : St × Outcome × Nat) (vis : List Nat)
    (h : emitLoopT f P (emitStart s i im) i (emitFirst s im) s.next arg 0 = some (res, vis)) :
    (res.2.1 = .ok → vis = im.cells.map (·.id)) ∧ (res.2.1 = .exc → vis ≠ [] ∧ vis <+: im.cells.map (·.id)) :=
  emitLoopT_snapshot f P s i arg im hs hi res vis h

open Sigc.Emit in
/-- a concrete instance: three cells, the second one blocked: all three get their turn, in order -/
example : (emitLoopT 5 { bodies := [], top := [] }
    (emitStart { impls := [(1, { cells := [⟨2, { rep := some ⟨true, some (.leaf 7 [])⟩ }, true⟩,
                                           ⟨3, { blocked := true, rep := some ⟨true, some (.leaf 8 [])⟩ }, true⟩,
                                           ⟨4, { rep := some ⟨true, some (.leaf 9 [])⟩ }, true⟩] })], next := 5 } 1
      { cells := [⟨2, { rep := some ⟨true, some (.leaf 7 [])⟩ }, true⟩,
                  ⟨3, { blocked := true, rep := some ⟨true, some (.leaf 8 [])⟩ }, true⟩,
                  ⟨4, { rep := some ⟨true, some (.leaf 9 [])⟩ }, true⟩] })
    1 2 5 0 0).map (·.2) = some [2, 3, 4] := by decide +kernel

end Sigc.C01
