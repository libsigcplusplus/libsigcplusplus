import Sigc.SweepLLemmasOps
/-!
  # SweepL — one slot list with the exact destruction timing of functor-owned connections (C03, C07)

  Model: `Sigc/SweepL.lean`; language and totality rules: `docs/SWEEPL.md`.  The main mechanism model
  (`Sigc/Model.lean`) destroys functor-owned objects at the end of an operation; this component destroys them where
  the library does — inside `erase` under a holder, inside the loop of `sweep()`, inside `clear()` — so a destructor
  that disconnects a cell *that a running sweep has already passed*, in a list that also holds a never-disconnected
  empty slot, is inside the model (DESIGN §6 item 6; `sweepIdsMutant` below: a `sweep()` that cancels the re-sweep
  request of such a destructor).

  All theorems quantify over **all** programs (`run P ops`: any functor bodies `P`, any top-level operations `ops`;
  every prefix of a program is a program, so a statement about `run P ops` is one about the state after *every*
  top-level operation) or over all states satisfying the invariant `Inv` and all operations at every nesting depth
  (`step_preserves`); nothing is enumerated.  Lemmas: `Sigc/SweepLLemmas*.lean`.
-/
namespace Sigc.SweepL

/-! ## the invariant -/

theorem inv_reachable (P : Nat → List Op) (ops : List Op) : Inv (run P ops) :=
  (runOps_spec P ops State.init init_inv).1

/-- **every operation at every depth** (top level: `n = maxDepth`; in the body of a functor invoked by an emission
    nested `k` deep: `n = maxDepth - k`) preserves `Inv`, and gives back `exec_count_`, the number of placeholders
    and the error flag as it found them -/
theorem step_preserves (P : Nat → List Op) (n : Nat) (op : Op) (s : State) (h : Inv s) :
    Inv (step P n op s) ∧ (step P n op s).exec = s.exec ∧ (step P n op s).marks = s.marks ∧
    (step P n op s).err = s.err :=
  let ⟨a, b⟩ := step_spec P n op s h
  ⟨a, b.exec, b.marks, b.err⟩

/-! ## termination: the sweep chain never runs out of fuel, no destructor runs outside a holder -/

/-- `err` is set by a `sweep()` chain that exhausts its fuel (`cells.length + 1`), by a functor destructor that
    runs with `exec_count_ == 0`, and by a `sweep()` that starts while a placeholder of an emission is in the list
    (the model keeps only their number): none of them happens, in no program, nor when the list is destroyed -/
theorem no_fuel_error (P : Nat → List Op) (ops : List Op) :
    (run P ops).err = false ∧ (finish (run P ops)).err = false := by
  obtain ⟨a, b⟩ := runOps_spec P ops State.init init_inv
  exact ⟨b.err, ((clear_spec a).1.2.err).trans b.err⟩

/-- the fuel argument: a chain of sweeps started with more fuel than there are cells does not set `err` -/
theorem sweep_fuel_sufficient (n : Nat) (s : State) (hn : s.cells.length < n) (hb : Base s) (hm : s.marks = 0) :
    (sweep n s).err = s.err ∧ (sweep n s).exec = s.exec ∧ ((sweep n s).exec = 0 → (sweep n s).deferred = false) :=
  let ⟨sc, _, v⟩ := sweep_spec n s hn hb hm
  ⟨sc.err, sc.same.exec, v⟩

/-- **while `exec_count_ > 0` no cell leaves the list**, whatever operation runs, at any depth.  This is the fact
    behind the snapshot form of the emission loop of the model (`emission` walks the identities that were in the list
    when the loop started and looks each one up again): the look-up never fails, the iterator of the real loop never
    dangles, and — `insertCell` inserting only at the two ends — the real loop visits exactly these cells in this
    order. -/
theorem nothing_erased_while_executing (P : Nat → List Op) (n : Nat) (op : Op) (s : State) (h : Inv s)
    (he : s.exec ≠ 0) : ∀ c ∈ s.cells, ∃ c' ∈ (step P n op s).cells, c'.id = c.id :=
  step_sub P n op s h he

/-! ## after every top-level operation the list is clean -/

/-- **C03/C07.**  After every top-level operation of every program: `exec_count_ == 0`,
    `deferred_ == false`, no placeholder of an emission is left, and the list contains **no disconnected cell** —
    every remaining cell still has its parent link (`conn`), so it is either a connected slot with its functor
    (`empty()` false) or a slot that was empty when it was connected and has never been disconnected (K1). -/
theorem quiescent_clean (P : Nat → List Op) (ops : List Op) :
    (run P ops).exec = 0 ∧ (run P ops).deferred = false ∧ (run P ops).marks = 0 ∧
    ∀ c ∈ (run P ops).cells, c.conn = true ∧ (c.kind = Kind.empty ∨ c.isEmpty = false) := by
  obtain ⟨a, b⟩ := runOps_spec P ops State.init init_inv
  have h0 : (run P ops).exec = 0 := b.exec
  have hm : (run P ops).marks = 0 := b.marks
  refine ⟨h0, a.quiet h0, hm, ?_⟩
  intro c hc
  have hcon := a.all_connected h0 c hc
  refine ⟨hcon, ?_⟩
  cases hk : c.kind with
  | empty => exact Or.inl rfl
  | _ => right; simp [Cell.isEmpty, hcon, hk, Kind.fid]

/-- the same for the states inside an emission, as far as it can hold there: a disconnected cell in the list
    implies that `deferred_` is set (the sweep at the end of the outermost scope is going to happen) -/
theorem disconnected_implies_deferred (s : State) (h : Inv s) :
    ∀ c ∈ s.cells, c.conn = false → s.deferred = true := by
  intro c hc hcon
  exact (h.pend c hc hcon).elim id (fun h => by cases h)

/-! ## functor accounting -/

def cntConn (f : Nat) (cs : List Cell) : Nat := (cs.filter fun c => c.conn && c.kind.fid == some f).length

theorem cnt_eq_cntConn (f : Nat) (cs : List Cell) (h : ∀ c ∈ cs, c.conn = true) : cnt f cs = cntConn f cs := by
  rw [cnt_eq, cntConn, List.countP_eq_length_filter]
  congr 1
  exact List.filter_congr fun c hc => by simp [h c hc]

/-- **C07.**  The counter behind `live? f` (+1 when a functor copy enters the list, −1 at the
    moment the library destroys the cell) equals the number of cells of the list that hold functor `f`; after every
    top-level operation these are exactly the still-connected slots with functor `f` — the functor of a
    disconnected slot has been released when the outermost operation returns. -/
theorem live_count_spec (P : Nat → List Op) (ops : List Op) (f : Nat) :
    (run P ops).live f = cnt f (run P ops).cells ∧
    (run P ops).live f = cntConn f (run P ops).cells ∧
    (applyBase (.live f) (run P ops)).2 = toString (cntConn f (run P ops).cells) := by
  have a := inv_reachable P ops
  have q := quiescent_clean P ops
  have h1 := a.base.live f
  have h2 := cnt_eq_cntConn f (run P ops).cells (fun c hc => (q.2.2.2 c hc).1)
  exact ⟨h1, h1.trans h2, by simp only [applyBase]; rw [h1, h2]⟩

theorem live_count_inv (s : State) (h : Inv s) (f : Nat) : s.live f = cnt f s.cells := h.base.live f

/-- `K<n>` names at most one cell -/
theorem names_unique (s : State) (h : Inv s) : (ids s.cells).Nodup := h.base.nodup

/-- destroying the list releases everything: no cell, no functor copy -/
theorem final_live_zero (P : Nat → List Op) (ops : List Op) :
    (finish (run P ops)).cells = [] ∧ ∀ f, (finish (run P ops)).live f = 0 := by
  have a := inv_reachable P ops
  have q := quiescent_clean P ops
  obtain ⟨⟨i, _⟩, hnil, _⟩ := clear_spec a
  have hc : (finish (run P ops)).cells = [] := hnil q.1
  refine ⟨hc, fun f => ?_⟩
  have := i.base.live f
  simp only [finish] at hc ⊢
  rw [this, hc]; rfl

theorem sum_zero (xs : List Nat) (g : Nat → Nat) (h : ∀ f, g f = 0) : (xs.map g).foldl (· + ·) 0 = 0 := by
  induction xs with
  | nil => rfl
  | cons x xs ih => simp only [List.map_cons, List.foldl_cons, h x]; exact ih

/-- the last line of the trace the driver prints for **any program text** is `0 final live=0` (no `fuel` mark) -/
theorem final_line (lines : List String) : (runProgram lines).getLast? = some "0 final live=0" := by
  unfold runProgram
  simp only []
  generalize parseProg _ none [] [] = pr
  obtain ⟨bs, top⟩ := pr
  simp only [List.getLast?_append, List.getLast?_singleton]
  have h1 := (no_fuel_error (bodyOf bs) top).2
  have h2 := (final_live_zero (bodyOf bs) top).2
  rw [h1, sum_zero _ _ h2]
  rfl

/-! ## what is disconnected is released — `disc`, `clear`, and the death of an owner functor

  The three facts the monitor of `checks/sweepl.py` uses to know, from the trace alone, which cells must be gone
  after a top-level operation. -/

theorem step_disc_cells (P : Nat → List Op) (n k : Nat) (s : State) :
    (step P n (.disc k) s).cells = if k ∈ s.used then (disconnect k s).cells else s.cells := by
  cases n <;> by_cases hk : k ∈ s.used <;> simp [step, check, hk, log, applyBase]

theorem step_clear_cells (P : Nat → List Op) (n : Nat) (s : State) :
    (step P n .clear s).cells = (clear s).cells := by
  cases n <;> simp [step, check, log, applyBase]

/-- `disc K<k>` at any depth leaves no connected cell named `k` (if the name was never given there is no such cell) -/
theorem disc_disconnects (P : Nat → List Op) (n k : Nat) (s : State) (h : Inv s) :
    NoConn k (step P n (.disc k) s) := by
  unfold NoConn
  rw [step_disc_cells]
  split
  · exact (disconnect_spec k h).2
  · rename_i hk
    intro c hc hi
    exact absurd (hi ▸ h.base.used c hc) hk

theorem clear_disconnects_all (P : Nat → List Op) (n : Nat) (s : State) (h : Inv s) :
    ∀ c ∈ (step P n .clear s).cells, c.conn = false := by
  rw [step_clear_cells]; exact (clear_spec h).2.2

/-- **nothing is ever re-connected**: a name that was given and names no connected cell names no connected cell
    after any further operation at any depth (names are not reused, a disconnected slot stays disconnected) -/
theorem disconnected_stays (P : Nat → List Op) (n : Nat) (op : Op) (s : State) (h : Inv s) (k : Nat)
    (hk : k ∈ s.used) (hn : NoConn k s) :
    NoConn k (step P n op s) ∧ k ∈ (step P n op s).used :=
  let ⟨_, b⟩ := step_spec P n op s h
  ⟨b.keep.noConn k hk hn, b.keep.used k hk⟩

theorem disconnected_stays_run (P : Nat → List Op) (ops : List Op) (s : State) (h : Inv s) (k : Nat)
    (hk : k ∈ s.used) (hn : NoConn k s) :
    NoConn k (runOps P ops s) ∧ k ∈ (runOps P ops s).used :=
  let ⟨_, b⟩ := runOps_spec P ops s h
  ⟨b.keep.noConn k hk hn, b.keep.used k hk⟩

/-- at quiescence "no connected cell named `k`" means "no cell named `k`": the slot is erased, its functor destroyed -/
theorem noConn_quiescent {s : State} (h : Inv s) (h0 : s.exec = 0) {k : Nat} (hn : NoConn k s) :
    ∀ c ∈ s.cells, c.id ≠ k := by
  intro c hc hi
  have := hn c hc hi
  rw [h.all_connected h0 c hc] at this; cases this

/-- a given name that names no connected cell is dead for good: in any later quiescent state no cell bears it -/
theorem dead_gone (P : Nat → List Op) (ops : List Op) {s : State} (h : Inv s) {k : Nat} (hk : k ∈ s.used)
    (hn : NoConn k s) (h0 : (runOps P ops s).exec = 0) : ∀ c ∈ (runOps P ops s).cells, c.id ≠ k :=
  noConn_quiescent (runOps_spec P ops s h).1 h0 (disconnected_stays_run P ops s h k hk hn).1

theorem run_append_cons (P : Nat → List Op) (ops ops2 : List Op) (op : Op) :
    run P (ops ++ op :: ops2) = runOps P ops2 (step P maxDepth op (run P ops)) := by
  simp [run, runOps, List.foldl_append]

/-- **C07.**  After a top-level `disc K<k>` of a given name, and for ever after, the list holds no
    cell named `k` (so, by `live_count_spec`, no copy of its functor) -/
theorem disc_released (P : Nat → List Op) (ops ops2 : List Op) (k : Nat) (hk : k ∈ (run P ops).used) :
    ∀ c ∈ (run P (ops ++ .disc k :: ops2)).cells, c.id ≠ k := by
  have a := inv_reachable P ops
  obtain ⟨a1, b1⟩ := step_spec P maxDepth (.disc k) (run P ops) a
  have q := (quiescent_clean P (ops ++ .disc k :: ops2)).1
  rw [run_append_cons] at q ⊢
  exact dead_gone P ops2 a1 (b1.keep.used k hk) (disc_disconnects P maxDepth k _ a) q

/-- after a top-level `clear` the list is empty, and no name given before it ever names a cell again -/
theorem clear_released (P : Nat → List Op) (ops ops2 : List Op) :
    (run P (ops ++ [.clear])).cells = [] ∧
    ∀ c ∈ (run P (ops ++ .clear :: ops2)).cells, c.id ∉ (run P ops).used := by
  have a := inv_reachable P ops
  have hnil : (step P maxDepth .clear (run P ops)).cells = [] := by
    rw [step_clear_cells]; exact (clear_spec a).2.1 (quiescent_clean P ops).1
  refine ⟨by rw [run_append_cons]; exact hnil, fun c hc hk => ?_⟩
  obtain ⟨a1, b1⟩ := step_spec P maxDepth .clear (run P ops) a
  have q := (quiescent_clean P (ops ++ .clear :: ops2)).1
  rw [run_append_cons] at q hc
  exact dead_gone P ops2 a1 (b1.keep.used _ hk) (fun c' hc' => by rw [hnil] at hc'; cases hc') q c hc rfl

/-- an `own` that is performed is recorded in the ghost field `edges` (that nothing else writes `edges` is not stated) -/
theorem own_records_edge (k v : Nat) (s : State) :
    (applyBase (.own k v) s).1.edges = (k, v) :: s.edges := rfl

/-- in every state between two operations, at any depth: if the cell of an owner functor has left the list (its
    functor has been destroyed — by `erase` under a holder, by `sweep()`, by `clear()`), every cell it owned a
    scoped connection to is disconnected … -/
theorem owner_gone_disconnects (s : State) (h : Inv s) (k v : Nat) (he : (k, v) ∈ s.edges)
    (hg : ∀ c ∈ s.cells, c.id ≠ k) : NoConn v s :=
  h.own.released (k, v) he hg

/-- **C03/C07** … and after every top-level operation it is gone from the list — also when the owner is erased by a
    pass of `sweep()` that has already passed the owned cell and has an empty slot still ahead: the destructor's
    request for another sweep survives the rest of the pass -/
theorem owner_gone_releases (P : Nat → List Op) (ops : List Op) (k v : Nat)
    (he : (k, v) ∈ (run P ops).edges) (hg : ∀ c ∈ (run P ops).cells, c.id ≠ k) :
    ∀ c ∈ (run P ops).cells, c.id ≠ v :=
  noConn_quiescent (inv_reachable P ops) (quiescent_clean P ops).1
    (owner_gone_disconnects _ (inv_reachable P ops) k v he hg)

/-! ## `size()` -/

def nFun (cs : List Cell) : Nat := (cs.filter fun c => c.kind.fid.isSome).length
def nEmpty (cs : List Cell) : Nat := (cs.filter fun c => c.kind.fid.isNone).length

theorem length_split (cs : List Cell) : cs.length = nFun cs + nEmpty cs := by
  induction cs with
  | nil => rfl
  | cons x xs ih =>
    simp only [nFun, nEmpty, List.filter_cons, List.length_cons] at ih ⊢
    cases hx : x.kind.fid <;> simp <;> omega

/-- **C03.**  After every top-level operation `size()` is the number of cells
    of the list: the connected slots with a functor **plus the slots that were empty when they were connected and
    that no sweep has dropped yet** (known finding K1) — and nothing else: no placeholder, no disconnected slot
    (`quiescent_clean`). -/
theorem size_spec (P : Nat → List Op) (ops : List Op) :
    (applyBase .size (run P ops)).2 = toString (run P ops).cells.length ∧
    (run P ops).cells.length = nFun (run P ops).cells + nEmpty (run P ops).cells ∧
    (∀ c ∈ (run P ops).cells, c.conn = true) := by
  have q := quiescent_clean P ops
  refine ⟨by simp only [applyBase]; rw [q.2.2.1]; rfl, length_split _, fun c hc => (q.2.2.2 c hc).1⟩

/-- inside an emission `size()` also counts one placeholder per running emission (the library's behaviour) -/
theorem size_counts_placeholders (s : State) :
    (applyBase .size s).2 = toString (s.cells.length + s.marks) := rfl

/-! ## non-vacuity: owner + empty slot + re-entrant disconnect

  The situation in which a `sweep()` that cancels the re-sweep request shows: `K1` (functor 1) first, `K2` an owner
  (functor 2) of a scoped connection to `K1`, `K3` an empty slot, `K4` (functor 4) whose body disconnects `K2` during
  the emission.
  The sweep at the end of the emission erases `K2`; its functor's destructor disconnects `K1`, which the pass
  *has already passed*; `K3`, the empty slot, is disconnected and erased by the same pass; the re-sweep erases `K1`. -/

def demoBodies : Nat → List Op := fun f => if f = 4 then [.disc 2] else []
def demoOps : List Op :=
  [.conn false 1 (.fn 1), .conn false 2 (.own 2), .own 2 1, .conn false 3 .empty, .conn false 4 (.fn 4)]

/-- before the emission: four cells, the empty one counted (K1) -/
example : ids (run demoBodies demoOps).cells = [1, 2, 3, 4] ∧ (run demoBodies demoOps).live 1 = 1 := by decide

/-- after the emission: only `K4` is left; the functors of `K1` and `K2` are released; nothing deferred -/
example : ids (run demoBodies (demoOps ++ [.emit 7])).cells = [4] ∧
    (run demoBodies (demoOps ++ [.emit 7])).live 1 = 0 ∧ (run demoBodies (demoOps ++ [.emit 7])).live 2 = 0 ∧
    (run demoBodies (demoOps ++ [.emit 7])).live 4 = 1 ∧
    (run demoBodies (demoOps ++ [.emit 7])).deferred = false := by decide

/-- the hypotheses of `owner_gone_releases` hold there: the edge `K2 → K1` is recorded, `K2` is gone — and so is `K1` -/
example : (2, 1) ∈ (run demoBodies (demoOps ++ [.emit 7])).edges ∧
    (∀ c ∈ (run demoBodies (demoOps ++ [.emit 7])).cells, c.id ≠ 2) ∧
    (∀ c ∈ (run demoBodies (demoOps ++ [.emit 7])).cells, c.id ≠ 1) := by decide

/-- inside the emission, after the body of functor 4 has disconnected `K2`: `K2` is still in the list, disconnected,
    `deferred_` is set, `exec_count_` is 1 (a state to which `disconnected_implies_deferred`, `disc_disconnects` and
    `nothing_erased_while_executing` apply non-trivially) -/
example :
    let s0 := run demoBodies demoOps
    let s1 := step demoBodies 2 (.disc 2) { s0 with exec := 1, marks := 1 }
    ids s1.cells = [1, 2, 3, 4] ∧ s1.cells.map (·.conn) = [true, false, true, true] ∧ s1.deferred = true := by
  decide

/-- the same without an emission: `K3` owns `K2` owns `K1`, `K4` empty; `disc K3` at top level erases `K3` under a
    holder, its destructor disconnects `K2` (deferred), the sweep erases `K2`, whose destructor disconnects `K1`,
    *already passed* by that pass; the pass drops the empty `K4`, the second sweep erases `K1` -/
def chainOps : List Op :=
  [.conn false 1 (.fn 1), .conn false 2 (.own 2), .own 2 1, .conn false 3 (.own 3), .own 3 2,
   .conn false 4 .empty, .disc 3]

example : (run (fun _ => []) chainOps).cells = [] ∧ (run (fun _ => []) chainOps).live 1 = 0 ∧
    (run (fun _ => []) chainOps).err = false := by decide

/-- `sweepIds` with the re-sweep request cancelled: a pass that clears `deferred_` when it disconnects an empty slot
    leaves the disconnected `K1` in the list — `quiescent_clean` speaks of `sweepIds`, not of any sweep -/
def sweepIdsMutant : List Nat → State → State
  | [], s => s
  | i :: is, s =>
    match find i s.cells with
    | none => sweepIdsMutant is s
    | some c =>
      if c.isEmpty then
        let s1 := if c.conn then { s with cells := setDisc i s.cells, deferred := false } else s
        sweepIdsMutant is (eraseCell i s1)
      else sweepIdsMutant is s

example :
    let s0 := run (fun _ => []) (chainOps.take 6)
    -- `K2` disconnected and `sweep()` entered, as at the end of an emission in which `K2` was disconnected
    let s1 : State := { s0 with cells := setDisc 2 s0.cells, exec := 1, deferred := false }
    (ids (sweepIdsMutant (ids s1.cells) s1).cells = [1, 3] ∧ (sweepIdsMutant (ids s1.cells) s1).deferred = false ∧
     ((sweepIdsMutant (ids s1.cells) s1).cells.map (·.conn)) = [false, true]) ∧
    (ids (sweepIds (ids s1.cells) s1).cells = [1, 3] ∧ (sweepIds (ids s1.cells) s1).deferred = true) := by decide

end Sigc.SweepL
