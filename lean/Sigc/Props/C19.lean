import Sigc.Model
/-!
# C19 — object graphs confined to different threads never interfere  (partial, see DESIGN §5 C19)

What can be proved: *if* the library's state is a product of per-thread components and every
operation of a thread is a function of that thread's component only (no hidden shared mutable state —
the hypothesis the check discharges on the code by enumerating every variable with static or thread
storage duration in /repo/sigc++ and every writable data symbol of the library objects), *then* for
every number of threads and every interleaving of their operation sequences each thread ends in the
state, and sees the observations, of its solo run.  The scheduler, the memory model and malloc are the
runtime's; data races are looked for with ThreadSanitizer on the real library.
-/
namespace Sigc.C19

structure Machine (σ ο β : Type) where
  step : σ → ο → σ × β

variable {σ ο β : Type}

def runSolo (M : Machine σ ο β) (s : σ) : List ο → σ × List β
  | [] => (s, [])
  | o :: os =>
    let (s', b) := M.step s o
    let (s'', bs) := runSolo M s' os
    (s'', b :: bs)

/-- a global state is one component per thread, a schedule any list of (thread, operation); the
    hypothesis is built in: a step reads and writes the component of its thread only -/
def runSched (M : Machine σ ο β) (st : Nat → σ) : List (Nat × ο) → (Nat → σ) × List (Nat × β)
  | [] => (st, [])
  | (t, o) :: rest =>
    let (s', b) := M.step (st t) o
    let (st'', obs) := runSched M (fun u => if u = t then s' else st u) rest
    (st'', (t, b) :: obs)

def opsOf (t : Nat) (sched : List (Nat × ο)) : List ο := (sched.filter (·.1 = t)).map (·.2)
def obsOf (t : Nat) (obs : List (Nat × β)) : List β := (obs.filter (·.1 = t)).map (·.2)

/-- **C19** (interleaving independence).  Whatever the machine, the number of threads and the schedule,
    thread `t` ends in the state and makes the observations of its solo run on its own operations -/
theorem interleaving_independent (M : Machine σ ο β) (sched : List (Nat × ο)) (st : Nat → σ) (t : Nat) :
    (runSched M st sched).1 t = (runSolo M (st t) (opsOf t sched)).1 ∧
    obsOf t (runSched M st sched).2 = (runSolo M (st t) (opsOf t sched)).2 := by
  induction sched generalizing st with
  | nil => simp [runSched, runSolo, opsOf, obsOf]
  | cons p rest ih =>
    obtain ⟨u, o⟩ := p
    simp only [runSched]
    have := ih (fun v => if v = u then (M.step (st u) o).1 else st v)
    by_cases h : u = t
    · subst h
      simp only [if_true] at this
      simpa [opsOf, obsOf, runSolo] using this
    · have ht : (if t = u then (M.step (st u) o).1 else st t) = st t := by
        simp [Ne.symm h]
      simp only [ht] at this
      simpa [opsOf, obsOf, h] using this

/-- the mechanism model as such a machine: a program line of a thread acts on that thread's own `St`
    (its object graph, allocator and trace); out of fuel the state stays, observed as `none` -/
def modelMachine (fuel : Nat) (P : Model.Prog) : Machine Model.St Model.Line (Option Model.Outcome) where
  step s l :=
    match Model.execLine fuel P s l with
    | some (s', o) => (s', some o)
    | none => (s, none)

/-- **C19** for the model: each thread ends in the `St` of its solo run, of which its trace is a field -/
theorem model_threads_independent (fuel : Nat) (P : Model.Prog) (sched : List (Nat × Model.Line))
    (st : Nat → Model.St) (t : Nat) :
    (runSched (modelMachine fuel P) st sched).1 t = (runSolo (modelMachine fuel P) (st t) (opsOf t sched)).1 :=
  (interleaving_independent _ sched st t).1

example : (runSched (⟨fun (s : Nat) (o : Nat) => (s + o, s)⟩ : Machine Nat Nat Nat) (fun _ => 0)
    [(0, 1), (1, 10), (0, 2), (1, 20)]).1 0 = 3 := by
  simp [runSched]

end Sigc.C19
