import Sigc.Model
import Sigc.Lemmas.Basic
import Sigc.Lemmas.StepConn
import Sigc.Lemmas.StepHandles
import Sigc.Lemmas.StepTrack
import Sigc.Lemmas.StepSlots
import Sigc.Lemmas.StepOwned
import Sigc.Lemmas.StepWF
import Sigc.Run
import Sigc.Spec
import Sigc.Props.SpecProps
/-!
# C14 — signal objects are shared handles; the slot list lives as long as any handle

Per-operation theorems about `stepSimple` / `gcImpl` / `ensureImpl` / `collect` of the mechanism model, valid for
**every** state (no well-formedness assumed), every program and fuel.  Two theorems of the section on functor-owned
signal objects say more under a hypothesis on the state: `collect_drops_unheld_owned_handle_wf` (well-formed states,
`StepWF.WF`) and `run_leaves_owned_handles_held` (the states a run reaches from the initial state).

`asgG` follows `signal_base::operator=` as it stands in /repo (`if (&src == this) return *this; impl_ = src.impl();`),
so `asgG_shares` also covers two signal objects that both never had a list; with an early return on
`src.impl_ == impl_` (both null) they would share nothing (finding F7, DESIGN §2).
-/
namespace Sigc.C14
open Sigc.Model Sigc.StepConn Sigc.StepHandles Sigc.StepTrack Sigc.StepOwned

/-- `ensureImpl` (`signal_base::impl()`): afterwards the handle has a list, which exists -/
theorem ensureImpl_spec (s s' : St) (g i : Nat) (h : ensureImpl s g = some (s', i)) :
    (∃ hd, aget s'.G g = some hd ∧ hd.impl = some i) ∧
    (∀ hd, aget s.G g = some hd → hd.impl = some i → s' = s) := by
  exact ⟨StepSlots.ensureImpl_handle s s' g i h, fun hd hg hi => by
    cases (ensureImpl_some s g i hd hg hi).symm.trans h; rfl⟩

example : (ensureImpl { G := [(0, { obj := 1, fl := .I, impl := none, trk := 2, lvl := 0 })], next := 3 } 0).map
    (fun x => (x.2, x.1.G.map (fun p => p.2.impl), x.1.impls.map (·.1))) = some (3, [some 3], [3]) := by decide

/-! ## a copy shares: source and copy refer to one list -/

/-- copy construction: afterwards source and copy refer to the same list, which exists — it is the
    source's list, or a fresh empty one created on demand (`src.impl()`) -/
theorem cpG_shares (s s' : St) (r : String) (j i : Nat) (h0 : Handle)
    (hi : aget s.G i = some h0) (hj : aget s.G j = none) (h : stepSimple s (.cpG j i) = some (s', r)) :
    r = "ok" ∧ ∃ im hs hd, aget s'.G i = some hs ∧ aget s'.G j = some hd ∧ hs.impl = some im ∧ hd.impl = some im ∧
      hd.fl = h0.fl ∧ hs.fl = h0.fl ∧ hd.lvl = h0.lvl ∧
      ((h0.impl = some im ∧ s'.impls = s.impls) ∨ (h0.impl = none ∧ im = s.next ∧ s'.impls = aset s.impls s.next {})) := by
  have hji : j ≠ i := by intro e; rw [e, hi] at hj; cases hj
  obtain ⟨s1, im, he, hg1, hoth, _, _, _, _, _, hcase⟩ := ensureImpl_cases s i h0 hi
  simp only [stepSimple, hi, hj, he, hg1] at h
  simp [St.fresh] at h
  obtain ⟨rfl, rfl⟩ := h
  refine ⟨rfl, im, { h0 with impl := some im }, { obj := s1.next, fl := h0.fl, impl := some im, trk := s1.next + 1, lvl := h0.lvl },
    ?_, by simp, rfl, rfl, rfl, rfl, rfl, ?_⟩
  · simp [aget_aset_other _ _ _ _ (Ne.symm hji), hg1]
  · rcases hcase with ⟨h1, rfl⟩ | ⟨h1, rfl, rfl⟩
    · exact Or.inl ⟨h1, rfl⟩
    · exact Or.inr ⟨h1, rfl, rfl⟩

example : (stepSimple { G := [(0, { obj := 1, fl := .I, impl := none, trk := 2, lvl := 0 })], next := 3 } (.cpG 1 0)).map
    (fun x => (x.1.G.map (fun p => p.2.impl), x.1.impls.map (·.1), x.1.next)) = some ([some 3, some 3], [3], 6) := by decide

/-- copy assignment between distinct objects: afterwards both refer to the same existing list — the
    source's list, or a fresh empty one created on demand when the source never had one (`src.impl()`),
    also when neither object had a list before -/
theorem asgG_shares (s s' : St) (r : String) (j i : Nat) (d h0 : Handle)
    (hj : aget s.G j = some d) (hi : aget s.G i = some h0) (hfl : d.fl = h0.fl) (hlvl : d.lvl = h0.lvl) (hji : j ≠ i)
    (h : stepSimple s (.asgG j i) = some (s', r)) :
    r = "ok" ∧ ∃ im, aget s'.G i = some { h0 with impl := some im } ∧ aget s'.G j = some { d with impl := some im } ∧
      (h0.impl = some im ∨ (h0.impl = none ∧ im = s.next)) := by
  simp only [stepSimple, hj, hi] at h
  rw [if_neg (by simp [hfl]), if_neg (by simp [hlvl]), if_neg hji] at h
  obtain ⟨s1, im, he, hg1, hoth, _, _, _, _, _, hcase⟩ := ensureImpl_cases s i h0 hi
  simp only [he] at h
  have hor : h0.impl = some im ∨ (h0.impl = none ∧ im = s.next) := by
    rcases hcase with ⟨h1, _⟩ | ⟨h1, h2, _⟩
    · exact Or.inl h1
    · exact Or.inr ⟨h1, h2⟩
  have hj1 : aget s1.G j = some d := by rw [hoth j hji]; exact hj
  by_cases hsame : d.impl = some im
  · simp only [hsame, if_true, Option.some.injEq, Prod.mk.injEq] at h
    obtain ⟨rfl, rfl⟩ := h
    refine ⟨rfl, im, hg1, ?_, hor⟩
    rw [hj1]; congr 1; cases d; simp_all
  · simp only [hsame, if_false] at h
    have hfin : ∀ (G' : List (Nat × Handle)), G' = aset s1.G j { d with impl := some im } →
        aget G' i = some { h0 with impl := some im } ∧ aget G' j = some { d with impl := some im } := by
      intro G' e
      refine ⟨?_, by rw [e]; simp⟩
      rw [e, aget_aset_other _ _ _ _ (Ne.symm hji), hg1]
    cases hd : d.impl with
    | none =>
      simp only [hd, Option.some.injEq, Prod.mk.injEq] at h
      obtain ⟨rfl, rfl⟩ := h
      obtain ⟨a, b⟩ := hfin _ rfl
      exact ⟨rfl, im, a, b, hor⟩
    | some old =>
      simp only [hd, Option.some.injEq, Prod.mk.injEq] at h
      obtain ⟨rfl, rfl⟩ := h
      rw [gcImpl_G]
      obtain ⟨a, b⟩ := hfin _ rfl
      exact ⟨rfl, im, a, b, hor⟩

example : (stepSimple { G := [(0, { obj := 1, fl := .I, impl := some 7, trk := 2, lvl := 0 }),
                              (1, { obj := 3, fl := .I, impl := none, trk := 4, lvl := 0 })],
                        impls := [(7, {})], next := 8 } (.asgG 1 0)).map
    (fun x => x.1.G.map (fun p => p.2.impl)) = some [some 7, some 7] := by decide

/-- two never-connected signal objects, assignment, then a connect through the source is seen through the
    destination:
    `newG 0 I; mvG 1 0; asgG 1 0; connfn 0 0 (fn 5); sizeq 0 → 1; sizeq 1 → 1` -/
example :
    let run := fun (s : Option (St × String)) (op : Op) => s.bind (fun x => stepSimple x.1 op)
    let s4 := [Op.newG 0 (some .I), .mvG 1 0, .asgG 1 0, .connfn 0 0 (.fn 5) false].foldl run (some ({}, ""))
    (run s4 (.sizeq 0)).map (·.2) = some "1" ∧ (run s4 (.sizeq 1)).map (·.2) = some "1" := by
  decide

/-- copy *construction* of a never-connected signal shares as well: `newG 0 I; cpG 1 0; connfn 0 0 (fn 5); sizeq 1 → 1` -/
example :
    let run := fun (s : Option (St × String)) (op : Op) => s.bind (fun x => stepSimple x.1 op)
    let s3 := [Op.newG 0 (some .I), .cpG 1 0, .connfn 0 0 (.fn 5) false].foldl run (some ({}, ""))
    (run s3 (.sizeq 1)).map (·.2) = some "1" := by
  decide

/-- two handles of one list are indistinguishable for every query and for `block` / `clear`: the result
    and the successor state depend on the handle only through its `impl` -/
theorem shared_handles_agree_queries (s : St) (g1 g2 : Nat) (h1 h2 : Handle)
    (hg1 : aget s.G g1 = some h1) (hg2 : aget s.G g2 = some h2) (himpl : h1.impl = h2.impl) :
    stepSimple s (.sizeq g1) = stepSimple s (.sizeq g2) ∧
    stepSimple s (.emptyGq g1) = stepSimple s (.emptyGq g2) ∧
    stepSimple s (.blockedGq g1) = stepSimple s (.blockedGq g2) ∧
    (∀ b, stepSimple s (.blockG g1 b) = stepSimple s (.blockG g2 b)) ∧
    stepSimple s (.clear g1) = stepSimple s (.clear g2) := by
  refine ⟨?_, ?_, ?_, ?_, ?_⟩ <;> simp [stepSimple, hg1, hg2, himpl]

example :
    let s : St := { G := [(0, { obj := 1, fl := .I, impl := some 7, trk := 2, lvl := 0 }),
                          (1, { obj := 3, fl := .I, impl := some 7, trk := 4, lvl := 0 })],
                    impls := [(7, { cells := [{ id := 9, slot := { }, linked := true }] })], next := 10 }
    (stepSimple s (.sizeq 0)).map (·.2) = some "1" ∧ (stepSimple s (.sizeq 1)).map (·.2) = some "1" := by
  decide

/-- an emission through either handle of one list is the same computation (same flavour, same list) -/
theorem shared_handles_agree_emit (f : Nat) (P : Prog) (s : St) (g1 g2 arg : Nat) (st : Strat) (t : Bool) (h1 h2 : Handle)
    (hg1 : aget s.G g1 = some h1) (hg2 : aget s.G g2 = some h2) (himpl : h1.impl = h2.impl) (hfl : h1.fl = h2.fl) :
    execOp f P s (.emit g1 arg st t) = execOp f P s (.emit g2 arg st t) := by
  cases f with
  | zero => rw [execOp, execOp]
  | succ f =>
    rw [execOp, execOp]
    simp only [hg1, hg2, himpl, hfl]

example (f : Nat) (P : Prog) : execOp f P exStT (.emit 0 5 .sum false) = execOp f P exStT (.emit 1 5 .sum false) :=
  shared_handles_agree_emit f P exStT 0 1 5 .sum false _ _ rfl rfl rfl rfl

/-- connecting through either handle of one (existing) list inserts the same cell into the same list:
    identical result and successor state -/
theorem shared_handles_agree_connect (s : St) (g1 g2 im : Nat) (h1 h2 : Handle)
    (hg1 : aget s.G g1 = some h1) (hg2 : aget s.G g2 = some h2) (hi1 : h1.impl = some im) (hi2 : h2.impl = some im)
    (hfl : h1.fl = h2.fl) (hlvl : h1.lvl = h2.lvl) :
    (∀ k spec first, stepSimple s (.connfn k g1 spec first) = stepSimple s (.connfn k g2 spec first)) ∧
    (∀ k sv first mv, stepSimple s (.conn k g1 sv first mv) = stepSimple s (.conn k g2 sv first mv)) := by
  constructor
  · intro k spec first
    simp only [stepSimple, hg1, hg2, hfl, hlvl]
    cases hm : mkFun s h2.fl.isVoid spec with
    | error e => rfl
    | ok pr =>
      obtain ⟨fn, s1⟩ := pr
      simp only []
      obtain ⟨_, _, _, _, hG⟩ := mkFun_frame s s1 _ spec fn hm
      obtain ⟨a1, ha1, hia1, _⟩ := hG g1 h1 hg1
      obtain ⟨a2, ha2, hia2, _⟩ := hG g2 h2 hg2
      rw [ensureImpl_some s1 g1 im a1 ha1 (hia1.trans hi1), ensureImpl_some s1 g2 im a2 ha2 (hia2.trans hi2)]
  · intro k sv first mv
    cases hv : aget s.S sv with
    | none => simp [stepSimple, hg1, hg2, hv]
    | some v =>
      simp only [stepSimple, hg1, hg2, hv, hfl, hlvl, ensureImpl_some s g1 im h1 hg1 hi1, ensureImpl_some s g2 im h2 hg2 hi2]

example : stepSimple exStT (.connfn 7 0 (.fn 1) false) = stepSimple exStT (.connfn 7 1 (.fn 1) false) :=
  (shared_handles_agree_connect exStT 0 1 3 _ _ rfl rfl rfl rfl rfl rfl).1 7 (.fn 1) false

/-! ## a move transfers: the destination takes the list, the source is left without one -/

/-- move construction of a plain `sigc::signal` transfers the list: the new object has the source's
    list, the source has none (and is reusable) -/
theorem mvG_transfers (s s' : St) (r : String) (j i : Nat) (h0 : Handle)
    (hi : aget s.G i = some h0) (hj : aget s.G j = none) (hacc : h0.fl.isAcc = false) (hji : j ≠ i)
    (h : stepSimple s (.mvG j i) = some (s', r)) :
    r = "ok" ∧ (∃ hd, aget s'.G j = some hd ∧ hd.impl = h0.impl ∧ hd.fl = h0.fl) ∧
    (∃ hs, aget s'.G i = some hs ∧ hs.impl = none) := by
  simp only [stepSimple, hi, hj, hacc] at h
  simp [St.fresh] at h
  obtain ⟨rfl, rfl⟩ := h
  refine ⟨rfl, ?_, ?_⟩
  · by_cases ht : h0.fl.isTrackable = true <;> simp [ht]
  · by_cases ht : h0.fl.isTrackable = true <;> simp [ht, aget_aset_other _ _ _ _ (Ne.symm hji)]

example : ∃ s' r, stepSimple { G := [(0, { obj := 1, fl := .I, impl := some 5, trk := 2, lvl := 0 })], next := 9 } (.mvG 1 0) = some (s', r)
    ∧ (aget s'.G 0).map (·.impl) = some none ∧ (aget s'.G 1).map (·.impl) = some (some 5) := by
  refine ⟨_, _, rfl, ?_, ?_⟩ <;> simp [aget, aset, St.fresh, Flavour.isTrackable]

/-- the moved-from source is reusable: connecting through a handle without list allocates a fresh list
    holding exactly the new slot -/
theorem connect_allocates_fresh (s : St) (k g fid : Nat) (first : Bool) (h0 : Handle)
    (hg : aget s.G g = some h0) (hi : h0.impl = none) :
    ∃ s', stepSimple s (.connfn k g (.fn fid) first) = some (s', "ok") ∧
      aget s'.G g = some { h0 with impl := some s.next } ∧
      aget s'.impls s.next = some { cells := [{ id := s.next + 1, slot := { blocked := false, rep := some { call := true, fn := some (.leaf fid []) } }, linked := true }] } ∧
      aget s'.C k = some (some (s.next + 1)) ∧ s'.next = s.next + 2 := by
  simp only [stepSimple, hg, mkFun, specTaint]
  have hl : ¬ ((-1 : Int) ≥ (h0.lvl : Int)) := by omega
  simp only [hl, if_false, ensureImpl_none s g h0 hg hi]
  refine ⟨_, rfl, ?_, ?_, ?_, ?_⟩
  · cases first <;> simp [insertCell, allocImpl, St.fresh, setConn, setImpl]
  · cases first <;> simp [insertCell, allocImpl, St.fresh, setConn, setImpl]
  · cases first <;> simp [insertCell, allocImpl, St.fresh, setConn, setImpl]
  · cases first <;> simp [insertCell, allocImpl, St.fresh, setConn, setImpl]

/-- move construction then connect through the source: the source gets a *fresh* list, the destination
    keeps the transferred one -/
example :
    let run := fun (s : Option (St × String)) (op : Op) => s.bind (fun x => stepSimple x.1 op)
    let s4 := [Op.newG 0 (some .I), .connfn 0 0 (.fn 5) false, .mvG 1 0, .connfn 1 0 (.fn 6) false].foldl run (some ({}, ""))
    (s4.map (fun x => x.1.G.map (fun p => p.2.impl))) = some [some 7, some 3] ∧
    (run s4 (.sizeq 0)).map (·.2) = some "1" ∧ (run s4 (.sizeq 1)).map (·.2) = some "1" := by
  decide

/-- move assignment (non-accumulated flavours, distinct objects, not refused as `owned`, see
    `StepHandles.masgOwned`: no functor owns the source or the destination): the destination takes
    the source's list — also when both shared one list before —, the source is left without a
    list -/
theorem masgG_transfers (s s' : St) (r : String) (j i : Nat) (d h0 : Handle)
    (hj : aget s.G j = some d) (hi : aget s.G i = some h0) (hfl : d.fl = h0.fl) (hlvl : d.lvl = h0.lvl)
    (hacc : h0.fl.isAcc = false) (hji : j ≠ i) (hown : masgOwned s h0.fl j i = false)
    (h : stepSimple s (.masgG j i) = some (s', r)) :
    r = "ok" ∧ aget s'.G j = some { d with impl := h0.impl } ∧ aget s'.G i = some { h0 with impl := none } := by
  unfold masgOwned at hown
  simp only [stepSimple, hj, hi] at h
  rw [if_neg (by simp [hfl]), if_neg (by simp [hlvl])] at h
  simp only [hacc, hji, hown, Bool.not_false, Bool.and_false, if_false, Bool.false_eq_true, Option.some.injEq, Prod.mk.injEq] at h
  obtain ⟨rfl, rfl⟩ := h
  refine ⟨rfl, ?_, ?_⟩
  · split <;> cases d.impl <;> simp [aget_aset_other _ _ _ _ hji]
  · split <;> cases d.impl <;> simp

example : (stepSimple { G := [(0, { obj := 1, fl := .I, impl := some 7, trk := 2, lvl := 0 }),
                              (1, { obj := 3, fl := .I, impl := some 7, trk := 4, lvl := 0 })],
                        impls := [(7, {})], next := 8 } (.masgG 1 0)).map
    (fun x => x.1.G.map (fun p => p.2.impl)) = some [none, some 7] := by decide

/-- a refused move assignment changes nothing -/
theorem masgG_owned_refused (s : St) (j i : Nat) (d h0 : Handle)
    (hj : aget s.G j = some d) (hi : aget s.G i = some h0) (hfl : d.fl = h0.fl) (hlvl : d.lvl = h0.lvl)
    (hacc : h0.fl.isAcc = false) (hown : masgOwned s h0.fl j i = true) :
    stepSimple s (.masgG j i) = some (s, "owned") := by
  unfold masgOwned at hown
  simp only [stepSimple, hj, hi]
  rw [if_neg (by simp [hfl]), if_neg (by simp [hlvl])]
  simp only [hacc, hown, Bool.not_false, Bool.and_self, if_true]

example : (stepSimple { G := [(0, { obj := 1, fl := .I, impl := some 7, trk := 2, lvl := 0 }),
                              (1, { obj := 3, fl := .I, impl := none, trk := 4, lvl := 0 })],
                        impls := [(7, {})], ownedG := [(5, 0)], next := 8 } (.masgG 1 0)).map (·.2) = some "owned" := by
  rw [masgG_owned_refused _ 1 0 { obj := 3, fl := .I, impl := none, trk := 4, lvl := 0 }
    { obj := 1, fl := .I, impl := some 7, trk := 2, lvl := 0 } rfl rfl rfl rfl rfl rfl]; rfl

/-- self-move-assignment is the identity, for every flavour (when it is not refused: the object is not owned by
    a functor, or of an `accumulated` flavour) -/
theorem masgG_self (s : St) (i : Nat) (h0 : Handle) (hi : aget s.G i = some h0)
    (hown : (!h0.fl.isAcc && s.ownedG.any (fun p => p.2 = i)) = false) :
    stepSimple s (.masgG i i) = some (s, "ok") := by
  simp only [stepSimple, hi]
  cases hacc : h0.fl.isAcc
  · simp only [hacc, Bool.not_false, Bool.true_and] at hown
    simp [hown]
  · simp

/-- … and refused or not, it leaves the state alone -/
theorem masgG_self_state (s : St) (i : Nat) (h0 : Handle) (hi : aget s.G i = some h0) :
    ∃ r, stepSimple s (.masgG i i) = some (s, r) ∧ (r = "ok" ∨ r = "owned") := by
  simp only [stepSimple, hi]
  cases hacc : h0.fl.isAcc
  · cases hown : s.ownedG.any (fun p => p.2 = i)
    · exact ⟨"ok", by simp, .inl rfl⟩
    · exact ⟨"owned", by simp, .inr rfl⟩
  · exact ⟨"ok", by simp, .inl rfl⟩

example : stepSimple exStT (.masgG 0 0) = some (exStT, "ok") := masgG_self exStT 0 _ rfl rfl

/-- self-copy-assignment is the identity -/
theorem asgG_self (s : St) (i : Nat) (h0 : Handle) (hi : aget s.G i = some h0) :
    stepSimple s (.asgG i i) = some (s, "ok") := by
  simp [stepSimple, hi]

example : stepSimple exStT (.asgG 1 1) = some (exStT, "ok") := asgG_self exStT 1 _ rfl

/-- the `accumulated` flavours declare no move constructor: moving is copying -/
theorem mvG_acc_is_copy (s : St) (j i : Nat) (h0 : Handle) (hi : aget s.G i = some h0) (hacc : h0.fl.isAcc = true) :
    stepSimple s (.mvG j i) = stepSimple s (.cpG j i) := by
  simp only [stepSimple, hi, hacc, if_true]
  cases hj : aget s.G j with
  | some _ => rfl
  | none =>
    simp only []
    obtain ⟨s1, im, he, hg1, _⟩ := ensureImpl_cases s i h0 hi
    simp [he, hg1]

example : (stepSimple { G := [(0, { obj := 1, fl := .TA, impl := none, trk := 2, lvl := 0 })], next := 3 } (.mvG 1 0)).map
    (fun x => (x.1.G.map (fun p => (p.2.impl, p.2.trk)))) = some [(some 3, 2), (some 3, 5)] := by decide

/-- … and move assignment is copy assignment -/
theorem masgG_acc_is_copy_assign (s : St) (j i : Nat) (h0 : Handle) (hi : aget s.G i = some h0) (hacc : h0.fl.isAcc = true) :
    stepSimple s (.masgG j i) = stepSimple s (.asgG j i) := by
  cases hj : aget s.G j <;> simp [stepSimple, hi, hj, hacc]

example : (stepSimple { G := [(0, { obj := 1, fl := .A, impl := some 7, trk := 2, lvl := 0 })], impls := [(7, {})], next := 8 } (.mvG 1 0)).map
    (fun x => x.1.G.map (fun p => p.2.impl)) = some [some 7, some 7] := by decide

/-! ## `lives_while_owned`, `last_owner_teardown`: the list goes when its last owner goes, not before -/

/-- a list some signal object still refers to is never torn down -/
theorem lives_while_owned (s : St) (g i : Nat) (h0 : Handle) (hg : aget s.G g = some h0) (hi : h0.impl = some i) :
    gcImpl s i = s :=
  gcImpl_referred s i (refersTo_of_aget s.G g i h0 hg hi)

example : gcImpl exStT 3 = exStT := lives_while_owned exStT 0 3 _ rfl rfl

/-- a list whose emission is still running (a `signal_impl_holder` is alive) is never torn down, even
    when no signal object refers to it any more -/
theorem lives_while_emitting (s : St) (i : Nat) (im : Impl) (hi : aget s.impls i = some im) (hh : im.holders ≠ 0) :
    gcImpl s i = s :=
  gcImpl_held s i im hi hh

example : gcImpl { impls := [(3, { holders := 1, exec := 1 })] } 3 = { impls := [(3, { holders := 1, exec := 1 })] } :=
  lives_while_emitting _ 3 _ rfl (by decide)

/-- when the last owner is gone (no signal object refers to the list, no holder is alive) the list
    disappears with all its slots (their functor copies with them), every connection to one of its slots
    is nulled (reports disconnected), every other connection, list, slot variable and handle is untouched -/
theorem last_owner_teardown (s : St) (i : Nat) (im : Impl) (hi : aget s.impls i = some im) (hh : im.holders = 0)
    (hr : refersTo s.G i = false) :
    aget (gcImpl s i).impls i = none ∧
    (∀ k, k ≠ i → aget (gcImpl s i).impls k = aget s.impls k) ∧
    (∀ c, aget (gcImpl s i).C c = (aget s.C c).map (nullFL (im.cells.map (·.id)))) ∧
    (∀ c, aget (gcImpl s i).K c = (aget s.K c).map (nullFL (im.cells.map (·.id)))) ∧
    (gcImpl s i).S = s.S ∧ (gcImpl s i).G = s.G ∧ (gcImpl s i).T = s.T := by
  refine ⟨?_, fun k hk => gcImpl_other s i k hk, ?_, ?_, gcImpl_S s i, gcImpl_G s i, gcImpl_T s i⟩
  · rw [gcImpl_last s i im hi hh hr, nullConnsList_impls]; simp
  · intro c; rw [gcImpl_last s i im hi hh hr, nullConnsList_C_entry]
  · intro c; rw [gcImpl_last s i im hi hh hr, nullConnsList_K_entry]

example :
    let s : St := { impls := [(3, { cells := [{ id := 4, slot := { }, linked := true }] }), (6, { })],
                    C := [(0, some 4), (1, some 9)], K := [(0, some 4)] }
    ((gcImpl s 3).impls.map (·.1), (gcImpl s 3).C, (gcImpl s 3).K) = ([6], [(0, none), (1, some 9)], [(0, none)]) := by
  decide

/-- … so every connection that pointed into the dead list reports "not connected" afterwards -/
theorem teardown_disconnects (s : St) (i c cid : Nat) (im : Impl) (hi : aget s.impls i = some im) (hh : im.holders = 0)
    (hr : refersTo s.G i = false) (hc : aget s.C c = some (some cid)) (hmem : cid ∈ im.cells.map (·.id)) :
    stepSimple (gcImpl s i) (.connectedq c) = some (gcImpl s i, "0") := by
  obtain ⟨_, _, hC, _⟩ := last_owner_teardown s i im hi hh hr
  have : aget (gcImpl s i).C c = some none := by
    rw [hC c, hc]; simp [nullFL, hmem]
  simp [stepSimple, this, connConnected, bstr]

example :
    let s : St := { impls := [(3, { cells := [{ id := 4, slot := { rep := some { call := true, fn := some (.leaf 1 []) } }, linked := true }] })],
                    C := [(0, some 4)] }
    (stepSimple s (.connectedq 0)).map (·.2) = some "1" ∧ (stepSimple (gcImpl s 3) (.connectedq 0)).map (·.2) = some "0" := by
  decide

/-- … and the functor copies the torn-down list held are released: `liveCount` drops by at least the
    copies held by its cells, and by exactly that number when impl keys are unique -/
theorem teardown_releases_functors (s : St) (i fid : Nat) (im : Impl) (hi : aget s.impls i = some im) (hh : im.holders = 0)
    (hr : refersTo s.G i = false) :
    liveCount (gcImpl s i) fid + implLive fid im ≤ liveCount s fid ∧
    ((s.impls.map (·.1)).Nodup → liveCount (gcImpl s i) fid + implLive fid im = liveCount s fid) :=
  gcImpl_last_liveCount s i im fid hi hh hr

example :
    let s : St := { impls := [(3, { cells := [{ id := 4, slot := { rep := some { call := true, fn := some (.leaf 1 []) } }, linked := true }] }),
                              (6, { cells := [{ id := 5, slot := { rep := some { call := true, fn := some (.leaf 1 []) } }, linked := true }] })] }
    liveCount s 1 = 2 ∧ liveCount (gcImpl s 3) 1 = 1 := by
  decide

example : (stepSimple exStT (.delG 1)).map (·.2) = some "ok" := by
  rw [Model.delG_eq_dropHandle (s := exStT) (g := 1) rfl rfl rfl]; rfl

example : stepSimple exStT (.delG 1) = some (dropHandle exStT 1, "ok") := Model.delG_eq_dropHandle rfl rfl rfl

/-- a signal object that a functor owns (`ownG`) cannot be destroyed through its name: `delG` is refused and
    changes nothing -/
theorem delG_owned_refused (s : St) (g : Nat) (h0 : Handle) (hg : aget s.G g = some h0)
    (hown : s.ownedG.any (fun p => p.2 = g) = true) :
    ∃ r, stepSimple s (.delG g) = some (s, r) ∧ (r = "pinned" ∨ r = "owned") := by
  simp only [stepSimple, hg, hown, if_true]
  cases (h0.everFwd && !h0.fl.isTrackable)
  · exact ⟨"owned", by simp, .inr rfl⟩
  · exact ⟨"pinned", by simp, .inl rfl⟩

example : (stepSimple { G := [(4, { obj := 9, fl := .I, impl := none, trk := 0, lvl := 0 })], ownedG := [(7, 4)] } (.delG 4)).map (·.2)
    = some "owned" := rfl

/-- destroying the last signal object of a list (plain flavour, no emission running; not refused: never
    forwarded to, not owned by a functor) tears the list down: it is gone, and every connection into it reports
    disconnected -/
theorem delG_last_owner (s s' : St) (r : String) (g i : Nat) (h0 : Handle) (im : Impl)
    (hg : aget s.G g = some h0) (hpin : h0.everFwd = false) (htr : h0.fl.isTrackable = false) (himpl : h0.impl = some i)
    (hi : aget s.impls i = some im) (hh : im.holders = 0) (hlast : refersTo (adel s.G g) i = false)
    (hown : s.ownedG.any (fun p => p.2 = g) = false)
    (h : stepSimple s (.delG g) = some (s', r)) :
    r = "ok" ∧ aget s'.impls i = none ∧ aget s'.G g = none ∧
    (∀ c, aget s'.C c = (aget s.C c).map (nullFL (im.cells.map (·.id)))) ∧ s'.S = s.S := by
  rw [Model.delG_eq_dropHandle hg (by simp [hpin]) hown] at h
  cases h
  rw [show dropHandle s g = gcImpl { s with G := adel s.G g } i by
    simp only [dropHandle, hg, htr, himpl, Bool.false_eq_true, if_false]]
  obtain ⟨a, _, c, _, d, e, _⟩ := last_owner_teardown { s with G := adel s.G g } i im hi hh hlast
  exact ⟨rfl, a, by rw [e]; simp, c, d⟩

/-- … and destroying one of two owners leaves the list and all its connections alone -/
theorem delG_not_last_owner (s s' : St) (r : String) (g g2 i : Nat) (h0 h2 : Handle)
    (hg : aget s.G g = some h0) (hpin : h0.everFwd = false) (htr : h0.fl.isTrackable = false) (himpl : h0.impl = some i)
    (hg2 : aget s.G g2 = some h2) (hne : g2 ≠ g) (himpl2 : h2.impl = some i)
    (hown : s.ownedG.any (fun p => p.2 = g) = false)
    (h : stepSimple s (.delG g) = some (s', r)) :
    r = "ok" ∧ s'.impls = s.impls ∧ s'.C = s.C ∧ s'.K = s.K ∧ s'.S = s.S ∧ aget s'.G g = none ∧ aget s'.G g2 = some h2 := by
  rw [Model.delG_eq_dropHandle hg (by simp [hpin]) hown] at h
  cases h
  rw [show dropHandle s g = gcImpl { s with G := adel s.G g } i by
    simp only [dropHandle, hg, htr, himpl, Bool.false_eq_true, if_false]]
  have h2' : aget (adel s.G g) g2 = some h2 := by rw [aget_adel_other _ _ _ hne]; exact hg2
  rw [lives_while_owned { s with G := adel s.G g } g2 i h2 h2' himpl2]
  exact ⟨rfl, rfl, rfl, rfl, rfl, by simp, h2'⟩

example :
    let run := fun (s : Option (St × String)) (op : Op) => s.bind (fun x => stepSimple x.1 op)
    let s3 := [Op.newG 0 (some .I), .connfn 0 0 (.fn 5) false, .cpG 1 0].foldl run (some ({}, ""))
    let s4 := run s3 (.delG 0)
    let s5 := run s4 (.delG 1)
    (run s4 (.sizeq 1)).map (·.2) = some "1" ∧ (run s4 (.connectedq 0)).map (·.2) = some "1" ∧
    (run s5 (.connectedq 0)).map (·.2) = some "0" ∧ s5.map (fun x => x.1.impls.length) = some 0 := by
  decide

/-- reassigning the last handle of a list tears the old list down as well (copy assignment): handles
    0 and 1 (same level) own different lists; `asgG 0 1` drops the last owner of the first list -/
example :
    let run := fun (s : Option (St × String)) (op : Op) => s.bind (fun x => stepSimple x.1 op)
    let s6 := [Op.newG 0 (some .I), .connfn 0 0 (.fn 5) false, .cpG 1 0, .mvG 2 1, .connfn 1 1 (.fn 6) false, .delG 2].foldl run (some ({}, ""))
    let s7 := run s6 (.asgG 0 1)
    s6.map (fun x => x.1.impls.length) = some 2 ∧
    (run s7 (.connectedq 0)).map (·.2) = some "0" ∧ (run s7 (.connectedq 1)).map (·.2) = some "1" ∧
    (run s7 (.sizeq 0)).map (·.2) = some "1" ∧ s7.map (fun x => x.1.impls.length) = some 1 := by
  decide

/-! ## trackable flavours: exactly which signal-object operations notify

`invVar t` is what `notify_callbacks()` of trackable `t` does to a slot variable (invalidate it iff its
functor refers to `t`); the effect on list cells is `C18.*_dies_with_object`. -/

/-- the operations on signal objects themselves: construction, copy, move, assignment, destruction -/
def isGOp : Op → Bool
  | .newG _ _ | .cpG _ _ | .mvG _ _ | .asgG _ _ | .masgG _ _ | .delG _ => true
  | _ => false

/-- the trackable base whose `notify_callbacks()` a signal-object operation runs in state `s`: that of a
    trackable_signal that is destroyed (`delG`, not refused), moved from (`mvG`, not `accumulated`: that is a copy)
    or move-assigned from (`masgG`: not `accumulated`, not refused, not to itself, and it has a list); every
    other operation notifies nobody -/
def gNotifies (s : St) : Op → Option Nat
  | .delG g => match aget s.G g with
    | some h => if h.fl.isTrackable && !s.ownedG.any (fun p => p.2 = g) then some h.trk else none
    | none => none
  | .mvG j i => match aget s.G i, aget s.G j with
    | some h, none => if h.fl.isTrackable && !h.fl.isAcc then some h.trk else none
    | _, _ => none
  | .masgG j i => match aget s.G j, aget s.G i with
    | some d, some h =>
      if d.fl = h.fl ∧ d.lvl = h.lvl ∧ j ≠ i ∧ masgOwned s h.fl j i = false ∧
          (h.fl.isTrackable && !h.fl.isAcc && h.impl.isSome) = true then some h.trk else none
    | _, _ => none
  | _ => none

/-- `impl_ = src.impl()` (copy assignment, and move assignment of `accumulated` signals) touches no slot
    variable -/
theorem copyAssign_S (s : St) (j i : Nat) (d : Handle) :
    Res (fun s' _ => s'.S = s.S) (match ensureImpl s i with
      | none => some (s, "dead")
      | some (s, im) =>
        if d.impl = some im then some (s, "ok") else
        some (match d.impl with
          | some old => gcImpl { s with G := aset s.G j { d with impl := some im } } old
          | none => { s with G := aset s.G j { d with impl := some im } }, "ok")) := by
  cases he : ensureImpl s i with
  | none => exact .ok rfl
  | some p =>
    obtain ⟨s1, im⟩ := p
    have hS := Sigc.StepWF.ensureImpl_S he
    refine .ite (.ok hS) (.ok ?_)
    cases d.impl <;> simp [gcImpl_S, hS]

/-- **which signal-object operations notify, and whom**: every operation on signal objects changes the slot
    variables exactly by `notify_callbacks()` of the trackable base `gNotifies` names (every slot variable whose
    functor refers to it is invalidated, no other changes), and not at all if it names none -/
theorem notifies_iff (s : St) (op : Op) (hop : isGOp op = true) :
    Res (fun s' _ => s'.S = match gNotifies s op with
                              | some t => amap s.S (invVar t)
                              | none => s.S) (stepSimple s op) := by
  cases op <;> cases hop
  all_goals simp only [stepSimple, gNotifies, St.fresh]
  case newG i fl =>
    cases fl with
    | none => exact .ok rfl
    | some fl => cases aget s.G i <;> exact .ok rfl
  case cpG j i =>
    cases aget s.G i with
    | none => exact .ok rfl
    | some _ =>
      cases aget s.G j with
      | some _ => exact .ok rfl
      | none =>
        cases he : ensureImpl s i with
        | none => exact .ok rfl
        | some p =>
          obtain ⟨s1, im⟩ := p
          dsimp only
          cases aget s1.G i <;> exact .ok (Sigc.StepWF.ensureImpl_S (s1 := s1) he)
  case asgG j i =>
    cases aget s.G j with
    | none => exact .ok rfl
    | some d =>
      cases aget s.G i with
      | none => exact .ok rfl
      | some _ => exact .ite (.ok rfl) (.ite (.ok rfl) (.ite (.ok rfl) (copyAssign_S s j i d)))
  case mvG j i =>
    cases aget s.G i with
    | none => exact .ok rfl
    | some h0 =>
      cases aget s.G j with
      | some _ => exact .ok rfl
      | none =>
        dsimp only
        cases hacc : h0.fl.isAcc with
        | true =>
          simp only [Bool.not_true, Bool.and_false, Bool.false_eq_true, if_false, if_true]
          cases he : ensureImpl s i with
          | none => exact .ok rfl
          | some p =>
            obtain ⟨s1, im⟩ := p
            exact .ok (Sigc.StepWF.ensureImpl_S (s1 := s1) he)
        | false => cases h0.fl.isTrackable <;> exact .ok (by simp [invalidateTrackable_S])
  case masgG j i =>
    cases aget s.G j with
    | none => exact .ok rfl
    | some d =>
      cases aget s.G i with
      | none => exact .ok rfl
      | some h0 =>
        dsimp only
        refine .byCases (fun hfl => .ok (by simp [hfl])) fun hfl => .byCases (fun hlvl => .ok (by simp [hlvl])) fun hlvl => ?_
        unfold masgOwned
        cases hacc : h0.fl.isAcc with
        | true =>
          simp only [Bool.not_true, Bool.false_and, Bool.and_false, Bool.false_eq_true, and_false, if_false, if_true]
          exact .ite (.ok rfl) (copyAssign_S s j i d)
        | false =>
          simp only [Bool.not_false, Bool.true_and, Bool.and_true, Bool.false_eq_true, if_false]
          refine .byCases (fun hown => .ok (by simp [hown])) fun hown => .byCases (fun hji => .ok (by simp [hji])) fun hji => .ok ?_
          simp only [Bool.not_eq_true] at hown
          simp only [Decidable.of_not_not hfl, Decidable.of_not_not hlvl, hji, hown, ne_eq, not_false_eq_true, true_and]
          cases h0.fl.isTrackable && h0.impl.isSome <;> cases d.impl <;> simp [gcImpl_S, invalidateTrackable_S]
  case delG g =>
    cases aget s.G g with
    | none => exact .ok rfl
    | some h =>
      dsimp only
      refine .byCases (fun hpin => .ok ?_) fun _ => .byCases (fun hown => .ok (by simp [hown])) fun hown => .ok ?_
      · simp only [Bool.and_eq_true, Bool.not_eq_eq_eq_not, Bool.not_true] at hpin
        simp [hpin.2]
      · simp only [Bool.not_eq_true] at hown
        rw [hown]
        cases h.fl.isTrackable <;> cases h.impl <;> simp [gcImpl_S, invalidateTrackable_S]

/-- destroying a trackable_signal (not refused: not owned by a functor) notifies its trackable base: every slot
    variable holding a forwarder made from it is invalidated, no other slot variable changes -/
theorem delG_notifies (s s' : St) (r : String) (g : Nat) (h0 : Handle)
    (hg : aget s.G g = some h0) (ht : h0.fl.isTrackable = true) (hown : s.ownedG.any (fun p => p.2 = g) = false)
    (h : stepSimple s (.delG g) = some (s', r)) :
    s'.S = amap s.S (invVar h0.trk) := by
  simpa [gNotifies, hg, ht, hown] using notifies_iff s _ rfl s' r h

/-- destroying a plain signal notifies nobody -/
theorem delG_plain_notifies_nobody (s s' : St) (r : String) (g : Nat) (h0 : Handle)
    (hg : aget s.G g = some h0) (ht : h0.fl.isTrackable = false) (h : stepSimple s (.delG g) = some (s', r)) :
    s'.S = s.S := by
  simpa [gNotifies, hg, ht] using notifies_iff s _ rfl s' r h

/-- move construction from a trackable_signal (not `accumulated`) notifies the source's trackable base -/
theorem mvG_notifies (s s' : St) (r : String) (j i : Nat) (h0 : Handle)
    (hi : aget s.G i = some h0) (hj : aget s.G j = none) (ht : h0.fl.isTrackable = true) (hacc : h0.fl.isAcc = false)
    (h : stepSimple s (.mvG j i) = some (s', r)) :
    s'.S = amap s.S (invVar h0.trk) := by
  simpa [gNotifies, hi, hj, ht, hacc] using notifies_iff s _ rfl s' r h

/-- move construction from a plain signal, or from an `accumulated` one (a copy), notifies nobody -/
theorem mvG_notifies_nobody (s s' : St) (r : String) (j i : Nat) (h0 : Handle)
    (hi : aget s.G i = some h0) (hno : h0.fl.isTrackable = false ∨ h0.fl.isAcc = true)
    (h : stepSimple s (.mvG j i) = some (s', r)) :
    s'.S = s.S := by
  have := notifies_iff s _ rfl s' r h
  rcases hno with e | e <;> cases hj : aget s.G j <;> simpa [gNotifies, hi, hj, e] using this

/-- move assignment from a trackable_signal that has a list (not `accumulated`, not self, not refused as
    `owned`) notifies the source's trackable base -/
theorem masgG_notifies (s s' : St) (r : String) (j i : Nat) (d h0 : Handle)
    (hj : aget s.G j = some d) (hi : aget s.G i = some h0) (hfl : d.fl = h0.fl) (hlvl : d.lvl = h0.lvl) (hji : j ≠ i)
    (ht : h0.fl.isTrackable = true) (hacc : h0.fl.isAcc = false) (hsome : h0.impl.isSome = true)
    (hown : masgOwned s h0.fl j i = false)
    (h : stepSimple s (.masgG j i) = some (s', r)) :
    s'.S = amap s.S (invVar h0.trk) := by
  simpa [gNotifies, hj, hi, hfl, hlvl, hji, ht, hacc, hsome, hown] using notifies_iff s _ rfl s' r h

/-- move assignment notifies nobody when the source is a plain signal, an `accumulated` one (copy
    assignment), has no list, or is the destination itself -/
theorem masgG_notifies_nobody (s s' : St) (r : String) (j i : Nat) (h0 : Handle)
    (hi : aget s.G i = some h0)
    (hno : h0.fl.isTrackable = false ∨ h0.fl.isAcc = true ∨ h0.impl = none ∨ j = i)
    (h : stepSimple s (.masgG j i) = some (s', r)) :
    s'.S = s.S := by
  have := notifies_iff s _ rfl s' r h
  rcases hno with e | e | e | e <;> cases hj : aget s.G j <;> simpa [gNotifies, hi, hj, e] using this

/-- copy construction and copy assignment never notify: the copy gets its own trackable base and the
    source keeps its registrations -/
theorem copies_notify_nobody (s s' : St) (r : String) (j i : Nat) (op : Op) (hop : op = .cpG j i ∨ op = .asgG j i)
    (h : stepSimple s op = some (s', r)) :
    s'.S = s.S := by
  rcases hop with rfl | rfl <;> exact notifies_iff s _ rfl s' r h

/-- on the concrete state `exStT` (slot variable 0 holds a forwarder to trackable_signal object 0, whose
    copy is object 1): destroying / moving from object 0 empties the variable, copying it, assigning it,
    or destroying the copy does not -/
example :
    (stepSimple exStT (.delG 0)).map (fun x => x.1.S.map (fun p => p.2.slot.empty)) = some [true] ∧
    (stepSimple exStT (.mvG 3 0)).map (fun x => x.1.S.map (fun p => p.2.slot.empty)) = some [true] ∧
    (stepSimple exStT (.masgG 1 0)).map (fun x => x.1.S.map (fun p => p.2.slot.empty)) = some [true] ∧
    (stepSimple exStT (.cpG 3 0)).map (fun x => x.1.S.map (fun p => p.2.slot.empty)) = some [false] ∧
    (stepSimple exStT (.asgG 1 0)).map (fun x => x.1.S.map (fun p => p.2.slot.empty)) = some [false] ∧
    (stepSimple exStT (.delG 1)).map (fun x => x.1.S.map (fun p => p.2.slot.empty)) = some [false] ∧
    (stepSimple exStT (.masgG 0 0)).map (fun x => x.1.S.map (fun p => p.2.slot.empty)) = some [false] := by
  decide

/-! ## signal objects owned by functors (`ownG`): the owner keeps the object, hence its list, alive -/

theorem delG_cases (s : St) (g : Nat) :
    (∃ r, stepSimple s (.delG g) = some (s, r) ∧ r ≠ "ok") ∨ stepSimple s (.delG g) = some (dropHandle s g, "ok") := by
  cases hg : aget s.G g with
  | none => exact Or.inl ⟨"dead", by simp only [stepSimple, hg], by decide⟩
  | some h0 =>
    cases hpin : (h0.everFwd && !h0.fl.isTrackable) with
    | true => exact Or.inl ⟨"pinned", by simp only [stepSimple, hg, hpin, if_true], by decide⟩
    | false =>
      cases hown : s.ownedG.any (fun p => p.2 = g) with
      | true => exact Or.inl ⟨"owned", by simp only [stepSimple, hg, hpin, hown, if_true, Bool.false_eq_true, if_false], by decide⟩
      | false => exact Or.inr (Model.delG_eq_dropHandle hg hpin hown)

/-- connecting a functor that owns the signal object named `g0` (`connfn k g (ownG fid g0)`, answer `ok`): `g0` was
    named and owned by no functor; afterwards it has exactly one new entry in `ownedG`, under a fresh owner id, and
    its name is still in `G` (so `delG g0` is refused from now on: `delG_owned_refused`) -/
theorem connfn_ownG_registers (s s' : St) (k g fid g0 : Nat) (first : Bool)
    (h : stepSimple s (.connfn k g (.ownG fid g0) first) = some (s', "ok")) :
    (aget s.G g0).isSome = true ∧ s.ownedG.any (fun p => p.2 = g0) = false ∧
    s'.ownedG = (s.next, g0) :: s.ownedG ∧ (aget s'.G g0).isSome = true := by
  simp only [stepSimple] at h
  cases hg : aget s.G g with
  | none => simp [hg] at h
  | some hd =>
    simp only [hg] at h
    cases hm : mkFun s hd.fl.isVoid (.ownG fid g0) with
    | error e =>
      simp only [hm, Option.some.injEq, Prod.mk.injEq] at h
      exact absurd h.2 (mkFun_error_ne_ok _ _ _ _ hm)
    | ok pr =>
      obtain ⟨fn, s0⟩ := pr
      obtain ⟨hs0, _, hsome, hno⟩ := (Sigc.StepSlots.mkFun_all s s0 _ _ fn hm).2.2 fid g0 rfl
      subst hs0
      have hl : ¬ ((-1 : Int) ≥ (hd.lvl : Int)) := by omega
      simp only [hm, specTaint, hl, if_false] at h
      obtain ⟨s1, im, he, hg1, hoth, _, _, _, _, _, hcase⟩ :=
        ensureImpl_cases { s with ownedG := (s.next, g0) :: s.ownedG, next := s.next + 1 } g hd hg
      simp only [he, Option.some.injEq, Prod.mk.injEq] at h
      obtain ⟨rfl, _⟩ := h
      refine ⟨hsome, hno, ?_, ?_⟩
      · show (insertCell s1 im first _).1.ownedG = _
        rw [insertCell_ownedG]
        rcases hcase with ⟨_, rfl⟩ | ⟨_, _, rfl⟩ <;> rfl
      · show (aget (insertCell s1 im first _).1.G g0).isSome = true
        rw [(Sigc.Inv.insertCell_frame _ _ _ _).2.2.2.1]
        by_cases e : g0 = g
        · subst e; rw [hg1]; rfl
        · rw [hoth g0 e]; exact hsome

/-- **a signal object that a functor owns keeps its slot list alive**: whatever handle `g2` is destroyed (`delG g2`;
    for the owned name itself that is refused), the owned name stays in `G` with the same list, stays owned, and the
    list it refers to stays — `gcImpl` never removes a list that a handle in `G` refers to (`lives_while_owned`), and
    a functor-owned handle stays in `G` (named or not by the program, it is a handle of the list) -/
theorem functor_owned_handle_keeps_list (s s' : St) (r : String) (g0 g2 im : Nat) (h0 : Handle)
    (hown : s.ownedG.any (fun p => p.2 = g0) = true) (hg0 : aget s.G g0 = some h0) (himpl : h0.impl = some im)
    (h : stepSimple s (.delG g2) = some (s', r)) :
    aget s'.G g0 = some h0 ∧ s'.ownedG = s.ownedG ∧ (aget s'.impls im).isSome = (aget s.impls im).isSome ∧
    (g2 = g0 → s' = s ∧ r ≠ "ok") := by
  rcases delG_cases s g2 with ⟨r', hr, hne⟩ | hr
  · rw [hr] at h
    simp only [Option.some.injEq, Prod.mk.injEq] at h
    obtain ⟨rfl, rfl⟩ := h
    exact ⟨hg0, rfl, rfl, fun _ => ⟨rfl, hne⟩⟩
  · have e : g0 ≠ g2 := by
      intro e
      subst e
      obtain ⟨r', hr', hne⟩ := delG_owned_refused s g0 h0 hg0 hown
      rw [hr] at hr'
      simp only [Option.some.injEq, Prod.mk.injEq] at hr'
      rcases hne with hne | hne <;> rw [hne] at hr' <;> exact absurd hr'.2 (by decide)
    rw [hr] at h
    simp only [Option.some.injEq, Prod.mk.injEq] at h
    obtain ⟨rfl, rfl⟩ := h
    refine ⟨?_, (dropHandle_own s g2).g, dropHandle_keeps_referred s g2 g0 im h0 e hg0 himpl, fun e' => absurd e'.symm e⟩
    rw [dropHandle_G, if_neg e]
    exact hg0

/-- the cycle the mechanism exists for — a signal whose own list holds a functor owning the signal:
    `newG 0 I; cpG 1 0; connfn 0 0 (ownG 9 0)`; the copy `1` can be destroyed, the owned name `0` cannot, and the
    list (one cell) is still there -/
example :
    let run := fun (s : Option (St × String)) (op : Op) => s.bind (fun x => stepSimple x.1 op)
    let s3 := [Op.newG 0 (some .I), .cpG 1 0, .connfn 0 0 (.ownG 9 0) false].foldl run (some ({}, ""))
    let s4 := run s3 (.delG 1)
    s3.map (fun x => x.1.ownedG) = some [(6, 0)] ∧ s4.map (·.2) = some "ok" ∧
    (run s4 (.delG 0)).map (·.2) = some "owned" ∧ (run (run s4 (.delG 0)) (.sizeq 0)).map (·.2) = some "1" ∧
    s4.map (fun x => heldK x.1 6) = some true := by
  decide

example : ∀ s' r, stepSimple { G := [(0, { obj := 1, fl := .I, impl := some 7, trk := 2, lvl := 0 }),
                                     (1, { obj := 3, fl := .I, impl := some 7, trk := 4, lvl := 0 })],
                               impls := [(7, {})], ownedG := [(5, 0)], next := 8 } (.delG 1) = some (s', r) →
    (aget s'.impls 7).isSome = true := fun s' r h =>
  (functor_owned_handle_keeps_list _ s' r 0 1 7 { obj := 1, fl := .I, impl := some 7, trk := 2, lvl := 0 } rfl rfl rfl h).2.2.1

/-- what the third branch of `collectStep` does, precisely: when no owned trackable and no owned scoped connection is
    unheld, the first functor-owned signal object whose owner id no functor copy holds any more is taken out of
    `ownedG` and destroyed exactly as `delG` would destroy it (`dropHandle`, cf. `delG_eq_dropHandle`): its name
    is gone, the other `ownedG` entries stay -/
theorem collectStep_drops_unheld_owned_handle (s : St) (k g : Nat)
    (hT : s.ownedT.find? (fun o => !heldT s o) = none)
    (hK : s.ownedK.find? (fun q => !heldK s q.1) = none)
    (hG : s.ownedG.find? (fun q => !heldK s q.1) = some (k, g)) :
    collectStep s = some (dropHandle { s with ownedG := s.ownedG.filter (fun q => q.1 ≠ k) } g) ∧
    aget (dropHandle { s with ownedG := s.ownedG.filter (fun q => q.1 ≠ k) } g).G g = none ∧
    (dropHandle { s with ownedG := s.ownedG.filter (fun q => q.1 ≠ k) } g).ownedG
      = s.ownedG.filter (fun q => q.1 ≠ k) ∧
    (k, g) ∈ s.ownedG ∧ heldK s k = false := by
  refine ⟨collectStep_ownedG s k g hT hK hG, ?_, (dropHandle_own _ g).g, List.mem_of_find?_eq_some hG, ?_⟩
  · rw [dropHandle_G]; simp
  · have := List.find?_some hG
    simpa using this

/-- **`collect` destroys every functor-owned signal object that no functor copy holds any more**: if `(k, g)` is in
    `ownedG` (`k` being the owner id of no other entry — owner ids come from the allocator) and no slot variable and no
    list cell holds a functor copy with owner id `k`, then after `collect` the name `g` is no longer in `G` and the
    entry is gone; and whatever is still in `ownedG` after `collect` was there before and is held by a functor copy -/
theorem collect_drops_unheld_owned_handle (s : St) (k g : Nat) (hm : (k, g) ∈ s.ownedG)
    (hu : ∀ g', (k, g') ∈ s.ownedG → g' = g) (hk : heldK s k = false) :
    aget (collect s).G g = none ∧ (k, g) ∉ (collect s).ownedG ∧
    ∀ p ∈ (collect s).ownedG, p ∈ s.ownedG ∧ heldK (collect s) p.1 = true :=
  ⟨(collect_drops_unheld s k g hm hu hk).1, (collect_drops_unheld s k g hm hu hk).2,
   fun p hp => ⟨(collect_rel s).sub p hp, collect_ownedG_held s p hp⟩⟩

/-- a list cell held a functor owning signal object `4` (owner id 7); the cell is gone (the state below has no
    list): `collect` destroys the object — and while a slot variable still holds a copy of the functor, it does not -/
example :
    let s : St := { G := [(4, { obj := 9, fl := .I, impl := none, trk := 0, lvl := 0 }),
                          (5, { obj := 10, fl := .I, impl := none, trk := 0, lvl := 0 })], ownedG := [(7, 4)], next := 11 }
    aget (collect s).G 4 = none ∧ (aget (collect s).G 5).isSome = true ∧ (collect s).ownedG = [] :=
  ⟨(collect_drops_unheld_owned_handle _ 7 4 (by simp) (by simp) (by decide)).1, by decide, by decide⟩

example :
    let s : St := { G := [(4, { obj := 9, fl := .I, impl := none, trk := 0, lvl := 0 })], ownedG := [(7, 4)], next := 11,
                    S := [(0, { isVoid := false, slot := { rep := some { call := true, fn := some (.owner 3 [] [7]) } } })] }
    (aget (collect s).G 4).isSome = true ∧ (collect s).ownedG = [(7, 4)] := by
  decide

/-- the uniqueness hypothesis of `collect_drops_unheld_owned_handle` holds in every well-formed state
    (`StepWF.WF`: every state in which any operation of any run executes — `execOp_WF`, `runTop_WF`), e.g. in the
    state an operation leaves behind before `collect` runs -/
theorem collect_drops_unheld_owned_handle_wf (s : St) (hw : Sigc.StepWF.WF s) (k g : Nat) (hm : (k, g) ∈ s.ownedG)
    (hk : heldK s k = false) :
    aget (collect s).G g = none ∧ (k, g) ∉ (collect s).ownedG :=
  let ⟨a, b, _⟩ := collect_drops_unheld_owned_handle s k g hm (fun _ h' => hw.owners.unique hm h') hk
  ⟨a, b⟩

example : Sigc.StepWF.WF { G := [(4, { obj := 9, fl := .I, impl := none, trk := 0, lvl := 0 })], ownedG := [(7, 4)], next := 11 } := by
  decide

/-- **after every line of every program, every functor-owned signal object is held by a live functor copy** (in a
    slot variable or a list cell): `execLine` ends with `collect`, which has destroyed the others
    (`collect_drops_unheld_owned_handle`) -/
theorem line_leaves_owned_handles_held (f : Nat) (P : Prog) (s : St) (l : Line) (r : St × Outcome)
    (h : execLine f P s l = some r) : ∀ p ∈ r.1.ownedG, heldK r.1 p.1 = true := by
  cases f with
  | zero => rw [execLine] at h; cases h
  | succ f =>
    rw [execLine] at h
    split at h
    · cases h
    · simp only [Option.some.injEq] at h; subst h
      exact fun p hp => collect_ownedG_held _ p hp
    · simp only [Option.some.injEq] at h; subst h
      exact fun p hp => collect_ownedG_held _ p hp

/-- … hence in every state reached by running any lines of any program from the initial state -/
theorem run_leaves_owned_handles_held (f : Nat) (P : Prog) (ls : List Line) (s : St)
    (h : runTop f P {} ls = some s) : ∀ p ∈ s.ownedG, heldK s p.1 = true :=
  Sigc.Inv.runTop_induct (J := fun s => ∀ p ∈ s.ownedG, heldK s p.1 = true)
    (fun s0 l s1 o _ he => line_leaves_owned_handles_held f P s0 l (s1, o) he) (fun _ hp => by cases hp) h

/-- a run: the functor owning signal `0` is connected to signal `1`; destroying signal `1` destroys the functor, and
    with it the owned signal object `0` (its name is gone: `sizeq 0 → dead`) -/
def exProgOwn : Prog :=
  { bodies := [], owners := true,
    top := [⟨"newG 0 I", .newG 0 (some .I)⟩, ⟨"newG 1 I", .newG 1 (some .I)⟩,
            ⟨"connfn 0 1 ownG 9 0", .connfn 0 1 (.ownG 9 0) false⟩, ⟨"delG 0", .delG 0⟩, ⟨"sizeq 0", .sizeq 0⟩,
            ⟨"delG 1", .delG 1⟩, ⟨"sizeq 0", .sizeq 0⟩] }

example : (runTop 20 exProgOwn {} exProgOwn.top).map (fun s => (s.G.map (·.1), s.ownedG,
      (s.trace.reverse.filterMap (fun e => match e with | .res _ t r => some (t, r) | _ => none)).drop 3)) =
    some ([], [], [("delG 0", "owned"), ("sizeq 0", "0"), ("delG 1", "ok"), ("sizeq 0", "dead")]) := by
  decide +kernel

example : ∀ f s, runTop f exProgOwn {} exProgOwn.top = some s → ∀ p ∈ s.ownedG, heldK s p.1 = true :=
  fun f s h => run_leaves_owned_handles_held f _ _ s h

/-! ## the specification `S` -/

/-- in `S`, too, two handles of one list are indistinguishable for queries, `block` and `clear` -/
theorem spec_shared_handles_agree_queries (s : Spec.LSt) (g1 g2 : Nat) (h1 h2 : Handle)
    (hg1 : aget s.G g1 = some h1) (hg2 : aget s.G g2 = some h2) (himpl : h1.impl = h2.impl) :
    Spec.stepSimple s (.sizeq g1) = Spec.stepSimple s (.sizeq g2) ∧
    Spec.stepSimple s (.emptyGq g1) = Spec.stepSimple s (.emptyGq g2) ∧
    Spec.stepSimple s (.blockedGq g1) = Spec.stepSimple s (.blockedGq g2) ∧
    (∀ b, Spec.stepSimple s (.blockG g1 b) = Spec.stepSimple s (.blockG g2 b)) ∧
    Spec.stepSimple s (.clear g1) = Spec.stepSimple s (.clear g2) :=
  let ⟨a, b, c, d, e, _⟩ := SpecP.handles_agree s g1 g2 h1 h2 hg1 hg2 himpl
  ⟨a, b, c, d, e⟩

/-- in `S`, self-assignment (copy or move) of a signal object is the identity (the move unless refused: the
    object is owned by a functor and not of an `accumulated` flavour; the state is unchanged then, too) -/
theorem spec_self_assign (s : Spec.LSt) (i : Nat) (h0 : Handle) (hi : aget s.G i = some h0) :
    Spec.stepSimple s (.asgG i i) = some (s, "ok") ∧
    ((!h0.fl.isAcc && s.ownedG.any (fun p => p.2 = i)) = false → Spec.stepSimple s (.masgG i i) = some (s, "ok")) ∧
    ∃ r, Spec.stepSimple s (.masgG i i) = some (s, r) := by
  refine ⟨?_, ?_, ?_⟩
  · unfold Spec.stepSimple; simp [hi]
  · intro hown
    unfold Spec.stepSimple; simp only [hi]
    cases hacc : h0.fl.isAcc
    · simp only [hacc, Bool.not_false, Bool.true_and] at hown
      simp [hown]
    · simp
  · unfold Spec.stepSimple; simp only [hi]
    cases hacc : h0.fl.isAcc
    · cases hown : s.ownedG.any (fun p => p.2 = i)
      · exact ⟨"ok", by simp⟩
      · exact ⟨"owned", by simp⟩
    · exact ⟨"ok", by simp⟩

/-- in `S`, move construction of a plain signal transfers the list and leaves the source without one -/
theorem spec_mvG_transfers (s s' : Spec.LSt) (r : String) (j i : Nat) (h0 : Handle)
    (hi : aget s.G i = some h0) (hj : aget s.G j = none) (hacc : h0.fl.isAcc = false) (ht : h0.fl.isTrackable = false)
    (h : Spec.stepSimple s (.mvG j i) = some (s', r)) :
    r = "ok" ∧ (∃ hd, aget s'.G j = some hd ∧ hd.impl = h0.impl ∧ hd.fl = h0.fl) ∧
    (∃ hs, aget s'.G i = some hs ∧ hs.impl = none) ∧ s'.sigs = s.sigs := by
  obtain ⟨s1, hj', h1, h2, h3, h4, h5, h6⟩ := SpecP.mvG_transfers s j i h0 hi hj hacc
  cases h1.symm.trans h
  exact ⟨rfl, ⟨hj', h2, h3, h4⟩, ⟨_, h5, rfl⟩, h6 ht⟩

example : (Spec.stepSimple { G := [(0, { obj := 1, fl := .I, impl := some 5, trk := 2, lvl := 0 })], next := 9 } (.mvG 1 0)).map
    (fun x => x.1.G.map (fun p => p.2.impl)) = some [none, some 5] := by decide

end Sigc.C14
