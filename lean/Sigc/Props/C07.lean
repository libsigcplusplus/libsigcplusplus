import Sigc.Model
import Sigc.Spec
import Sigc.Lemmas.InvLive
import Sigc.Lemmas.InvExamples
import Sigc.Props.C03
import Sigc.Props.C06
/-!
# C07 — disconnected slots release their functor and memory; nothing leaks

Model-level content (mechanism model `P`): the library's heap objects are the impls (`signal_impl`,
owned by `shared_ptr`s of signal objects and of `signal_impl_holder`s), the cells with their reps, and
the functor copies inside reps (`liveCount`, `liveTotal`).

* `no_orphans` — at every quiescent point every impl is owned by a live signal object, no holder is
  outstanding, no slot variable is busy; inside emissions the indexed form `C06.balance_inside`.
* `all_released` — after the harness teardown of *any* reachable state: no impl, no slot, no signal,
  no connection, no scoped connection, no trackable is left and no functor copy is alive.
* `functor_alive_def`, `release_*` — a functor copy is alive iff it sits in the rep of a user slot or of a
  cell of a live impl (by definition of `liveCount`), and the operations that destroy reps release exactly
  the copies those reps held: `invalidate`, `eraseCell`, `sweep`, `~signal_impl`.
* `functor_alive_iff` — at quiescent points every cell is a still-connected slot of a list owned by a live
  signal object (uses `C03.quiescent_clean`).
-/
namespace Sigc.C07
open Sigc.Model Sigc.Inv

/-- **no orphans**: in every reachable (quiescent) state
    * every `signal_impl` is owned by a live signal object and has no outstanding `signal_impl_holder`;
    * every signal object's impl exists;
    * no user slot is in the middle of an invocation -/
theorem no_orphans (fuel : Nat) (P : Prog) (s : St) (h : runTop fuel P {} P.top = some s) :
    (∀ p ∈ s.impls, p.2.holders = 0 ∧ ∃ g hd, aget s.G g = some hd ∧ hd.impl = some p.1) ∧
    (∀ g hd i, aget s.G g = some hd → hd.impl = some i → ∃ im, aget s.impls i = some im) ∧
    (∀ i v, aget s.S i = some v → v.incall = 0) :=
  ⟨C06.no_orphan_impl fuel P s h, (C06.balance fuel P s h).2, (Inc.reachable fuel P s h).1⟩

/-- from any quiescent state satisfying the invariants (not only at the end of a program), the harness
    teardown leaves nothing of the library behind -/
theorem all_released_from (fuel : Nat) (P : Prog) (s s' : St) (hs : TdInv s)
    (ht : teardown fuel P s = some s') :
    s'.impls = [] ∧ s'.S = [] ∧ s'.G = [] ∧ s'.C = [] ∧ s'.K = [] ∧ s'.T = [] ∧ liveTotal s' = 0 := by
  obtain ⟨_, hK, hC, hS, hG, hT, hI⟩ := teardown_empty fuel P s s' hs ht
  exact ⟨hI, hS, hG, hC, hK, hT, liveTotal_nil hS hI⟩

/-- **all released**: run any program to the end, then let the harness destroy what is left (scoped
    connections, connections, slots, `clear()`, signals, trackables).  Nothing of the library remains:
    no `signal_impl`, no slot, no signal object, no connection, no trackable, and not a single functor copy -/
theorem all_released (fuel fuel' : Nat) (P : Prog) (s s' : St) (h : runTop fuel P {} P.top = some s)
    (ht : teardown fuel' P s = some s') :
    s'.impls = [] ∧ s'.S = [] ∧ s'.G = [] ∧ s'.C = [] ∧ s'.K = [] ∧ s'.T = [] ∧
    liveTotal s' = 0 ∧ ∀ fid, liveCount s' fid = 0 := by
  obtain ⟨hI, hS, hG, hC, hK, hT, hL⟩ := all_released_from fuel' P s s' (TdInv.reachable fuel P s h) ht
  exact ⟨hI, hS, hG, hC, hK, hT, hL, liveCount_nil hS hI⟩

/-
  Not part of `all_released`, and false of the model: `s'.ownedT = [] ∧ s'.ownedK = [] ∧ s'.ownedG = []`.
  `teardown` runs its operations through `execOp`, which (unlike `execLine` and `emitImpl`) does not run
  `collect`; witness: `owners; newT 0; mkS 0 V ownT:1:0` ends, after teardown, with `ownedT = [1]` although
  no functor holds object 1 any more.  Nothing observable (trace, `final live=`) depends on it.
  (Likewise a signal object owned by a functor, `ownG:`, is destroyed by the teardown as a named object, `s'.G = []`,
  while its `ownedG` entry stays; `C06.ownedG_named` is a statement about the states of `runTop`.)
-/

theorem functor_alive_def (s : St) (fid : Nat) :
    liveCount s fid = slotsLive fid s.S + implsLive fid s.impls := rfl

/-- a rep loses its functor through `notify_slot_rep_invalidated` (trackable death) … -/
theorem release_invalidate (sl : SlotB) (fid : Nat) :
    sl.invalidate.live fid = 0 ∧ sl.invalidate.liveAll = 0 :=
  ⟨live_invalidate sl fid, liveAll_invalidate sl⟩

/-- … not through `disconnect()` alone (the functor dies with the rep, when the cell is erased) … -/
theorem disconnect_keeps_functor (sl : SlotB) (fid : Nat) : sl.disconnectRep.live fid = sl.live fid :=
  live_disconnectRep sl fid

/-- … through the erase of its cell: exactly the copies of the erased cell are released -/
theorem release_eraseCell {s : St} {i cid : Nat} {im : Impl} (hi : aget s.impls i = some im) (fid : Nat) :
    liveCount (eraseCell s i cid) fid + cellsLive fid (im.cells.filter (fun c => !decide (c.id ≠ cid))) =
      liveCount s fid :=
  liveCount_eraseCell hi fid

/-- … through the sweep at the end of the outermost emission: exactly the copies of the cells that had
    become empty -/
theorem release_sweep {s : St} {i : Nat} {im : Impl} (hi : aget s.impls i = some im) (fid : Nat) :
    liveCount (sweep s i) fid + cellsLive fid (im.cells.filter (fun c => c.slot.empty)) = liveCount s fid :=
  liveCount_sweep hi fid

/-- … and through `~signal_impl`: every copy held by the cells of the destroyed list -/
theorem release_gcImpl {s : St} (hw : WF s) {i : Nat} {im : Impl} (hi : aget s.impls i = some im)
    (hrm : aget (gcImpl s i).impls i = none) (fid : Nat) :
    liveCount (gcImpl s i) fid + cellsLive fid im.cells = liveCount s fid :=
  liveCount_gcImpl_removed hw hi hrm fid

/-- after `notify_callbacks()` of object `o`, every user slot and every cell that referred to `o` holds no
    functor copy any more -/
theorem release_on_trackable_death {s : St} (hw : WF s) (o : Nat) :
    (∀ k v, aget s.S k = some v → v.slot.tracksObj o = true →
        ∃ v', aget (invalidateTrackable s o).S k = some v' ∧ v'.slot.liveAll = 0) ∧
    (∀ i im c, aget s.impls i = some im → c ∈ im.cells → c.slot.tracksObj o = true →
        ∀ j jm d, aget (invalidateTrackable s o).impls j = some jm → d ∈ jm.cells → d.id = c.id →
          d.slot.liveAll = 0) := by
  constructor
  · intro k v hk ht
    refine ⟨{ v with slot := v.slot.invalidate }, ?_, liveAll_invalidate _⟩
    rw [(invalidateTrackable_frame s o).2.2.2.2, aget_amap, hk]
    simp [ht]
  · intro i im c hi hc ht j jm d hj hd hde
    exact (invalidateTrackable_gone hw hi hc ht j jm d hj hd hde).2.2.1

/-- At quiescent points.  With `functor_alive_def` (a copy is alive iff it sits in the rep
    of a user slot variable or of a cell of a live impl), in every reachable state:
    * every cell of every impl is a *still connected* slot — linked, with a rep — of a list owned by a live
      signal object: no copy is kept on behalf of a disconnected or cleared slot (its cell has been erased:
      `C03.quiescent_clean`) or of a destroyed signal (`no_orphans`);
    * a rep invalidated by a trackable holds no copy (`release_invalidate`): neither a user slot nor a cell
      keeps a functor alive once a trackable it referred to has died (`release_on_trackable_death`). -/
theorem functor_alive_iff (fuel : Nat) (P : Prog) (s : St) (h : runTop fuel P {} P.top = some s) :
    (∀ fid, liveCount s fid = slotsLive fid s.S + implsLive fid s.impls) ∧
    (∀ i im c, aget s.impls i = some im → c ∈ im.cells →
        c.linked = true ∧ c.slot.rep.isSome = true ∧ ∃ g hd, aget s.G g = some hd ∧ hd.impl = some i) ∧
    (∀ sl : SlotB, sl.invalidate.liveAll = 0) := by
  refine ⟨fun fid => rfl, ?_, liveAll_invalidate⟩
  intro i im c hi hc
  have hq := Sigc.C03.quiescent_clean fuel P P.top s h i im hi
  exact ⟨(hq.2.2.2 c hc).2, (hq.2.2.2 c hc).1, ((C06.balance fuel P s h).1 i im hi).2⟩

/-- on the example state `Inv.exT` the trackable's death releases the functor copy of the user slot -/
example : ∃ v', aget (invalidateTrackable exT 7).S 0 = some v' ∧ v'.slot.liveAll = 0 :=
  (release_on_trackable_death exT_wf 7).1 0 _ rfl (by decide)

/-- `sig.connect(f1)`: one functor copy is alive at the end of the program; the teardown releases it and
    everything else -/
def exP : Prog :=
  { bodies := [],
    top := [⟨"newG 0 V", .newG 0 (some .V)⟩, ⟨"connfn 0 0 fn 1", .connfn 0 0 (.fn 1) false⟩] }

example : ∃ s, runTop 3 exP {} exP.top = some s ∧ liveTotal s = 1 ∧
    ∀ s', teardown 3 exP s = some s' → s'.impls = [] ∧ liveTotal s' = 0 := by
  with_unfolding_all refine ⟨_, rfl, rfl, fun s' ht => ?_⟩
  have hr := all_released 3 3 exP _ s' (by with_unfolding_all rfl) ht
  exact ⟨hr.1, hr.2.2.2.2.2.2.1⟩

end Sigc.C07
