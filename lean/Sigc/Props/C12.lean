import Sigc.Model
import Sigc.Lemmas.Basic
import Sigc.Lemmas.StepSlots
import Sigc.Lemmas.StepIter
import Sigc.Spec
import Sigc.Lemmas.SpecBasic
import Sigc.Props.C15
/-!
# C12 — blocking suspends a slot without disconnecting it
-/
namespace Sigc.C12
open Sigc.Model Sigc.StepSlots Sigc.StepIter

/-- `block()/unblock()` on a slot variable returns the previous state, sets the new one, and affects
    only that slot: no other slot variable, no signal, no connection changes -/
theorem blockS_returns_previous_only_that_slot (s s' : St) (r : String) (i : Nat) (b : Bool) (v : SlotVar)
    (hv : aget s.S i = some v) (h : stepSimple s (.blockS i b) = some (s', r)) :
    r = bstr v.slot.blocked ∧
    aget s'.S i = some { v with slot := { v.slot with blocked := b } } ∧
    (∀ k, k ≠ i → aget s'.S k = aget s.S k) ∧
    s'.impls = s.impls ∧ s'.C = s.C ∧ s'.K = s.K := by
  cases (blockS_eq s i b v hv).symm.trans h
  exact ⟨rfl, aget_aset_same _ _ _, fun k hk => aget_aset_other _ _ _ _ hk, rfl, rfl, rfl⟩

/-- blocking keeps the slot's representation (it stays connected / non-empty) -/
theorem blockS_keeps_rep (s s' : St) (r : String) (i : Nat) (b : Bool) (v : SlotVar)
    (hv : aget s.S i = some v) (h : stepSimple s (.blockS i b) = some (s', r)) :
    ∃ v', aget s'.S i = some v' ∧ v'.slot.rep = v.slot.rep ∧ v'.slot.empty = v.slot.empty := by
  obtain ⟨_, h2, _⟩ := blockS_returns_previous_only_that_slot s s' r i b v hv h
  exact ⟨_, h2, rfl, rfl⟩

/-- `signal.block(b)` sets the state of every slot in the list at that moment (and touches no other list) -/
theorem blockG_sets_all_current (s s' : St) (r : String) (g im : Nat) (b : Bool) (h0 : Handle) (x : Impl)
    (hg : aget s.G g = some h0) (hi : h0.impl = some im) (hx : aget s.impls im = some x)
    (h : stepSimple s (.blockG g b) = some (s', r)) :
    (∃ x', aget s'.impls im = some x' ∧ x'.cells.map (·.id) = x.cells.map (·.id) ∧
           ∀ c ∈ x'.cells, c.slot.blocked = b) ∧
    (∀ k, k ≠ im → aget s'.impls k = aget s.impls k) := by
  cases (blockG_eq s g im b h0 x hg hi hx).symm.trans h
  obtain ⟨_, h2, _, _, h5⟩ := blockAll_shape b x.cells
  exact ⟨⟨_, aget_aset_same _ _ _, h2, h5⟩, fun k hk => aget_aset_other _ _ _ _ hk⟩

/-- `signal.blocked()` answers "all slots blocked", which is true for a signal that never had a list
    (for an empty list: `blockedG_vacuous_empty_list`) -/
theorem blockedG_vacuous (s : St) (g : Nat) (h0 : Handle) (hg : aget s.G g = some h0) (hi : h0.impl = none) :
    stepSimple s (.blockedGq g) = some (s, "1") := by
  simp [stepSimple.eq_def, hg, hi]

/-- … and for a signal with a list it is the conjunction of the cells' flags -/
theorem blockedG_iff_all (s : St) (g im : Nat) (h0 : Handle) (x : Impl)
    (hg : aget s.G g = some h0) (hi : h0.impl = some im) (hx : aget s.impls im = some x) :
    stepSimple s (.blockedGq g) = some (s, bstr (x.cells.all (·.slot.blocked))) := by
  simp [stepSimple.eq_def, hg, hi, hx]

/-- invoking a blocked slot through an emission loop step does nothing: the non-accumulating loop
    skips a blocked cell (one unfolding of `emitLoop`) -/
theorem emitLoop_skips_blocked (f : Nat) (P : Prog) (s : St) (i cur m arg r : Nat) (im : Impl) (c : Cell)
    (hne : cur ≠ m) (hi : aget s.impls i = some im) (hc : im.cells.find? (·.id = cur) = some c)
    (hb : c.slot.blocked = true) (nxt : Nat) (hn : succId im.cells cur = some nxt) :
    emitLoop (f+1) P s i cur m arg r = emitLoop f P s i nxt m arg r :=
  emitLoop_skip f P s i cur m arg r im c hne hi hc (callableAt_blocked s i cur im c hi hc hb) nxt hn

example : stepSimple { S := [(0, { isVoid := false, slot := { blocked := true, rep := none } })] } (.blockS 0 false)
    = some ({ S := [(0, { isVoid := false, slot := { blocked := false, rep := none } })] }, "1") := rfl

/-! ## `block()/unblock()/blocked()` through a connection or scoped_connection -/

theorem setBlocked_only_that_cell (cid : Nat) (b : Bool) (cs : List Cell) :
    (setBlocked cid b cs).length = cs.length ∧
    (setBlocked cid b cs).map (·.id) = cs.map (·.id) ∧
    (setBlocked cid b cs).map (·.slot.rep) = cs.map (·.slot.rep) ∧
    (setBlocked cid b cs).map (·.linked) = cs.map (·.linked) ∧
    (setBlocked cid b cs).map (·.slot.blocked) = cs.map (fun c => if c.id = cid then b else c.slot.blocked) := by
  refine ⟨by simp [setBlocked], ?_, ?_, ?_, ?_⟩ <;>
  · simp only [setBlocked, List.map_map]
    apply List.map_congr_left
    intro c _
    simp only [Function.comp, blockCellF]
    split <;> simp_all

/-- `connection::block(b)` on a connection that points at a live cell `cid` (of impl `im`): returns the
    previous state of that cell, sets the new one, and affects only that cell: every other impl, cell lookup and
    `connected()` answer and the tables `S C K G T` are as before -/
theorem blockC_returns_previous_only_that_slot (s s' : St) (r : String) (i : Nat) (b : Bool) (cid im : Nat) (c : Cell)
    (hp : aget s.C i = some (some cid)) (hc : getCell s cid = some (im, c))
    (h : stepSimple s (.blockC i b) = some (s', r)) :
    r = bstr c.slot.blocked ∧
    (∃ x, aget s.impls im = some x ∧ x.cells.find? (·.id = cid) = some c ∧
          aget s'.impls im = some { x with cells := setBlocked cid b x.cells }) ∧
    (∀ k, k ≠ im → aget s'.impls k = aget s.impls k) ∧
    getCell s' cid = some (im, { c with slot := { c.slot with blocked := b } }) ∧
    connBlocked s' (some cid) = b ∧
    (∀ cid', cid' ≠ cid → getCell s' cid' = getCell s cid') ∧
    (∀ p, connConnected s' p = connConnected s p) ∧
    s'.S = s.S ∧ s'.C = s.C ∧ s'.K = s.K ∧ s'.G = s.G ∧ s'.T = s.T := by
  simp only [stepSimple.eq_def, hp, Option.some.injEq, Prod.mk.injEq] at h
  obtain ⟨rfl, rfl⟩ := h
  obtain ⟨hb, rest⟩ := connBlock_spec s cid im c b hc
  exact ⟨by rw [hb], rest⟩

/-- the same through a `scoped_connection` -/
theorem blockK_returns_previous_only_that_slot (s s' : St) (r : String) (i : Nat) (b : Bool) (cid im : Nat) (c : Cell)
    (hp : aget s.K i = some (some cid)) (hc : getCell s cid = some (im, c))
    (h : stepSimple s (.blockK i b) = some (s', r)) :
    r = bstr c.slot.blocked ∧
    (∃ x, aget s.impls im = some x ∧ x.cells.find? (·.id = cid) = some c ∧
          aget s'.impls im = some { x with cells := setBlocked cid b x.cells }) ∧
    (∀ k, k ≠ im → aget s'.impls k = aget s.impls k) ∧
    getCell s' cid = some (im, { c with slot := { c.slot with blocked := b } }) ∧
    connBlocked s' (some cid) = b ∧
    (∀ cid', cid' ≠ cid → getCell s' cid' = getCell s cid') ∧
    (∀ p, connConnected s' p = connConnected s p) ∧
    s'.S = s.S ∧ s'.C = s.C ∧ s'.K = s.K ∧ s'.G = s.G ∧ s'.T = s.T := by
  simp only [stepSimple.eq_def, hp, Option.some.injEq, Prod.mk.injEq] at h
  obtain ⟨rfl, rfl⟩ := h
  obtain ⟨hb, rest⟩ := connBlock_spec s cid im c b hc
  exact ⟨by rw [hb], rest⟩

example : stepSimple { C := [(0, some 4)],
                       impls := [(3, { cells := [{ id := 4, slot := { blocked := false, rep := some { call := true, fn := some (.leaf 3 []) } }, linked := true },
                                                 { id := 5, slot := { blocked := false, rep := some { call := true, fn := some (.leaf 6 []) } }, linked := true }] })] }
      (.blockC 0 true)
    = some ({ C := [(0, some 4)],
              impls := [(3, { cells := [{ id := 4, slot := { blocked := true, rep := some { call := true, fn := some (.leaf 3 []) } }, linked := true },
                                        { id := 5, slot := { blocked := false, rep := some { call := true, fn := some (.leaf 6 []) } }, linked := true }] })] }, "0") := rfl

/-- on an empty connection (never connected, or its slot is gone) `block()` does nothing and returns false -/
theorem blockC_empty_connection (s s' : St) (r : String) (i : Nat) (b : Bool) (p : Option Nat)
    (hp : aget s.C i = some p) (hd : p = none ∨ ∃ cid, p = some cid ∧ getCell s cid = none)
    (h : stepSimple s (.blockC i b) = some (s', r)) : r = "0" ∧ s' = s := by
  simp only [stepSimple.eq_def, hp, Option.some.injEq, Prod.mk.injEq] at h
  obtain ⟨rfl, rfl⟩ := h
  obtain ⟨h1, h2⟩ := connBlock_none s p b hd
  exact ⟨by rw [h2]; rfl, h1⟩

theorem blockK_empty_connection (s s' : St) (r : String) (i : Nat) (b : Bool) (p : Option Nat)
    (hp : aget s.K i = some p) (hd : p = none ∨ ∃ cid, p = some cid ∧ getCell s cid = none)
    (h : stepSimple s (.blockK i b) = some (s', r)) : r = "0" ∧ s' = s := by
  simp only [stepSimple.eq_def, hp, Option.some.injEq, Prod.mk.injEq] at h
  obtain ⟨rfl, rfl⟩ := h
  obtain ⟨h1, h2⟩ := connBlock_none s p b hd
  exact ⟨by rw [h2]; rfl, h1⟩

example : stepSimple { C := [(0, some 9)], impls := [(3, { cells := [{ id := 4, slot := {}, linked := true }] })] } (.blockC 0 true)
    = some ({ C := [(0, some 9)], impls := [(3, { cells := [{ id := 4, slot := {}, linked := true }] })] }, "0") := rfl

/-- `connection::blocked()` / `scoped_connection::blocked()` report the flag of the cell pointed at,
    false for an empty connection, and change nothing -/
theorem blockedCq_reports (s : St) (i : Nat) (p : Option Nat) (hp : aget s.C i = some p) :
    stepSimple s (.blockedCq i) = some (s, bstr (connBlocked s p)) ∧
    (∀ cid im c, p = some cid → getCell s cid = some (im, c) → connBlocked s p = c.slot.blocked) ∧
    ((p = none ∨ ∃ cid, p = some cid ∧ getCell s cid = none) → connBlocked s p = false) :=
  ⟨by simp only [stepSimple.eq_def, hp], connBlocked_reports s p⟩

theorem blockedKq_reports (s : St) (i : Nat) (p : Option Nat) (hp : aget s.K i = some p) :
    stepSimple s (.blockedKq i) = some (s, bstr (connBlocked s p)) ∧
    (∀ cid im c, p = some cid → getCell s cid = some (im, c) → connBlocked s p = c.slot.blocked) ∧
    ((p = none ∨ ∃ cid, p = some cid ∧ getCell s cid = none) → connBlocked s p = false) :=
  ⟨by simp only [stepSimple.eq_def, hp], connBlocked_reports s p⟩

example : stepSimple { K := [(0, some 4)], impls := [(3, { cells := [{ id := 4, slot := { blocked := true, rep := none }, linked := true }] })] } (.blockedKq 0)
    = some ({ K := [(0, some 4)], impls := [(3, { cells := [{ id := 4, slot := { blocked := true, rep := none }, linked := true }] })] }, "1") := rfl

/-! ## `signal.block()` sets the slots present at that moment, and no slot connected later -/

/-- `signal.block(b)` in full: the list keeps its length, ids, reps and links, every flag becomes `b`;
    no handle, slot variable, connection or trackable changes; every `connected()` and `size()` answer
    is unchanged (a blocked slot stays connected) -/
theorem blockG_only_flags (s s' : St) (r : String) (g im : Nat) (b : Bool) (h0 : Handle) (x : Impl)
    (hg : aget s.G g = some h0) (hi : h0.impl = some im) (hx : aget s.impls im = some x)
    (h : stepSimple s (.blockG g b) = some (s', r)) :
    r = "ok" ∧ aget s'.impls im = some { x with cells := blockAll b x.cells } ∧
    (blockAll b x.cells).length = x.cells.length ∧
    (blockAll b x.cells).map (·.id) = x.cells.map (·.id) ∧
    (blockAll b x.cells).map (·.slot.rep) = x.cells.map (·.slot.rep) ∧
    (blockAll b x.cells).map (·.linked) = x.cells.map (·.linked) ∧
    (∀ c ∈ blockAll b x.cells, c.slot.blocked = b) ∧
    (∀ k, k ≠ im → aget s'.impls k = aget s.impls k) ∧
    s'.G = s.G ∧ s'.S = s.S ∧ s'.C = s.C ∧ s'.K = s.K ∧ s'.T = s.T ∧
    (∀ p, connConnected s' p = connConnected s p) ∧
    (∀ g' r0, stepSimple s (.sizeq g') = some (s, r0) → stepSimple s' (.sizeq g') = some (s', r0)) := by
  cases (blockG_eq s g im b h0 x hg hi hx).symm.trans h
  obtain ⟨h1, h2, h3, h4, h5⟩ := blockAll_shape b x.cells
  refine ⟨rfl, aget_aset_same _ _ _, h1, h2, h3, h4, h5, fun k hk => aget_aset_other _ _ _ _ hk,
          rfl, rfl, rfl, rfl, rfl, ?_, ?_⟩
  · exact connConnected_mapCells s im x _ (fun _ => rfl) (fun _ => rfl) hx
  · exact sizeq_mapCells s im x _ hx

/-- `signal.block()` never changes a handle, slot variable, connection or trackable — in every state and
    branch (dead signal, signal without a list) -/
theorem blockG_frame_all (s s' : St) (r : String) (g : Nat) (b : Bool) (h : stepSimple s (.blockG g b) = some (s', r)) :
    s'.G = s.G ∧ s'.S = s.S ∧ s'.C = s.C ∧ s'.K = s.K ∧ s'.T = s.T ∧ s'.next = s.next := by
  simp only [stepSimple.eq_def] at h
  repeat' split at h
  all_goals cases h
  all_goals exact ⟨rfl, rfl, rfl, rfl, rfl, rfl⟩

/-- a slot connected from a functor (`connfn`) starts unblocked whatever the state — in particular after a
    `signal.block()` — and the insertion leaves every existing cell (and its flag) in place -/
theorem connfn_new_cell_unblocked (s s0 s1 s' : St) (r : String) (k g : Nat) (spec : FSpec) (first : Bool)
    (h : Handle) (fn : Fun) (im : Nat) (x : Impl)
    (hg : aget s.G g = some h) (hf : mkFun s h.fl.isVoid spec = .ok (fn, s0))
    (hta : specTaint s spec < (h.lvl : Int))
    (he : ensureImpl s0 g = some (s1, im)) (hx : aget s1.impls im = some x)
    (hstep : stepSimple s (.connfn k g spec first) = some (s', r)) :
    r = "ok" ∧
    aget s'.impls im = some { x with cells :=
      if first then { id := s1.next, slot := { blocked := false, rep := some { call := true, fn := some fn } }, linked := true } :: x.cells
      else x.cells ++ [{ id := s1.next, slot := { blocked := false, rep := some { call := true, fn := some fn } }, linked := true }] } ∧
    (∀ i, i ≠ im → aget s'.impls i = aget s1.impls i) ∧
    aget s'.C k = some (some s1.next) ∧ s'.S = s.S := by
  cases (connfn_eq s s0 s1 k g spec first h fn im x hg hf hta he hx).symm.trans hstep
  obtain ⟨⟨hS0, _⟩, _⟩ := (mkFun_all s s0 _ spec fn hf).1
  obtain ⟨hS1, _⟩ := ensureImpl_spec s0 s1 g im he
  refine ⟨rfl, ?_, fun i hi => aget_aset_other _ _ _ _ hi, aget_aset_same _ _ _, by rw [← hS0, ← hS1]; rfl⟩
  show aget (aset s1.impls im _) im = _
  rw [aget_aset_same]
  cases first <;> rfl

/-- a slot connected from a slot variable (`conn`, by copy) starts with the blocking state of the copy of
    that variable — not with the signal's — and leaves every existing cell in place -/
theorem conn_new_cell_flag (s s1 s' : St) (r : String) (k g sv : Nat) (first : Bool) (h : Handle) (v : SlotVar)
    (im : Nat) (x : Impl)
    (hg : aget s.G g = some h) (hv : aget s.S sv = some v)
    (hty : h.fl.isVoid = v.isVoid) (hta : v.taint < (h.lvl : Int))
    (he : ensureImpl s g = some (s1, im)) (hx : aget s1.impls im = some x)
    (hstep : stepSimple s (.conn k g sv first false) = some (s', r)) :
    ∃ c, c.id = s1.next ∧ c.slot.blocked = v.slot.copy.blocked ∧
      ((v.slot.rep = none ∨ v.slot.empty = false) → c.slot.blocked = v.slot.blocked) ∧
      aget s'.impls im = some { x with cells := if first then c :: x.cells else x.cells ++ [c] } := by
  cases (conn_copy_eq s s1 k g sv first h v im x hg hv hty hta he hx).symm.trans hstep
  refine ⟨newCell s1.next v.slot.copy, rfl, withDummy_blocked _, ?_, ?_⟩
  · exact fun hh => (withDummy_blocked _).trans (C15.copy_blocked _ hh)
  · show aget (aset s1.impls im _) im = _
    rw [aget_aset_same]
    cases first <;> rfl

/-- `block()` on a signal sets the state of no slot connected later: after `signal.block(true)` a slot
    connected from a functor is unblocked, so `signal.blocked()` answers 0 -/
theorem blockG_not_later (s sb s0 s1 s2 : St) (r1 r2 : String) (k g : Nat) (spec : FSpec) (first : Bool)
    (h : Handle) (fn : Fun) (im : Nat) (x : Impl)
    (hb : stepSimple s (.blockG g true) = some (sb, r1))
    (hg : aget sb.G g = some h) (hf : mkFun sb h.fl.isVoid spec = .ok (fn, s0))
    (hta : specTaint sb spec < (h.lvl : Int))
    (he : ensureImpl s0 g = some (s1, im)) (hx : aget s1.impls im = some x)
    (hstep : stepSimple sb (.connfn k g spec first) = some (s2, r2)) :
    sb.G = s.G ∧ r2 = "ok" ∧ stepSimple s2 (.blockedGq g) = some (s2, "0") := by
  have hG := (blockG_frame_all s sb r1 g true hb).1
  cases (connfn_eq sb s0 s1 k g spec first h fn im x hg hf hta he hx).symm.trans hstep
  obtain ⟨h', hg', hi'⟩ := ensureImpl_handle s0 s1 g im he
  refine ⟨hG, rfl, ?_⟩
  have hg2 : aget (setConn (setImpl { s1 with next := s1.next + 1 } im
      { x with cells := insAt first (newCell s1.next { blocked := false, rep := some { call := true, fn := some fn } }) x.cells })
      k (some s1.next)).G g = some h' := hg'
  simp only [stepSimple.eq_def, hg2, hi']
  simp [setConn, setImpl, all_insAt, newCell, withDummy, bstr]

example : ∃ sb s2, stepSimple { G := [(0, { obj := 1, fl := .I, impl := some 3, trk := 2, lvl := 0 })],
                                 impls := [(3, { cells := [{ id := 4, slot := { blocked := false, rep := some { call := true, fn := some (.leaf 3 []) } }, linked := true }] })],
                                 next := 5 } (.blockG 0 true) = some (sb, "ok")
    ∧ stepSimple sb (.blockedGq 0) = some (sb, "1")
    ∧ stepSimple sb (.connfn 0 0 (.fn 7) false) = some (s2, "ok")
    ∧ stepSimple s2 (.blockedGq 0) = some (s2, "0") :=
  ⟨_, _, rfl, rfl, rfl, rfl⟩

/-! ## `signal.blocked()` -/

/-- a signal whose list is empty reports blocked (vacuous truth) -/
theorem blockedG_vacuous_empty_list (s : St) (g im : Nat) (h0 : Handle) (x : Impl)
    (hg : aget s.G g = some h0) (hi : h0.impl = some im) (hx : aget s.impls im = some x) (hc : x.cells = []) :
    stepSimple s (.blockedGq g) = some (s, "1") := by
  rw [blockedG_iff_all s g im h0 x hg hi hx, hc]; rfl

/-- after `signal.block(b)`, `signal.blocked()` answers `b` for a non-empty list and 1 for an empty one -/
theorem blockG_then_blockedGq (s s' : St) (r : String) (g im : Nat) (b : Bool) (h0 : Handle) (x : Impl)
    (hg : aget s.G g = some h0) (hi : h0.impl = some im) (hx : aget s.impls im = some x)
    (h : stepSimple s (.blockG g b) = some (s', r)) :
    stepSimple s' (.blockedGq g) = some (s', bstr (x.cells.isEmpty || b)) := by
  cases (blockG_eq s g im b h0 x hg hi hx).symm.trans h
  simp only [stepSimple.eq_def, setImpl, hg, hi, aget_aset_same, Option.map, Option.getD, all_blockAll]

example : stepSimple { G := [(0, { obj := 1, fl := .I, impl := some 3, trk := 2, lvl := 0 })], impls := [(3, {})] } (.blockedGq 0)
    = some ({ G := [(0, { obj := 1, fl := .I, impl := some 3, trk := 2, lvl := 0 })], impls := [(3, {})] }, "1") := rfl

/-! ## a blocked slot is skipped, and stays connected -/

/-- the accumulator iterator's `operator*` skips a blocked cell: nothing is invoked, the state and the
    iterator are unchanged (one unfolding of `deref`) -/
theorem deref_skips_blocked (f : Nat) (P : Prog) (s : St) (i arg : Nat) (it : IterBuf) (im : Impl) (c : Cell)
    (hi : aget s.impls i = some im) (hc : im.cells.find? (·.id = it.pos) = some c) (hb : c.slot.blocked = true) :
    deref (f+1) P s i it arg = some (s, .ok, it) :=
  deref_skip f P s i arg it im c hi hc (.inr (callableAt_blocked s i it.pos im c hi hc hb))

example : deref 1 { bodies := [], top := [] }
    { impls := [(3, { cells := [{ id := 4, slot := { blocked := true, rep := some { call := true, fn := some (.leaf 3 []) } }, linked := true }] })] }
    3 { pos := 4 } 0
    = some ({ impls := [(3, { cells := [{ id := 4, slot := { blocked := true, rep := some { call := true, fn := some (.leaf 3 []) } }, linked := true }] })] }, .ok, { pos := 4 }) := by
  rw [deref_skips_blocked 0 _ _ 3 0 _ _ _ rfl rfl rfl]

/-- invoking a blocked slot variable directly does nothing (state and call log unchanged) and returns a
    default-constructed result -/
theorem direct_call_default (f : Nat) (P : Prog) (s : St) (i arg : Nat) (v : SlotVar)
    (hv : aget s.S i = some v) (hd : s.depth < P.maxdepth) (hs : s.steps ≤ P.maxsteps)
    (hb : v.slot.blocked = true) :
    execOp (f+1) P s (.callS i arg) = some (s, .ok (showRes v.isVoid 0)) :=
  C15.call_empty_default f P s i arg v hv hd hs (.inr (.inl hb))

example : execOp 1 { bodies := [], top := [] }
      { S := [(0, { isVoid := true, slot := { blocked := true, rep := some { call := true, fn := some (.leaf 3 []) } } })] } (.callS 0 5)
    = some ({ S := [(0, { isVoid := true, slot := { blocked := true, rep := some { call := true, fn := some (.leaf 3 []) } } })] }, .ok "r=void") := by
  rw [direct_call_default 0 _ _ 0 5 _ rfl (by decide) (by decide) rfl]
  rfl

/-- blocking a slot variable keeps it connected/non-empty and changes no `connected()` / `size()` answer -/
theorem blockS_stays_connected (s s' : St) (r : String) (i : Nat) (b : Bool) (v : SlotVar)
    (hv : aget s.S i = some v) (h : stepSimple s (.blockS i b) = some (s', r)) :
    (∃ v', aget s'.S i = some v' ∧ v'.slot.empty = v.slot.empty ∧ v'.slot.rep = v.slot.rep) ∧
    s'.G = s.G ∧ s'.impls = s.impls ∧
    (∀ p, connConnected s' p = connConnected s p) ∧
    (∀ g r0, stepSimple s (.sizeq g) = some (s, r0) → stepSimple s' (.sizeq g) = some (s', r0)) := by
  cases (blockS_eq s i b v hv).symm.trans h
  exact ⟨⟨_, aget_aset_same _ _ _, rfl, rfl⟩, rfl, rfl, connConnected_congr _ _ rfl, sizeq_congr _ _ rfl rfl⟩

/-- blocking through a connection keeps every cell in its list: every `size()` answer is unchanged
    (`connected()` answers: see `blockC_returns_previous_only_that_slot`) -/
theorem blockC_size_unchanged (s s' : St) (r : String) (i : Nat) (b : Bool) (p : Option Nat)
    (hp : aget s.C i = some p) (h : stepSimple s (.blockC i b) = some (s', r)) :
    ∀ g r0, stepSimple s (.sizeq g) = some (s, r0) → stepSimple s' (.sizeq g) = some (s', r0) := by
  simp only [stepSimple.eq_def, hp, Option.some.injEq, Prod.mk.injEq] at h
  obtain ⟨rfl, _⟩ := h
  exact connBlock_size s p b

theorem blockK_size_unchanged (s s' : St) (r : String) (i : Nat) (b : Bool) (p : Option Nat)
    (hp : aget s.K i = some p) (h : stepSimple s (.blockK i b) = some (s', r)) :
    ∀ g r0, stepSimple s (.sizeq g) = some (s, r0) → stepSimple s' (.sizeq g) = some (s', r0) := by
  simp only [stepSimple.eq_def, hp, Option.some.injEq, Prod.mk.injEq] at h
  obtain ⟨rfl, _⟩ := h
  exact connBlock_size s p b

example : ∃ s', stepSimple { G := [(0, { obj := 1, fl := .I, impl := some 3, trk := 2, lvl := 0 })], C := [(0, some 4)],
                              impls := [(3, { cells := [{ id := 4, slot := { blocked := false, rep := some { call := true, fn := some (.leaf 3 []) } }, linked := true }] })] }
      (.blockC 0 true) = some (s', "0") ∧ stepSimple s' (.sizeq 0) = some (s', "1") ∧ stepSimple s' (.connectedq 0) = some (s', "1") :=
  ⟨_, rfl, rfl, rfl⟩

/-! ## the specification `S` (the other clauses: `Props/SpecProps.lean`, section "C12") -/

/-- in the statement-level specification `S`, `block()/unblock()` on a slot variable also returns the
    previous state, sets the new one and changes nothing but that variable -/
theorem spec_blockS_returns_previous_only_that_slot (l l' : Spec.LSt) (r : String) (i : Nat) (b : Bool) (v : SlotVar)
    (hv : aget l.S i = some v) (h : Spec.stepSimple l (.blockS i b) = some (l', r)) :
    r = bstr v.slot.blocked ∧
    aget l'.S i = some { v with slot := { v.slot with blocked := b } } ∧
    (∀ k, k ≠ i → aget l'.S k = aget l.S k) ∧
    l'.sigs = l.sigs ∧ l'.C = l.C ∧ l'.K = l.K ∧ l'.G = l.G ∧ l'.T = l.T := by
  cases (Spec.stepSimple_blockS l i b v hv).symm.trans h
  exact ⟨rfl, aget_aset_same _ _ _, fun k hk => aget_aset_other _ _ _ _ hk, rfl, rfl, rfl, rfl, rfl⟩

example : Spec.stepSimple { S := [(0, { isVoid := false, slot := { blocked := true, rep := none } })] } (.blockS 0 false)
    = some ({ S := [(0, { isVoid := false, slot := { blocked := false, rep := none } })] }, "1") := rfl

end Sigc.C12
