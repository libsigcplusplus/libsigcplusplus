import Sigc.Types
import Sigc.TypesLemmas
/-!
  The part of property C20 ("the type-erased call path never relies on undefined behaviour") that is about types:
  the function type under which `slot_rep::call_` is *produced* (`callItType`: that of
  `&slot_call<F, R, A...>::call_it`, which `address()` erases to `hook`) and the one it is *cast back to* before
  every call (`castBackTo`: a table over the call sites — `slot::operator()` and the emitters) are the same, for
  every result type and parameter list, and the arguments each site passes (`siteArg`) initialise its parameters.

  The table is checked against the code on every run of the C05 check (static_assert(is_same) probes with
  `-fno-access-control`, a scan of the `function_pointer_cast<>` sites, a `clang++ -fsanitize=function` run);
  `Props/C05.lean` imports this file, `Props/C20.lean` (the same namespace) does not.
-/
namespace Sigc.C20
open Sigc.Types

/-- **C20.call_through_original_type** — at every call site, for every result type `r` and every parameter list
    `as` (any length), the function-pointer type `call_` is cast back to is exactly the type of the `call_it`
    instantiation whose address was stored.  The hypothesis only says the site's template is the one selected for
    `r`; `call_type` is modelled as the pack expansion it is (`takePack`). -/
theorem call_through_original_type (site : CallSite) (r : Ret) (as : List Param)
    (h : siteApplies site r = true) : castBackTo site r as = callItType r as := by
  cases site <;> simp only [castBackTo, slotCallType, callItType, takePack_eq_map]
  -- the void emitter: the table says `void`, the hypothesis says `r` is `void`
  cases r with
  | none => rfl
  | some p => simp [siteApplies] at h

example : castBackTo .emitValue (some ⟨.int, .val⟩) [⟨.int, .val⟩, ⟨.clsA, .lref⟩, ⟨.long, .rref⟩]
    = ⟨.par ⟨.int, .val⟩, [.repPtr, .par ⟨.int, .cref⟩, .par ⟨.clsA, .lref⟩, .par ⟨.long, .rref⟩]⟩ := by decide +kernel
example : siteApplies .emitVoid none = true ∧ siteApplies .emitValue (some ⟨.int, .val⟩) = true := by decide +kernel

/-- the hypothesis of `call_through_original_type` cannot be dropped for the table entry of the void emitter:
    it really is a different type when the result is not `void` (so the table is not trivially uniform) -/
theorem void_site_needs_void :
    castBackTo .emitVoid (some ⟨.int, .val⟩) [] ≠ callItType (some ⟨.int, .val⟩) [] := by decide +kernel

/-- every parameter of the erased call type is a reference (`type_trait_take_t`), never a by-value copy: the call
    through the pointer itself copies nothing -/
theorem call_type_params_are_references (r : Ret) (as : List Param) :
    ∀ t ∈ (callItType r as).params, t = .repPtr ∨ ∃ p, t = .par p ∧ p.shape ≠ .val := by
  intro t ht
  simp only [callItType, List.mem_cons, List.mem_map] at ht
  rcases ht with h | ⟨a, _, h⟩
  · exact Or.inl h
  · refine Or.inr ⟨take a, h.symm, ?_⟩
    obtain ⟨ab, sh⟩ := a
    cases sh <;> simp [take]

example : (callItType none [⟨.int, .val⟩]).params = [.repPtr, .par ⟨.int, .cref⟩] := by decide +kernel

/-- **C20.call_site_args_ok** — the argument expression every call site passes initialises the corresponding
    parameter of the erased call type, for every declared parameter that is not an rvalue reference; the forwarding
    sites (`slot::operator()`, the void emitter) do so for rvalue references too. -/
theorem call_site_args_ok (site : CallSite) (a : Param)
    (h : a.shape ≠ .rref ∨ site = .slotCall ∨ site = .emitVoid) : siteOk site a = true := by
  cases site
  case slotCall | emitVoid => exact binds_fwd_self (take a)
  all_goals
    have ha : a.shape ≠ .rref := h.resolve_right (by simp)
    refine binds_named_self (take a) fun ht => ha ?_
    obtain ⟨b, sh⟩ := a
    cases sh <;> first | rfl | cases ht

example : siteOk .emitAccum ⟨.clsB, .cref⟩ = true := by decide +kernel

/-- the remaining corner (an observation about the code, not a defect of the erased call): the value-returning and
    the accumulating emitters pass the *named* parameter, an lvalue, so `emit` of a `signal<R(T&&)>` with non-void
    `R` is ill-formed (rejected at compile time; pinned in corpus/C05). -/
theorem value_emitter_rejects_rvalue_reference (b : Base) :
    siteOk .emitValue ⟨b, .rref⟩ = false ∧ siteOk .emitAccum ⟨b, .rref⟩ = false := by
  simp [siteOk, siteArg, take, named, binds, refRelated_refl]

end Sigc.C20
