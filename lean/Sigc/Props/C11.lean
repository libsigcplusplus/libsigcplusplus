import Sigc.Props.C10
/-!
  C11 — references stay references and values stay intact along the call path.

  Model (`Sigc/Adapt.lean`, part 4): an argument is `(object identity, value category, designated object)`; every hop of
  every call operator (`adaptor_functor`, `bind`, `hide`, `retype`, `retype_return`, `bind_return`, `compose`,
  `exception_catch`, `track_obj`, `slot::operator()`, `slot_call::call_it`, the emit loops) either hands on the very
  object or constructs a new one, according to the *declared parameter kind of that operator in the code*,
  which is the explicit table `paramKind`.  The theorems are proved for the table as it is (all `forwardingRef`);
  `f5_witness` shows that they fail with a by-value row (finding F5).  How a call operator passes its named
  parameters on is the second explicit table `passKind`: `std::forward` everywhere except `compose2_functor`, which
  hands the *named* parameters (lvalues) to both getters; `compose2_getters_intact` is proved for that row and
  `compose2_forward_witness` shows that it fails when the row says `forward`.

  Known limit (finding F8, `rref_witness`): a `T&&` signal parameter that passes `bind`/`hide` below a forwarding
  adaptor is move-constructed into a `std::tuple<T>`; for `T&&` identity is proved for chains of forwarding call
  operators only (`rref_forwarders`).

  Unbound member functors (`OExpr.mleaf`, `sigc::mem_fun(&Base::m)` called as `f(obj, args…)`): how
  `mem_functor::operator()` takes the object is two more rows of `paramKind` — one per static type of the object argument
  (`Base` itself / a class derived from it), because that is what overload resolution looks at.  Both say "by reference" in
  the code, so the identity theorems above cover member-functor targets; `mem_functor_object_identity` states it
  for the call itself and `mem_functor_byvalue_witness` shows that a by-value row for derived static types breaks it.
-/
namespace Sigc.C11
open Sigc.Adapt

theorem paramKind_forwarding : ∀ k, paramKind k = .forwardingRef := by
  intro k; cases k <;> rfl

/-- a concrete heap for the examples: emitter objects 0 and 1, a bound object 100 -/
def h0 : Heap :=
  { next := 1000, val := fun x => if x = 0 then 7 else if x = 1 then 5 else if x = 100 then 40 else 0,
    copies := fun _ => 0, moves := fun _ => 0, hops := fun _ => 0, log := [] }

theorem logOK_iff (h : Heap) :
    logOK h = true ↔ ∀ r ∈ h.log, ∀ p ∈ r.params, ∀ o, p.origin = some o → p.src = o := by
  simp only [logOK, List.all_eq_true, Rec.ok, Param.ok]
  constructor
  · intro hh r hr p hp o ho
    have := hh r hr p hp
    simpa [ho] using this
  · intro hh r hr p hp
    cases ho : p.origin with
    | none => rfl
    | some o => simpa using hh r hr p hp o ho

theorem emit_inv (sig : List PK) (objs : List Nat) (slots : List OSlot) (h : Heap)
    (hsig : sig.contains .rref = false) (hslots : ∀ s ∈ slots, s.f.noRRef = true) (hlog : logOK h = true) :
    HeapInv h.next h.hops (emitVoidO paramKind passKind sig objs slots h).1
      ∧ HeapInv h.next h.hops (emitValueO paramKind passKind sig objs slots h).1 := by
  have P := pathInv_identity h.next h.hops
  refine P.emit paramKind paramKind_forwarding passKind sig objs slots h
    (fun s hs => OExpr.adm_of_noRRef (hslots s hs)) ⟨Nat.le_refl _, fun _ _ => rfl, hlog⟩ fun a ha => ?_
  -- the emitter's own objects, bound to `take_t` of a declared kind other than `T&&`
  obtain ⟨k, hk, o, _, rfl⟩ := mem_zipWith ha
  refine P.take k _ (fun e => ?_) ⟨Or.inl rfl, fun _ ho' => Option.some.inj ho'⟩
  rw [List.contains_iff_mem.2 (e ▸ hk)] at hsig
  cases hsig

/-- **Identity.**  For every signature whose positions are declared `T`, `T&` or `const T&`, every list of slots, every
    adaptor expression in every slot (any nesting depth): each parameter of each invoked target that is designated to be
    the emitter's object `o` (or the `std::ref`-bound object `o`) is fed from the very object `o` — so what slot `i`
    writes through a reference, slot `j > i` and the emitter read.  Both emit loops. -/
theorem ref_identity (sig : List PK) (objs : List Nat) (slots : List OSlot) (h : Heap)
    (hsig : sig.contains .rref = false) (hslots : ∀ s ∈ slots, s.f.noRRef = true) (hlog : logOK h = true) :
    (∀ r ∈ (emitVoidO paramKind passKind sig objs slots h).1.log, ∀ p ∈ r.params, ∀ o, p.origin = some o → p.src = o)
    ∧ (∀ r ∈ (emitValueO paramKind passKind sig objs slots h).1.log, ∀ p ∈ r.params, ∀ o, p.origin = some o → p.src = o) := by
  have := emit_inv sig objs slots h hsig hslots hlog
  exact ⟨(logOK_iff _).mp this.1.log_ok, (logOK_iff _).mp this.2.log_ok⟩

-- non-vacuity: hide(hide_return(g)) and bind(f, std::ref(b)) on signal<void(Obj&, Obj)>; the second slot and the
-- emitter see what the first wrote (7 -> 107 -> 307), the bound object is written through the reference
example :
    let slots : List OSlot :=
      [⟨false, false, .un (.hide none) (.un .hideReturn (.leaf 0 true [.lref] true))⟩,
       ⟨false, false, .un (.bind none [.byRef 100]) (.leaf 1 false [.lref, .cref, .lref] false)⟩]
    let h := (emitVoidO paramKind passKind [.lref, .val] [0, 1] slots h0).1
    ([PK.lref, PK.val].contains .rref = false) ∧ (slots.all (fun s => s.f.noRRef)) = true ∧ logOK h0 = true
    ∧ h.log = [⟨0, [⟨some 0, 0, 7⟩]⟩, ⟨1, [⟨some 0, 0, 107⟩, ⟨some 1, 1, 5⟩, ⟨some 100, 100, 40⟩]⟩]
    ∧ h.val 0 = 307 ∧ h.val 1 = 5 ∧ h.val 100 = 242 := by decide +kernel

/-- **Bound references.**  Under the same hypotheses no object that exists before the emission — in particular no
    object bound with `std::ref` / `std::cref`, and none of the emitter's — is ever copied or moved by a library call
    operator (`hops` counts the constructions made inside the library; only declared by-value parameters copy), and
    `bound_argument<reference_wrapper<T>>::invoke()` designates and yields the bound object itself. -/
theorem bound_ref_identity (sig : List PK) (objs : List Nat) (slots : List OSlot) (h : Heap)
    (hsig : sig.contains .rref = false) (hslots : ∀ s ∈ slots, s.f.noRRef = true) (hlog : logOK h = true) :
    (∀ o, o < h.next → (emitVoidO paramKind passKind sig objs slots h).1.hops o = h.hops o
                     ∧ (emitValueO paramKind passKind sig objs slots h).1.hops o = h.hops o)
    ∧ (∀ o, (Bound.byRef o).invoke = ⟨o, .lv, some o⟩ ∧ (Bound.byCRef o).invoke = ⟨o, .clv, some o⟩) := by
  have := emit_inv sig objs slots h hsig hslots hlog
  exact ⟨fun o ho => ⟨this.1.hops_eq o ho, this.2.hops_eq o ho⟩, fun o => ⟨rfl, rfl⟩⟩

example :
    let slots : List OSlot :=
      [⟨false, false, .un (.bind (some 0) [.byRef 100, .byCRef 101, .byVal 200]) (.leaf 0 false [.lref, .cref, .val, .lref] true)⟩]
    let h := (emitValueO paramKind passKind [.lref] [0] slots h0).1
    h.log = [⟨0, [⟨some 100, 100, 40⟩, ⟨some 101, 101, 0⟩, ⟨some 200, 200, 0⟩, ⟨some 0, 0, 7⟩]⟩]
    ∧ h.copies 100 = 0 ∧ h.hops 100 = 0 ∧ h.copies 200 = 1 ∧ h.hops 200 = 0 := by decide +kernel

theorem emitterArg_frame (sig : List PK) (objs : List Nat) (o : Nat)
    (hconst : ∀ a ∈ List.zipWith emitterArg sig objs, a.cat ≠ .clv → a.obj ≠ o) :
    ∀ a ∈ List.zipWith emitterArg sig objs, NoW o a := hconst

/-- **Values stay intact.**  An object `o` that the emitter passes only at positions declared by value or `const&`
    (and that no slot holds through `std::ref` or as its own bound copy) has the same value after the emission as
    before — for every list of slots, hence at every slot boundary: whatever earlier slots did, every later slot is
    handed the emitted value (targets see `const T&` to `o`, or their own copy). -/
theorem value_intact (sig : List PK) (objs : List Nat) (slots : List OSlot) (h : Heap) (o : Nat) (ho : o < h.next)
    (hconst : ∀ a ∈ List.zipWith emitterArg sig objs, a.cat ≠ .clv → a.obj ≠ o)
    (hb : ∀ s ∈ slots, o ∉ s.f.boundMut) :
    (emitVoidO paramKind passKind sig objs slots h).1.val o = h.val o
    ∧ (emitValueO paramKind passKind sig objs slots h).1.val o = h.val o :=
  have := (pathInv_frame o (h.val o)).emit paramKind paramKind_forwarding passKind sig objs slots h
    (fun s hs => OExpr.adm_of_not_mem_boundMut (hb s hs)) ⟨ho, rfl⟩ hconst
  ⟨this.1.val, this.2.val⟩

-- non-vacuity: signal<void(Obj)>; the first target mutates its by-value parameter, the second and third and the
-- emitter still see 7
example :
    let slots : List OSlot :=
      [⟨false, false, .leaf 0 false [.val] false⟩, ⟨false, false, .un .hideReturn (.leaf 1 true [.val] true)⟩,
       ⟨false, false, .leaf 2 true [.cref] false⟩]
    let h := (emitVoidO paramKind passKind [.val] [0] slots h0).1
    (∀ a ∈ List.zipWith emitterArg [PK.val] [0], a.cat ≠ .clv → a.obj ≠ 0)
    ∧ h.log = [⟨0, [⟨some 0, 0, 7⟩]⟩, ⟨1, [⟨some 0, 0, 7⟩]⟩, ⟨2, [⟨some 0, 0, 7⟩]⟩] ∧ h.val 0 = 7
    ∧ h.val 1000 = 107 := by decide +kernel

/-- **Results.**  With at least one callable slot the value emission returns exactly what the last callable slot
    returned (never `T_return()`, never an earlier slot's value). -/
theorem result_not_defaulted (sig : List PK) (objs : List Nat) (pre : List OSlot) (last : OSlot) (post : List OSlot)
    (h h' : Heap) (r' : Option Int) (hl : last.callable = true) (hpost : ∀ s ∈ post, s.callable = false)
    (hpre : emitValueO paramKind passKind sig objs pre h = (h', .ok r')) :
    emitValueO paramKind passKind sig objs (pre ++ last :: post) h
      = callO paramKind passKind last.f true ((List.zipWith emitterArg sig objs).map (fun a => { a with cat := a.cat.named })) h' :=
  emitValue_last OSlot.callable _ (some 0) pre last post h h' r' hl hpost hpre

example :
    let s1 : OSlot := ⟨false, false, .leaf 0 true [.cref] true⟩
    let s2 : OSlot := ⟨false, false, .un (.bindReturn 55) (.leaf 1 true [.cref] false)⟩
    let s3 : OSlot := ⟨false, true, .leaf 2 true [.cref] true⟩
    (emitValueO paramKind passKind [.cref] [0] [s1, s2, s3] h0).2 = .ok (some 55)
    ∧ (emitValueO paramKind passKind [.cref] [0] [s1] h0).2 = .ok (some 1007)
    ∧ (emitValueO paramKind passKind [.cref] [0] [s3] h0).2 = .ok (some 0) := by decide +kernel

/-- the parameter kinds of a code with `retype_return_functor<void>::operator()(T_arg... a)` (finding F5) -/
def tableF5 : AdaptorKind → ParamKind
  | .retypeReturnVoid => .byValue
  | _ => .forwardingRef

/-- **F5 witness.**  With a by-value row `ref_identity` is false:
    `signal<void(Obj&, Obj)>`, `hide(hide_return(g))` — `g` receives a copy (object 1000) of the emitter's object 0 and
    the emitter's object keeps its value. -/
theorem f5_witness :
    let slots : List OSlot := [⟨false, false, .un (.hide none) (.un .hideReturn (.leaf 0 true [.lref] true))⟩]
    let h := (emitVoidO tableF5 passKind [.lref, .val] [0, 1] slots h0).1
    h.log = [⟨0, [⟨some 0, 1000, 7⟩]⟩] ∧ logOK h = false ∧ h.val 0 = 7 ∧ h.hops 0 = 1
    ∧ logOK (emitVoidO paramKind passKind [.lref, .val] [0, 1] slots h0).1 = true := by decide +kernel

/-- **F8 witness (known finding).**  For a `T&&` parameter the identity statement is false of the code:
    `signal<void(Obj&&, Obj)>` with `hide_return(hide(f))` connected twice — inside `hide`, `T_arg` is deduced as `Obj`,
    `std::tuple<Obj>` move-constructs from the emitter's object: the targets receive copies and the second slot sees
    the moved-from value. -/
theorem rref_witness :
    let f : OExpr := .un .hideReturn (.un (.hide none) (.leaf 0 true [.cref] true))
    let h := (emitVoidO paramKind passKind [.rref, .val] [0, 1] [⟨false, false, f⟩, ⟨false, false, f⟩] h0).1
    h.log = [⟨0, [⟨some 0, 1000, 7⟩]⟩, ⟨0, [⟨some 0, 1001, movedMark⟩]⟩] ∧ logOK h = false
    ∧ h.val 0 = movedMark ∧ h.moves 0 = 2 ∧ h.hops 0 = 2 := by decide +kernel

theorem passKind_rows : passKind .compose2 = .named ∧ ∀ k, k ≠ .compose2 → passKind k = .forward := by
  refine ⟨rfl, ?_⟩
  intro k hk
  cases k <;> first | rfl | exact absurd rfl hk

/-- **Both getters of `compose(s, g1, g2)` see the emitted arguments.**  For arguments of every category — rvalues
    (`std::move(x)`, temporaries, `T&&` signal parameters) included — and getters (functor expressions of any depth)
    whose targets take their parameters by value or `const&`: both getters are called with lvalues, and every object
    that existed before the call has its value and has not been moved from — before `g1`, between the two getters
    (so in whichever order they are evaluated), and after the call. -/
theorem compose2_getters_intact (sid : Nat) (g1 g2 : OExpr) (ex : Bool) (args : List ARef) (h : Heap)
    (hn : g1.noRRef = true ∧ g2.noRRef = true) (hr : g1.readOnly = true ∧ g2.readOnly = true) :
    let r := thread (enterArg (paramKind .compose2) ex) h args
    let as2 := r.2.map (passOn (passKind .compose2))
    let h1 := (callO paramKind passKind g1 false as2 r.1).1
    let h2 := (callO paramKind passKind g2 false as2 h1).1
    let h' := (callO paramKind passKind (.compose2 sid g1 g2) ex args h).1
    (∀ a ∈ as2, a.cat.stable = true)
    ∧ ∀ o, o < h.next →
        (r.1.val o = h.val o ∧ r.1.moves o = h.moves o) ∧ (h1.val o = h.val o ∧ h1.moves o = h.moves o)
        ∧ (h2.val o = h.val o ∧ h2.moves o = h.moves o) ∧ (h'.val o = h.val o ∧ h'.moves o = h.moves o) := by
  intro r as2 h1 h2 h'
  have hstable : ∀ a ∈ as2, a.cat.stable = true := by
    intro a ha
    obtain ⟨a', _, rfl⟩ := List.mem_map.mp ha
    exact named_stable a'.cat
  have hsafe : ∀ a ∈ as2, Safe h.next a := fun a ha => Or.inl (hstable a ha)
  have k0 : Keep h.next h.val h.moves h := ⟨Nat.le_refl _, fun _ _ => rfl, fun _ _ => rfl⟩
  have kr : Keep h.next h.val h.moves r.1 := (thread_enterArg_fwd_fst ex h args).symm ▸ k0
  have hget := fun g hn hr h' hk' => (pathInv_keep h.next h.val h.moves).callO paramKind paramKind_forwarding passKind
    g false as2 h' ((OExpr.adm_of_noRRef hn).readOnly hr) hk' hsafe
  have k1 : Keep h.next h.val h.moves h1 := hget g1 hn.1 hr.1 r.1 kr
  have k2 : Keep h.next h.val h.moves h2 := hget g2 hn.2 hr.2 h1 k1
  have k' : Keep h.next h.val h.moves h' := by
    show Keep h.next h.val h.moves (callO paramKind passKind (.compose2 sid g1 g2) ex args h).1
    simp only [callO]
    split
    · exact k1
    · exact k2
  exact ⟨hstable, fun o ho => ⟨⟨kr.val_eq o ho, kr.moves_eq o ho⟩, ⟨k1.val_eq o ho, k1.moves_eq o ho⟩,
    ⟨k2.val_eq o ho, k2.moves_eq o ho⟩, ⟨k'.val_eq o ho, k'.moves_eq o ho⟩⟩⟩

-- non-vacuity: signal<void(Obj&&)>, hide_return(compose(&set2, g1, g2)), both getters take Obj by value: each gets its
-- own copy of the emitter's object (7), the emitter's object is copied twice and never moved
example :
    let e : OExpr := .compose2 0 (.leaf 0 false [.val] true) (.leaf 1 false [.val] true)
    let h := (emitVoidO paramKind passKind [.rref] [0] [⟨false, false, .un .hideReturn e⟩] h0).1
    e.noRRef = true ∧ e.readOnly = true
    ∧ h.log = [⟨0, [⟨some 0, 0, 7⟩]⟩, ⟨1, [⟨some 0, 0, 7⟩]⟩] ∧ h.val 0 = 7 ∧ h.moves 0 = 0 ∧ h.copies 0 = 2 := by decide +kernel

/-- the passing-on table of a code in which `compose2_functor` forwards its arguments to both getters -/
def tableForward : AdaptorKind → PassKind := fun _ => .forward

/-- **Forwarding witness.**  With `forward` in the `compose2` row `compose2_getters_intact` is false: on
    `signal<void(Obj&&)>` with `hide_return(compose(&set2, g1, g2))` and by-value getters, the getter evaluated first
    moves from the emitter's object and the other one sees the moved-from value (here: `g1` first; the real evaluation
    order is unspecified). -/
theorem compose2_forward_witness :
    let e : OExpr := .compose2 0 (.leaf 0 false [.val] true) (.leaf 1 false [.val] true)
    let h := (emitVoidO paramKind tableForward [.rref] [0] [⟨false, false, .un .hideReturn e⟩] h0).1
    h.log = [⟨0, [⟨some 0, 0, 7⟩]⟩, ⟨1, [⟨some 0, 0, movedMark⟩]⟩] ∧ h.val 0 = movedMark ∧ h.moves 0 = 2 := by decide +kernel

/-- **`T&&` through forwarding call operators** (`retype_return`, `hide_return`, `bind_return`, `compose`,
    `exception_catch`, `track_obj`, and plain targets): for every signature — `T&&` positions included — every target
    parameter designated `o` is fed from `o`, and no pre-existing object is copied or moved inside the library. -/
theorem rref_forwarders (sig : List PK) (objs : List Nat) (slots : List OSlot) (h : Heap)
    (hslots : ∀ s ∈ slots, s.f.fwdOnly = true) (hlog : logOK h = true) :
    (∀ r ∈ (emitVoidO paramKind passKind sig objs slots h).1.log, ∀ p ∈ r.params, ∀ o, p.origin = some o → p.src = o)
    ∧ (∀ o, o < h.next → (emitVoidO paramKind passKind sig objs slots h).1.hops o = h.hops o) := by
  have P := pathInv_obj h.next h.hops
  have := (P.emit paramKind paramKind_forwarding passKind sig objs slots h
    (fun s hs => OExpr.adm_of_fwdOnly (hslots s hs)) ⟨Nat.le_refl _, fun _ _ => rfl, hlog⟩ fun a ha => by
      obtain ⟨k, _, o, _, rfl⟩ := mem_zipWith ha
      exact P.take k ⟨o, .lv, some o⟩ trivial fun _ ho' => Option.some.inj ho').1
  exact ⟨(logOK_iff _).mp this.log_ok, this.hops_eq⟩

example :
    let slots : List OSlot :=
      [⟨false, false, .un .hideReturn (.leaf 0 true [.rref] true)⟩, ⟨false, false, .un .trackObj (.leaf 1 false [.cref] false)⟩]
    let h := (emitVoidO paramKind passKind [.rref] [0] slots h0).1
    (slots.all (fun s => s.f.fwdOnly)) = true
    ∧ h.log = [⟨0, [⟨some 0, 0, 7⟩]⟩, ⟨1, [⟨some 0, 0, 107⟩]⟩] ∧ h.moves 0 = 0 := by decide +kernel

/-- **A reference handed out as a result stays that reference.**  `bind_return(f, std::ref(x))` / `std::cref(x)`
    returns the reference to `x` itself, no copy of `x`: `C10.bound_result_identity`, on the value model (`callImpl`). -/
theorem bound_result_reference (f : FExpr) (c : Bool) (t : Ty) (cell : Nat) (n : Int) :
    let br := FExpr.un (.bindReturn (.ref c t cell n)) f
    (∀ args v, (callImpl f args).res = .ok v → (callImpl br args).res = .ok (.ref c t cell n))
    ∧ (∀ v, (callImpl f []).res = .ok v → (callImpl br []).res = .ok (.ref c t cell n))
    ∧ (∀ nd : Node, nd.forwards = true → ∀ args v, (callImpl f (argsImpl nd args)).res = .ok v →
        (callImpl (.un nd br) args).res = .ok (.ref c t cell n))
    ∧ (∀ s args v, (callImpl f args).res = .ok v →
        (callImpl (.compose1 s br) args).res = (callImpl s [.ref c t cell n]).res) :=
  C10.bound_result_identity f c t cell n

example :
    let br := FExpr.un (.bindReturn (.ref true .long 100 7)) (.leaf 0 [] none none)
    (callImpl br []).res = .ok (.ref true .long 100 7)
    ∧ (callImpl (.un (.hide none) br) [.num .int 42]).res = .ok (.ref true .long 100 7) := by decide +kernel

/-- **A getter's reference result reaches the setter as that reference.**  `compose(s, g)` / `compose(s, g1, g2)` call
    the setter with the getters' results themselves (no intermediate by-value local): `C10.compose_passes_result`. -/
theorem getter_result_reaches_setter (s g g1 g2 : FExpr) (args : List Val) :
    callImpl (.compose1 s g) args = (callImpl g args).andThen (fun v => callImpl s [v])
    ∧ callImpl (.compose2 s g1 g2) args
        = (callImpl g1 args).andThen (fun v1 => (callImpl g2 args).andThen (fun v2 => callImpl s [v1, v2])) :=
  C10.compose_passes_result s g g1 g2 args

example :
    (callImpl (.compose2 (.pleaf 2 [.long, .long] none none) (.rleaf 0 [.int] false .long none)
        (.un (.bindReturn (.ref true .long 100 7)) (.leaf 1 [.int] none none))) [.num .int 3]).log
      = [⟨0, [.num .int 3]⟩, ⟨1, [.num .int 3]⟩, ⟨2, [.ref true .long 0 3, .ref true .long 100 7]⟩] := by decide +kernel

/-- **The object of an unbound member functor.**  `sigc::mem_fun(&Base::m)` called as `f(obj, args…)` — directly or
    with explicit template arguments from `slot_call::call_it`, whatever the static type of the object argument (`Base`,
    a class derived from `Base`; `const` for a const method): `mem_functor::operator()` takes the object by reference
    (rows `memFunctorExact` / `memFunctorDerived` of `paramKind`), so `this` of the method (parameter 0 of the record)
    is the passed object itself and no object that existed before the call is copied or moved inside the library.  The
    slot / signal routes and every adaptor chain above the member functor (`bind<0>(…, std::ref(obj))` included) are
    instances of `ref_identity` / `bound_ref_identity`, whose `OExpr` ranges over `mleaf` targets too. -/
theorem mem_functor_object_identity (id : Nat) (der cm : Bool) (pks : List PK) (retv ex : Bool) (args : List ARef)
    (h : Heap) (hlog : logOK h = true) (ha : ∀ a ∈ args, ArgInv h.next a) :
    let h' := (callO paramKind passKind (.mleaf id der cm pks retv) ex args h).1
    (∀ r ∈ h'.log, ∀ p ∈ r.params, ∀ o, p.origin = some o → p.src = o)
    ∧ (∀ o, o < h.next → h'.hops o = h.hops o) := by
  intro h'
  have hi : HeapInv h.next h.hops h := ⟨Nat.le_refl _, fun _ _ => rfl, hlog⟩
  have := (pathInv_identity _ _).callO paramKind paramKind_forwarding passKind (.mleaf id der cm pks retv) ex args h
    trivial hi ha
  exact ⟨(logOK_iff _).mp this.log_ok, this.hops_eq⟩

-- the hypotheses are satisfiable: the caller's own objects passed as lvalues
example : ∀ a ∈ [(⟨0, .lv, some 0⟩ : ARef), ⟨1, .clv, some 1⟩], ArgInv h0.next a := by
  intro a ha
  simp only [List.mem_cons, List.mem_nil_iff, or_false] at ha
  rcases ha with rfl | rfl <;> exact ⟨Or.inl rfl, fun o ho => by simpa using ho⟩

-- mem_fun(&Base::add) with a Derived object: called directly with (d, x) — `this` is d (object 0), d is modified, not
-- copied; connected to signal<void(Derived&, Obj)> twice: the second call and the emitter see the first one's
-- modification; bind<0>(mem_fun(&Base::add), std::ref(b)): runs on b (object 100) itself; const Derived / const method
example :
    let m : OExpr := .mleaf 0 true false [.val] false
    let hd := (callO paramKind passKind m false [⟨0, .lv, some 0⟩, ⟨1, .lv, some 1⟩] h0).1
    let hs := (emitVoidO paramKind passKind [.lref, .val] [0, 1] [⟨false, false, m⟩, ⟨false, false, m⟩] h0).1
    let hb := (emitVoidO paramKind passKind [.val] [1] [⟨false, false, .un (.bind (some 0) [.byRef 100]) m⟩] h0).1
    let hc := (emitValueO paramKind passKind [.cref] [0] [⟨false, false, .mleaf 2 true true [] true⟩] h0)
    logOK h0 = true
    ∧ hd.log = [⟨0, [⟨some 0, 0, 7⟩, ⟨some 1, 1, 5⟩]⟩] ∧ hd.val 0 = 107 ∧ hd.copies 0 = 0 ∧ hd.copies 1 = 1
    ∧ hs.log = [⟨0, [⟨some 0, 0, 7⟩, ⟨some 1, 1, 5⟩]⟩, ⟨0, [⟨some 0, 0, 107⟩, ⟨some 1, 1, 5⟩]⟩] ∧ hs.val 0 = 207
    ∧ hs.copies 0 = 0 ∧ hs.hops 0 = 0
    ∧ hb.log = [⟨0, [⟨some 100, 100, 40⟩, ⟨some 1, 1, 5⟩]⟩] ∧ hb.val 100 = 140 ∧ hb.copies 100 = 0
    ∧ hc.1.log = [⟨2, [⟨some 0, 0, 7⟩]⟩] ∧ hc.2 = .ok (some 3007) ∧ hc.1.val 0 = 7 ∧ hc.1.copies 0 = 0 := by
  decide +kernel

/-- the parameter kinds of a code in which `mem_functor` has a second, templated call operator
    `operator()(T_obj_ptr obj, …)` taking the object *by value*: overload resolution prefers it (exact match) over the
    `obj_type_with_modifier&` overload (derived-to-base conversion) exactly when the argument's static type is a class
    derived from the method's class -/
def tableMemByValue : AdaptorKind → ParamKind
  | .memFunctorDerived => .byValue
  | k => paramKind k

/-- **By-value witness.**  With `byValue` in the `memFunctorDerived` row `mem_functor_object_identity` is false:
    `signal<void(Derived&, Obj)>` connected to `mem_fun(&Base::add)` twice — the method runs on a copy (objects 1000,
    1002) of the emitter's object 0, which is copied inside the library on every call and keeps its value, so neither
    the second slot nor the emitter sees the modification; likewise for an object bound with `std::ref`.  An object of
    the exact class is not affected, which is why only derived static types expose it. -/
theorem mem_functor_byvalue_witness :
    let m (der : Bool) : OExpr := .mleaf 0 der false [.val] false
    let hs := (emitVoidO tableMemByValue passKind [.lref, .val] [0, 1] [⟨false, false, m true⟩, ⟨false, false, m true⟩] h0).1
    let hb := (emitVoidO tableMemByValue passKind [.val] [1] [⟨false, false, .un (.bind (some 0) [.byRef 100]) (m true)⟩] h0).1
    let he := (emitVoidO tableMemByValue passKind [.lref, .val] [0, 1] [⟨false, false, m false⟩] h0).1
    hs.log = [⟨0, [⟨some 0, 1000, 7⟩, ⟨some 1, 1, 5⟩]⟩, ⟨0, [⟨some 0, 1002, 7⟩, ⟨some 1, 1, 5⟩]⟩] ∧ logOK hs = false
    ∧ hs.val 0 = 7 ∧ hs.copies 0 = 2 ∧ hs.hops 0 = 2
    ∧ hb.log = [⟨0, [⟨some 100, 1000, 40⟩, ⟨some 1, 1, 5⟩]⟩] ∧ logOK hb = false ∧ hb.val 100 = 40 ∧ hb.hops 100 = 1
    ∧ he.log = [⟨0, [⟨some 0, 0, 7⟩, ⟨some 1, 1, 5⟩]⟩] ∧ logOK he = true ∧ he.val 0 = 107 ∧ he.hops 0 = 0
    ∧ logOK (emitVoidO paramKind passKind [.lref, .val] [0, 1] [⟨false, false, m true⟩, ⟨false, false, m true⟩] h0).1 = true := by
  decide +kernel

end Sigc.C11
