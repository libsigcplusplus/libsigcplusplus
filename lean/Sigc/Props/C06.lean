import Sigc.Model
import Sigc.Spec
import Sigc.Lemmas.InvBal
import Sigc.Lemmas.InvOwnG
import Sigc.Lemmas.StepHandles
/-!
# C06 — library objects can be destroyed in any order without dangling access

Model-level content (mechanism model `P`): the objects refer to each other through
`Handle.impl` (signal object → `signal_impl`), `Option cellId` (connection → cell), `Fun.tracks`
(rep → trackable object), `holders` (running emission → `signal_impl`).  Proved here for every
fuel, program and history, i.e. for every order of destructions with arbitrary operations in between:

* `any_order` — the conjunction `AllInv` of the link invariants (identities unique, no handle refers to a
  destroyed impl, no connection refers to an erased cell, no rep refers to a destroyed trackable, no impl
  without an owner) is preserved by every list of operations, in particular by every permutation of
  destructor operations interleaved with anything else; it holds initially.
* `balance` / `no_orphan_impl` — at every quiescent point every `signal_impl` is owned by a live signal
  object and no `signal_impl_holder` is outstanding; `balance_inside` is the form valid inside emissions
  (ghost index = number of running emissions per impl).
* `unlinked_*` — after either end of a link dies the survivor no longer mentions it.
* `ownedG_named` — a signal object owned by a functor (`ownG:`, a `shared_ptr` inside the functor) stays
  named for as long as it is owned (`ownedG_named_from`: from any such state, through any operations).  The name
  leaves `G` only in `collect` (third `collectStep` branch, `dropHandle`), after the entry has left `ownedG`.
  (The harness teardown is outside this statement: it destroys every signal object, whoever owns it.)
-/
namespace Sigc.C06
open Sigc.Model Sigc.Inv

def AllInv (s : St) : Prop := Links s ∧ TL s ∧ Bal (fun _ => 0) s

theorem allInv_init : AllInv {} := ⟨Links.init, TL.init, Bal.init⟩

theorem allInv_reachable (fuel : Nat) (P : Prog) (s : St) (h : runTop fuel P {} P.top = some s) : AllInv s :=
  ⟨Links.reachable fuel P s h, (WTL.reachable fuel P s h).2, Bal.reachable fuel P s h⟩

/-- **any order**: from a state satisfying the invariants, *any* further list of operations — in
    particular the destructors `delT / delS / delG / delC / delK` of the live objects in any permutation,
    with arbitrary operations (including emissions that destroy objects re-entrantly) in between — ends
    in a state satisfying them again -/
theorem any_order (fuel : Nat) (P : Prog) (s s' : St) (ls : List Line) (hs : AllInv s)
    (h : runTop fuel P s ls = some s') : AllInv s' :=
  have hw : WF s := hs.1.1.1
  ⟨Links.stable.runTop_from fuel P ls s s' hs.1 h, (WTL.stable.runTop_from fuel P ls s s' ⟨hw, hs.2.1⟩ h).2,
    (runTop_preserved WBal.stable fuel (fun _ => 0) P ls s s' ⟨hw, hs.2.2⟩ h).2⟩

/-- the same through the harness teardown (which destroys scoped connections, connections, slots, signals
    and trackables in that order) -/
theorem any_order_teardown (fuel : Nat) (P : Prog) (s s' : St) (hs : AllInv s)
    (h : teardown fuel P s = some s') : AllInv s' :=
  have hw : WF s := hs.1.1.1
  ⟨Links.stable.teardown fuel P s s' hs.1 h, (WTL.stable.teardown fuel P s s' ⟨hw, hs.2.1⟩ h).2,
    Bal.teardown fuel P s s' hw hs.2.2 h⟩

/-- **balance**: at every quiescent point every `signal_impl` has no outstanding holder and is owned by a
    live signal object; and every signal object's impl exists -/
theorem balance (fuel : Nat) (P : Prog) (s : St) (h : runTop fuel P {} P.top = some s) :
    (∀ i im, aget s.impls i = some im →
        im.holders = 0 ∧ ∃ g hd, aget s.G g = some hd ∧ hd.impl = some i) ∧
    (∀ g hd i, aget s.G g = some hd → hd.impl = some i → ∃ im, aget s.impls i = some im) := by
  have hb := Bal.reachable fuel P s h
  have hh := (Links.reachable fuel P s h).1.2
  refine ⟨?_, fun g hd i hg hi => hh.get hg hi⟩
  intro i im hi
  obtain ⟨h1, h2⟩ := hb.2.1 i im hi
  refine ⟨h1, ?_⟩
  rcases h2 with e | e | e
  · cases e
  · exact absurd e (Nat.lt_irrefl 0)
  · exact e

/-- list form: every entry of `s.impls` (no shadowed entries: keys are unique) -/
theorem no_orphan_impl (fuel : Nat) (P : Prog) (s : St) (h : runTop fuel P {} P.top = some s) :
    ∀ p ∈ s.impls, p.2.holders = 0 ∧ ∃ g hd, aget s.G g = some hd ∧ hd.impl = some p.1 := by
  intro p hp
  have hw := (Links.reachable fuel P s h).1.1
  exact (balance fuel P s h).1 p.1 p.2 (Emit.aget_of_mem_nodup hw.keys hp)

/-- inside emissions: with `h i` = number of emissions running on impl `i`, `holders = h i` and every impl
    is owned by a running emission or a live signal object — preserved by every operation, emission and
    functor invocation (the emission prologue/epilogue change the index) -/
theorem balance_inside (fuel : Nat) (P : Prog) (s : St) (op : Op) (r : St × Except Unit String)
    (k : Nat → Nat) (hw : WF s) (hb : Bal k s) (h : execOp fuel P s op = some r) : WF r.1 ∧ Bal k r.1 :=
  execOp_preserved WBal.stable (k := k) ⟨hw, hb⟩ h

theorem balance_inside_emit (fuel : Nat) (P : Prog) (s : St) (fl : Flavour) (impl : Option Nat) (arg : Nat)
    (strat : Strat) (r : St × Outcome × Nat) (k : Nat → Nat) (hw : WF s) (hb : Bal k s)
    (h : emitImpl fuel P s fl impl arg strat = some r) : WF r.1 ∧ Bal k r.1 :=
  emitImpl_preserved WBal.stable (k := k) ⟨hw, hb⟩ h

/-- the last reference goes away ⇒ the impl goes away: `gcImpl` leaves the invariant intact when one
    reference to `i` has just been dropped -/
theorem gc_settles (k : Nat → Nat) (s : St) (i : Nat) (h : BalW k (some i) s.impls s.G s.next) :
    Bal k (gcImpl s i) := BalW.gcImpl h

/-- **unlinked (signal dies first)**: when `gcImpl` destroys an impl, no connection, scoped connection or
    owned scoped connection mentions any of its cells any more, and no handle mentions the impl -/
theorem unlinked_signal_first (s : St) (i : Nat) (hl : Links s) :
    Links (gcImpl s i) ∧
    (∀ im, aget s.impls i = some im → aget (gcImpl s i).impls i = none →
      ∀ c ∈ im.cells, ∀ k, aget (gcImpl s i).C k ≠ some (some c.id) ∧ aget (gcImpl s i).K k ≠ some (some c.id)) := by
  refine ⟨Links.stable.gc s i trivial hl, fun im hi hn c hc k => ?_⟩
  -- the destructor nulls every connection to a cell of the list (`nullConnsList`)
  rcases StepHandles.gcImpl_cases s i with e | ⟨im', hi', -, -, e⟩
  · rw [e, hi] at hn; cases hn
  · cases hi.symm.trans hi'
    rw [e, StepHandles.nullConnsList_C_entry, StepHandles.nullConnsList_K_entry]
    exact ⟨StepHandles.nullFL_ne (List.mem_map_of_mem hc) _, StepHandles.nullFL_ne (List.mem_map_of_mem hc) _⟩

/-- **unlinked (trackable dies first)**: `C02.invalidates_all`; **(slot/cell dies first)**: a rep holds
    no back-pointer to the trackable in the model beyond `Fun.tracks`, which dies with the rep -/
theorem unlinked_trackable_first {s : St} (hw : WF s) (o : Nat) : NoTrack o (invalidateTrackable s o) :=
  invalidateTrackable_notrack hw o

/-- from any state satisfying the invariant `OG`, through any further list of operations (including
    emissions that destroy the owning functors re-entrantly), every functor-owned signal object is still
    named and `delG` of it is refused -/
theorem ownedG_named_from (fuel : Nat) (P : Prog) (s s' : St) (ls : List Line) (hs : OG s)
    (h : runTop fuel P s ls = some s') :
    OG s' ∧ ∀ p ∈ s'.ownedG, (aget s'.G p.2).isSome = true ∧ stepSimple s' (.delG p.2) = some (s', "owned") := by
  have hg := OG.stable.runTop_from fuel P ls s s' hs h
  refine ⟨hg, fun p hp => ?_⟩
  obtain ⟨hd, hg1, _⟩ := hg.1 p hp
  exact ⟨by rw [hg1]; rfl, hg.delG_owned hp⟩

/-- **ownedG_named**: in every reachable state every functor-owned signal object is still named: an entry
    `(k, g)` of `ownedG` refers to a live signal object, `delG g` is refused with `owned` and changes nothing
    (as a model step and as an operation of the driver), and `g` is owned only once -/
theorem ownedG_named (fuel : Nat) (P : Prog) (s : St) (h : runTop fuel P {} P.top = some s) :
    ∀ p ∈ s.ownedG, (aget s.G p.2).isSome = true ∧
      stepSimple s (.delG p.2) = some (s, "owned") ∧
      (∀ f P', execOp (f+1) P' s (.delG p.2) = some (s, .ok "owned")) ∧
      ∀ q ∈ s.ownedG, q.2 = p.2 → q = p := by
  obtain ⟨hg, hn⟩ := ownedG_named_from fuel P {} s P.top OG.init h
  intro p hp
  obtain ⟨hsome, hdel⟩ := hn p hp
  exact ⟨hsome, hdel, fun f P' => by simp only [execOp, modeRule, hdel], fun q hq e => hg.2 q hq p hp e⟩

/-- what the third branch of `collectStep` does is what `delG` does when it does not refuse -/
theorem dropHandle_is_delG (s : St) (g : Nat) (h : Handle) (hg : aget s.G g = some h)
    (hp : (h.everFwd && !h.fl.isTrackable) = false) (ho : s.ownedG.any (fun p => p.2 = g) = false) :
    stepSimple s (.delG g) = some (dropHandle s g, "ok") := delG_eq_dropHandle hg hp ho

/-- `sig1.connect(f)` where the functor `f` owns `sig0` through a `shared_ptr` (`ownG:1:0`): `sig0` stays
    named, `delG 0` is refused -/
def exOwn : Prog :=
  { bodies := [], owners := true,
    top := [⟨"newG 0 V", .newG 0 (some .V)⟩, ⟨"newG 1 V", .newG 1 (some .V)⟩,
            ⟨"connfn 0 1 ownG:1:0", .connfn 0 1 (.ownG 1 0) false⟩] }

example : ∃ s, runTop 3 exOwn {} exOwn.top = some s ∧ s.ownedG = [(5, 0)] ∧
    (aget s.G 0).isSome = true ∧ stepSimple s (.delG 0) = some (s, "owned") := by
  with_unfolding_all exact ⟨_, rfl, rfl, rfl, rfl⟩

/-- … and when the owning functor dies (`delG 1` destroys the list that holds it), `collect` destroys `sig0`:
    nothing is left -/
example : ∃ s, runTop 3 exOwn {} (exOwn.top ++ [⟨"delG 1", .delG 1⟩]) = some s ∧ s.ownedG = [] ∧ s.G = [] ∧
    s.impls = [] := by
  with_unfolding_all exact ⟨_, rfl, rfl, rfl, rfl⟩

example (fuel : Nat) (P : Prog) (ls : List Line) (s' : St) (h : runTop fuel P {} ls = some s') :
    AllInv s' := any_order fuel P {} s' ls allInv_init h

/-- `sig0.connect(f1); sig1 = copy of sig0; destroy sig0; destroy sig1`: the list survives the first
    destruction (owned by `sig1`) and is destroyed, with its cell and the connection nulled, by the second -/
def exP : Prog :=
  { bodies := [],
    top := [⟨"newG 0 V", .newG 0 (some .V)⟩, ⟨"connfn 0 0 fn 1", .connfn 0 0 (.fn 1) false⟩,
            ⟨"cpG 1 0", .cpG 1 0⟩, ⟨"delG 0", .delG 0⟩, ⟨"delG 1", .delG 1⟩] }

example : ∃ s, runTop 3 exP {} exP.top = some s ∧ s.impls = [] ∧ aget s.C 0 = some none ∧ AllInv s := by
  with_unfolding_all exact ⟨_, rfl, rfl, rfl, allInv_reachable 3 exP _ rfl⟩

end Sigc.C06
