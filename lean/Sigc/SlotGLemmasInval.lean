import Sigc.SlotGLemmasFuel
/-!
  An invalidated representation holds no functor (`NF`: no functor); no invariant is needed, only the definitions.
  `Mono ex s s'`: every representation of `s'` has lost its functor, or is exempt (`ex`), or is one of `s` with the
  same `call_` and the same functor — what every cascade does (`destroy()` sets `call_ = nullptr` and resets the
  functor in one go; `disconnect()` alone keeps the functor of the representation it is called on: the exemption).
  Allocation adds valid representations with a functor, which `Mono` does not allow: `Inval` is `Mono` for the
  invalid representations only, `KeepLow` keeps `call_` of the representations that were there, `Grow` is both and
  goes through the recursive clone.  The walk through the operations (`NF.apply_inval`, `NF.foldl_nf`) is in
  `Sigc/SlotGLemmasTrace.lean`.
-/
namespace Sigc.SlotG
namespace NF

def Mono (ex : Nat → Prop) (s s' : State) : Prop :=
  ∀ x X', s'.reps x = some X' →
    X'.fn = none ∨ ex x ∨ ∃ X, s.reps x = some X ∧ X.call = X'.call ∧ X.fn = X'.fn

theorem Mono.refl (ex : Nat → Prop) (s : State) : Mono ex s s :=
  fun _ X' h => .inr (.inr ⟨X', h, rfl, rfl⟩)

theorem Mono.trans {ex : Nat → Prop} {a b c : State} (h1 : Mono ex a b) (h2 : Mono ex b c) : Mono ex a c := by
  intro x X'' h
  rcases h2 x X'' h with h | h | ⟨X', hX', hc, hf⟩
  · exact .inl h
  · exact .inr (.inl h)
  · rcases h1 x X' hX' with g | g | ⟨X, hX, gc, gf⟩
    · exact .inl (by rw [← hf]; exact g)
    · exact .inr (.inl g)
    · exact .inr (.inr ⟨X, hX, gc.trans hc, gf.trans hf⟩)

theorem Mono.weaken {ex ex' : Nat → Prop} {a b : State} (h : Mono ex a b) (hex : ∀ x, ex x → ex' x) :
    Mono ex' a b := by
  intro x X' hx
  rcases h x X' hx with g | g | g
  · exact .inl g
  · exact .inr (.inl (hex x g))
  · exact .inr (.inr g)

theorem Mono.of_eq {ex : Nat → Prop} {s s' : State} (h : s'.reps = s.reps) : Mono ex s s' := by
  intro x X' hx; rw [h] at hx; exact .inr (.inr ⟨X', hx, rfl, rfl⟩)

theorem Mono.of_same {ex : Nat → Prop} {s s' : State} (h : SameFns s s') : Mono ex s s' := by
  intro x X' hx
  have hc := h.call x
  have hf := h.fn x
  rw [hx] at hc hf
  cases hX : s.reps x with
  | none => rw [hX] at hc; cases hc
  | some X =>
    rw [hX] at hc hf
    exact .inr (.inr ⟨X, rfl, (Option.some.inj hc).symm, (Option.some.inj hf).symm⟩)

theorem mono_setRep_none (ex : Nat → Prop) (s : State) (r : Nat) : Mono ex s (s.setRep r none) := by
  intro x X' hx
  rw [reps_setRep] at hx
  split at hx
  · cases hx
  · exact .inr (.inr ⟨X', hx, rfl, rfl⟩)

theorem mono_dropFn (ex : Nat → Prop) (s : State) (r : Nat) (R : Rep) (f : Fun) :
    Mono ex s (dropFnF r R f s) ∧ ∀ X, (dropFnF r R f s).reps r = some X → X.fn = none := by
  have key : ∀ X, (dropFnF r R f s).reps r = some X → X.fn = none := by
    intro X hX
    rw [dropFnF, reps_modRep, if_pos rfl, Option.map_eq_some_iff] at hX
    obtain ⟨X0, -, rfl⟩ := hX
    rfl
  refine ⟨fun x X' hx => ?_, key⟩
  by_cases hxr : x = r
  · subst hxr; exact .inl (key X' hx)
  · rw [dropFnF, reps_modRep, if_neg hxr] at hx
    rcases Mono.of_same (ex := ex) (SameFns.unbindFun r f _) x X' hx with g | g | ⟨X, hX, g1, g2⟩
    · exact .inl g
    · exact .inr (.inl g)
    · rw [reps_setRep, if_neg hxr] at hX
      exact .inr (.inr ⟨X, hX, g1, g2⟩)

/-- nobody: as `ex`, no representation is exempt; as the footprint `wr` of the chains `Tr` in `SlotGLemmasTrace`, no
    variable is written -/
def noEx : Nat → Prop := fun _ => False

theorem deleteRep_gone (r : Nat) (s : State) : (deleteRep r s).reps r = none := by
  unfold deleteRep; exact if_pos rfl

def Inval (ex : Nat → Prop) (s s' : State) : Prop :=
  ∀ x X', s'.reps x = some X' → X'.call = false →
    X'.fn = none ∨ ex x ∨ ∃ X, s.reps x = some X ∧ X.call = false ∧ X.fn = X'.fn

theorem Mono.inval {ex : Nat → Prop} {s s' : State} (h : Mono ex s s') : Inval ex s s' := by
  intro x X' hx hc
  rcases h x X' hx with g | g | ⟨X, hX, g1, g2⟩
  · exact .inl g
  · exact .inr (.inl g)
  · exact .inr (.inr ⟨X, hX, g1.trans hc, g2⟩)

theorem Inval.trans {ex : Nat → Prop} {a b c : State} (h1 : Inval ex a b) (h2 : Inval ex b c) : Inval ex a c := by
  intro x X'' h hc
  rcases h2 x X'' h hc with g | g | ⟨X', hX', hc', hf⟩
  · exact .inl g
  · exact .inr (.inl g)
  · rcases h1 x X' hX' hc' with g | g | ⟨X, hX, gc, gf⟩
    · exact .inl (by rw [← hf]; exact g)
    · exact .inr (.inl g)
    · exact .inr (.inr ⟨X, hX, gc, gf.trans hf⟩)

def KeepLow (s s' : State) : Prop :=
  s.nextRep ≤ s'.nextRep ∧ ∀ x, x < s.nextRep → (s'.reps x).map (·.call) = (s.reps x).map (·.call)

theorem KeepLow.refl (s : State) : KeepLow s s := ⟨Nat.le_refl _, fun _ _ => rfl⟩
theorem KeepLow.trans {a b c : State} (h1 : KeepLow a b) (h2 : KeepLow b c) : KeepLow a c :=
  ⟨Nat.le_trans h1.1 h2.1, fun x hx => (h2.2 x (Nat.lt_of_lt_of_le hx h1.1)).trans (h1.2 x hx)⟩

@[simp] theorem modSlot_nextRep (s : State) (v g) : (s.modSlot v g).nextRep = s.nextRep := nextRep_modSlot s v g

theorem KeepLow.of_same {s s' : State} (h : SameFns s s') : KeepLow s s' :=
  ⟨Nat.le_of_eq h.nextRep.symm, fun x _ => h.call x⟩

theorem keepLow_allocRep (R : Rep) (s : State) : KeepLow s (allocRep R s) := by
  refine ⟨Nat.le_succ _, fun x hx => ?_⟩
  show ((if x = s.nextRep then some R else s.reps x).map (·.call)) = _
  rw [if_neg (by omega)]

theorem inval_allocRep (ex : Nat → Prop) (R : Rep) (s : State) (h : R.call = false → R.fn = none) :
    Inval ex s (allocRep R s) := by
  intro x X' hx hc
  have hx' : (if x = s.nextRep then some R else s.reps x) = some X' := hx
  split at hx'
  · cases hx'; exact .inl (h hc)
  · exact .inr (.inr ⟨X', hx', hc, rfl⟩)

/-- what an allocation does.  `KeepLow` is there for `nest_gr`: the representation object of a `nest` functor is
    allocated valid before the bound copy is made and must still be valid when the functor is stored in it. -/
def Grow (ex : Nat → Prop) (s s' : State) : Prop := Inval ex s s' ∧ KeepLow s s'

theorem Grow.trans {ex : Nat → Prop} {a b c : State} (h1 : Grow ex a b) (h2 : Grow ex b c) : Grow ex a c :=
  ⟨h1.1.trans h2.1, h1.2.trans h2.2⟩

theorem Grow.of_same {ex : Nat → Prop} {s s' : State} (h : SameFns s s') : Grow ex s s' :=
  ⟨(Mono.of_same h).inval, .of_same h⟩

theorem grow_setSlot (ex : Nat → Prop) (s : State) (v : Nat) (o : Option SVar) : Grow ex s (s.setSlot v o) :=
  .of_same (.of_reps rfl rfl rfl)

theorem grow_allocRep (ex : Nat → Prop) (R : Rep) (s : State) (h : R.call = false → R.fn = none) :
    Grow ex s (allocRep R s) := ⟨inval_allocRep ex R s h, keepLow_allocRep R s⟩

end NF
open NF

/-- the representation `disconnect()` is called on by name (`slot_base::disconnect()` / `connection::disconnect()`) -/
def discTarget (s : State) : Op → Option Nat
  | .discS v => repOf s v
  | .discC c => (match connTarget s c with | some v => repOf s v | none => none)
  | _ => none

namespace NF

theorem valid_of_nonempty {s : State} {i r : Nat} {X : SVar} (hX : s.slots i = some X) (hr : X.rep = some r)
    (he : ¬ emptyVar s i = true) : ∀ R, s.reps r = some R → R.call = true := by
  intro R hR
  simp [emptyVar, repObj, repOf, hX, hr, hR] at he
  exact he

theorem Inval.of_mono {ex : Nat → Prop} {s s' : State} (h : Mono noEx s s') : Inval ex s s' :=
  (h.weaken fun _ hx => absurd hx id).inval

end NF

/-- has the program called `disconnect()` on representation `r` by name?  (`ops` run from state `s`) -/
def disconnectedBy : State → List Op → Nat → Bool
  | _, [], _ => false
  | s, op :: ops, r =>
    (!s.err && (check s op).isNone && discTarget s op == some r) || disconnectedBy (stepState op s) ops r

end Sigc.SlotG
