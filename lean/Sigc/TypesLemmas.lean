import Sigc.Types
/-!
  Lemmas about the `Types` model for `Props/C05.lean` and `Props/C20Types.lean`: `binds` against the expressions
  the library forms itself (`fwd`, `named`, `passed`, `retExpr`), the list recursions by index (`bindsAll_iff`,
  `castAll_iff`), and `stored`, in which C05 states what an adaptor hop passes on.
-/
namespace Sigc.Types

theorem conv_refl (b : Base) : conv b b = true := by
  simp only [conv, beq_self_eq_true, Bool.true_or]

theorem sameOrBaseOf_refl (b : Base) : sameOrBaseOf b b = true := by
  simp only [sameOrBaseOf, beq_self_eq_true, Bool.true_or]

theorem refRelated_refl (b : Base) : refRelated b b = true := by
  simp only [refRelated, sameOrBaseOf_refl, Bool.true_or]

theorem conv_of_sameOrBaseOf {t s : Base} (h : sameOrBaseOf t s = true) : conv s t = true := by
  simp only [sameOrBaseOf, Bool.or_eq_true, Bool.and_eq_true, beq_iff_eq] at h
  rcases h with rfl | ⟨rfl, rfl⟩
  · exact conv_refl _
  · rfl

theorem isExplicitOnly_iff (b : Base) : b.isExplicitOnly = true ↔ b = .enumE ∨ b = .clsXb ∨ b = .clsXd := by
  cases b <;> decide

theorem conv_isExplicitOnly {s t : Base} (h : s.isExplicitOnly = true ∨ t.isExplicitOnly = true) :
    conv s t = (s == t) := by
  rcases h with h | h
  · rcases (isExplicitOnly_iff s).1 h with rfl | rfl | rfl <;> cases t <;> rfl
  · rcases (isExplicitOnly_iff t).1 h with rfl | rfl | rfl <;> cases s <;> rfl

theorem conv_false_of_isExplicitOnly {s t : Base} (h : s.isExplicitOnly = true ∨ t.isExplicitOnly = true)
    (hne : s ≠ t) : conv s t = false := by
  rw [conv_isExplicitOnly h]
  exact beq_false_of_ne hne

theorem not_isArith_of_isExplicitOnly {b : Base} (h : b.isExplicitOnly = true) : b.isArith = false := by
  rcases (isExplicitOnly_iff b).1 h with rfl | rfl | rfl <;> rfl

theorem conv_false_arith_of_isExplicitOnly {s t : Base} (hs : s.isExplicitOnly = true) (ht : t.isArith = true) :
    conv s t = false :=
  conv_false_of_isExplicitOnly (Or.inl hs) fun e => by
    rw [← e, not_isArith_of_isExplicitOnly hs] at ht
    cases ht

theorem conv_false_of_onlyExplicit {s t : Base} (h : onlyExplicit s t = true) : conv s t = false := by
  simp only [onlyExplicit, Bool.or_eq_true, Bool.and_eq_true, beq_iff_eq] at h
  rcases h with ((⟨rfl, ht⟩ | ⟨hs, rfl⟩) | ⟨rfl, rfl⟩) | ⟨rfl, rfl⟩
  · exact conv_false_arith_of_isExplicitOnly rfl ht
  · exact conv_false_of_isExplicitOnly (Or.inr rfl) fun e => by rw [e] at hs; cases hs
  · rfl
  · rfl

theorem castOk_of_binds {p : Param} {e : ExprTy} (h : binds p e = true) : castOk p e = true := by
  simp [castOk, h]

theorem conv_of_binds {p : Param} {e : ExprTy} (h : binds p e = true) : conv e.base p.base = true := by
  obtain ⟨pb, ps⟩ := p
  obtain ⟨eb, ec, ek⟩ := e
  cases ps
  · simpa [binds] using h
  · simp only [binds, Bool.and_eq_true] at h
    exact conv_of_sameOrBaseOf h.2
  · simpa [binds] using h
  · simp only [binds] at h
    split at h
    · simp only [Bool.and_eq_true] at h
      exact h.2
    · exact h

theorem lref_binds {p : Param} {e : ExprTy} (hs : p.shape = .lref) (h : binds p e = true) :
    e.cat = .lvalue ∧ e.const = false ∧ sameOrBaseOf p.base e.base = true := by
  obtain ⟨pb, ps⟩ := p
  obtain ⟨eb, ec, ek⟩ := e
  simp only at hs
  subst hs
  simp only [binds, Bool.and_eq_true, beq_iff_eq, Bool.not_eq_true'] at h
  exact ⟨h.1.1, h.1.2, h.2⟩

theorem lref_binds_passed {p a : Param} (hf : p.shape = .lref) (hb : binds p (passed a) = true) :
    a.shape = .lref ∧ sameOrBaseOf p.base a.base = true := by
  obtain ⟨hcat, hconst, hsame⟩ := lref_binds hf hb
  obtain ⟨ab, sh⟩ := a
  cases sh
  · simp [passed, take, fwd] at hconst
  · exact ⟨rfl, by simpa [passed, take, fwd] using hsame⟩
  · simp [passed, take, fwd] at hconst
  · simp [passed, take, fwd] at hcat

theorem passed_base (a : Param) : (passed a).base = a.base := by
  obtain ⟨ab, sh⟩ := a
  cases sh <;> rfl

theorem retExpr_base (r : Param) : (retExpr r).base = r.base := by
  obtain ⟨rb, sh⟩ := r
  cases sh <;> rfl

theorem val_binds (p : Param) (e : ExprTy) (hs : p.shape = .val ∨ p.shape = .cref) :
    binds p e = conv e.base p.base := by
  obtain ⟨pb, ps⟩ := p
  rcases hs with hs | hs <;> simp only at hs <;> subst hs <;> rfl

theorem binds_take (p : Param) (e : ExprTy) : binds (take p) e = binds p e := by
  obtain ⟨pb, ps⟩ := p
  cases ps <;> rfl

theorem take_base (p : Param) : (take p).base = p.base := by
  obtain ⟨pb, ps⟩ := p
  cases ps <;> rfl

theorem take_idem (p : Param) : take (take p) = take p := by
  obtain ⟨pb, ps⟩ := p
  cases ps <;> rfl

/-- `take_t` is always a reference type, on which `T_arg&&` collapses to itself -/
theorem collapse_take (p : Param) : collapse (take p) = take p := by
  obtain ⟨pb, ps⟩ := p
  cases ps <;> rfl

theorem binds_fwd_self (p : Param) : binds p (fwd p) = true := by
  obtain ⟨b, sh⟩ := p
  cases sh <;> simp [binds, fwd, conv_refl, sameOrBaseOf_refl, refRelated_refl]

theorem binds_named_self (p : Param) (h : p.shape ≠ .rref) : binds p (named p) = true := by
  obtain ⟨b, sh⟩ := p
  cases sh <;> first | exact absurd rfl h | simp [binds, named, conv_refl, sameOrBaseOf_refl]

theorem binds_take_passed (p : Param) : binds (take p) (passed p) = true := binds_fwd_self (take p)

theorem binds_passed_self (p : Param) : binds p (passed p) = true := by
  rw [← binds_take]; exact binds_take_passed p

theorem binds_retExpr_self (r : Param) : binds r (retExpr r) = true := by
  obtain ⟨b, sh⟩ := r
  cases sh <;> simp [binds, retExpr, conv_refl, sameOrBaseOf_refl, refRelated_refl]

theorem retOk_self (r : Ret) : retOk r r = true := by
  cases r with
  | none => rfl
  | some r => exact binds_retExpr_self r

theorem hop_eq (q f : Param) (e : ExprTy) (h : binds q e = true) : hop q f e = some (fwd f) := by
  simp [hop, h]

/-- the sigc wrapper of a function / method pointer is transparent: it accepts what the pointer's own
    parameter accepts -/
theorem wrapperHop_eq (p : Param) (e : ExprTy) : wrapperHop p e = binds p e := by
  unfold wrapperHop hop
  rw [binds_take]
  cases h : binds p e
  · simp
  · simp only [if_true]
    exact binds_passed_self p

theorem wrapperAll_eq : ∀ (ps : List Param) (es : List ExprTy), wrapperAll ps es = bindsAll ps es
  | [], [] | [], _ :: _ | _ :: _, [] => rfl
  | p :: ps, e :: es => by
    simp only [wrapperAll, bindsAll, wrapperHop_eq, wrapperAll_eq ps es]

theorem invokeOk_eq (fn : Fn) (args : List ExprTy) :
    invokeOk fn args = (fn.kind.objOk && bindsAll fn.params args) := by
  unfold invokeOk
  cases fn.kind.wrapped <;> simp [wrapperAll_eq]

theorem forall_getElem_cons {P : α → β → Prop} (a : α) (as : List α) (b : β) (bs : List β) :
    (∀ (i : Nat) (h1 : i < (a :: as).length) (h2 : i < (b :: bs).length), P (a :: as)[i] (b :: bs)[i]) ↔
      P a b ∧ ∀ (i : Nat) (h1 : i < as.length) (h2 : i < bs.length), P as[i] bs[i] := by
  constructor
  · intro h
    exact ⟨h 0 (Nat.zero_lt_succ _) (Nat.zero_lt_succ _),
      fun i h1 h2 => h (i + 1) (Nat.succ_lt_succ h1) (Nat.succ_lt_succ h2)⟩
  · rintro ⟨h0, hr⟩ i h1 h2
    cases i with
    | zero => exact h0
    | succ j => exact hr j (Nat.lt_of_succ_lt_succ h1) (Nat.lt_of_succ_lt_succ h2)

theorem getElem?_insert (l m : List α) (i j : Nat) (hi : i ≤ l.length) :
    (l.take i ++ m ++ l.drop i)[if j < i then j else j + m.length]? = l[j]? := by
  have hlen : (l.take i).length = i := List.length_take_of_le hi
  split
  · next hj => rw [List.append_assoc, List.getElem?_append_left (hlen.symm ▸ hj), List.getElem?_take_of_lt hj]
  · next hj =>
    have hij : i ≤ j := Nat.le_of_not_lt hj
    rw [List.getElem?_append_right (by rw [List.length_append, hlen]; exact Nat.add_le_add_right hij _),
      List.getElem?_drop, List.length_append, hlen, Nat.add_sub_add_right, Nat.add_sub_cancel' hij]

theorem bindsAll_iff : ∀ (ps : List Param) (es : List ExprTy),
    bindsAll ps es = true ↔
      ps.length = es.length ∧ ∀ (i : Nat) (h1 : i < ps.length) (h2 : i < es.length), binds ps[i] es[i] = true
  | [], [] | [], _ :: _ | _ :: _, [] => by simp [bindsAll]
  | p :: ps, e :: es => by
    rw [forall_getElem_cons (P := fun p e => binds p e = true)]
    simp only [bindsAll, Bool.and_eq_true, bindsAll_iff ps es, List.length_cons, Nat.add_right_cancel_iff]
    exact ⟨fun ⟨h0, hl, hr⟩ => ⟨hl, h0, hr⟩, fun ⟨hl, h0, hr⟩ => ⟨h0, hl, hr⟩⟩

theorem bindsAll_length {ps : List Param} {es : List ExprTy} (h : bindsAll ps es = true) :
    ps.length = es.length := ((bindsAll_iff ps es).1 h).1

theorem bindsAll_map_self {g : Param → ExprTy} (hg : ∀ p, binds p (g p) = true) :
    ∀ (ps : List Param), bindsAll ps (ps.map g) = true
  | [] => rfl
  | p :: ps => by rw [List.map_cons, bindsAll, hg, bindsAll_map_self hg ps]; rfl

/-- the lvalue a stored tuple element is seen as: `tupleElem` where that is not `none` (`tupleElem_eq`); the body
    is that of `named (take a)`, with `a.base` for `(take a).base` -/
def stored (a : Param) : ExprTy :=
  match (take a).shape with
  | .cref => ⟨a.base, true, .lvalue⟩
  | _ => ⟨a.base, false, .lvalue⟩

theorem tupleElem_eq (a : Param) : tupleElem a = if a.shape ≠ .rref then some (stored a) else none := by
  obtain ⟨ab, as⟩ := a
  cases as <;> rfl

theorem tupleElems_eq : ∀ (as : List Param),
    tupleElems as = if ∀ a ∈ as, a.shape ≠ .rref then some (as.map stored) else none
  | [] => by simp [tupleElems]
  | a :: as => by
    have hc := List.forall_mem_cons (p := fun a : Param => a.shape ≠ .rref) (a := a) (l := as)
    rw [tupleElems, tupleElem_eq, tupleElems_eq as]
    by_cases ha : a.shape ≠ .rref
    · by_cases has : ∀ a ∈ as, a.shape ≠ .rref
      · rw [if_pos ha, if_pos has, if_pos (hc.2 ⟨ha, has⟩)]
        rfl
      · rw [if_pos ha, if_neg has, if_neg fun h => has (hc.1 h).2]
        rfl
    · rw [if_neg ha, if_neg fun h => ha (hc.1 h).1]
      rfl

theorem castAll_iff : ∀ (ps : List Param) (es : List ExprTy) (rs : List ExprTy),
    castAll ps es = some rs ↔
      ps.length = es.length ∧ (∀ (i : Nat) (h1 : i < ps.length) (h2 : i < es.length), castOk ps[i] es[i] = true)
        ∧ rs = ps.map castExpr
  | [], [], rs => by simp only [castAll, Option.some.injEq, List.length_nil, List.map_nil, true_and]; exact
      ⟨fun h => ⟨fun _ h1 => absurd h1 (Nat.not_lt_zero _), h.symm⟩, fun h => h.2.symm⟩
  | [], _ :: _, rs | _ :: _, [], rs => by simp [castAll]
  | p :: ps, e :: es, rs => by
    rw [forall_getElem_cons (P := fun p e => castOk p e = true)]
    simp only [castAll, List.length_cons, Nat.add_right_cancel_iff, List.map_cons]
    split
    · next hc =>
      simp only [Option.map_eq_some_iff, castAll_iff ps es, hc, true_and]
      constructor
      · rintro ⟨_, ⟨hl, ha, rfl⟩, rfl⟩
        exact ⟨hl, ha, rfl⟩
      · rintro ⟨hl, ha, rfl⟩
        exact ⟨_, ⟨hl, ha, rfl⟩, rfl⟩
    · next hc => simp [hc]

theorem entryDecl_eq (ep : EntryPoint) :
    entryDecl ep = ⟨.slotType, match ep.ov with | .constRef => .cref | .rvalueRef => .rref⟩ := by
  obtain ⟨⟨c, a, f⟩, o⟩ := ep
  cases c <;> cases a <;> cases f <;> cases o <;> rfl

/-- `entryAccepts` with the table read: no row takes a `slot_base`, and the temporary of `slot_type`'s converting
    constructor binds to either reference -/
theorem entryAccepts_eq (ep : EntryPoint) (sig : Sig) (ad : Adaptor) (fn : Fn) :
    entryAccepts ep sig ad fn = match argSlotSig ad fn with
      | some (u, form) => if u = sig then (ep.ov == .constRef || form == .rvalue) else accepts sig ad fn
      | none => accepts sig ad fn := by
  unfold entryAccepts
  rw [entryDecl_eq]
  cases argSlotSig ad fn with
  | none => cases ep.ov <;> exact Bool.and_true _
  | some uf =>
    obtain ⟨u, form⟩ := uf
    show (if (u == sig) = true then _ else _) = if u = sig then _ else _
    by_cases hu : u = sig
    · rw [if_pos hu, if_pos (beq_iff_eq.2 hu)]
      cases ep.ov <;> cases form <;> rfl
    · rw [if_neg hu, if_neg (mt beq_iff_eq.1 hu)]
      cases ep.ov <;> exact Bool.and_true _

theorem takePack_eq_map : ∀ (as : List Param), takePack as = as.map fun a => CTy.par (take a)
  | [] => rfl
  | a :: as => by simp [takePack, takePack_eq_map as]

end Sigc.Types
