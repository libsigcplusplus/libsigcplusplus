import Sigc.Visit
/-!
  Lemmas for C09.  `E` (the external registrations of a rep tree) and `Rep.noKids` turn `Rep.append` into
  `++` and `&&`, so both are computed row by row (`E_row`, `noKids_row`); the callback lists are looked at
  through observations that an operation either ignores or transforms functionally (`obs_interleave`).
-/
namespace Sigc.Visit

theorem Rep.allRegs_append (a b : Rep) : (a.append b).allRegs = a.allRegs ++ b.allRegs := by
  induction a with
  | done => rfl
  | reg t r ih | kid k r _ ih => simp [Rep.append, Rep.allRegs, ih]

theorem Rep.regs_append (a b : Rep) : (a.append b).regs = a.regs ++ b.regs := by
  induction a with
  | done => rfl
  | reg t r ih | kid k r _ ih => simp [Rep.append, Rep.regs, ih]

theorem Rep.append_done (a : Rep) : a.append .done = a := by
  induction a with
  | done => rfl
  | reg t r ih | kid k r _ ih => simp [Rep.append, ih]

theorem extIds_append (a b : List Tgt) : extIds (a ++ b) = extIds a ++ extIds b := by
  induction a with
  | nil => rfl
  | cons x l ih => cases x <;> simp [extIds, ih]

theorem mem_extIds (i : Nat) (l : List Tgt) : i ∈ extIds l ↔ Tgt.ext i ∈ l := by
  induction l with
  | nil => simp [extIds]
  | cons x l ih => cases x <;> simp [extIds, ih]

theorem Rep.invalidatedBy_iff (t : Nat) (r : Rep) :
    r.invalidatedBy t = true ↔ Tgt.ext t ∈ r.allRegs := by
  induction r with
  | done => simp [Rep.invalidatedBy, Rep.allRegs]
  | reg u r ih =>
    simp only [Rep.invalidatedBy, Rep.allRegs, Bool.or_eq_true, beq_iff_eq, ih, List.mem_cons]
    exact or_congr_left eq_comm
  | kid k r ihk ih => simp [Rep.invalidatedBy, Rep.allRegs, ihk, ih]

/-- `visitedAllWith tbl e` is `E (repOf tbl e)` -/
def E (r : Rep) : List Nat := extIds r.allRegs

theorem E_append (a b : Rep) : E (a.append b) = E a ++ E b := by
  simp [E, Rep.allRegs_append, extIds_append]

theorem E_done : E .done = [] := rfl

theorem E_kid (k : Rep) : E (.kid k .done) = E k := by
  simp [E, Rep.allRegs]

theorem E_seq_map {α} (f : α → Rep) (l : List α) :
    E (Rep.seq (l.map f)) = l.flatMap (fun x => E (f x)) := by
  induction l with
  | nil => rfl
  | cons x l ih =>
    rw [List.flatMap_cons, ← ih]
    exact E_append _ _

theorem E_row (tbl : Table) (s : VSpec) (f : Mem → Rep) :
    E (row tbl s f) = (tbl s).flatMap (fun m => E (f m)) :=
  E_seq_map f (tbl s)

theorem E_visitPrimary_own (i : Nat) (ty : STy) : E (visitPrimary codeTable (.own i) ty) = [] := by
  cases ty <;> rfl

theorem E_visitLimRef (o : Obj) : E (visitLimRef codeTable o) = o.trk := by
  cases h : o.kind.derivesTrackable <;>
    simp [visitLimRef, visitPrimary, act, STy.limited, row, codeTable, Rep.seq, Rep.append, E, Rep.allRegs,
      extIds, Obj.trk, h]

/-- an object visited with its own type (no `limit_reference`): `limit_trackable_target` lets it through iff its
    class derives from `trackable`, and `operator()(const trackable&)` takes it by derived-to-base conversion -/
theorem E_visitPrimary_ext (o : Obj) : E (visitPrimary codeTable (.ext o.id) (STy.ofKind o.kind)) = o.trk := by
  cases h : o.kind.derivesTrackable <;>
    simp [visitPrimary, act, STy.ofKind, row, codeTable, Rep.seq, Rep.append, E, Rep.allRegs, extIds,
      Obj.trk, h]

theorem E_visitObjs (ts : List Obj) : E (visitObjs codeTable ts) = ts.flatMap Obj.trk := by
  simp [visitObjs, E_seq_map, E_visitLimRef]

theorem E_stored (b : Bool) (r : Rep) : E (stored codeTable b r) = E r := by
  cases b
  · simp [stored, E_row, codeTable]
  · rfl

theorem refsOf_eq_flatMap (bs : List BArg) : refsOf bs = bs.flatMap BArg.refs := by
  induction bs with
  | nil => simp [refsOf]
  | cons b bs ih => simp [refsOf, ih]

/-! ### the variant tables: `codeTable` but for one row -/

theorem act_boundLeafTable (t : Tgt) (ty : STy) : act boundLeafTable t ty = act codeTable t ty := by
  cases ty <;> rfl

theorem act_byType_limited (t : Tgt) (k : Kind) :
    act byTypeDroppedTable t (STy.limited k) = act codeTable t (STy.limited k) := by
  cases k <;> rfl

theorem act_byType_other (t : Tgt) : act byTypeDroppedTable t .other = act codeTable t .other := rfl

theorem visitLimRef_byType (o : Obj) : visitLimRef byTypeDroppedTable o = visitLimRef codeTable o := by
  simp [visitLimRef, visitPrimary, row, byTypeDroppedTable, codeTable, act_byType_limited]

theorem visitObjs_byType (ts : List Obj) : visitObjs byTypeDroppedTable ts = visitObjs codeTable ts := by
  have : visitLimRef byTypeDroppedTable = visitLimRef codeTable := funext visitLimRef_byType
  simp [visitObjs, this]

/-- the rep is the parent of no inner rep -/
def Rep.noKids : Rep → Bool
  | .done => true
  | .reg _ r => r.noKids
  | .kid _ _ => false

theorem Rep.noKids_append (a b : Rep) : (a.append b).noKids = (a.noKids && b.noKids) := by
  induction a with
  | done => rfl
  | reg t r ih => simp [Rep.append, Rep.noKids, ih]
  | kid k r _ _ => rfl

theorem Rep.regs_eq_allRegs_of_noKids (r : Rep) (h : r.noKids = true) : r.regs = r.allRegs := by
  induction r with
  | done => rfl
  | reg t r ih => simp [Rep.regs, Rep.allRegs, ih (by simpa [Rep.noKids] using h)]
  | kid k r _ _ => cases h

theorem noKids_seq_map {α} (f : α → Rep) (l : List α) :
    (Rep.seq (l.map f)).noKids = l.all (fun x => (f x).noKids) := by
  induction l with
  | nil => rfl
  | cons x l ih =>
    rw [List.all_cons, ← ih]
    exact Rep.noKids_append _ _

theorem noKids_row (tbl : Table) (s : VSpec) (f : Mem → Rep) :
    (row tbl s f).noKids = (tbl s).all (fun m => (f m).noKids) :=
  noKids_seq_map f (tbl s)

theorem noKids_visitPrimary (t : Tgt) (ty : STy) : (visitPrimary codeTable t ty).noKids = true := by
  cases ty <;> rfl

theorem noKids_visitLimRef (o : Obj) : (visitLimRef codeTable o).noKids = true := by
  simp [visitLimRef, noKids_row, codeTable, noKids_visitPrimary]

theorem noKids_visitObjs (ts : List Obj) : (visitObjs codeTable ts).noKids = true := by
  simp [visitObjs, noKids_seq_map, noKids_visitLimRef]

theorem noKids_stored (b : Bool) (r : Rep) : (stored codeTable b r).noKids = r.noKids := by
  cases b
  · simp [stored, noKids_row, codeTable]
  · rfl

mutual
theorem noKids_scan (e : FExpr) (h : slotFree e = true) : (scan codeTable e).noKids = true := by
  match e with
  | .leaf => exact noKids_visitPrimary _ _
  | .memFun o | .makeSlot o | .signalConnect o => simp [scan, noKids_row, codeTable, noKids_visitLimRef]
  | .bind pos f bs =>
    simp only [slotFree, Bool.and_eq_true] at h
    cases pos <;>
      simp [scan, noKids_row, codeTable, noKids_stored, noKids_scan f h.1, noKids_visitTuple bs h.2]
  | .bindReturn f b =>
    simp only [slotFree, Bool.and_eq_true] at h
    simp [scan, noKids_row, codeTable, noKids_stored, noKids_scan f h.1, noKids_visitBound b h.2]
  | .hide _ f | .hideReturn f | .retype f | .retypeReturn f | .trackObj f _ =>
    simp [scan, noKids_row, codeTable, noKids_stored, noKids_scan f (by simpa [slotFree] using h),
      noKids_visitObjs]
  | .compose1 s g | .exceptionCatch s g =>
    simp only [slotFree, Bool.and_eq_true] at h
    simp [scan, noKids_row, codeTable, noKids_stored, noKids_scan s h.1, noKids_scan g h.2]
  | .compose2 s g1 g2 =>
    simp only [slotFree, Bool.and_eq_true] at h
    simp [scan, noKids_row, codeTable, noKids_stored, noKids_scan s h.1.1, noKids_scan g1 h.1.2,
      noKids_scan g2 h.2]
  | .slot f => simp [slotFree] at h

theorem noKids_visitBound (b : BArg) (h : b.slotFree = true) :
    (visitBound codeTable b).noKids = true := by
  match b with
  | .val | .ref o | .cref o | .copy o | .xref o | .xcref o =>
    simp [visitBound, noKids_row, codeTable, noKids_visitPrimary, noKids_visitLimRef]
  | .fn e =>
    simp [visitBound, noKids_row, codeTable, noKids_scan e (by simpa [BArg.slotFree] using h)]

theorem noKids_visitTuple (bs : List BArg) (h : slotFreeArgs bs = true) :
    (visitTuple codeTable bs).noKids = true := by
  match bs with
  | [] => rfl
  | b :: bs =>
    simp only [slotFreeArgs, Bool.and_eq_true] at h
    simp [visitTuple, Rep.noKids_append, noKids_visitBound b h.1, noKids_visitTuple bs h.2]
end

theorem liveCount_append (d : Nat) (a b : List Entry) :
    liveCount d (a ++ b) = liveCount d a + liveCount d b := by
  induction a with
  | nil => simp [liveCount]
  | cons e l ih => simp [liveCount, ih]; omega

theorem liveCount_addCb (d d' : Nat) (l : List Entry) :
    liveCount d (addCb false d' l) = liveCount d l + (if d' = d then 1 else 0) := by
  simp [addCb, liveCount_append, liveCount]

theorem liveCount_removeCb_same (d : Nat) (l : List Entry) :
    liveCount d (removeCb false d l) = liveCount d l - 1 := by
  induction l with
  | nil => simp [removeCb, liveCount]
  | cons e l ih =>
    by_cases h : e.data = d ∧ e.live = true
    · simp [removeCb, liveCount, h]
    · simp [removeCb, liveCount, h, ih]

theorem liveCount_removeCb_other (d d' : Nat) (hd : d' ≠ d) (l : List Entry) :
    liveCount d (removeCb false d' l) = liveCount d l := by
  induction l with
  | nil => simp [removeCb, liveCount]
  | cons e l ih =>
    by_cases h : e.data = d' ∧ e.live = true
    · have h3 : ¬ (e.data = d ∧ e.live = true) := fun h2 => hd (h.1.symm.trans h2.1)
      rw [show removeCb false d' (e :: l) = l by simp [removeCb, h]]
      rw [show liveCount d (e :: l) = 0 + liveCount d l by simp [liveCount, h3]]
      omega
    · simp [removeCb, liveCount, h, ih]

theorem others_cons (d : Nat) (e : Entry) (l : List Entry) :
    others d (e :: l) = if e.data = d then others d l else e :: others d l := by
  by_cases h : e.data = d <;> simp [others, h]

theorem others_addCb_same (d : Nat) (l : List Entry) : others d (addCb false d l) = others d l := by
  simp [others, addCb, List.filter_append]

theorem others_addCb_other (d d' : Nat) (hd : d' ≠ d) (l : List Entry) :
    others d (addCb false d' l) = addCb false d' (others d l) := by
  simp [others, addCb, List.filter_append, hd]

theorem others_removeCb_same (d : Nat) (l : List Entry) :
    others d (removeCb false d l) = others d l := by
  induction l with
  | nil => simp [removeCb, others]
  | cons e l ih =>
    by_cases h : e.data = d ∧ e.live = true
    · rw [show removeCb false d (e :: l) = l by simp [removeCb, h], others_cons, if_pos h.1]
    · rw [show removeCb false d (e :: l) = e :: removeCb false d l by simp [removeCb, h],
        others_cons, others_cons, ih]

theorem others_removeCb_other (d d' : Nat) (hd : d' ≠ d) (l : List Entry) :
    others d (removeCb false d' l) = removeCb false d' (others d l) := by
  induction l with
  | nil => simp [removeCb, others]
  | cons e l ih =>
    by_cases h : e.data = d' ∧ e.live = true
    · have hne : ¬ e.data = d := fun h2 => hd (h.1.symm.trans h2)
      rw [show removeCb false d' (e :: l) = l by simp [removeCb, h], others_cons, if_neg hne]
      simp [removeCb, h]
    · rw [show removeCb false d' (e :: l) = e :: removeCb false d' l by simp [removeCb, h],
        others_cons, others_cons, ih]
      by_cases h2 : e.data = d
      · simp [h2]
      · simp [h2, removeCb, h]

def Op.tgt : Op → Tgt
  | .add t _ | .remove t _ => t

def Op.app : Op → List Entry → List Entry
  | .add _ d => addCb false d
  | .remove _ d => removeCb false d

theorem step_apply (w : World) (x : Op) (u : Tgt) :
    step w x u = if u = x.tgt then x.app (w u) else w u := by
  cases x <;> rfl

theorem run_append (w : World) (a b : List Op) : run w (a ++ b) = run (run w a) b := by
  simp [run, List.foldl_append]

theorem run_cons (w : World) (x : Op) (a : List Op) : run w (x :: a) = run (step w x) a := rfl

/-- `f` observes a callback list: the operations of `a` act on what it sees as functions, those of `b` are invisible
    to it; so it cannot tell `s` from `a` -/
theorem obs_interleave {β} (f : List Entry → β) {a b s : List Op} (hi : Interleave a b s)
    (ha : ∀ x ∈ a, ∃ g : β → β, ∀ l, f (x.app l) = g (f l))
    (hb : ∀ x ∈ b, ∀ l, f (x.app l) = f l) :
    ∀ w1 w2 : World, (∀ u, f (w1 u) = f (w2 u)) → ∀ u, f (run w1 s u) = f (run w2 a u) := by
  induction hi with
  | nil => intro w1 w2 h; exact h
  | left x _ ih =>
    intro w1 w2 h
    obtain ⟨g, hg⟩ := ha x (List.mem_cons_self ..)
    refine ih (fun y hy => ha y (List.mem_cons_of_mem _ hy)) hb _ _ (fun v => ?_)
    rw [step_apply, step_apply]
    split
    · rw [hg, hg, h v]
    · exact h v
  | right x _ ih =>
    intro w1 w2 h
    refine ih ha (fun y hy => hb y (List.mem_cons_of_mem _ hy)) _ _ (fun v => ?_)
    rw [step_apply]
    split
    · rw [hb x (List.mem_cons_self ..), h v]
    · exact h v

theorem Interleave.symm {a b s : List Op} (hi : Interleave a b s) : Interleave b a s := by
  induction hi with
  | nil => exact .nil
  | left x _ ih => exact .right x ih
  | right x _ ih => exact .left x ih

theorem liveCount_interleave (r : Nat) {a b s : List Op} (hi : Interleave a b s)
    (ha : ∀ x ∈ a, x.data = r) (hb : ∀ x ∈ b, x.data ≠ r) (w : World) (u : Tgt) :
    liveCount r (run w s u) = liveCount r (run w a u) := by
  refine obs_interleave (liveCount r) hi (fun x hx => ?_) (fun x hx l => ?_) w w (fun _ => rfl) u
  · cases x with
    | add t d =>
      have hd : d = r := ha _ hx
      exact ⟨(· + 1), fun l => by simp [Op.app, liveCount_addCb, hd]⟩
    | remove t d =>
      have hd : d = r := ha _ hx
      exact ⟨(· - 1), fun l => hd ▸ liveCount_removeCb_same d l⟩
  · cases x with
    | add t d => simp [Op.app, liveCount_addCb, show d ≠ r from hb _ hx]
    | remove t d => exact liveCount_removeCb_other _ _ (hb _ hx) l

theorem others_interleave (r : Nat) {a b s : List Op} (hi : Interleave a b s)
    (ha : ∀ x ∈ a, x.data = r) (hb : ∀ x ∈ b, x.data ≠ r) (w : World) (u : Tgt) :
    others r (run w s u) = others r (run w b u) := by
  refine obs_interleave (others r) hi.symm (fun x hx => ?_) (fun x hx l => ?_) w w (fun _ => rfl) u
  · cases x with
    | add t d => exact ⟨addCb false d, others_addCb_other _ _ (hb _ hx)⟩
    | remove t d => exact ⟨removeCb false d, others_removeCb_other _ _ (hb _ hx)⟩
  · cases x with
    | add t d => exact (show d = r from ha _ hx) ▸ others_addCb_same d l
    | remove t d => exact (show d = r from ha _ hx) ▸ others_removeCb_same d l

theorem liveCount_run_bindOps (r : Nat) (ts : List Tgt) :
    ∀ (w : World) (u : Tgt), liveCount r (run w (bindOps r ts) u) = liveCount r (w u) + ts.count u := by
  induction ts with
  | nil => intro w u; rfl
  | cons t ts ih =>
    intro w u
    have : bindOps r (t :: ts) = Op.add t r :: bindOps r ts := rfl
    rw [this, run_cons, ih]
    by_cases hu : u = t
    · subst hu; simp [step, liveCount_addCb]; omega
    · have : (t == u) = false := by simp [Ne.symm hu]
      simp [step, hu, List.count_cons, this]

theorem liveCount_run_unbindOps (r : Nat) (ts : List Tgt) :
    ∀ (w : World) (u : Tgt),
      liveCount r (run w (unbindOps r ts) u) = liveCount r (w u) - ts.count u := by
  induction ts with
  | nil => intro w u; rfl
  | cons t ts ih =>
    intro w u
    have : unbindOps r (t :: ts) = Op.remove t r :: unbindOps r ts := rfl
    rw [this, run_cons, ih]
    by_cases hu : u = t
    · subst hu; simp [step, liveCount_removeCb_same]; omega
    · have : (t == u) = false := by simp [Ne.symm hu]
      simp [step, hu, List.count_cons, this]

end Sigc.Visit
