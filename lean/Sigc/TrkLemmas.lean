import Sigc.Trk
import Sigc.ListLemmas
/-!
  Trace theory for C16 (pure list reasoning, independent of the model): the logical registration lists
  `present2` / `present`, the traces `W.Valid` that the model produces on the wide domain `History.Domain2`
  (namespace `W`: callbacks remove and add), and what such a trace implies.  `present` is `present2` on
  traces whose `add`s all lie outside rounds (`AddsIdle`), which is what the narrow domain
  `History.Domain` adds.
-/
namespace Sigc.Trk

@[simp] theorem present_nil (t : Nat) : present t [] = [] := rfl
@[simp] theorem inRound_nil : inRound [] = none := rfl
@[simp] theorem delivered_nil : delivered [] = [] := rfl
@[simp] theorem added_nil : added [] = [] := rfl

theorem added_append (tr es : List Ev) : added (tr ++ es) = added tr ++ added es := by
  simp [added, List.filterMap_append]

theorem delivered_append (tr es : List Ev) : delivered (tr ++ es) = delivered tr ++ delivered es := by
  simp [delivered, List.filterMap_append]

theorem inRound_snoc (tr : List Ev) (e : Ev) : inRound (tr ++ [e]) = stepR (inRound tr) e := by
  simp only [inRound, List.foldl_append, List.foldl_cons, List.foldl_nil]

theorem delivered_snoc (tr : List Ev) (e : Ev) :
    delivered (tr ++ [e]) = delivered tr ++ (match e with | .deliver r _ _ => [r] | _ => []) := by
  rw [delivered_append]; cases e <;> rfl

theorem added_snoc (tr : List Ev) (e : Ev) :
    added (tr ++ [e]) = added tr ++ (match e with | .add r _ _ => [r] | _ => []) := by
  rw [added_append]; cases e <;> rfl

theorem mem_added_of_mem {r t d : Nat} {tr : List Ev} (h : Ev.add r t d ∈ tr) : r ∈ added tr :=
  List.mem_filterMap.2 ⟨_, h, rfl⟩

namespace W

/-- the first component of `stepP2`, the round state `c` before the event a parameter -/
def stepQ (t : Nat) (c : Option Nat) (l : List (Nat × Nat)) : Ev → List (Nat × Nat)
  | .add r t' d => if t' = t ∧ c ≠ some t then l ++ [(r, d)] else l
  | .rem t' d => if t' = t then l.eraseP (fun x => x.2 == d) else l
  | .done t' => if t' = t then [] else l
  | _ => l

theorem fold_stepP2_snd (t : Nat) : ∀ (tr : List Ev) (st : List (Nat × Nat) × Option Nat),
    (tr.foldl (stepP2 t) st).2 = tr.foldl stepR st.2 := by
  intro tr
  induction tr with
  | nil => intro st; rfl
  | cons e tr ih => intro st; exact ih _

@[simp] theorem present2_nil (t : Nat) : present2 t [] = [] := rfl

theorem present2_snoc (t : Nat) (tr : List Ev) (e : Ev) :
    present2 t (tr ++ [e]) = stepQ t (inRound tr) (present2 t tr) e := by
  have hq : ∀ st : List (Nat × Nat) × Option Nat, (stepP2 t st e).1 = stepQ t st.2 st.1 e := by
    intro st; cases e <;> rfl
  simp only [present2, List.foldl_append, List.foldl_cons, List.foldl_nil, hq, fold_stepP2_snd, inRound]

/-- what each event requires of the events before it -/
def StepOK (pre : List Ev) : Ev → Prop
  | .add r _ _ => r ∉ added pre
  | .rem _ _ => True
  | .trig _ => inRound pre = none
  | .deliver r d _ => ∃ t, inRound pre = some t ∧ (r, d) ∈ present2 t pre ∧ r ∉ delivered pre
  | .done t => inRound pre = some t ∧ ∀ x ∈ present2 t pre, x.1 ∈ delivered pre

inductive Valid : List Ev → Prop
  | nil : Valid []
  | snoc {tr : List Ev} {e : Ev} : Valid tr → StepOK tr e → Valid (tr ++ [e])

theorem stepQ_sublist (t : Nat) (c : Option Nat) (l : List (Nat × Nat)) (e : Ev) :
    (stepQ t c l e).Sublist l ∨ ∃ r d, e = .add r t d ∧ stepQ t c l e = l ++ [(r, d)] := by
  cases e with
  | add r t' d =>
    simp only [stepQ]
    split
    · rename_i ht; exact .inr ⟨r, d, by rw [ht.1], rfl⟩
    · exact .inl (List.Sublist.refl _)
  | rem t' d =>
    simp only [stepQ]
    split
    · exact .inl List.eraseP_sublist
    · exact .inl (List.Sublist.refl _)
  | done t' =>
    simp only [stepQ]
    split
    · exact .inl (List.nil_sublist _)
    · exact .inl (List.Sublist.refl _)
  | trig t' => exact .inl (List.Sublist.refl _)
  | deliver r d k => exact .inl (List.Sublist.refl _)

theorem mem_stepQ {t : Nat} {c : Option Nat} {l : List (Nat × Nat)} {e : Ev} {x : Nat × Nat}
    (h : x ∈ stepQ t c l e) : x ∈ l ∨ e = .add x.1 t x.2 := by
  rcases stepQ_sublist t c l e with hs | ⟨r, d, he, hq⟩
  · exact .inl (hs.subset h)
  · rw [hq] at h
    rcases List.mem_append.1 h with h | h
    · exact .inl h
    · rw [List.mem_singleton.1 h]; exact .inr he

theorem add_mem_of_mem_present2 {t : Nat} {x : Nat × Nat} :
    ∀ {tr : List Ev}, Valid tr → x ∈ present2 t tr → Ev.add x.1 t x.2 ∈ tr := by
  intro tr v
  induction v with
  | nil => intro h; cases h
  | snoc v _ ih =>
    intro h
    rw [present2_snoc] at h
    rcases mem_stepQ h with h | h
    · exact List.mem_append_left _ (ih h)
    · rw [h]; exact List.mem_append_right _ (List.mem_singleton_self _)

theorem Valid.present2_sub_added {tr : List Ev} (v : Valid tr) {t : Nat} {x : Nat × Nat} (h : x ∈ present2 t tr) :
    x.1 ∈ added tr :=
  mem_added_of_mem (add_mem_of_mem_present2 v h)

theorem Valid.delivered_sub {tr : List Ev} (v : Valid tr) : ∀ r, r ∈ delivered tr → r ∈ added tr := by
  induction v with
  | nil => intro r h; cases h
  | snoc v ok ih =>
    rename_i tr e
    intro r h
    rw [delivered_snoc] at h
    rw [added_snoc]
    apply List.mem_append_left
    rcases List.mem_append.1 h with h | h
    · exact ih r h
    · cases e with
      | deliver r' d k =>
        obtain ⟨t, _, hp, _⟩ := ok
        rw [List.mem_singleton.1 h]
        exact v.present2_sub_added hp
      | _ => cases h

theorem Valid.added_nodup {tr : List Ev} (v : Valid tr) : (added tr).Nodup := by
  induction v with
  | nil => exact List.nodup_nil
  | snoc v ok ih =>
    rename_i tr e
    rw [added_snoc]
    cases e with
    | add r t d =>
      exact nodup_snoc ih ok
    | _ => rw [List.append_nil]; exact ih

theorem Valid.delivered_nodup {tr : List Ev} (v : Valid tr) : (delivered tr).Nodup := by
  induction v with
  | nil => exact List.nodup_nil
  | snoc v ok ih =>
    rename_i tr e
    rw [delivered_snoc]
    cases e with
    | deliver r d k =>
      obtain ⟨t, _, _, h⟩ := ok
      exact nodup_snoc ih h
    | _ => rw [List.append_nil]; exact ih

theorem Valid.present_nodup {tr : List Ev} (v : Valid tr) : ∀ t, ((present2 t tr).map (·.1)).Nodup := by
  induction v with
  | nil => intro t; exact List.nodup_nil
  | snoc v ok ih =>
    rename_i tr e
    intro t
    rw [present2_snoc]
    rcases stepQ_sublist t (inRound tr) (present2 t tr) e with hs | ⟨r, d, he, hq⟩
    · exact (hs.map _).nodup (ih t)
    · rw [hq, List.map_append]
      subst he
      refine nodup_snoc (ih t) (fun ha => ?_)
      obtain ⟨x, hx, (hxa : x.1 = r)⟩ := List.mem_map.1 ha
      exact ok (hxa ▸ v.present2_sub_added hx)

theorem Valid.disj {tr : List Ev} (v : Valid tr) :
    ∀ t t' x y, x ∈ present2 t tr → y ∈ present2 t' tr → x.1 = y.1 → t = t' := by
  induction v with
  | nil => intro t t' x y h; cases h
  | snoc v ok ih =>
    rename_i tr e
    intro t t' x y hx hy hxy
    rw [present2_snoc] at hx hy
    rcases mem_stepQ hx with hx1 | he
    · rcases mem_stepQ hy with hy1 | he'
      · exact ih t t' x y hx1 hy1 hxy
      · subst he'
        exact absurd (hxy ▸ v.present2_sub_added hx1) ok
    · subst he
      rcases mem_stepQ hy with hy1 | he'
      · exact absurd (hxy ▸ v.present2_sub_added hy1) ok
      · injection he' with _ h2 _

/-- outside a triggering event nothing that is still registered has been delivered; inside one, only
    registrations of the trackable being notified -/
theorem Valid.undelivered {tr : List Ev} (v : Valid tr) :
    ∀ t x, x ∈ present2 t tr → x.1 ∈ delivered tr → inRound tr = some t := by
  induction v with
  | nil => intro t x h; cases h
  | snoc v ok ih =>
    rename_i tr e
    intro t x hx hd
    rw [present2_snoc] at hx
    rw [delivered_snoc] at hd
    rw [inRound_snoc]
    cases e with
    | add r t' d =>
      rw [List.append_nil] at hd
      rcases mem_stepQ hx with hx | he
      · exact ih t x hx hd
      · injection he with h1 _ _
        exact absurd (h1 ▸ v.delivered_sub _ hd) ok
    | rem t' d =>
      rw [List.append_nil] at hd
      rcases mem_stepQ hx with hx | he
      · exact ih t x hx hd
      · cases he
    | trig t' =>
      rw [List.append_nil] at hd
      have := ih t x hx hd
      rw [ok] at this; cases this
    | deliver r d k =>
      obtain ⟨t0, hr, hp, _⟩ := ok
      rcases List.mem_append.1 hd with hd | hd
      · exact ih t x hx hd
      · rw [v.disj t t0 x (r, d) hx hp (List.mem_singleton.1 hd)]; exact hr
    | done t' =>
      rw [List.append_nil] at hd
      simp only [stepQ] at hx
      split at hx
      · cases hx
      · rename_i hne
        have := ih t x hx hd
        rw [ok.1] at this
        injection this with this
        exact absurd this hne

theorem Valid.split {tr : List Ev} (v : Valid tr) :
    ∀ pre e post, tr = pre ++ e :: post → Valid pre ∧ StepOK pre e := by
  induction v with
  | nil => intro pre e post h; simp at h
  | snoc v ok ih =>
    rename_i tr e0
    intro pre e post h
    rcases List.eq_nil_or_concat post with hp | ⟨post', e', hp⟩
    · subst hp
      obtain ⟨h1, h2⟩ := List.append_inj' h rfl
      cases h2; subst h1
      exact ⟨v, ok⟩
    · subst hp
      rw [List.concat_eq_append, ← List.cons_append, ← List.append_assoc] at h
      exact ih pre e post' (List.append_inj' h rfl).1

end W

/-- every `add` of the trace is issued outside a round -/
def AddsIdle (tr : List Ev) : Prop :=
  ∀ pre post r t d, tr = pre ++ Ev.add r t d :: post → inRound pre = none

theorem AddsIdle.nil : AddsIdle [] := by
  intro pre post r t d h; simp at h

theorem AddsIdle.prefix {pre post : List Ev} (h : AddsIdle (pre ++ post)) : AddsIdle pre := by
  intro p q r t d e
  exact h p (q ++ post) r t d (by rw [e, List.append_assoc, List.cons_append])

theorem AddsIdle.append {tr m : List Ev} (h : AddsIdle tr) (hm : added m = []) : AddsIdle (tr ++ m) := by
  intro pre post r t d e
  rcases List.append_eq_append_iff.1 e with ⟨a, _, ha⟩ | ⟨c, hc, hc'⟩
  · have : r ∈ added m := mem_added_of_mem (ha ▸ List.mem_append_right a (List.mem_cons_self ..))
    rw [hm] at this; cases this
  · cases c with
    | nil =>
      have : r ∈ added m := mem_added_of_mem (hc' ▸ List.mem_cons_self ..)
      rw [hm] at this; cases this
    | cons x c =>
      injection hc' with hx _
      exact h pre c r t d (hx ▸ hc)

theorem AddsIdle.snoc_add {tr : List Ev} (h : AddsIdle tr) (hi : inRound tr = none) (r t d : Nat) :
    AddsIdle (tr ++ [Ev.add r t d]) := by
  intro pre post r' t' d' e
  rcases List.eq_nil_or_concat post with hp | ⟨post', x, hp⟩
  · subst hp
    rw [(List.append_inj' e rfl).1] at hi; exact hi
  · subst hp
    rw [List.concat_eq_append, ← List.cons_append, ← List.append_assoc] at e
    exact h pre post' r' t' d' (List.append_inj' e rfl).1

theorem present2_eq_present {tr : List Ev} (h : AddsIdle tr) (t : Nat) :
    present2 t tr = present t tr := by
  suffices ∀ (tr : List Ev) (l : List (Nat × Nat)) (c : Option Nat),
      (∀ pre post r t d, tr = pre ++ Ev.add r t d :: post → pre.foldl stepR c = none) →
      (tr.foldl (stepP2 t) (l, c)).1 = tr.foldl (stepP t) l from this tr [] none h
  intro tr
  induction tr with
  | nil => intro l c _; rfl
  | cons e tr ih =>
    intro l c h
    have hs : stepP2 t (l, c) e = (stepP t l e, stepR c e) := by
      cases e with
      | add r t' d => simp [stepP2, stepP, show c = none from h [] tr r t' d rfl]
      | _ => rfl
    simp only [List.foldl_cons, hs]
    exact ih _ _ (fun pre post r t d e' => h (e :: pre) post r t d (by rw [e']; rfl))

end Sigc.Trk
