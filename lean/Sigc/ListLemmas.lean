/-! three facts about lists that the `SweepL` and the `Trk` component both use -/
namespace Sigc

theorem nodup_snoc {α : Type} {l : List α} {a : α} (h : l.Nodup) (ha : a ∉ l) : (l ++ [a]).Nodup :=
  List.nodup_append.2 ⟨h, List.pairwise_singleton _ _,
    fun _ hx _ hy hxy => ha (List.mem_singleton.1 hy ▸ hxy ▸ hx)⟩

theorem eq_of_map_eq {α β : Type} {f : α → β} {l : List α} (hn : (l.map f).Nodup) {a b : α}
    (ha : a ∈ l) (hb : b ∈ l) (h : f a = f b) : a = b := by
  induction l with
  | nil => cases ha
  | cons x l ih =>
    simp at hn
    rcases List.mem_cons.1 ha with h1 | h1
    · rcases List.mem_cons.1 hb with h2 | h2
      · rw [h1, h2]
      · subst h1; exact absurd h.symm (hn.1 b h2)
    · rcases List.mem_cons.1 hb with h2 | h2
      · subst h2; exact absurd h (hn.1 a h1)
      · exact ih hn.2 h1 h2

theorem foldl_invariant {α β} {f : β → α → β} {C : β → Prop} (h : ∀ b a, C b → C (f b a)) :
    ∀ (l : List α) (b : β), C b → C (l.foldl f b)
  | [], _, hb => hb
  | a :: l, b, hb => foldl_invariant h l (f b a) (h b a hb)

end Sigc
