import Sigc.Lemmas.EmitTables
import Sigc.Lemmas.EmitTouchFold
/-! every operation that runs no user code (`stepSimple`, and `collect`, the destruction of objects owned by
functors) preserves `Inv` and is a `Frame` step: `stepSimple` is a sequence of moves
(`Sigc.Model.stepSimple_built`), and every move is a good step (`good_move`) -/
namespace Sigc.Emit
open Sigc.Model

/-- finish a branch whose result state differs from `s` only outside the core (T, C, K, trace …) -/
macro "core_branch" h:ident hs:ident : tactic =>
  `(tactic| (simp at $hs:ident; obtain ⟨h1, h2⟩ := $hs:ident; subst h1; subst h2; exact Good.of_core $h rfl rfl rfl rfl (by simp)))

theorem good_optDisconnect {s : St} (h : Inv s) (p : Option Nat) :
    Good0 s (match p with | some cid => disconnectCell s cid | none => s) := by
  cases p with
  | none => exact Good.refl h
  | some cid => exact Good.disconnectCell h cid

theorem good_optDisconnect' {s s0 : St} (h : Inv s) (hi : s0.impls = s.impls) (hG : s0.G = s.G)
    (hS : s0.S = s.S) (he : s0.err = s.err) (hn : s.next ≤ s0.next) (p : Option Nat)
    (hO : s0.ownedG = s.ownedG := by first | rfl | assumption) :
    Good0 s (match p with | some cid => disconnectCell s0 cid | none => s0) :=
  .of_core_then h (fun h => good_optDisconnect h p) hi hG hS he hO hn

theorem SlotOK.of_rep {G} {sl sl' : SlotB} (h : SlotOK G sl) (e : sl'.rep = sl.rep) : SlotOK G sl' := by
  intro r fn h1 h2; rw [e] at h1; exact h r fn h1 h2

theorem SlotOK.mk_valid {G} {fn : Fun} (h : FunOK G fn) (b : Bool) :
    SlotOK G { blocked := b, rep := some { call := true, fn := some fn } } := by
  intro r f h1 h2
  simp at h1; subst h1; simp at h2; subst h2; exact h

theorem SlotOK.of_from {off} {s : St} (h : InvX off s) {sl : SlotB} {t : Int} (f : SlotFrom s sl t) : SlotOK s.G sl := by
  rcases f with e | ⟨i, v, hv, _, e | e⟩
  · intro r fn h1; rw [e] at h1; cases h1
  · exact (h.fwdS i v hv).of_rep e
  · exact (h.fwdS i v hv).disconnectRep.of_rep e

theorem Good.of_coreG {off} {s s' : St} (h : InvX off s) (hi : s'.impls = s.impls) (hS : s'.S = s.S)
    (he : s'.err = s.err) (hn : s.next ≤ s'.next) (hle : GLe s.G s'.G)
    (hh : ∀ p ∈ s'.G, ∀ i, p.2.impl = some i → (aget s.impls i).isSome = true)
    (hO : s'.ownedG = s.ownedG := by first | rfl | assumption) : Good off s s' :=
  (Good.setG h hle hh).congr hi rfl hS he hn hO

theorem Held.isSome {off} {s : St} (h : InvX off s) {o : Option Nat} (hh : Held s.G o) (k : Nat) (e : o = some k) :
    (aget s.impls k).isSome = true :=
  Option.isSome_iff_exists.mpr (h.hok.held hh k e)

theorem Good.optGc {s s1 : St} (g : Good0 s s1) (o : Option Nat) : Good0 s (gcOpt s1 o) := by
  cases o with
  | none => exact g
  | some old => exact g.andThen fun h => Good.gcImpl h old

/-- a new handle (not pinned) whose impl, if it has one, exists: `newG`, `cpG`, `mvG` on an accumulated signal -/
theorem good_newHandle {s s' : St} (h : Inv s) {j : Nat} (hj : aget s.G j = none) {hd : Handle}
    (hG : s'.G = aset s.G j hd) (him : ∀ k, hd.impl = some k → (aget s.impls k).isSome = true)
    (hn : s.next ≤ s'.next) (hf : hd.everFwd = false := by rfl)
    (hi : s'.impls = s.impls := by rfl) (hS : s'.S = s.S := by rfl) (he : s'.err = s.err := by rfl)
    (hO : s'.ownedG = s.ownedG := by rfl) : Good0 s s' := by
  apply Good.of_coreG h hi hS he hn (hO := hO)
  · rw [hG]; exact GLe.aset_new _ hj hf
  · rw [hG]; exact (h.hok.aset_G j hd fun k hk => Option.isSome_iff_exists.mp (him k hk)).isSome

theorem FunOK.adel {G : List (Nat × Handle)} {fn : Fun} (h : FunOK G fn) {i : Nat} {hd : Handle}
    (hi : aget G i = some hd) (hpin : ¬ (hd.everFwd = true ∧ hd.fl.isTrackable = false))
    (htr : hd.fl.isTrackable = true → hd.trk ∉ fn.tracks) : FunOK (adel G i) fn := by
  intro o ts ht
  obtain ⟨g, h', hg, ho, hflag⟩ := h o ts ht
  by_cases e : g = i
  · subst e
    rw [hi] at hg; cases hg
    exfalso
    cases htk : hd.fl.isTrackable with
    | true =>
      simp [htk] at hflag
      have := target_tracks fn o ts ht
      exact htr htk (by rw [this]; exact hflag)
    | false =>
      simp [htk] at hflag
      exact hpin ⟨hflag, htk⟩
  · exact ⟨g, h', by rw [aget_adel_other _ _ _ e]; exact hg, ho, hflag⟩

theorem SlotOK.adel {G : List (Nat × Handle)} {sl : SlotB} (h : SlotOK G sl) {i : Nat} {hd : Handle}
    (hi : aget G i = some hd) (hpin : ¬ (hd.everFwd = true ∧ hd.fl.isTrackable = false))
    (htr : hd.fl.isTrackable = true → sl.tracksObj hd.trk = false) : SlotOK (adel G i) sl := by
  intro r fn h1 h2
  apply (h r fn h1 h2).adel hi hpin
  intro htk hmem
  have := htr htk
  obtain ⟨c, f⟩ := r
  simp at h2; subst h2
  simp [SlotB.tracksObj, h1] at this
  exact this hmem

theorem OwnOK.adel {O : List (Nat × Nat)} {G : List (Nat × Handle)} (h : OwnOK O G) (i : Nat) :
    OwnOK O (Sigc.Model.adel G i) := by
  intro p hp hd hg he
  rw [aget_adel] at hg
  split at hg
  · contradiction
  · exact h p hp hd hg he

/-- a signal object leaves `G`: asked is only that no forwarder to it is left -/
theorem Good.adelG {off} {s : St} (h : InvX off s) (g : Nat)
    (hS : ∀ j v, aget s.S j = some v → SlotOK (Sigc.Model.adel s.G g) v.slot)
    (hC : ∀ j im, aget s.impls j = some im → ∀ c ∈ im.cells, SlotOK (Sigc.Model.adel s.G g) c.slot) :
    Good off s { s with G := Sigc.Model.adel s.G g } :=
  ⟨⟨h.keys, h.lt, h.ok, h.disj, fun p hp k hk => h.himpl p (mem_adel hp).1 k hk, hS, hC, h.noerr, h.own.adel g⟩,
    Frame.of_eq (Nat.le_refl _) rfl rfl⟩

/-- the common part of `delG` and `dropHandle`: `~trackable` (trackable flavours), the name is released,
    then the impl dies if this was its last handle and it is not emitting -/
theorem good_dropTail {s : St} (h : Inv s) {i : Nat} {hd : Handle} (hg : aget s.G i = some hd)
    (hpin' : ¬ (hd.everFwd = true ∧ hd.fl.isTrackable = false)) :
    Good0 s (match hd.impl with
      | some im => gcImpl { (if hd.fl.isTrackable = true then invalidateTrackable s hd.trk else s) with
          G := Sigc.Model.adel (if hd.fl.isTrackable = true then invalidateTrackable s hd.trk else s).G i } im
      | none => { (if hd.fl.isTrackable = true then invalidateTrackable s hd.trk else s) with
          G := Sigc.Model.adel (if hd.fl.isTrackable = true then invalidateTrackable s hd.trk else s).G i }) := by
  generalize hs1 : (if hd.fl.isTrackable = true then invalidateTrackable s hd.trk else s) = s1
  have g1 : Good0 s s1 := by
    subst hs1; split
    · exact good_invalidateTrackable h _
    · exact Good.refl h
  have hG1 : s1.G = s.G := by
    subst hs1; split
    · exact invalidateTrackable_G _ _
    · rfl
  have hnt : hd.fl.isTrackable = true →
      (∀ j v, aget s1.S j = some v → v.slot.tracksObj hd.trk = false) ∧
      (∀ j im, aget s1.impls j = some im → ∀ c ∈ im.cells, c.slot.tracksObj hd.trk = false) := by
    intro htk; subst hs1; simp only [htk, if_true]
    exact noTrack_invalidateTrackable h _
  have hg1 : aget s1.G i = some hd := by rw [hG1]; exact hg
  have i1 := g1.inv
  have g2 : Good0 s1 { s1 with G := Sigc.Model.adel s1.G i } :=
    Good.adelG i1 i (fun j v hv => (i1.fwdS j v hv).adel hg1 hpin' (fun htk => (hnt htk).1 j v hv))
      fun j im hj c hc => (i1.fwdC j im hj c hc).adel hg1 hpin' (fun htk => (hnt htk).2 j im hj c hc)
  exact (g1.trans g2).optGc _

/-- `dropHandle`: the destruction of a signal object that is not pinned -/
theorem good_dropHandle {s : St} (h : Inv s) (g : Nat)
    (hpin : ∀ hd, aget s.G g = some hd → hd.everFwd = true → hd.fl.isTrackable = true) :
    Good0 s (dropHandle s g) := by
  unfold dropHandle
  cases hg : aget s.G g with
  | none => exact Good.refl h
  | some hd =>
    refine good_dropTail h hg ?_
    intro ⟨a, b⟩; have := hpin hd hg a; rw [b] at this; contradiction

theorem delG_eq_dropHandle {s : St} {g : Nat} {hd : Handle} (hg : aget s.G g = some hd)
    (hp : (hd.everFwd && !hd.fl.isTrackable) = false) (ho : s.ownedG.any (fun p => p.2 = g) = false) :
    stepSimple s (.delG g) = some (dropHandle s g, "ok") :=
  Model.delG_eq_dropHandle hg hp ho

theorem good_move {s s' : St} (m : Move s s') (h : Inv s) : Good0 s s' := by
  cases m with
  | lib l =>
    cases l with
    | notify => exact good_invalidateTrackable h _
    | disconnect => exact Good.disconnectCell h _
    | clear => exact good_clearImpl h _
    | block => exact Good.connBlock h _ _
    | blockAll b hx => exact Good.blockAll h hx b
  | newT _ => exact .of_core h rfl rfl rfl rfl (Nat.le_succ _)
  | delT _ => exact .of_core_then h fun h => good_invalidateTrackable h _
  | setS w =>
    cases w with
    | one hc f => exact Good.setS h _ _ (.of_from h f) hc
    | @two i j v a b hv ha fa hne hb fb =>
      have g1 := Good.setS h i a (.of_from h fa) (ha.trans (incallOf_of_aget hv).symm)
      refine g1.trans (Good.setS g1.inv j b (.of_from h fb) ?_)
      rw [incallOf_aset, if_neg hne]; exact hb
    | del hv h0 => exact Good.delS h _ ((incallOf_of_aget hv).trans h0)
  | made m => exact (good_made h m).1
  | @mkS s1 fn i v m hc hv =>
    obtain ⟨g, hf, hS⟩ := good_made h m
    refine g.trans (Good.setS g.inv i v (hv ▸ SlotOK.mk_valid hf _) ?_)
    rw [hc, incallOf, hS]; rfl
  | newG fl lvl hn hh => exact good_newHandle h hn rfl (Held.isSome h hh.held) (Nat.le_add_right _ 2)
  | ensure he => exact (ensureImpl_good h he).1
  | @mvG i j h0 hi hj =>
    refine Good.of_coreG h rfl rfl rfl (Nat.le_add_right _ 2) ?_ (Inv.HOK.move (.mvG hi hj) h.hok).isSome
    refine (GLe.aset_same (h' := { h0 with impl := none }) hi rfl rfl rfl id).trans (GLe.aset_new _ ?_)
    rw [aget_aset_other _ _ _ _ (ne_of_aget hi hj)]; exact hj
  | @asgG j d new hd hh =>
    exact (Good.setG h (GLe.aset_same (h' := { d with impl := new }) hd rfl rfl rfl id)
      (h.hok.aset_G _ _ (h.hok.held hh.held)).isSome).optGc _
  | @masgG i j d hh hd hi hji =>
    -- `j` takes the impl of `i`, which loses it; the old impl of `j` is released
    refine (Good.setG h ?_ (Inv.HOKI.isSome ?_)).optGc _
    · refine (GLe.aset_same (h' := { d with impl := hh.impl }) hd rfl rfl rfl id).trans
        (GLe.aset_same (h := hh) (h' := { hh with impl := none }) ?_ rfl rfl rfl id)
      rw [aget_aset_other _ _ _ _ (Ne.symm hji)]; exact hi
    · refine Inv.HOKI.aset_G (Inv.HOKI.aset_G h.hok _ _ ?_) _ _ ?_
      · exact fun _ e => h.hok.get hi e
      · exact fun _ e => nomatch e
  | drop _ hp => exact good_dropHandle h _ fun hd hg he => by simpa [he] using hp hd hg
  | @conn sv im _ v k first hv hh =>
    obtain ⟨g, _⟩ := insertCell_good h (Held.isSome h hh.held im rfl) first v.slot.copy (h.fwdS sv v hv).copy
    exact g.congr rfl rfl rfl rfl (Nat.le_refl _)
  | @connMv sv im _ v k first hv hh =>
    have g1 := Good.setS h sv { v with slot := v.slot.move.2 } (h.fwdS sv v hv).move2 (incallOf_of_aget hv).symm
    obtain ⟨g2, _⟩ := insertCell_good g1.inv (i := im) (Held.isSome h hh.held im rfl) first v.slot.move.1 (h.fwdS sv v hv).move1
    exact (g1.trans g2).congr rfl rfl rfl rfl (Nat.le_refl _)
  | @connfn s1 s2 fn g im _ _ k first m he =>
    obtain ⟨g1, hf, _⟩ := good_made h m
    obtain ⟨g2, him, _, hgs, _⟩ := ensureImpl_good g1.inv he
    obtain ⟨g3, _⟩ := insertCell_good g2.inv him first (.made fn) (SlotOK.mk_valid (hf.mono hgs.le) _)
    exact ((g1.trans g2).trans g3).congr rfl rfl rfl rfl (Nat.le_refl _)
  | setCK _ => exact .of_core h rfl rfl rfl rfl (Nat.le_refl _)

theorem good_built {s s' : St} (b : Built s s') (h : Inv s) : Good0 s s' := by
  induction b with
  | refl => exact .refl h
  | step m _ ih => exact (good_move m h).andThen ih

theorem stepSimple_good {s s' : St} {op : Op} {r : String} (h : Inv s)
    (hs : stepSimple s op = some (s', r)) : Good0 s s' :=
  good_built (stepSimple_built hs) h

/-! `stepSimple_good` at each operation, one name per operation: the entry of C01 in MANIFEST.json rests on the theorems of
`Sigc/Lemmas/Emit*.lean` -/

theorem step_newT {s s' : St} {r : String} (t : Nat) (h : Inv s) (hs : stepSimple s (.newT t) = some (s', r)) :
    Good0 s s' :=
  stepSimple_good h hs

theorem step_delT {s s' : St} {r : String} (t : Nat) (h : Inv s) (hs : stepSimple s (.delT t) = some (s', r)) :
    Good0 s s' :=
  stepSimple_good h hs

theorem step_notifyT {s s' : St} {r : String} (t : Nat) (h : Inv s) (hs : stepSimple s (.notifyT t) = some (s', r)) :
    Good0 s s' :=
  stepSimple_good h hs

theorem step_cpT {s s' : St} {r : String} (j i : Nat) (h : Inv s) (hs : stepSimple s (.cpT j i) = some (s', r)) :
    Good0 s s' :=
  stepSimple_good h hs

theorem step_mvT {s s' : St} {r : String} (j i : Nat) (h : Inv s) (hs : stepSimple s (.mvT j i) = some (s', r)) :
    Good0 s s' :=
  stepSimple_good h hs

theorem step_asgT {s s' : St} {r : String} (j i : Nat) (h : Inv s) (hs : stepSimple s (.asgT j i) = some (s', r)) :
    Good0 s s' :=
  stepSimple_good h hs

theorem step_masgT {s s' : St} {r : String} (j i : Nat) (h : Inv s) (hs : stepSimple s (.masgT j i) = some (s', r)) :
    Good0 s s' :=
  stepSimple_good h hs

theorem step_newC {s s' : St} {r : String} (i : Nat) (h : Inv s) (hs : stepSimple s (.newC i) = some (s', r)) :
    Good0 s s' :=
  stepSimple_good h hs

theorem step_cpC {s s' : St} {r : String} (j i : Nat) (h : Inv s) (hs : stepSimple s (.cpC j i) = some (s', r)) :
    Good0 s s' :=
  stepSimple_good h hs

theorem step_asgC {s s' : St} {r : String} (j i : Nat) (h : Inv s) (hs : stepSimple s (.asgC j i) = some (s', r)) :
    Good0 s s' :=
  stepSimple_good h hs

theorem step_delC {s s' : St} {r : String} (i : Nat) (h : Inv s) (hs : stepSimple s (.delC i) = some (s', r)) :
    Good0 s s' :=
  stepSimple_good h hs

theorem step_disc {s s' : St} {r : String} (i : Nat) (h : Inv s) (hs : stepSimple s (.disc i) = some (s', r)) :
    Good0 s s' :=
  stepSimple_good h hs

theorem step_connectedq {s s' : St} {r : String} (i : Nat) (h : Inv s) (hs : stepSimple s (.connectedq i) = some (s', r)) :
    Good0 s s' :=
  stepSimple_good h hs

theorem step_emptyCq {s s' : St} {r : String} (i : Nat) (h : Inv s) (hs : stepSimple s (.emptyCq i) = some (s', r)) :
    Good0 s s' :=
  stepSimple_good h hs

theorem step_blockedCq {s s' : St} {r : String} (i : Nat) (h : Inv s) (hs : stepSimple s (.blockedCq i) = some (s', r)) :
    Good0 s s' :=
  stepSimple_good h hs

theorem step_blockC {s s' : St} {r : String} (i : Nat) (b : Bool) (h : Inv s) (hs : stepSimple s (.blockC i b) = some (s', r)) :
    Good0 s s' :=
  stepSimple_good h hs

theorem step_newK0 {s s' : St} {r : String} (i : Nat) (h : Inv s) (hs : stepSimple s (.newK0 i) = some (s', r)) :
    Good0 s s' :=
  stepSimple_good h hs

theorem step_newK {s s' : St} {r : String} (i c : Nat) (h : Inv s) (hs : stepSimple s (.newK i c) = some (s', r)) :
    Good0 s s' :=
  stepSimple_good h hs

theorem step_asgKC {s s' : St} {r : String} (i c : Nat) (h : Inv s) (hs : stepSimple s (.asgKC i c) = some (s', r)) :
    Good0 s s' :=
  stepSimple_good h hs

theorem step_mvK {s s' : St} {r : String} (j i : Nat) (h : Inv s) (hs : stepSimple s (.mvK j i) = some (s', r)) :
    Good0 s s' :=
  stepSimple_good h hs

theorem step_masgK {s s' : St} {r : String} (j i : Nat) (h : Inv s) (hs : stepSimple s (.masgK j i) = some (s', r)) :
    Good0 s s' :=
  stepSimple_good h hs

theorem step_swapK {s s' : St} {r : String} (i j : Nat) (h : Inv s) (hs : stepSimple s (.swapK i j) = some (s', r)) :
    Good0 s s' :=
  stepSimple_good h hs

theorem step_relK {s s' : St} {r : String} (c k : Nat) (h : Inv s) (hs : stepSimple s (.relK c k) = some (s', r)) :
    Good0 s s' :=
  stepSimple_good h hs

theorem step_discK {s s' : St} {r : String} (i : Nat) (h : Inv s) (hs : stepSimple s (.discK i) = some (s', r)) :
    Good0 s s' :=
  stepSimple_good h hs

theorem step_delK {s s' : St} {r : String} (i : Nat) (h : Inv s) (hs : stepSimple s (.delK i) = some (s', r)) :
    Good0 s s' :=
  stepSimple_good h hs

theorem step_connectedKq {s s' : St} {r : String} (i : Nat) (h : Inv s) (hs : stepSimple s (.connectedKq i) = some (s', r)) :
    Good0 s s' :=
  stepSimple_good h hs

theorem step_blockedKq {s s' : St} {r : String} (i : Nat) (h : Inv s) (hs : stepSimple s (.blockedKq i) = some (s', r)) :
    Good0 s s' :=
  stepSimple_good h hs

theorem step_blockK {s s' : St} {r : String} (i : Nat) (b : Bool) (h : Inv s) (hs : stepSimple s (.blockK i b) = some (s', r)) :
    Good0 s s' :=
  stepSimple_good h hs

theorem step_sizeq {s s' : St} {r : String} (g : Nat) (h : Inv s) (hs : stepSimple s (.sizeq g) = some (s', r)) :
    Good0 s s' :=
  stepSimple_good h hs

theorem step_emptyGq {s s' : St} {r : String} (g : Nat) (h : Inv s) (hs : stepSimple s (.emptyGq g) = some (s', r)) :
    Good0 s s' :=
  stepSimple_good h hs

theorem step_blockedGq {s s' : St} {r : String} (g : Nat) (h : Inv s) (hs : stepSimple s (.blockedGq g) = some (s', r)) :
    Good0 s s' :=
  stepSimple_good h hs

theorem step_blockedSq {s s' : St} {r : String} (i : Nat) (h : Inv s) (hs : stepSimple s (.blockedSq i) = some (s', r)) :
    Good0 s s' :=
  stepSimple_good h hs

theorem step_emptySq {s s' : St} {r : String} (i : Nat) (h : Inv s) (hs : stepSimple s (.emptySq i) = some (s', r)) :
    Good0 s s' :=
  stepSimple_good h hs

theorem step_boolSq {s s' : St} {r : String} (i : Nat) (h : Inv s) (hs : stepSimple s (.boolSq i) = some (s', r)) :
    Good0 s s' :=
  stepSimple_good h hs

theorem step_misc {s s' : St} {r : String} (h : Inv s) :
    (∀ fid, stepSimple s (.liveq fid) = some (s', r) → Good0 s s') ∧
    (stepSimple s .mark = some (s', r) → Good0 s s') ∧
    (stepSimple s .allocsq = some (s', r) → Good0 s s') ∧
    (stepSimple s .bad = some (s', r) → Good0 s s') :=
  ⟨fun _ => stepSimple_good h, stepSimple_good h, stepSimple_good h, stepSimple_good h⟩

theorem step_mkS {s s' : St} {r : String} (i : Nat) (ty : String) (spec : FSpec) (h : Inv s)
    (hs : stepSimple s (.mkS i ty spec) = some (s', r)) : Good0 s s' :=
  stepSimple_good h hs

theorem step_mkS0 {s s' : St} {r : String} (i : Nat) (ty : String) (h : Inv s)
    (hs : stepSimple s (.mkS0 i ty) = some (s', r)) : Good0 s s' :=
  stepSimple_good h hs

theorem step_cpS {s s' : St} {r : String} (j i : Nat) (h : Inv s)
    (hs : stepSimple s (.cpS j i) = some (s', r)) : Good0 s s' :=
  stepSimple_good h hs

theorem step_mvS {s s' : St} {r : String} (j i : Nat) (h : Inv s)
    (hs : stepSimple s (.mvS j i) = some (s', r)) : Good0 s s' :=
  stepSimple_good h hs

theorem step_delS {s s' : St} {r : String} (i : Nat) (h : Inv s)
    (hs : stepSimple s (.delS i) = some (s', r)) : Good0 s s' :=
  stepSimple_good h hs

theorem step_discS {s s' : St} {r : String} (i : Nat) (h : Inv s)
    (hs : stepSimple s (.discS i) = some (s', r)) : Good0 s s' :=
  stepSimple_good h hs

theorem step_blockS {s s' : St} {r : String} (i : Nat) (b : Bool) (h : Inv s)
    (hs : stepSimple s (.blockS i b) = some (s', r)) : Good0 s s' :=
  stepSimple_good h hs

theorem step_setS {s s' : St} {r : String} (i : Nat) (spec : FSpec) (h : Inv s)
    (hs : stepSimple s (.setS i spec) = some (s', r)) : Good0 s s' :=
  stepSimple_good h hs

theorem step_asgS {s s' : St} {r : String} (j i : Nat) (h : Inv s)
    (hs : stepSimple s (.asgS j i) = some (s', r)) : Good0 s s' :=
  stepSimple_good h hs

theorem step_masgS {s s' : St} {r : String} (j i : Nat) (h : Inv s)
    (hs : stepSimple s (.masgS j i) = some (s', r)) : Good0 s s' :=
  stepSimple_good h hs

theorem step_newG {s s' : St} {r : String} (i : Nat) (fl : Option Flavour) (h : Inv s)
    (hs : stepSimple s (.newG i fl) = some (s', r)) : Good0 s s' :=
  stepSimple_good h hs

theorem step_cpG {s s' : St} {r : String} (j i : Nat) (h : Inv s)
    (hs : stepSimple s (.cpG j i) = some (s', r)) : Good0 s s' :=
  stepSimple_good h hs

theorem step_mvG {s s' : St} {r : String} (j i : Nat) (h : Inv s)
    (hs : stepSimple s (.mvG j i) = some (s', r)) : Good0 s s' :=
  stepSimple_good h hs

theorem step_asgG {s s' : St} {r : String} (j i : Nat) (h : Inv s)
    (hs : stepSimple s (.asgG j i) = some (s', r)) : Good0 s s' :=
  stepSimple_good h hs

theorem step_masgG {s s' : St} {r : String} (j i : Nat) (h : Inv s)
    (hs : stepSimple s (.masgG j i) = some (s', r)) : Good0 s s' :=
  stepSimple_good h hs

/-- a functor-owned signal object dies (its entry, and possibly others, removed from `ownedG`) -/
theorem good_dropOwned {s : St} (h : Inv s) (O' : List (Nat × Nat)) (hsub : ∀ p ∈ O', p ∈ s.ownedG)
    {k g : Nat} (hmem : (k, g) ∈ s.ownedG) : Good0 s (dropHandle { s with ownedG := O' } g) := by
  have g0 : Good0 s { s with ownedG := O' } := (Good.refl h).congrSub rfl rfl rfl rfl (Nat.le_refl _) hsub
  exact g0.trans (good_dropHandle g0.inv g (fun hd hg he => h.own (k, g) hmem hd hg he))

theorem good_collectStep {s s' : St} (h : Inv s) (hc : collectStep s = some s') : Good0 s s' := by
  unfold collectStep at hc
  split at hc
  · cases hc
    exact .of_core_then h fun h => good_invalidateTrackable h _
  · split at hc
    · cases hc
      exact .of_core_then h fun h => good_optDisconnect h _
    · split at hc
      · rename_i k g hf
        cases hc
        exact good_dropOwned h _ (fun p hp => (List.mem_filter.mp hp).1) (List.mem_of_find?_eq_some hf)
      · contradiction

theorem good_collect {s : St} (h : Inv s) : Good0 s (collect s) :=
  Inv.collect_preserved (I := Good0 s) (fun _ _ g hc => g.trans (good_collectStep g.inv hc)) s (Good.refl h)

end Sigc.Emit
