import Sigc.Lemmas.InvWF
/-! concrete example states used by the `example`s of the property files -/
namespace Sigc.Inv
open Sigc.Model

/-- one signal object (`G 0`) whose impl 3 has one linked, valid cell (id 4), and two copies of its connection (`C 0`, `C 1`) -/
def exS : St :=
  { G := [(0, { obj := 1, fl := .V, impl := some 3, trk := 2, lvl := 0 })],
    impls := [(3, { cells := [{ id := 4, slot := { rep := some { call := true, fn := some (.leaf 1 []) } },
                                 linked := true }] })],
    C := [(0, some 4), (1, some 4)], next := 5 }

theorem WFI.single {k n : Nat} {im : Impl} (hN : (im.cells.map (·.id)).Nodup) (hk : k < n)
    (hlt : ∀ c ∈ im.cells, c.id < n) : WFI [(k, im)] n := by
  have key : ∀ i jm, aget [(k, im)] i = some jm → i = k ∧ jm = im := by
    intro i jm h
    simp only [aget] at h
    split at h
    · rename_i e; cases h; exact ⟨e.symm, rfl⟩
    · cases h
  refine ⟨by simp, fun i jm h => (key i jm h).2 ▸ hN,
    fun i j _ _ _ _ hi hj _ _ _ => (key _ _ hi).1.trans (key _ _ hj).1.symm, fun i jm h => (key i jm h).1 ▸ hk,
    fun i jm c h hc => hlt c ?_⟩
  rw [← (key i jm h).2]; exact hc

theorem exS_wf : WF exS := WFI.single (by decide) (by decide) (by decide)

/-- a trackable `t0 ↦ object 7`, a user slot bound to it, and a copy of that slot connected to a signal -/
def exT : St :=
  { T := [(0, 7)],
    S := [(0, { isVoid := true, slot := { rep := some { call := true, fn := some (.leaf 1 [7]) } } })],
    G := [(0, { obj := 1, fl := .V, impl := some 3, trk := 2, lvl := 0 })],
    impls := [(3, { cells := [{ id := 4, slot := { rep := some { call := true, fn := some (.leaf 1 [7]) } },
                                 linked := true }] })],
    C := [(0, some 4)], next := 8 }

theorem exT_wf : WF exT := WFI.single (by decide) (by decide) (by decide)

end Sigc.Inv
