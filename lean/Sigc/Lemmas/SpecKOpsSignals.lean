import Sigc.Lemmas.SpecKPrimFun
import Sigc.Lemmas.SpecKStepR
/-!
# SpecKOpsSignals — `stepSimple` on related states: the operations on signal objects and `conn`, `connfn` that change the
state in several steps (`SpecKSimOps` says which arms have a lemma); for the arms in place: `newHandle`, `onList_sim`,
`idle_query`, `liveCount_sim`
-/
namespace Sigc.SpecK
open Sigc.Model Sigc.Spec
open Sigc.Emit (aget_of_mem_nodup)

section
variable {ρ : IdRel} {t u : LSt}

theorem Step.fresh2_of_eq {ρ : IdRel} {t t' u u' : LSt} (h1 : t'.next = t.next + 1 + 1) (h2 : u'.next = u.next + 1 + 1) :
    Step ρ (ext (ext ρ t.next u.next) (t.next + 1) (u.next + 1)) t t' u u' :=
  (Step.fresh_of_eq (t' := { t with next := t.next + 1 }) (u' := { u with next := u.next + 1 }) rfl rfl).trans
    (Step.fresh_of_eq (t := { t with next := t.next + 1 }) (u := { u with next := u.next + 1 }) h1 h2)

theorem ext2_sub (ρ : IdRel) (a b c d : Nat) : ∀ x y, ρ x y → ext (ext ρ a b) c d x y :=
  fun _ _ h => ext_sub _ _ _ _ _ (ext_sub _ _ _ _ _ h)

/-- a new signal object (two allocations on both sides: the object and its trackable identity) named `j`, with
    the flavour, list and level of related signal objects -/
theorem newHandle (h : Q ρ t u) (j : Nat) {fl fl' : Flavour} (hfl : fl' = fl) {lvl lvl' : Nat} (hl : lvl' = lvl)
    {p p' : Option Nat} (hp : OR ρ p p') (r : String) :
    StepR ρ t u
      (some ({ t with next := t.next + 1 + 1,
                      G := aset t.G j { obj := t.next, fl := fl, impl := p, trk := t.next + 1, lvl := lvl } }, r))
      (some ({ u with next := u.next + 1 + 1,
                      G := aset u.G j { obj := u.next, fl := fl', impl := p', trk := u.next + 1, lvl := lvl' } }, r)) :=
  .ok _ _ (h.fresh.fresh.setG (h.fresh.fresh.G.set j
      ⟨ext_sub _ _ _ _ _ (ext_new _ _ _), hfl, hp.imp (ext2_sub _ _ _ _ _), ext_new _ _ _, hl, rfl⟩))
    (Step.fresh2_of_eq rfl rfl) (Fr.of_eq rfl rfl)

/-- the common tail "`if c then invalidateTrackable s o else s`" -/
theorem ite_inval_step {c c' : Bool} (hc : c' = c) (h : Q ρ t u) {o o' : Nat} (ho : ρ o o') {r : String} :
    StepR ρ t u (some (if c = true then Spec.invalidateTrackable t o else t, r))
      (some (if c' = true then Spec.invalidateTrackable u o' else u, r)) := by
  subst hc
  cases c'
  · exact .same h _
  · exact .of0 (invalidateTrackable_sim h ho) _

theorem step_cpG (h : Q ρ t u) (j i : Nat) : StepR ρ t u (Spec.stepSimple t (.cpG j i)) (Spec.stepSimple u (.cpG j i)) := by
  dsimp only [Spec.stepSimple, LSt.fresh]
  refine (h.G.get i).on (.same h _) fun _ => (h.G.get j).on ?_ fun _ => .same h _
  refine ensureSig_on h i (.same h _) fun h1 him hs1 hf1 => .after hs1 hf1 ?_
  dsimp only
  exact (h1.G.get i).on (.same h1 _) fun hh => newHandle h1 j hh.fl hh.lvl (.some him) _

theorem step_mvG (h : Q ρ t u) (j i : Nat) : StepR ρ t u (Spec.stepSimple t (.mvG j i)) (Spec.stepSimple u (.mvG j i)) := by
  dsimp only [Spec.stepSimple, LSt.fresh]
  refine (h.G.get i).on (.same h _) fun {h0 h0'} hh => (h.G.get j).on ?_ fun _ => .same h _
  dsimp only
  refine .ite_iff (by rw [hh.fl]) (fun _ => ?_) (fun _ => ?_)
  · exact ensureSig_on h i (.same h _) fun h1 him hs1 hf1 => .after hs1 hf1 (newHandle h1 j hh.fl hh.lvl (.some him) _)
  · have hh2 : HandR (ext (ext ρ t.next u.next) (t.next + 1) (u.next + 1)) h0 h0' := hh.mono (ext2_sub _ _ _ _ _)
    have h2 := h.fresh.fresh.setG (AR.set (AR.set h.fresh.fresh.G i (a := { h0 with impl := none })
      (b := { h0' with impl := none }) ⟨hh2.obj, hh2.fl, .none, hh2.trk, hh2.lvl, hh2.everFwd⟩) j
      (a := { obj := t.next, fl := h0.fl, impl := h0.impl, trk := t.next + 1, lvl := h0.lvl })
      (b := { obj := u.next, fl := h0'.fl, impl := h0'.impl, trk := u.next + 1, lvl := h0'.lvl })
      ⟨ext_sub _ _ _ _ _ (ext_new _ _ _), hh.fl, hh2.impl, ext_new _ _ _, hh.lvl, rfl⟩)
    refine .after ?_ ?_ (ite_inval_step (by rw [hh.fl]) h2 hh2.trk)
    · exact Step.fresh2_of_eq rfl rfl
    · exact Fr.of_eq rfl rfl

/-- `asgG`, and `masgG` of accumulated flavour: `j` shares the list of `i` -/
theorem share_sim (h : Q ρ t u) (j i : Nat) {d d' : Handle} (hd : HandR ρ d d') :
    StepR ρ t u
      (match ensureSig t i with
        | none => some (t, "dead")
        | some (s, im) =>
          if d.impl = some im then some (s, "ok") else
          some ((match d.impl with
            | some old => gcSig { s with G := aset s.G j { d with impl := some im } } old
            | none => { s with G := aset s.G j { d with impl := some im } }), "ok"))
      (match ensureSig u i with
        | none => some (u, "dead")
        | some (s, im) =>
          if d'.impl = some im then some (s, "ok") else
          some ((match d'.impl with
            | some old => gcSig { s with G := aset s.G j { d' with impl := some im } } old
            | none => { s with G := aset s.G j { d' with impl := some im } }), "ok")) := by
  refine ensureSig_on h i (.same h _) fun {t1 u1 im im' _} h1 him hs1 hf1 => ?_
  have hd1 := hd.mono hs1.sub
  refine .after hs1 hf1 (.ite_iff ?_ (fun _ => .same h1 _) (fun _ => ?_))
  · have := hd1.impl.eq_some h1.pb him
    rwa [Bool.eq_iff_iff, decide_eq_true_iff, decide_eq_true_iff] at this
  · have h2 := h1.setG (h1.G.set j (a := { d with impl := some im }) (b := { d' with impl := some im' })
      ⟨hd1.obj, hd1.fl, .some him, hd1.trk, hd1.lvl, hd1.everFwd⟩)
    exact .of0 ((Sim0.onSome h2 hd1.impl (gcSig_sim h2)).pre (t := t1) (u := u1) rfl rfl rfl rfl) _

theorem step_asgG (h : Q ρ t u) (j i : Nat) : StepR ρ t u (Spec.stepSimple t (.asgG j i)) (Spec.stepSimple u (.asgG j i)) := by
  dsimp only [Spec.stepSimple]
  exact (h.G.get j).on (.same h _) fun hd => (h.G.get i).on (.same h _) fun hh =>
    .ite_iff (by rw [hd.fl, hh.fl]) (fun _ => .same h _) fun _ =>
      .ite_iff (by rw [hd.lvl, hh.lvl]) (fun _ => .same h _) fun _ => .ite (fun _ => .same h _) fun _ => share_sim h j i hd

theorem step_masgG (h : Q ρ t u) (j i : Nat) :
    StepR ρ t u (Spec.stepSimple t (.masgG j i)) (Spec.stepSimple u (.masgG j i)) := by
  dsimp only [Spec.stepSimple]
  refine (h.G.get j).on (.same h _) fun {d d'} hd => (h.G.get i).on (.same h _) fun {hi hi'} hh => ?_
  refine .ite_iff (by rw [hd.fl, hh.fl]) (fun _ => .same h _) fun _ =>
    .ite_iff (by rw [hd.lvl, hh.lvl]) (fun _ => .same h _) fun _ =>
    .ite_iff (by rw [hh.fl, h.ownedG_any i, h.ownedG_any j]) (fun _ => .same h _) fun _ =>
    .ite_iff (by rw [hh.fl]) (fun _ => .ite (fun _ => .same h _) fun _ => share_sim h j i hd) fun _ =>
    .ite (fun _ => .same h _) fun _ => ?_
  -- the move proper: `j` takes the list of `i`, whose forwarders are invalidated
  have h2 := h.setG (AR.set (AR.set h.G j (a := { d with impl := hi.impl }) (b := { d' with impl := hi'.impl })
    ⟨hd.obj, hd.fl, hh.impl, hd.trk, hd.lvl, hd.everFwd⟩) i (a := { hi with impl := none }) (b := { hi' with impl := none })
    ⟨hh.obj, hh.fl, .none, hh.trk, hh.lvl, hh.everFwd⟩)
  have h3 := (Sim0.onSome h2 hd.impl (gcSig_sim h2)).pre (t := t) (u := u) rfl rfl rfl rfl
  exact .after h3.step h3.fr (ite_inval_step (by rw [hh.fl, hh.impl.isSome]) h3.q hh.trk)

theorem step_conn (h : Q ρ t u) (k g sv : Nat) (first mv : Bool) :
    StepR ρ t u (Spec.stepSimple t (.conn k g sv first mv)) (Spec.stepSimple u (.conn k g sv first mv)) := by
  dsimp only [Spec.stepSimple]
  refine (h.G.get g).on (.same h _) fun hh => (h.S.get sv).on (.same h _) fun {v v'} hv => ?_
  refine .ite_iff (by rw [hh.fl, hv.isVoid]) (fun _ => .same h _) fun _ =>
    .ite_iff (by rw [hv.taint, hh.lvl]) (fun _ => .same h _) fun _ =>
    .ite_iff (by rw [hv.incall]) (fun _ => .same h _) fun _ => ?_
  refine ensureSig_on h g (.same h _) fun {t1 u1 _ _ _} h1 him hs1 hf1 => .after hs1 hf1 ?_
  have hv1 := hv.mono hs1.sub
  cases mv with
  | false =>
    obtain ⟨ρ2, h2, hcid, hs2, hf2⟩ := insertCell_sim h1 him first hv1.slot.copy
    exact .ok _ ρ2 (h2.setC (h2.C.set k (.some hcid))) (hs2.congr rfl rfl rfl rfl) (hf2.trans (Fr.of_eq rfl rfl))
  | true =>
    have h1' := h1.setS (AR.set h1.S sv (a := { v with slot := v.slot.move.2 }) (b := { v' with slot := v'.slot.move.2 })
      ⟨hv.isVoid, hv1.slot.move2, hv.incall, hv.taint⟩)
    obtain ⟨ρ2, h2, hcid, hs2, hf2⟩ := insertCell_sim h1' him first hv1.slot.move1
    exact .ok _ ρ2 (h2.setC (h2.C.set k (.some hcid))) (hs2.congr rfl rfl rfl rfl)
      ((hf2.pre (t := t1) rfl rfl).trans (Fr.of_eq rfl rfl))

theorem step_connfn (h : Q ρ t u) (k g : Nat) (spec : FSpec) (first : Bool) :
    StepR ρ t u (Spec.stepSimple t (.connfn k g spec first)) (Spec.stepSimple u (.connfn k g spec first)) := by
  dsimp only [Spec.stepSimple]
  refine (h.G.get g).on (.same h _) fun {hd hd'} hh => ?_
  dsimp only
  rw [hh.fl]
  match Spec.mkFun t hd.fl.isVoid spec, Spec.mkFun u hd.fl.isVoid spec, mkFun_sim h hd.fl.isVoid spec with
  | _, _, .err e => exact .same h _
  | _, _, @MkR.ok _ _ _ fn fn' _ _ ρ0 hf h0 hs0 hf0 =>
    refine .ite_iff (by rw [hh.lvl, specTaint_sim h spec]) (fun _ => .ok _ ρ0 h0 hs0 hf0) fun _ => ?_
    refine ensureSig_on h0 g (.same h _) fun h1 him hs1 hf1 => .after (hs0.trans hs1) (hf0.trans hf1) ?_
    obtain ⟨ρ2, h2, hcid, hs2, hf2⟩ := insertCell_sim h1 him first
      (sl := { blocked := false, rep := some { call := true, fn := some fn } })
      (sl' := { blocked := false, rep := some { call := true, fn := some fn' } })
      ⟨rfl, .some ⟨rfl, .some (hf.mono hs1.sub)⟩⟩
    exact .ok _ ρ2 (h2.setC (h2.C.set k (.some hcid))) (hs2.congr rfl rfl rfl rfl) (hf2.trans (Fr.of_eq rfl rfl))

theorem onList_sim (h : Q ρ t u) (g : Nat) (dead nolist : String) {F F' : Nat → LSig → Option (LSt × String)}
    (hF : ∀ im im' x x', ρ im im' → aget t.sigs im = some x → aget u.sigs im' = some x' → SigR ρ x x' →
      SigInv t.next x → StepR ρ t u (F im x) (F' im' x')) :
    StepR ρ t u (onList t g (some (t, dead)) (some (t, nolist)) F)
      (onList u g (some (u, dead)) (some (u, nolist)) F') := by
  unfold onList
  refine (h.G.get g).on (.same h _) fun hh => ?_
  dsimp only
  refine hh.impl.on (.same h _) fun {im im'} him => ?_
  dsimp only
  match hx : aget t.sigs im, hy : aget u.sigs im', h.sig_get him with
  | _, _, .none => exact .same h _
  | _, _, .some hr => exact hF _ _ _ _ him hx hy hr (h.sig_inv hx).2

/-- an answer about the entries of an idle list (`*` while an emission of it runs) -/
theorem idle_query (h : Q ρ t u) {x x' : LSig} (hr : SigR ρ x x') {n : Nat} (hv : SigInv n x) {q q' : String}
    (hq : F2 (CellR ρ) x.cells x'.cells → q' = q) :
    StepR ρ t u (some (t, if x.active > 0 then "*" else q)) (some (u, if x'.active > 0 then "*" else q')) := by
  rw [hr.active]
  split
  · exact .same h _
  · rw [hq (by have := hr.cells; rwa [filter_live_idle hv (by omega)] at this)]; exact .same h _

/-- `liveCount` adds up the functor copies in the entries of every list: on the one side that includes the zombie entries of
    a list being emitted, on the other not what `limbo` holds for them.  With no emission in progress there are neither,
    which is what `Quiet` is for (`live?` answers `*` inside functor bodies) -/
theorem liveCount_sim (h : Q ρ t u) (hq : ∀ i, act t i = 0) (fid : Nat) :
    Spec.liveCount u fid = Spec.liveCount t fid := by
  unfold Spec.liveCount
  congr 1
  · exact congrArg List.sum (F2.map_eq h.S _ _ (fun a b hr => (hr.2.slot.live fid).symm)).symm
  · refine congrArg List.sum (h.sigs.attach.map_eq _ _ (fun p q hr => ?_)).symm
    have ha : p.2.active = 0 := by
      have := hq p.1
      simp only [act, aget_of_mem_nodup h.keys (k := p.1) (v := p.2) hr.1] at this
      exact this
    have hc := hr.2.2.2.cells
    rw [filter_live_idle (h.inv p hr.1).2 ha] at hc
    exact congrArg List.sum (F2.map_eq hc _ _ (fun a b hab => (hab.slot.live fid).symm))

end

end Sigc.SpecK
