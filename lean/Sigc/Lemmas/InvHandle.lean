import Sigc.Lemmas.InvWF
/-!
# `HOK`: a signal object never refers to a destroyed `signal_impl`

every handle in `s.G` with `impl = some i` has `aget s.impls i ≠ none` (the `shared_ptr` is never
dangling: `gcImpl` removes an impl only when no handle refers to it).
-/
namespace Sigc.Inv
open Sigc.Model
open Sigc.Emit (aget_aset aget_adel)

def HOKI (impls : List (Nat × Impl)) (G : List (Nat × Handle)) : Prop :=
  ∀ p ∈ G, ∀ i, p.2.impl = some i → ∃ im, aget impls i = some im

def HOK (s : St) : Prop := HOKI s.impls s.G

theorem HOK.init : HOK {} := by intro p hp; cases hp

theorem HOKI.get {impls : List (Nat × Impl)} {G : List (Nat × Handle)} (h : HOKI impls G) {g : Nat} {hd : Handle}
    (hg : aget G g = some hd) {i : Nat} (hi : hd.impl = some i) : ∃ im, aget impls i = some im :=
  h (g, hd) (mem_of_aget hg) i hi

theorem HOKI.impls_mono {impls impls' : List (Nat × Impl)} {G : List (Nat × Handle)} (h : HOKI impls G)
    (hm : ∀ i im, aget impls i = some im → ∃ im', aget impls' i = some im') : HOKI impls' G := by
  intro p hp i hi
  obtain ⟨im, him⟩ := h p hp i hi
  exact hm i im him

theorem HOKI.aset_impls {impls : List (Nat × Impl)} {G : List (Nat × Handle)} (h : HOKI impls G) (i : Nat)
    (im' : Impl) : HOKI (aset impls i im') G :=
  h.impls_mono (fun j jm hj => by
    rw [aget_aset]; split
    · exact ⟨_, rfl⟩
    · exact ⟨jm, hj⟩)

theorem HOKI.aset_G {impls : List (Nat × Impl)} {G : List (Nat × Handle)} (h : HOKI impls G) (g : Nat)
    (hd : Handle) (hh : ∀ i, hd.impl = some i → ∃ im, aget impls i = some im) : HOKI impls (aset G g hd) :=
  all_aset (P := fun hd : Handle => ∀ i, hd.impl = some i → ∃ im, aget impls i = some im) h g hh

theorem HOKI.adel_G {impls : List (Nat × Impl)} {G : List (Nat × Handle)} (h : HOKI impls G) (g : Nat) :
    HOKI impls (adel G g) := fun p hp => h p (mem_adel hp).1

theorem HOK.prims : PrimsA HOK where
  upd s i im g e d _ h _ _ := HOKI.aset_impls h _ _
  filter s i im p d ids _ h _ _ := by
    show HOKI (nullConnsList _ _).impls (nullConnsList _ _).G
    simp only [nullConnsList_impls, nullConnsList_G]
    exact HOKI.aset_impls h _ _
  delImpl s i im _ h _ _ hg := by
    show HOKI (nullConnsList _ _).impls (nullConnsList _ _).G
    simp only [nullConnsList_impls, nullConnsList_G]
    intro p hp j hj
    obtain ⟨jm, hjm⟩ := h p hp j hj
    refine ⟨jm, ?_⟩
    rw [aget_adel]
    split
    · rename_i e
      subst e
      have : (s.G.any fun p => decide (p.2.impl = some j)) = true :=
        List.any_eq_true.2 ⟨p, hp, by simpa using hj⟩
      rw [this] at hg; cases hg
    · exact hjm
  invalS s t _ h := h

/-- second component: the impl returned exists (the `connfn` case of `Ptrs.move` needs it) -/
theorem HOK.ensureImpl {s s1 : St} {g i : Nat} (h : HOK s) (he : ensureImpl s g = some (s1, i)) :
    HOK s1 ∧ ∃ im, aget s1.impls i = some im := by
  obtain ⟨hd, hg, ⟨hj, rfl⟩ | ⟨_, rfl, rfl⟩⟩ := ensureImpl_cases he
  · exact ⟨h, h.get hg hj⟩
  · refine ⟨?_, ⟨{}, by simp⟩⟩
    refine HOKI.aset_G (HOKI.aset_impls h _ _) _ _ ?_
    intro i hi
    simp only [Option.some.injEq] at hi
    subst hi
    exact ⟨{}, by simp⟩

theorem HOK.mkFun {s s' : St} {fn : Fun} {t : Int} (h : HOK s) (m : MkFun s t fn s') : HOK s' := by
  unfold HOK
  rw [m.frame.1]
  rcases m.G with e | ⟨g, hd, hg, e⟩
  · rw [e]; exact h
  · rw [e]
    exact HOKI.aset_G h _ _ (fun i hi => h.get hg hi)

theorem HOK.grow : Grow (fun _ => True) HOK :=
  ⟨fun _ _ h => h, fun _ _ _ _ h _ => h.aset_impls _ _, fun _ _ _ _ _ _ _ h _ _ _ _ => h.aset_impls _ _⟩

theorem HOK.insertCell {s : St} (i : Nat) (first : Bool) (sl : SlotB) (h : HOK s) :
    HOK (insertCell s i first sl).fst := HOK.grow.insertCell i first trivial h

theorem hoki_aset_G {impls : List (Nat × Impl)} {G : List (Nat × Handle)} {g : Nat} {hd : Handle}
    (hh : ∀ i, hd.impl = some i → ∃ im, aget impls i = some im) (h : HOKI impls G) :
    HOKI impls (aset G g hd) := h.aset_G g hd hh

theorem HOK.held {s : St} (h : HOK s) {o : Option Nat} (hh : Held s.G o) :
    ∀ i, o = some i → ∃ im, aget s.impls i = some im := fun i e => by
  obtain ⟨g, hd, hg, hi⟩ := hh i e
  exact h.get hg hi

theorem HOK.forceDelG (s : St) (g : Nat) (hI : HOK s) : HOK (forceDelG s g) :=
  HOK.prims.dropHandle g (fun _ h => h.adel_G g) hI

theorem HOK.move {s s' : St} (m : Move s s') (h : HOK s) : HOK s' := by
  cases m with
  | lib l => exact HOK.prims.lib l h
  | newT _ => exact h
  | delT _ => exact HOK.prims.invalidateTrackable _ h
  | setS _ => exact h
  | made hm => exact HOK.mkFun h hm
  | mkS hm _ _ => exact (HOK.mkFun h hm :)
  | newG _ _ _ hh => exact HOKI.aset_G h _ _ (h.held hh.held)
  | ensure he => exact (HOK.ensureImpl h he).1
  | mvG hi _ => exact HOKI.aset_G (HOKI.aset_G h _ _ (fun _ e => by cases e)) _ _ (fun _ e => h.get hi e)
  | asgG _ hh => exact HOK.prims.gcOpt _ (HOKI.aset_G h _ _ (h.held hh.held))
  | masgG _ hi _ =>
    refine HOK.prims.gcOpt _ (HOKI.aset_G (HOKI.aset_G h _ _ ?_) _ _ ?_)
    · exact fun _ e => h.get hi e
    · exact fun _ e => nomatch e
  | drop _ => exact HOK.forceDelG _ _ h
  | conn _ _ _ _ => exact HOK.insertCell _ _ _ h
  | connMv _ _ _ _ => exact HOK.insertCell _ _ _ h
  | connfn _ _ hm he => exact HOK.insertCell _ _ _ (HOK.ensureImpl (HOK.mkFun h hm) he).1
  | setCK _ => exact h

theorem HOK.collect (s : St) (hI : HOK s) : HOK (collect s) :=
  HOK.prims.collect' (fun _ _ _ _ h => h) HOK.forceDelG hI

theorem HOK.stable : Stable HOK :=
  StableRel.ofPrims HOK.prims (fun _ _ _ _ _ h => h) (fun _ _ _ _ h _ => h) (fun _ _ => trivial) (fun m _ => HOK.move m) (fun s _ h => HOK.collect s h)
    (HOK.grow.emitPro fun _ => trivial) HOK.grow.dropHolder (fun s g _ h => HOK.forceDelG s g h)

theorem HOK.reachable (f : Nat) (P : Prog) (s : St) (h : runTop f P {} P.top = some s) : HOK s :=
  HOK.stable.runTop HOK.init f P s h

end Sigc.Inv
