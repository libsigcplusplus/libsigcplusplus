import Sigc.Lemmas.SpecKSimDefs
import Sigc.Lemmas.SpecKPrimFun
/-!
# SpecKSimEmit — the mutual induction on fuel: the step for `emitSig` (prologue, the `k2` shortcut, epilogue with the
deferred sweep)
-/
namespace Sigc.SpecK
open Sigc.Model Sigc.Spec
open Sigc.Emit (aset_aset)

theorem cEmit_some (f : Nat) (P : Prog) (s : LSt) (fl : Flavour) (i arg : Nat) (strat : Strat) (g : LSig)
    (hx : aget s.sigs i = some g) (b : Bool) (hk : s.k2 = b) :
    cEmit (f+1) P s fl (some i) arg strat =
      ((!fl.isAcc || g.active == 0) &&
      if (b && !fl.isAcc && g.cells.isEmpty) = true then true else
      ((if fl.isAcc = true then cStrat f P (proState s i g b) i (snapOf g b fl) arg (strat.forFlavour fl)
        else cTurns f P (proState s i g b) i (snapOf g b fl) arg 0) &&
      match (if fl.isAcc = true then Spec.runStrat f P (proState s i g b) i (snapOf g b fl) arg (strat.forFlavour fl)
             else Spec.turns f P (proState s i g b) i (snapOf g b fl) arg 0) with
      | none => true
      | some (s3, _, _) =>
        match aget s3.sigs i with
        | none => true
        | some g2 => sweepClear g2 s.next)) := by
  subst hk
  unfold cEmit clearEmit
  simp only [hx, LSt.fresh]
  rfl

section
variable {ρ : IdRel} {t u : LSt}

theorem SigR.cells_nil {g g' : LSig} (hg : SigR ρ g g') (he : g.cells = []) : g'.cells = [] := by
  have := hg.cells
  rw [he] at this
  exact List.length_eq_zero_iff.mp this.length.symm

theorem epi_empty (g' : LSig) (m' : Nat) (he' : g'.cells = []) (hd : g'.dirty = false) :
    epi { g' with active := g'.active + 1, cells := g'.cells } m'
      = { g' with cells := [], limbo := if g'.active = 0 then [] else g'.limbo } := by
  by_cases ha : g'.active = 0
  · unfold epi
    simp [he', hd, ha]
  · unfold epi
    simp [he', hd, ha]

/-- the second configuration's emission of an empty list leaves the list as it was -/
theorem epi_empty_sim {g g' : LSig} (hg : SigR ρ g g') (he : g.cells = []) (m' : Nat) :
    SigR ρ g (epi { g' with active := g'.active + 1, cells := g'.cells } m') := by
  rw [epi_empty g' m' (hg.cells_nil he) hg.dirty]
  refine ⟨by rw [he]; exact .nil, hg.active, hg.dirty, hg.limbo, ?_, ?_, ?_⟩
  · intro c hc; rw [he] at hc; simp at hc
  · intro sl hsl f' hf'
    simp only at hsl
    split at hsl
    · simp at hsl
    · obtain ⟨c, hc, _⟩ := hg.hold2 sl hsl f' hf'
      rw [he] at hc; simp at hc
  · intro c hc; rw [he] at hc; simp at hc

end

theorem emit_succ (f : Nat) (ih : All f) : SEmit (f+1) := by
  intro P ρ t u fl impl impl' arg strat t' o v hq hst himp href hc hr
  refine (?_ : Sim ρ t u _ _ _) t' (o, v) hc hr
  cases himp with
  | none => unfold Spec.emitSig; exact .ret hq hst _
  | @some i i' hi =>
    cases hx : aget t.sigs i with
    | none =>
      have hy := (hq.sig_get hi).none_left hx
      unfold Spec.emitSig
      simp only [hx, hy]
      exact .to (Good.of0 (Sim0.fail hq _ _)) (hst.fail _) _
    | some g =>
      obtain ⟨g', hy, hg⟩ := (hq.sig_get hi).some_left hx
      have hv := (hq.sig_inv hx).2
      rw [emitSig_some f P t fl i arg strat g hx true hq.k2, cEmit_some f P t fl i arg strat g hx true hq.k2,
        emitSig_some (f+1) P u fl i' arg strat g' hy false hq.k2']
      simp only [Bool.false_and, Bool.false_eq_true, if_false, Bool.true_and]
      refine .and fun hk2 => ?_
      by_cases hsc : (!fl.isAcc && g.cells.isEmpty) = true
      · -- the `k2` shortcut of the first configuration
        rw [if_pos hsc, if_pos hsc]
        simp only [Bool.and_eq_true, Bool.not_eq_true', List.isEmpty_iff] at hsc
        obtain ⟨hna, he⟩ := hsc
        have hsnap : snapOf g' false fl = [] := by unfold snapOf; rw [hg.cells_nil he]; rfl
        rw [hna, hsnap]
        simp only [Bool.false_eq_true, if_false]
        unfold Spec.turns
        simp only
        have hps : aget (proState u i' g' false).sigs i' = some { g' with active := g'.active + 1, cells := g'.cells } := by
          unfold proState setSig
          simp
        rw [hps]
        simp only
        -- the second configuration's final state is `u` with one id burnt and the same list
        have hU : setSig (proState u i' g' false) i' (epi { g' with active := g'.active + 1, cells := g'.cells } u.next)
            = setSig { u with next := u.next + 1 } i' (epi { g' with active := g'.active + 1, cells := g'.cells } u.next) := by
          unfold proState setSig
          simp only [aset_aset]
        rw [hU]
        have hq1 : Q ρ t (setSig { u with next := u.next + 1 } i'
            (epi { g' with active := g'.active + 1, cells := g'.cells } u.next)) :=
          hq.burnU.setSigU hi hx (epi_empty_sim hg he _)
        have hrf : (setSig { u with next := u.next + 1 } i'
            (epi { g' with active := g'.active + 1, cells := g'.cells } u.next)).G.any
              (fun p => p.2.impl = some i') = true := by
          have := hq.any_impl hi
          rw [href i rfl] at this
          exact this
        rw [gcSig_ref hrf]
        have hcs : Settled (setSig { u with next := u.next + 1 } i'
            (epi { g' with active := g'.active + 1, cells := g'.cells } u.next)) := by
          rcases collectStep_sim hq1 with ⟨_, e2⟩ | ⟨t'', u'', e1, _, _⟩
          · exact e2
          · rw [hst] at e1; cases e1
        unfold Spec.collect
        rw [collectN_of_settled hcs]
        exact .to ⟨ρ, hq1, Step.of_le (Nat.le_refl _) (Nat.le_succ _), Fr.refl _⟩ hst _
      · -- prologue, turns, epilogue on both sides
        rw [if_neg hsc, if_neg hsc]
        have hsnapK : snapOf g true fl = (g.cells.filter live).map (·.id) := by
          unfold snapOf
          congr 1
          cases hacc : fl.isAcc
          · apply List.filter_congr
            intro c _; simp [live]
          · rw [hacc] at hk2
            simp only [Bool.not_true, Bool.false_or, beq_iff_eq] at hk2
            rw [filter_live_idle hv hk2]
            apply List.filter_eq_self.mpr
            intro c _; simp
        have hsnapP : snapOf g' false fl = g'.cells.map (·.id) := by
          unfold snapOf
          congr 1
          apply List.filter_eq_self.mpr
          intro c' hc'
          obtain ⟨a, _, hr'⟩ := hg.cells.mem_right hc'
          simp [hr'.marker, hr'.zombie]
        have hsn : F2 ρ (snapOf g true fl) (snapOf g' false fl) := by
          rw [hsnapK, hsnapP]
          exact F2.map hg.cells _ _ (fun a b hab => hab.id)
        have hq2 : Q ρ (proState t i g true) (proState u i' g' false) := by
          unfold proState
          simp only [if_true, Bool.false_eq_true, if_false]
          exact prologue_sim hq hi hx hg
        have hst2 : Settled (proState t i g true) := by
          unfold proState
          simp only [if_true]
          refine Settled.setSig (t := { t with next := t.next + 1 }) hst.congr
            hx (fun o => ?_) (fun o => ?_)
          · simp [SlotB.holdsT]
          · simp [SlotB.holdsK]
        have hact2 : ∀ j, act (proState t i g true) j = if j = i then g.active + 1 else act t j := by
          intro j
          unfold proState
          rw [act_setSig]
          split
          · rfl
          · rfl
        have hmks2 : ∀ j, mks (proState t i g true) j
            = if j = i then (g.cells.filter (·.marker)).map (·.id) ++ [t.next] else mks t j := by
          intro j
          unfold proState
          rw [mks_setSig]
          split
          · simp [List.filter_append]
          · rfl
        refine SimP.call (.ite (ih.strat' P hq2 hst2 hi hsn arg (strat.forFlavour fl)) (ih.turns' P hq2 hst2 hi hsn arg 0))
          (fun _ _ => .off) (fun _ => .nil) fun ρ3 t3 u3 x hq3 hs30 hf3 hst3 => ?_
        obtain ⟨o3, v3⟩ := x
        dsimp only
        -- the prologue has allocated the end marker on both sides
        have hs3 : Step ρ ρ3 t t3 u u3 := (Step.of_le (Nat.le_succ _) (Nat.le_succ _)).trans hs30
        have hi3 := hs3.sub _ _ hi
        cases hx3 : aget t3.sigs i with
        | none =>
          -- the list has died: it was idle, contradiction with the running emission
          exfalso
          have := hf3.act i
          rw [hact2] at this
          simp only [act, hx3, if_true] at this
          omega
        | some g2 =>
          obtain ⟨g2', hy3, hg2⟩ := (hq3.sig_get hi3).some_left hx3
          rw [hy3]
          refine .check fun hc2 => ?_
          have hv2 := (hq3.sig_inv hx3).2
          have hact3 : g2.active = g.active + 1 := by
            have := hf3.act i
            rw [hact2] at this
            simpa [act, hx3] using this
          have hmks3 : (g2.cells.filter (·.marker)).map (·.id) = (g.cells.filter (·.marker)).map (·.id) ++ [t.next] := by
            have := hf3.mks i
            rw [hmks2] at this
            simpa [mks, hx3] using this
          have hm' : ∀ a, ¬ ρ3 a u.next := by
            intro a hab
            rcases hs30.new _ _ hab with h1 | ⟨_, h1⟩
            · have := (hq.pb.lt h1).2; omega
            · exact absurd h1 (Nat.not_succ_le_self _)
          have hmk : g2.active = 1 → ∀ c ∈ g2.cells, c.marker = true → c.id = t.next := by
            intro h1 c hc' hmm
            have hg0 : g.active = 0 := by omega
            rw [hv.no_marker hg0] at hmks3
            have hmem : c.id ∈ (g2.cells.filter (·.marker)).map (·.id) :=
              List.mem_map_of_mem (List.mem_filter.mpr ⟨hc', hmm⟩)
            rw [hmks3] at hmem
            simpa using hmem
          have hmc : ∀ c ∈ g2.cells, c.id = t.next → c.marker = true := by
            intro c hc' hid
            have hmem : t.next ∈ (g2.cells.filter (·.marker)).map (·.id) := by rw [hmks3]; simp
            obtain ⟨c0, hc0, e0⟩ := List.mem_map.mp hmem
            obtain ⟨hc0, hm0⟩ := List.mem_filter.mp hc0
            have := eq_of_nodup_map hv2.nodup hc' hc0 (by rw [hid, e0])
            rw [this]; exact hm0
          obtain ⟨hr4, hv4, ha4, hm4⟩ := epi_sim hg2 hv2 hm' (by omega) hmk hmc hc2
          have hq4 := hq3.setSig hi3 hr4 hv4
          have h5 := gcSig_sim hq4 hi3
          have h6 := collect_sim h5.q
          -- the frame of the whole emission
          have hfr4 : Fr t (setSig t3 i (epi g2 t.next)) := by
            refine ⟨hf3.depth, fun j => ?_, fun j => ?_⟩
            · rw [act_setSig]
              by_cases e : j = i
              · subst e
                simp only [if_true, ha4, hact3, act, hx]
                omega
              · rw [if_neg e, hf3.act j, hact2, if_neg e]
            · rw [mks_setSig]
              by_cases e : j = i
              · subst e
                simp only [if_true, hm4, hmks3, mks, hx]
                rw [List.filter_append]
                have h1 : ((g.cells.filter (·.marker)).map (·.id)).filter (· ≠ t.next)
                    = (g.cells.filter (·.marker)).map (·.id) := by
                  apply List.filter_eq_self.mpr
                  intro x hx'
                  obtain ⟨c, hc', e⟩ := List.mem_map.mp hx'
                  have := hv.lt c (List.mem_filter.mp hc').1
                  simp only [ne_eq, decide_not, Bool.not_eq_eq_eq_not, Bool.not_true, decide_eq_false_iff_not]
                  omega
                rw [h1]; simp
              · rw [if_neg e, hf3.mks j, hmks2, if_neg e]
          exact .to ⟨ρ3, h6.q, hs3.congr rfl (h6.nk.trans h5.nk) rfl (h6.np.trans h5.np), (hfr4.trans h5.fr).trans h6.fr⟩
            (collectStep_collect _) _

end Sigc.SpecK
