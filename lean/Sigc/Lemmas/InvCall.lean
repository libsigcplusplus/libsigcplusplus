import Sigc.Lemmas.InvSlots
/-!
# `AC`: in every state, every callable representation holds its functor

`CallOk sl`: a representation of slot value `sl` with `call_ ≠ nullptr` still holds its functor.  `AC s`: every user slot
variable of `s` and every cell of every `signal_impl` of `s` is `CallOk`.  `CI` is `SlotsAll CallOk` written out: from
`callOk_pred` on everything is the theory of `Lemmas/InvSlots` at `CallOk`, which holds of every slot made from a functor.
So `AC` holds in every state of every run (`AC.reachable`), inside emissions and through the harness teardown (`AC.stable`).

The inner slot of a `nest` functor needs no separate clause: the model stores only the inner slot's
`blocked_` flag and its functor (`Fun.nest blocked (inner : Option Fun)`), and `invokeFun` enters the inner
functor only when `inner = some g` — the inner erased call has its functor by construction of the datatype.
-/
namespace Sigc.InvCall
open Sigc.Model Sigc.Inv

def RepOk (o : Option Rep) : Prop := ∀ r, o = some r → r.call = true → r.fn.isSome = true

def CallOk (s : SlotB) : Prop := RepOk s.rep

theorem repOk_none : RepOk none := fun _ h => by cases h
theorem repOk_made (fn : Fun) : RepOk (some { call := true, fn := some fn }) := by
  intro r h _; cases h; rfl
theorem repOk_dead (fn : Option Fun) : RepOk (some { call := false, fn := fn }) := by
  intro r h hc; cases h; cases hc

theorem CallOk.default : CallOk ({} : SlotB) := repOk_none
theorem CallOk.made (b : Bool) (fn : Fun) : CallOk { blocked := b, rep := some { call := true, fn := some fn } } :=
  repOk_made fn
theorem CallOk.norep (b : Bool) : CallOk { blocked := b, rep := none } := repOk_none
theorem CallOk.blocked {s : SlotB} (b : Bool) (h : CallOk s) : CallOk { s with blocked := b } := h
theorem CallOk.withRepNone (s : SlotB) : CallOk { s with rep := none } := repOk_none
theorem CallOk.mk {b : Bool} {s : SlotB} (h : CallOk s) : CallOk { blocked := b, rep := s.rep } := h

theorem CallOk.disconnect (s : SlotB) : CallOk s.disconnectRep := by
  unfold SlotB.disconnectRep
  cases hr : s.rep with
  | none => intro r h2; simp [hr] at h2
  | some r0 => exact repOk_dead _

theorem CallOk.invalidate (s : SlotB) : CallOk s.invalidate := by
  unfold SlotB.invalidate
  cases hr : s.rep with
  | none => intro r h2; simp [hr] at h2
  | some r0 => exact repOk_dead _

theorem CallOk.copy {s : SlotB} (h : CallOk s) : CallOk s.copy := by
  unfold SlotB.copy
  cases hr : s.rep with
  | none => exact repOk_none
  | some r0 =>
    by_cases hc : r0.call = true
    · simp only [hc, if_true]
      intro r h2 _
      cases h2
      exact h r0 hr hc
    · simp only [hc]
      exact repOk_none

theorem CallOk.move_fst {s : SlotB} (h : CallOk s) : CallOk s.move.1 := by
  unfold SlotB.move
  cases hr : s.rep with
  | none => exact repOk_none
  | some r0 => intro r h2 hc; cases h2; exact h r0 hr hc

theorem CallOk.move_snd {s : SlotB} (h : CallOk s) : CallOk s.move.2 := by
  unfold SlotB.move
  cases hr : s.rep with
  | none => exact h
  | some r0 => exact repOk_none

theorem CallOk.le {a b : SlotB} (hle : SlotLe a b) (h : CallOk b) : CallOk a := by
  rcases hle with e | e | e
  · unfold CallOk; rw [e]; exact h
  · unfold CallOk; rw [e]; exact CallOk.disconnect b
  · unfold CallOk; rw [e]; exact CallOk.invalidate b

/-- the cell `insertCell` stores: `set_parent` gives an empty slot the dummy representation -/
theorem CallOk.inserted {sl : SlotB} (h : CallOk sl) :
    CallOk (match sl.rep with
      | none => { sl with rep := some { call := false, fn := none } }
      | some _ => sl) := by
  split
  · exact repOk_dead _
  · exact h

def CI (S : List (Nat × SlotVar)) (impls : List (Nat × Impl)) : Prop :=
  (∀ p ∈ S, CallOk p.2.slot) ∧ (∀ q ∈ impls, ∀ c ∈ q.2.cells, CallOk c.slot)

def AC (s : St) : Prop := CI s.S s.impls

theorem AC.init : AC {} := ⟨fun _ h => (by cases h), fun _ h => (by cases h)⟩

theorem callOk_pred : SlotPred CallOk :=
  ⟨CallOk.le, fun e => by unfold CallOk; rw [e]; exact repOk_none, fun _ => repOk_dead _, CallOk.copy⟩

theorem AC.stable : Stable AC := SlotsAll.stable callOk_pred repOk_made

theorem AC.ensureImpl {s s1 : St} {g i : Nat} (h : AC s) (he : ensureImpl s g = some (s1, i)) : AC s1 :=
  SlotsAll.ensureImpl h he

theorem AC.insertCell {s : St} (i : Nat) (first : Bool) {sl : SlotB} (hs : CallOk sl) (h : AC s) :
    AC (insertCell s i first sl).fst := SlotsAll.insertCell callOk_pred i first hs h

theorem callOk_rep {b : Bool} {o : Option Rep} (h : RepOk o) : CallOk { blocked := b, rep := o } := h

theorem AC.collect (s : St) (hI : AC s) : AC (collect s) := SlotsAll.collect callOk_pred hI

theorem AC.reachable (f : Nat) (P : Prog) (s : St) (h : runTop f P {} P.top = some s) : AC s :=
  AC.stable.runTop AC.init f P s h

/-- a `CallOk` slot whose representation is callable matches the pattern of the call sites
    (`emitLoop`, `deref`, `callS`): `some { call := true, fn := some fn }` -/
theorem CallOk.typed {sl : SlotB} (h : CallOk sl) {fn : Option Fun} (hr : sl.rep = some { call := true, fn := fn }) :
    ∃ g, fn = some g ∧ sl.rep = some { call := true, fn := some g } := by
  have := h _ hr rfl
  cases fn with
  | none => cases this
  | some g => exact ⟨g, rfl, hr⟩

theorem AC.cell {s : St} (h : AC s) {i : Nat} {im : Impl} {c : Cell} (hi : aget s.impls i = some im)
    (hc : c ∈ im.cells) : CallOk c.slot := SlotsAll.cells h hi c hc

theorem AC.cell_find {s : St} (h : AC s) {i cur : Nat} {im : Impl} {c : Cell} (hi : aget s.impls i = some im)
    (hc : im.cells.find? (·.id = cur) = some c) : CallOk c.slot :=
  SlotsAll.cells h hi c (List.mem_of_find?_eq_some hc)

end Sigc.InvCall
