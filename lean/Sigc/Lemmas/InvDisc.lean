import Sigc.Lemmas.InvCell
/-! `disconnectCell` (`slot_rep::disconnect()`) as a function on whole states: it is idempotent (`disconnectCell_idem`) and
leaves the cell dead and the connection unconnected (`disconnectCell_dead`, `disconnectCell_not_connected`).  At the end
`NoDangling`: `Ptrs` in the terms of `getCell`, as C04 states it. -/
namespace Sigc.Inv
open Sigc.Model
open Sigc.StepConn (nullF)
open Sigc.Emit (aget_aset aset_aset)

theorem getCell_none_of {s : St} (hw : WF s) {cid : Nat}
    (h : ∀ i im c, aget s.impls i = some im → c ∈ im.cells → c.id ≠ cid) : getCell s cid = none := by
  cases hg : getCell s cid with
  | none => rfl
  | some x =>
    have : getCell s cid ≠ none := by rw [hg]; simp
    obtain ⟨i, im, hi, c, hc, he⟩ := (getCell_ne_none_iff hw.keys cid).1 this
    exact absurd he (h i im c hi hc)

theorem disconnectCell_idem {s : St} (hw : WF s) (cid : Nat) :
    disconnectCell (disconnectCell s cid) cid = disconnectCell s cid := by
  cases hg : getCell s cid with
  | none =>
    rw [StepConn.disconnectCell_absent s cid hg, StepConn.disconnectCell_absent s cid hg]
  | some x =>
    obtain ⟨i, c⟩ := x
    obtain ⟨im, hi, _, hc, he⟩ := getCell_some hg
    -- a state in which the cell is disconnected and unlinked already is a fixpoint
    have hfix : ∀ d, disconnectCell
          (setImpl s i { im with cells := im.cells.map (updC cid (touchC SlotB.disconnectRep)), deferred := d }) cid
        = setImpl s i { im with cells := im.cells.map (updC cid (touchC SlotB.disconnectRep)), deferred := d } := by
      intro d
      have hw' : WF (setImpl s i
          { im with cells := im.cells.map (updC cid (touchC SlotB.disconnectRep)), deferred := d }) :=
        WF.prims.upd s i im (updC cid (touchC SlotB.disconnectRep)) im.exec d trivial hw hi
          (touchC_ok (fun _ => Or.inr (Or.inl rfl)) cid)
      have hi' := aget_aset_same s.impls i
        { im with cells := im.cells.map (updC cid (touchC SlotB.disconnectRep)), deferred := d }
      have hg' := getCell_of_mem hw' hi' (mem_map_touchC hc he)
      rw [show (touchC SlotB.disconnectRep c).id = cid from he] at hg'
      rw [disconnectCell_touch, touchCell_eq _ hg' hi', if_neg (by simp [touchC]), setImpl_setImpl]
      simp only [map_touchC_idem disconnectRep_idem]
    rw [disconnectCell_touch s cid, touchCell_eq _ hg hi]
    split
    · split
      · -- erased: the id is gone
        have hnone : getCell (eraseCell s i cid) cid = none := by
          apply getCell_none_of (WF.prims.eraseCell i cid hw)
          intro j jm d hj hd
          rw [eraseCell_eq hi] at hj
          simp only [nullConns_impls, setImpl_impls] at hj
          rw [aget_aset] at hj
          split at hj
          · cases hj
            simp only [List.mem_filter, decide_eq_true_eq] at hd
            exact hd.2
          · rename_i hne
            intro hde
            exact hne (hw.cellU j i jm im d c hj hi hd hc (hde.trans he.symm))
        unfold disconnectCell
        rw [hnone]
      · exact hfix true
    · exact hfix im.deferred

theorem disconnectCell_dead {s : St} (hw : WF s) {cid i : Nat} {c : Cell} (hg : getCell s cid = some (i, c)) :
    Dead cid (disconnectCell s cid) := by
  obtain ⟨im, hi, _, hc, he⟩ := getCell_some hg
  have hn : (disconnectCell s cid).next = s.next :=
    (LibBlind.prims (π := (·.next)) (fun _ _ _ _ _ _ => rfl) _).disconnectCell cid rfl
  refine ⟨hn ▸ he ▸ hw.idLt i im c hi hc, fun j jm d hj hd hde => ?_⟩
  obtain ⟨d0, rfl⟩ := genCell_self (F := SlotB.disconnectRep) hw hj hd hde
  exact disconnectRep_empty d0.slot

theorem disconnectCell_not_connected {s : St} (hw : WF s) (cid : Nat) :
    connConnected (disconnectCell s cid) (some cid) = false := by
  cases hg : getCell s cid with
  | none =>
    rw [StepConn.disconnectCell_absent s cid hg]
    simp [connConnected, hg]
  | some x =>
    obtain ⟨i, c⟩ := x
    have hd := disconnectCell_dead hw hg
    exact (dead_iff_not_connected (WF.prims.disconnectCell cid hw) hd.1).1 hd

theorem disconnectCell_C (s : St) (cid : Nat) :
    (disconnectCell s cid).C = s.C ∨ (disconnectCell s cid).C = amap s.C (nullF cid) := by
  rw [StepConn.disconnectCell_C]
  split
  · exact .inr rfl
  · exact .inl rfl

theorem aget_amap_nullF {l : List (Nat × Option Nat)} {k cid : Nat} {p : Option Nat}
    (h : aget l k = some p) : aget (amap l (nullF cid)) k = some (if p = some cid then none else p) := by
  rw [aget_amap, h]; rfl

def NoDangling (s : St) : Prop :=
  (∀ k cid, aget s.C k = some (some cid) → getCell s cid ≠ none) ∧
  (∀ k cid, aget s.K k = some (some cid) → getCell s cid ≠ none) ∧
  (∀ k cid, (k, some cid) ∈ s.ownedK → getCell s cid ≠ none)

theorem noDangling_of_links {s : St} (h : Links s) : NoDangling s := by
  obtain ⟨⟨hw, _⟩, hc, hk, ho⟩ := h
  refine ⟨?_, ?_, ?_⟩
  · intro k cid hk'
    exact getCell_ne_none_of_cellIn hw (all_get hc hk' cid rfl)
  · intro k cid hk'
    exact getCell_ne_none_of_cellIn hw (all_get hk hk' cid rfl)
  · intro k cid hm
    exact getCell_ne_none_of_cellIn hw (ho (k, some cid) hm cid rfl)

end Sigc.Inv
