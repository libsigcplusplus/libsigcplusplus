import Sigc.Model
import Sigc.Lemmas.Basic
import Sigc.Lemmas.Frames
import Sigc.Lemmas.StepConn
import Sigc.Lemmas.StepHandles
import Sigc.Lemmas.InvTracks
/-!
# `invalidateTrackable` (`trackable::notify_callbacks()` as seen by slot reps)

* slot variables: `(invalidateTrackable s t).S = amap s.S (invVar t)` for every state;
* list cells: under the well-formedness `UniqueCells` (impl keys and cell ids are unique — what the allocator `St.fresh`
  guarantees; it is `Inv.WFI` for any bound above the ids, `uniqueCells_iff`, `UniqueCells.wfi`) no cell of any list
  refers to `t` afterwards, and `UniqueCells` is preserved: `Inv.invalidateTrackable_notrack`, `Inv.WFI.prims`;
* if nothing refers to `t`, `invalidateTrackable s t = s`.
-/
namespace Sigc.StepTrack
open Sigc.Model Sigc.StepConn Sigc.StepHandles

/-! ### slot variables -/

def invVar (t : Nat) (v : SlotVar) : SlotVar :=
  if v.slot.tracksObj t then { v with slot := v.slot.invalidate } else v

theorem invalidateTrackable_S (s : St) (t : Nat) : (invalidateTrackable s t).S = amap s.S (invVar t) := by
  unfold invalidateTrackable
  simp only [foldl_invalidateCell_S]
  rfl

theorem invalidate_empty_of_rep (sl : SlotB) : sl.invalidate.empty = true := invalidate_empty sl

theorem invVar_not_tracks (t : Nat) (v : SlotVar) : (invVar t v).slot.tracksObj t = false := by
  unfold invVar
  by_cases h : v.slot.tracksObj t = true
  · simp [h, tracksObj_invalidate]
  · simp [h]

theorem invalidateTrackable_S_no_tracker (s : St) (t k : Nat) (v : SlotVar)
    (h : aget (invalidateTrackable s t).S k = some v) : v.slot.tracksObj t = false := by
  rw [invalidateTrackable_S, aget_amap] at h
  cases hv : aget s.S k with
  | none => simp [hv] at h
  | some v0 =>
    simp [hv] at h
    subst h
    exact invVar_not_tracks t v0

/-! ### well-formedness: unique impl keys, unique cell ids -/

def allCells (impls : List (Nat × Impl)) : List Cell := impls.flatMap (fun p => p.2.cells)

def UniqueCells (impls : List (Nat × Impl)) : Prop :=
  (impls.map (·.1)).Nodup ∧ ((allCells impls).map (·.id)).Nodup

instance (impls : List (Nat × Impl)) : Decidable (UniqueCells impls) := by
  unfold UniqueCells; exact inferInstance

theorem allCells_cons (p : Nat × Impl) (t : List (Nat × Impl)) : allCells (p :: t) = p.2.cells ++ allCells t := by
  simp [allCells]

theorem allCells_append (a b : List (Nat × Impl)) : allCells (a ++ b) = allCells a ++ allCells b := by
  simp [allCells]

theorem mem_allCells (impls : List (Nat × Impl)) (c : Cell) :
    c ∈ allCells impls ↔ ∃ p ∈ impls, c ∈ p.2.cells := by
  simp [allCells]

theorem nodup_ids_iff (impls : List (Nat × Impl)) :
    ((allCells impls).map (·.id)).Nodup ↔ (∀ p ∈ impls, (p.2.cells.map (·.id)).Nodup) ∧
      impls.Pairwise (fun p q => ∀ c ∈ p.2.cells, ∀ d ∈ q.2.cells, c.id ≠ d.id) := by
  unfold allCells
  rw [List.map_flatMap]
  simp only [List.Nodup, List.pairwise_flatMap, List.pairwise_map, List.mem_map, forall_exists_index, and_imp,
    forall_apply_eq_imp_iff₂]

/-- the two statements of "keys and cell ids are unique": as one list of all ids (`UniqueCells`, decidable, what the
    examples evaluate) and by lookup (the first three clauses of `Inv.WFI`, what the proofs use) -/
theorem uniqueCells_iff (impls : List (Nat × Impl)) : UniqueCells impls ↔
    (impls.map (·.1)).Nodup ∧ (∀ i im, aget impls i = some im → (im.cells.map (·.id)).Nodup) ∧
    (∀ i j im jm c d, aget impls i = some im → aget impls j = some jm →
      c ∈ im.cells → d ∈ jm.cells → c.id = d.id → i = j) := by
  unfold UniqueCells
  rw [nodup_ids_iff]
  refine and_congr_right fun hk => ⟨fun ⟨h1, h2⟩ => ⟨fun i im hi => h1 _ (mem_of_aget hi), ?_⟩, fun ⟨h1, h2⟩ => ⟨?_, ?_⟩⟩
  · intro i j im jm c d hi hj hc hd e
    refine Classical.byContradiction fun hne => ?_
    -- guarded by `p.1 ≠ q.1` the relation is reflexive and symmetric, so `Pairwise` gives it for any two members
    let R := fun p q : Nat × Impl => p.1 ≠ q.1 → ∀ c ∈ p.2.cells, ∀ d ∈ q.2.cells, c.id ≠ d.id
    have hR : impls.Pairwise R := h2.imp (S := R) fun h _ => h
    have hR' : impls.Pairwise (flip R) := h2.imp (S := flip R) fun h _ c hc d hd e => h d hd c hc e.symm
    exact List.Pairwise.forall_of_forall_of_flip (R := R) (fun _ _ h => absurd rfl h) hR hR'
      (mem_of_aget hi) (mem_of_aget hj) hne c hc d hd e
  · intro p hp
    exact h1 p.1 p.2 (Emit.aget_of_mem_nodup hk hp)
  · have hk' : impls.Pairwise (fun p q => p.1 ≠ q.1) := List.pairwise_map.mp hk
    refine (List.Pairwise.and_mem.mp hk').imp ?_
    rintro p q ⟨hp, hq, hne⟩ c hc d hd e
    exact hne (h2 p.1 q.1 p.2 q.2 c d (Emit.aget_of_mem_nodup hk hp) (Emit.aget_of_mem_nodup hk hq) hc hd e)

theorem exists_bound (l : List Nat) : ∃ n, ∀ x ∈ l, x < n := by
  induction l with
  | nil => exact ⟨0, fun _ h => nomatch h⟩
  | cons a t ih =>
    obtain ⟨n, hn⟩ := ih
    refine ⟨max n (a + 1), fun x hx => ?_⟩
    rcases List.mem_cons.mp hx with rfl | h
    · omega
    · have := hn x h; omega

theorem UniqueCells.wfi {impls : List (Nat × Impl)} (hU : UniqueCells impls) : ∃ n, Sigc.Inv.WFI impls n := by
  obtain ⟨a, b, c⟩ := (uniqueCells_iff impls).mp hU
  obtain ⟨n, hn⟩ := exists_bound (impls.map (·.1) ++ (allCells impls).map (·.id))
  exact ⟨n, a, b, c,
    fun i im hi => hn i (List.mem_append_left _ (List.mem_map.mpr ⟨(i, im), mem_of_aget hi, rfl⟩)),
    fun i im c hi hc => hn c.id (List.mem_append_right _
      (List.mem_map.mpr ⟨c, (mem_allCells _ _).mpr ⟨(i, im), mem_of_aget hi, hc⟩, rfl⟩))⟩

theorem UniqueCells.of_wfi {impls : List (Nat × Impl)} {n : Nat} (h : Sigc.Inv.WFI impls n) : UniqueCells impls :=
  (uniqueCells_iff impls).mpr ⟨h.keys, h.cellN, h.cellU⟩

def NoTracker (s : St) (t : Nat) : Prop :=
  (∀ k v, aget s.S k = some v → v.slot.tracksObj t = false) ∧ (∀ c ∈ allCells s.impls, c.slot.tracksObj t = false)

/-- `Inv.NoTrack` reads the tables by lookup, `NoTracker` the cells as one list -/
theorem NoTracker.of_inv {s : St} {t : Nat} (hk : (s.impls.map (·.1)).Nodup) (h : Sigc.Inv.NoTrack t s) :
    NoTracker s t :=
  ⟨fun k v hv => h.1 (k, v) (mem_of_aget hv), fun c hc => by
    obtain ⟨p, hp, hcp⟩ := (mem_allCells _ c).mp hc
    exact h.2 p.1 p.2 c (Emit.aget_of_mem_nodup hk hp) hcp⟩

theorem invalidateTrackable_no_tracker (s : St) (t : Nat) (hU : UniqueCells s.impls) :
    UniqueCells (invalidateTrackable s t).impls ∧ NoTracker (invalidateTrackable s t) t := by
  obtain ⟨n, hw⟩ := hU.wfi
  have hU' := UniqueCells.of_wfi ((Sigc.Inv.WFI.prims n).invalidateTrackable t hw)
  exact ⟨hU', .of_inv hU'.1 (Sigc.Inv.invalidateTrackable_notrack hw t)⟩

/-! ### nothing refers to `t`: `notify_callbacks()` does nothing -/

theorem victims_nil (t : Nat) (impls : List (Nat × Impl)) (h : ∀ c ∈ allCells impls, c.slot.tracksObj t = false) :
    impls.foldr (fun p acc => ((p.2.cells.filter (fun c => c.slot.tracksObj t)).map (·.id)) ++ acc) [] = [] := by
  induction impls with
  | nil => rfl
  | cons p rest ih =>
    simp only [List.foldr]
    rw [ih (fun c hc => h c (by rw [allCells_cons]; exact List.mem_append.mpr (Or.inr hc)))]
    have : p.2.cells.filter (fun c => c.slot.tracksObj t) = [] := by
      rw [List.filter_eq_nil_iff]
      intro c hc
      rw [h c (by rw [allCells_cons]; exact List.mem_append.mpr (Or.inl hc))]
      simp
    simp [this]

theorem invalidateTrackable_noop (s : St) (t : Nat)
    (hS : ∀ p ∈ s.S, p.2.slot.tracksObj t = false)
    (hI : ∀ c ∈ allCells s.impls, c.slot.tracksObj t = false) :
    invalidateTrackable s t = s := by
  unfold invalidateTrackable
  have e1 : amap s.S (fun v => if v.slot.tracksObj t then { v with slot := v.slot.invalidate } else v) = s.S := by
    apply amap_id
    intro p hp
    simp [hS p hp]
  simp only [e1]
  rw [victims_nil t s.impls hI]
  rfl

/-! ### everything else `invalidateTrackable` leaves alone -/

theorem invalidateTrackable_blind {γ : Type} {π : St → γ} (h : LibBlind π) (s : St) (t : Nat) :
    π (invalidateTrackable s t) = π s :=
  (h.prims _).invalidateTrackable t rfl

theorem invalidateTrackable_T (s : St) (t : Nat) : (invalidateTrackable s t).T = s.T :=
  invalidateTrackable_blind (π := (·.T)) (fun _ _ _ _ _ _ => rfl) s t
theorem invalidateTrackable_next (s : St) (t : Nat) : (invalidateTrackable s t).next = s.next :=
  invalidateTrackable_blind (π := (·.next)) (fun _ _ _ _ _ _ => rfl) s t
theorem invalidateTrackable_trace (s : St) (t : Nat) : (invalidateTrackable s t).trace = s.trace :=
  invalidateTrackable_blind (π := (·.trace)) (fun _ _ _ _ _ _ => rfl) s t

/-! ### `gcImpl` keeps well-formedness and adds no cell -/

theorem allCells_filter_sublist (l : List (Nat × Impl)) (q : Nat × Impl → Bool) :
    (allCells (l.filter q)).Sublist (allCells l) := by
  induction l with
  | nil => exact List.Sublist.refl _
  | cons p t ih =>
    by_cases hq : q p = true
    · simp only [List.filter_cons, hq, if_true, allCells_cons]
      exact (List.Sublist.refl _).append ih
    · simp only [List.filter_cons, hq, allCells_cons]
      exact List.Sublist.trans ih (List.sublist_append_right _ _)

theorem UniqueCells_adel (impls : List (Nat × Impl)) (i : Nat) (hU : UniqueCells impls) : UniqueCells (adel impls i) := by
  obtain ⟨h1, h2⟩ := hU
  unfold adel
  exact ⟨List.Nodup.sublist ((List.filter_sublist).map _) h1,
         List.Nodup.sublist ((allCells_filter_sublist impls _).map _) h2⟩

theorem UniqueCells_gcImpl (s : St) (i : Nat) (hU : UniqueCells s.impls) : UniqueCells (gcImpl s i).impls := by
  rcases gcImpl_impls_cases s i with h | h <;> rw [h]
  · exact hU
  · exact UniqueCells_adel _ _ hU

theorem gcImpl_cells_subset (s : St) (i : Nat) (c : Cell) (hc : c ∈ allCells (gcImpl s i).impls) : c ∈ allCells s.impls := by
  rcases gcImpl_impls_cases s i with h | h <;> rw [h] at hc
  · exact hc
  · exact (allCells_filter_sublist s.impls _).subset hc

/-! ### freshness of trackable identities -/

def slotTracks (sl : SlotB) : List Nat :=
  match sl.rep with
  | some { fn := some f, .. } => f.tracks
  | _ => []

theorem tracksObj_eq (sl : SlotB) (t : Nat) : sl.tracksObj t = (slotTracks sl).contains t := by
  unfold SlotB.tracksObj slotTracks
  split <;> simp_all

def TracksBelow (s : St) : Prop :=
  (∀ p ∈ s.S, ∀ t ∈ slotTracks p.2.slot, t < s.next) ∧ (∀ c ∈ allCells s.impls, ∀ t ∈ slotTracks c.slot, t < s.next)

instance (s : St) : Decidable (TracksBelow s) := by
  unfold TracksBelow; exact inferInstance

theorem TracksBelow_fresh (s : St) (h : TracksBelow s) (t : Nat) (ht : t ≥ s.next) :
    (∀ p ∈ s.S, p.2.slot.tracksObj t = false) ∧ (∀ c ∈ allCells s.impls, c.slot.tracksObj t = false) := by
  constructor
  · intro p hp
    rw [tracksObj_eq]
    cases hc : (slotTracks p.2.slot).contains t with
    | false => rfl
    | true =>
      have := h.1 p hp t (by simpa using hc)
      omega
  · intro c hc0
    rw [tracksObj_eq]
    cases hc : (slotTracks c.slot).contains t with
    | false => rfl
    | true =>
      have := h.2 c hc0 t (by simpa using hc)
      omega

theorem mem_allCells_aset {impls : List (Nat × Impl)} {i : Nat} {im' : Impl} {c : Cell}
    (h : c ∈ allCells (aset impls i im')) : c ∈ im'.cells ∨ c ∈ allCells impls := by
  obtain ⟨p, hp, hc⟩ := (mem_allCells _ c).mp h
  rcases mem_aset hp with hp | rfl
  · exact .inr ((mem_allCells _ c).mpr ⟨p, hp, hc⟩)
  · exact .inl hc

theorem allCells_aset_empty_subset (l : List (Nat × Impl)) (k : Nat) (c : Cell) (hc : c ∈ allCells (aset l k {})) :
    c ∈ allCells l :=
  (mem_allCells_aset hc).elim (fun h => nomatch h) id

/-! ### for the `example`s of the property files -/

/-- a concrete non-trivial well-formed state: signal object 0 (trackable_signal, trackable base 2) and a
    copy 1 (trackable base 9) share list 3; slot variable 0 and cell 5 of list 6 (the list of signal
    object 2) hold forwarders to object 0 -/
def exStT : St :=
  { G := [(0, { obj := 1, fl := .TI, impl := some 3, trk := 2, lvl := 0, everFwd := true }),
          (1, { obj := 8, fl := .TI, impl := some 3, trk := 9, lvl := 0 }),
          (2, { obj := 10, fl := .I, impl := some 6, trk := 11, lvl := 2 })],
    S := [(0, { isVoid := false, slot := { rep := some { call := true, fn := some (.fwd 1 [2]) } }, taint := 0 })],
    impls := [(3, { cells := [{ id := 4, slot := { rep := some { call := true, fn := some (.leaf 7 []) } }, linked := true }] }),
              (6, { cells := [{ id := 5, slot := { rep := some { call := true, fn := some (.fwd 1 [2]) } }, linked := true },
                              { id := 12, slot := { rep := some { call := true, fn := some (.leaf 8 []) } }, linked := true }] })],
    C := [(0, some 5)], next := 13 }

/-- the event trace with the `.res` texts dropped (events have no decidable equality) -/
def callsOf (tr : List Event) : List (Nat × Nat × Nat) :=
  tr.filterMap (fun e => match e with | .call d f a => some (d, f, a) | .res _ _ _ => none)

end Sigc.StepTrack
