import Sigc.Spec
import Sigc.Lemmas.SpecBasic
/-!
# RefineErr — the specification's own error flag (`Spec.LSt.err`) across the state transformers of `Sigc.Spec`

No release touches it (`SErr.releases`), nor do `updCell` and `ensureSig`; `insertCell` sets it only when it finds no list.
(The interpreter sets it on four further branches; that those are not taken is known through `Refine.RE`, of states
related to a state of the model, not from here.)
-/
namespace Sigc.Refine
open Sigc.Model

namespace SErr

theorem setSig_err (t : Spec.LSt) (i : Nat) (g : Spec.LSig) : (Spec.setSig t i g).err = t.err := rfl

theorem invalidateTrackable_err (t : Spec.LSt) (o : Nat) : (Spec.invalidateTrackable t o).err = t.err := rfl

theorem updCell_err (t : Spec.LSt) (cid : Nat) (f : Spec.LCell → Spec.LCell) : (Spec.updCell t cid f).err = t.err := by
  rw [Spec.updCell_only_sigs t cid f]

theorem gcSig_sigs_G (t : Spec.LSt) (i : Nat) : (Spec.gcSig t i).G = t.G := by
  rw [Spec.gcSig_only_sigs t i]

theorem releases : Spec.Releases (fun t t' : Spec.LSt => t'.err = t.err) where
  refl _ := rfl
  trans h1 h2 := h2.trans h1
  remove _ _ _ := rfl
  invalidate _ _ := rfl
  delSig _ _ := rfl
  delG _ _ := rfl
  ownedT _ _ := rfl
  ownedK _ _ := rfl
  ownedG _ _ := rfl

theorem removeCell_err (t : Spec.LSt) (cid : Nat) : (Spec.removeCell t cid).err = t.err := releases.removeCell t cid

theorem gcSig_err (t : Spec.LSt) (i : Nat) : (Spec.gcSig t i).err = t.err := releases.gcSig t i

theorem dropHandle_err (t : Spec.LSt) (g : Nat) : (Spec.dropHandle t g).err = t.err := releases.dropHandle t g

theorem collect_err (t : Spec.LSt) : (Spec.collect t).err = t.err := releases.collect t

theorem ensureSig_err {t t1 : Spec.LSt} {g im : Nat} (h : Spec.ensureSig t g = some (t1, im)) : t1.err = t.err := by
  unfold Spec.ensureSig at h
  split at h
  · cases h
  · split at h
    · cases h; rfl
    · simp only [Spec.LSt.fresh, Option.some.injEq, Prod.mk.injEq] at h
      obtain ⟨rfl, _⟩ := h; rfl

theorem insertCell_err {t : Spec.LSt} {i : Nat} (first : Bool) (sl : SlotB) (h : (aget t.sigs i).isSome = true) :
    (Spec.insertCell t i first sl).1.err = t.err := by
  unfold Spec.insertCell
  simp only [Spec.LSt.fresh]
  split
  · rename_i hg; rw [hg] at h; cases h
  · rfl

syntax "err_auto" : tactic
macro_rules
  | `(tactic| err_auto) => `(tactic| first
    | rfl
    | exact ensureSig_err (by assumption)
    | (simp only [setSig_err, invalidateTrackable_err, removeCell_err, updCell_err, gcSig_err] <;> err_auto)
    | (split <;> err_auto))

macro "errs_tac" h:ident : tactic =>
  `(tactic|
      (simp only [Spec.stepSimple] at $h:ident <;> (repeat' split at $h:ident) <;>
       simp only [Option.some.injEq, Prod.mk.injEq, reduceCtorEq, Spec.LSt.fresh] at $h:ident <;>
       (have h1 := And.left $h) <;> subst h1 <;> err_auto))

end SErr

end Sigc.Refine
