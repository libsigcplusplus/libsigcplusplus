import Sigc.Model
import Sigc.Lemmas.Built
import Sigc.Lemmas.StepHandles
/-!
What the operations on slot variables, `conn`/`connfn` and the blocking operations compute
(`Sigc.Model.stepSimple`), for C15 (slots are values) and C12 (blocking): sums over association lists,
`liveCount` under an update, the frame predicates, all that a write to one slot variable does (`asetS_spec`),
the slot-value algebra of `SlotB`, one equation per operation and branch, and cell lookup (`getCell`) under a
rewrite of one impl's cells.
-/
namespace Sigc.StepSlots
open Sigc.Model

variable {α : Type}

/-! ## association lists -/

/-- first-match semantics: writing the value of key `k` changes a sum over the values by exactly the
    difference at that entry (also with duplicate keys; nothing is taken away when the key is new) -/
theorem sum_aset (l : List (Nat × α)) (k : Nat) (v' : α) (g : α → Nat) :
    ((aset l k v').map (fun p => g p.2)).sum + (aget l k).elim 0 g = (l.map (fun p => g p.2)).sum + g v' := by
  induction l with
  | nil => simp [aset, aget]
  | cons p t ih =>
    obtain ⟨k', w⟩ := p
    by_cases hk : k' = k
    · simp [aset, aget, hk]
      omega
    · simp [aset, aget, hk]
      omega

/-! ## the frame of an operation on one slot variable -/

def SlotFrame (j : Nat) (s s' : St) : Prop :=
  ∃ S', s' = { s with S := S' } ∧ ∀ k, k ≠ j → aget S' k = aget s.S k

theorem SlotFrame.refl (j : Nat) (s : St) : SlotFrame j s s := ⟨s.S, rfl, fun _ _ => rfl⟩

theorem slotFrame_aset (j : Nat) (s : St) (x : SlotVar) : SlotFrame j s { s with S := aset s.S j x } :=
  ⟨_, rfl, fun _ hk => aget_aset_other _ _ _ _ hk⟩

theorem slotFrame_adel (j : Nat) (s : St) : SlotFrame j s { s with S := adel s.S j } :=
  ⟨_, rfl, fun _ hk => aget_adel_other _ _ _ hk⟩

def SlotFrame2 (j i : Nat) (s s' : St) : Prop :=
  ∃ S', s' = { s with S := S' } ∧ ∀ k, k ≠ j → k ≠ i → aget S' k = aget s.S k

theorem SlotFrame.to2 {j : Nat} (i : Nat) {s s' : St} (h : SlotFrame j s s') : SlotFrame2 j i s s' := by
  obtain ⟨S', h1, h2⟩ := h
  exact ⟨S', h1, fun k hk _ => h2 k hk⟩

theorem slotFrame2_aset2 (j i : Nat) (s : St) (x y : SlotVar) :
    SlotFrame2 j i s { s with S := aset (aset s.S i y) j x } :=
  ⟨_, rfl, fun k hk hk' => by rw [aget_aset_other _ _ _ _ hk, aget_aset_other _ _ _ _ hk']⟩

theorem SlotFrame2.components {j i : Nat} {s s' : St} (h : SlotFrame2 j i s s') :
    s'.T = s.T ∧ s'.G = s.G ∧ s'.C = s.C ∧ s'.K = s.K ∧ s'.impls = s.impls ∧ s'.next = s.next ∧
    s'.err = s.err ∧ s'.trace = s.trace ∧ ∀ k, k ≠ j → k ≠ i → aget s'.S k = aget s.S k := by
  obtain ⟨S', rfl, h2⟩ := h
  exact ⟨rfl, rfl, rfl, rfl, rfl, rfl, rfl, rfl, h2⟩

theorem SlotFrame.components {j : Nat} {s s' : St} (h : SlotFrame j s s') :
    s'.T = s.T ∧ s'.G = s.G ∧ s'.C = s.C ∧ s'.K = s.K ∧ s'.impls = s.impls ∧ s'.next = s.next ∧
    s'.err = s.err ∧ s'.trace = s.trace ∧ ∀ k, k ≠ j → aget s'.S k = aget s.S k := by
  obtain ⟨S', rfl, h2⟩ := h
  exact ⟨rfl, rfl, rfl, rfl, rfl, rfl, rfl, rfl, h2⟩

/-! ## live functor copies -/

theorem liveCount_aset (s : St) (j : Nat) (d x : SlotVar) (fid : Nat) (hd : aget s.S j = some d) :
    liveCount { s with S := aset s.S j x } fid + d.slot.live fid = liveCount s fid + x.slot.live fid := by
  have := sum_aset s.S j x (fun v => v.slot.live fid)
  simp only [hd, Option.elim] at this
  simp only [liveCount]
  omega

theorem liveCount_aset_new (s : St) (j : Nat) (x : SlotVar) (fid : Nat) (hd : aget s.S j = none) :
    liveCount { s with S := aset s.S j x } fid = liveCount s fid + x.slot.live fid := by
  have := sum_aset s.S j x (fun v => v.slot.live fid)
  simp only [hd, Option.elim] at this
  simp only [liveCount]
  omega

theorem liveCount_aset2 (s : St) (j i : Nat) (x y : SlotVar) (fid : Nat) (hji : j ≠ i) :
    liveCount { s with S := aset (aset s.S i y) j x } fid + (aget s.S i).elim 0 (·.slot.live fid)
        + (aget s.S j).elim 0 (·.slot.live fid)
      = liveCount s fid + y.slot.live fid + x.slot.live fid := by
  have h1 := sum_aset s.S i y (fun v => v.slot.live fid)
  have h2 := sum_aset (aset s.S i y) j x (fun v => v.slot.live fid)
  rw [aget_aset_other _ _ _ _ hji] at h2
  simp only [liveCount]
  omega

theorem liveCount_adel_le (s : St) (j : Nat) (d : SlotVar) (fid : Nat) (hd : aget s.S j = some d) :
    liveCount { s with S := adel s.S j } fid + d.slot.live fid ≤ liveCount s fid := by
  have := Model.sum_adel_le (fun v => v.slot.live fid) hd
  simp only [liveCount]
  omega

theorem liveCount_congr (s s' : St) (fid : Nat) (hS : s'.S = s.S) (hI : s'.impls = s.impls) :
    liveCount s' fid = liveCount s fid := by
  simp only [liveCount, hS, hI]

theorem asetS_spec {o : Option (St × String)} {s s' : St} {r r₀ : String} {j : Nat} {d x : SlotVar}
    (hd : aget s.S j = some d) (ho : o = some ({ s with S := aset s.S j x }, r₀)) (h : o = some (s', r)) :
    r = r₀ ∧ aget s'.S j = some x ∧ (∀ i, i ≠ j → aget s'.S i = aget s.S i) ∧ SlotFrame j s s' ∧
    ∀ fid, liveCount s' fid + d.slot.live fid = liveCount s fid + x.slot.live fid := by
  cases ho.symm.trans h
  exact ⟨rfl, aget_aset_same _ _ _, fun _ => aget_aset_other _ _ _ _, slotFrame_aset _ _ _,
         fun fid => liveCount_aset s j d x fid hd⟩

/-! ## slot values -/

/-- the normalisation `signal_impl::insert` applies (`set_parent` creates the dummy rep) -/
def withDummy (sl : SlotB) : SlotB :=
  match sl.rep with
  | none => { sl with rep := some { call := false, fn := none } }
  | some _ => sl

theorem withDummy_eq_normSlot : withDummy = normSlot := rfl

theorem withDummy_blocked (sl : SlotB) : (withDummy sl).blocked = sl.blocked := by
  unfold withDummy; split <;> rfl

theorem withDummy_empty (sl : SlotB) : (withDummy sl).empty = sl.empty := by
  unfold withDummy; split <;> simp_all [SlotB.empty]

theorem withDummy_live (sl : SlotB) (fid : Nat) : (withDummy sl).live fid = sl.live fid := by
  unfold withDummy; split <;> simp_all [SlotB.live]

theorem withDummy_of_rep (sl : SlotB) (r : Rep) (h : sl.rep = some r) : withDummy sl = sl := by
  unfold withDummy; simp [h]

theorem withDummy_rep_isSome (sl : SlotB) : (withDummy sl).rep.isSome = true := by
  unfold withDummy; split <;> simp_all

theorem live_of_rep_none (sl : SlotB) (fid : Nat) (h : sl.rep = none) : sl.live fid = 0 := by
  simp [SlotB.live, h]

theorem move_live (sl : SlotB) (fid : Nat) : sl.move.1.live fid = sl.live fid ∧ sl.move.2.live fid = 0 := by
  unfold SlotB.move
  cases hr : sl.rep with
  | none => simp [SlotB.live, hr]
  | some r => simp [SlotB.live, hr]

/-! ## what each slot operation computes when its guards pass -/

/-- the taint of an assigned-to variable (recursion guard of the op language, not part of C15) -/
def maxTaint (a b : Int) : Int := if a < b then b else a

theorem maxTaint_self (a : Int) : maxTaint a a = a := by simp [maxTaint]

/-- `slot_base::operator=(const slot_base&)` as executed by `asgS j i` -/
def asgSlot (j i : Nat) (d v : SlotB) : SlotB :=
  if j = i || (d.rep.isNone && v.rep.isNone) then { d with blocked := v.blocked }
  else if v.empty then { d with rep := none }
  else { blocked := v.blocked, rep := v.copy.rep }

theorem asgS_total (s : St) (j i : Nat) (d v : SlotVar) (hd : aget s.S j = some d) (hv : aget s.S i = some v) :
    stepSimple s (.asgS j i) =
      if d.isVoid != v.isVoid then some (s, "badtype") else
      if d.incall > 0 then some (s, "busy") else
      some ({ s with S := aset s.S j { d with slot := asgSlot j i d.slot v.slot, taint := maxTaint d.taint v.taint } }, "ok") := by
  simp only [stepSimple.eq_def, hd, hv]
  rfl

theorem asgS_eq (s : St) (j i : Nat) (d v : SlotVar)
    (hd : aget s.S j = some d) (hv : aget s.S i = some v)
    (hty : d.isVoid = v.isVoid) (hin : d.incall = 0) :
    stepSimple s (.asgS j i) =
      some ({ s with S := aset s.S j { d with slot := asgSlot j i d.slot v.slot, taint := maxTaint d.taint v.taint } }, "ok") := by
  rw [asgS_total s j i d v hd hv, if_neg (by simp [hty]), if_neg (by omega)]

/-- `slot_base::operator=(slot_base&&)` as executed by `masgS j i`: the new destination and the new source -/
def masgSlot (j i : Nat) (d v : SlotB) : SlotB × SlotB :=
  if j = i || (d.rep.isNone && v.rep.isNone) then ({ d with blocked := v.blocked }, v)
  else if v.empty then ({ d with rep := none }, v)
  else ({ blocked := v.blocked, rep := v.rep }, {})

/-- the destination of move assignment is that of copy assignment: a valid rep is its own copy -/
theorem masgSlot_fst (j i : Nat) (d v : SlotB) : (masgSlot j i d v).1 = asgSlot j i d v := by
  unfold masgSlot asgSlot
  split
  · rfl
  · split
    · rfl
    · rename_i he
      obtain ⟨b, r⟩ := v
      cases r with
      | none => simp [SlotB.empty] at he
      | some r =>
        obtain ⟨c, fn⟩ := r
        cases c
        · simp [SlotB.empty] at he
        · rfl

theorem masgS_total (s : St) (j i : Nat) (d v : SlotVar) (hd : aget s.S j = some d) (hv : aget s.S i = some v) :
    stepSimple s (.masgS j i) =
      if d.isVoid != v.isVoid then some (s, "badtype") else
      if d.incall > 0 || v.incall > 0 then some (s, "busy") else
      some ({ s with S := aset (aset s.S i { v with slot := (masgSlot j i d.slot v.slot).2 }) j
                          { d with slot := asgSlot j i d.slot v.slot, taint := maxTaint d.taint v.taint } }, "ok") := by
  rw [← masgSlot_fst]
  cases h1 : (d.isVoid != v.isVoid)
  · cases h2 : (decide (d.incall > 0) || decide (v.incall > 0))
    · simp only [stepSimple.eq_def, hd, hv, h1, h2, masgSlot]
      -- only the exchange writes the source; in the other branches the source is written back as it was
      cases (j = i || (d.slot.rep.isNone && v.slot.rep.isNone)) <;> cases v.slot.empty <;>
        simp only [Bool.false_eq_true, if_false, if_true]
      · rfl
      all_goals rw [StepConn.aset_self_of_aget _ _ _ hv]; rfl
    · simp only [stepSimple.eq_def, hd, hv, h1, h2]
      rfl
  · simp only [stepSimple.eq_def, hd, hv, h1]
    rfl

theorem masgS_eq (s : St) (j i : Nat) (d v : SlotVar)
    (hd : aget s.S j = some d) (hv : aget s.S i = some v)
    (hty : d.isVoid = v.isVoid) (hin : d.incall = 0) (hin' : v.incall = 0) :
    stepSimple s (.masgS j i) =
      some ({ s with S := aset (aset s.S i { v with slot := (masgSlot j i d.slot v.slot).2 }) j
                          { d with slot := (masgSlot j i d.slot v.slot).1, taint := maxTaint d.taint v.taint } }, "ok") := by
  rw [masgS_total s j i d v hd hv, if_neg (by simp [hty]), if_neg (by simp [hin, hin']), masgSlot_fst]

/-- unless it exchanges, move assignment is copy assignment: same answer, same state -/
theorem masgS_eq_asgS (s : St) (j i : Nat) (d v : SlotVar) (hd : aget s.S j = some d) (hv : aget s.S i = some v)
    (hin' : v.incall = 0) (hx : (masgSlot j i d.slot v.slot).2 = v.slot) :
    stepSimple s (.masgS j i) = stepSimple s (.asgS j i) := by
  rw [masgS_total s j i d v hd hv, asgS_total s j i d v hd hv, hx, StepConn.aset_self_of_aget _ _ _ hv]
  simp [hin']

theorem mkS0_eq (s : St) (i : Nat) (ty : String) (hn : aget s.S i = none) (hty : ty = "I" ∨ ty = "V") :
    stepSimple s (.mkS0 i ty) = some ({ s with S := aset s.S i { isVoid := ty = "V", slot := {} } }, "ok") := by
  have h1 : (ty ≠ "I" && ty ≠ "V") = false := by rcases hty with rfl | rfl <;> decide
  simp only [stepSimple.eq_def, hn, h1]
  rfl

theorem mkS_eq (s s0 : St) (i : Nat) (ty : String) (spec : FSpec) (fn : Fun)
    (hn : aget s.S i = none) (hty : ty = "I" ∨ ty = "V")
    (hf : mkFun s (ty = "V") spec = .ok (fn, s0)) :
    stepSimple s (.mkS i ty spec) =
      some ({ s0 with S := aset s0.S i { isVoid := ty = "V",
                                         slot := { blocked := false, rep := some { call := true, fn := some fn } },
                                         taint := specTaint s spec } }, "ok") := by
  have h1 : (ty ≠ "I" && ty ≠ "V") = false := by rcases hty with rfl | rfl <;> decide
  simp only [stepSimple.eq_def, hn, h1, hf]
  rfl

theorem setS_eq (s s0 : St) (i : Nat) (d : SlotVar) (spec : FSpec) (fn : Fun)
    (hd : aget s.S i = some d) (hin : d.incall = 0) (hf : mkFun s d.isVoid spec = .ok (fn, s0)) :
    stepSimple s (.setS i spec) =
      some ({ s0 with S := aset s0.S i { d with slot := { blocked := false, rep := some { call := true, fn := some fn } },
                                                taint := maxTaint d.taint (specTaint s spec) } }, "ok") := by
  have h2 : ¬ d.incall > 0 := by omega
  simp only [stepSimple.eq_def, hd, h2, hf]
  rfl

theorem cpS_eq (s : St) (j i : Nat) (v : SlotVar) (hv : aget s.S i = some v) (hn : aget s.S j = none) :
    stepSimple s (.cpS j i) =
      some ({ s with S := aset s.S j { isVoid := v.isVoid, slot := v.slot.copy, taint := v.taint } }, "ok") := by
  simp only [stepSimple, hv, hn]

theorem mvS_eq (s : St) (j i : Nat) (v : SlotVar) (hv : aget s.S i = some v) (hn : aget s.S j = none)
    (hin : v.incall = 0) :
    stepSimple s (.mvS j i) =
      some ({ s with S := aset (aset s.S i { v with slot := v.slot.move.2 }) j
                          { isVoid := v.isVoid, slot := v.slot.move.1, taint := v.taint } }, "ok") := by
  have h2 : ¬ v.incall > 0 := by omega
  simp only [stepSimple.eq_def, hv, hn, h2]
  rfl

theorem delS_eq (s : St) (i : Nat) (v : SlotVar) (hv : aget s.S i = some v) (hin : v.incall = 0) :
    stepSimple s (.delS i) = some ({ s with S := adel s.S i }, "ok") := by
  have h2 : ¬ v.incall > 0 := by omega
  simp only [stepSimple.eq_def, hv, h2]
  rfl

theorem discS_eq (s : St) (i : Nat) (v : SlotVar) (hv : aget s.S i = some v) :
    stepSimple s (.discS i) = some ({ s with S := aset s.S i { v with slot := v.slot.disconnectRep } }, "ok") := by
  simp only [stepSimple.eq_def, hv]

theorem blockS_eq (s : St) (i : Nat) (b : Bool) (v : SlotVar) (hv : aget s.S i = some v) :
    stepSimple s (.blockS i b) =
      some ({ s with S := aset s.S i { v with slot := { v.slot with blocked := b } } }, bstr v.slot.blocked) := by
  simp only [stepSimple.eq_def, hv]

/-! ## `mkFun` never touches a slot variable, a connection or a cell -/

/-- functor specs whose construction has no side effect on the state: everything but `make_slot()` of a
    signal (marks the signal object) and the owning functors (take over a trackable / scoped connection /
    signal object) -/
def plainSpec : FSpec → Bool
  | .fwd _ | .ownT _ _ | .ownK _ _ | .ownG _ _ => false
  | _ => true

def ownSpec : FSpec → Bool
  | .ownT _ _ | .ownK _ _ | .ownG _ _ => true
  | _ => false

/-- what building a functor leaves alone, spec by spec; the owning functor `ownG fid g` changes only `ownedG` (one
    new entry, owner id = the old `next`) and `next`, every other spec leaves `ownedG` alone -/
theorem mkFun_all (s s0 : St) (b : Bool) (spec : FSpec) (fn : Fun) (h : mkFun s b spec = .ok (fn, s0)) :
    ((s0.S = s.S ∧ s0.C = s.C ∧ s0.impls = s.impls ∧ s0.depth = s.depth ∧ s0.steps = s.steps ∧
      s0.trace = s.trace ∧ s0.err = s.err) ∧
     (plainSpec spec = true → s0 = s) ∧
     (ownSpec spec = false → s0.T = s.T ∧ s0.K = s.K ∧ s0.next = s.next) ∧
     ((∀ g, spec ≠ .fwd g) → s0.G = s.G)) ∧
    ((∀ fid g, spec ≠ .ownG fid g) → s0.ownedG = s.ownedG) ∧
    (∀ fid g, spec = .ownG fid g →
      s0 = { s with ownedG := (s.next, g) :: s.ownedG, next := s.next + 1 } ∧ fn = .owner fid [] [s.next] ∧
      (aget s.G g).isSome ∧ s.ownedG.any (fun p => p.2 = g) = false) := by
  have hat := (mkFun_cases_spec h).2
  cases spec with
  | fwd g =>
    obtain ⟨_, _, _, rfl⟩ := hat
    exact ⟨⟨⟨rfl, rfl, rfl, rfl, rfl, rfl, rfl⟩, nofun, fun _ => ⟨rfl, rfl, rfl⟩, fun hn => absurd rfl (hn g)⟩, fun _ => rfl, nofun⟩
  | ownG fid g =>
    obtain ⟨⟨_, hg⟩, ho, rfl, rfl⟩ := hat
    refine ⟨⟨⟨rfl, rfl, rfl, rfl, rfl, rfl, rfl⟩, nofun, nofun, fun _ => rfl⟩, fun hn => absurd rfl (hn _ _), fun _ _ e => ?_⟩
    cases e
    exact ⟨rfl, rfl, by rw [hg]; rfl, ho⟩
  | ownT _ _ | ownK _ _ =>
    obtain ⟨_, _, _, rfl⟩ := hat
    exact ⟨⟨⟨rfl, rfl, rfl, rfl, rfl, rfl, rfl⟩, nofun, nofun, fun _ => rfl⟩, fun _ => rfl, nofun⟩
  | _ =>
    cases (hat : s0 = s)
    exact ⟨⟨⟨rfl, rfl, rfl, rfl, rfl, rfl, rfl⟩, fun _ => rfl, fun _ => ⟨rfl, rfl, rfl⟩, fun _ => rfl⟩, fun _ => rfl, nofun⟩

/-! ## frames of the slot-variable operations over *all* their branches (also the refused ones) -/

/-- the slot variables an operation on slot variables may write (`none`: not a slot-variable operation) -/
def slotWrites : Op → Option (List Nat)
  | .mkS i _ _ | .mkS0 i _ | .cpS i _ | .asgS i _ | .setS i _ | .delS i | .discS i | .blockS i _ => some [i]
  | .mvS j i | .masgS j i => some [j, i]
  | .blockedSq _ | .emptySq _ => some []
  | _ => none

def slotOpPlain : Op → Bool
  | .mkS _ _ f | .setS _ f => plainSpec f
  | _ => true

/-- `p`: the operation builds no `fwd` or owning functor (`slotOpPlain`); only then are `T K G next` unchanged too -/
def SFrameL (p : Bool) (ws : List Nat) (s s' : St) : Prop :=
  (∀ k, k ∉ ws → aget s'.S k = aget s.S k) ∧ s'.impls = s.impls ∧ s'.C = s.C ∧
  (p = true → s'.T = s.T ∧ s'.K = s.K ∧ s'.G = s.G ∧ s'.next = s.next)

theorem SFrameL.refl (p : Bool) (ws : List Nat) (s : St) : SFrameL p ws s s :=
  ⟨fun _ _ => rfl, rfl, rfl, fun _ => ⟨rfl, rfl, rfl, rfl⟩⟩

theorem ne_of_notMem {k j : Nat} {ws : List Nat} (hk : k ∉ ws) (hj : j ∈ ws) : k ≠ j :=
  fun e => hk (e ▸ hj)

theorem sframe_aset (s : St) (j : Nat) (x : SlotVar) (ws : List Nat) (hj : j ∈ ws) :
    SFrameL true ws s { s with S := aset s.S j x } :=
  ⟨fun _ hk => aget_aset_other _ _ _ _ (ne_of_notMem hk hj), rfl, rfl, fun _ => ⟨rfl, rfl, rfl, rfl⟩⟩

theorem sframe_adel (s : St) (j : Nat) (ws : List Nat) (hj : j ∈ ws) :
    SFrameL true ws s { s with S := adel s.S j } :=
  ⟨fun _ hk => aget_adel_other _ _ _ (ne_of_notMem hk hj), rfl, rfl, fun _ => ⟨rfl, rfl, rfl, rfl⟩⟩

theorem sframe_aset2 (s : St) (j i : Nat) (x y : SlotVar) (ws : List Nat) (hj : j ∈ ws) (hi : i ∈ ws) :
    SFrameL true ws s { s with S := aset (aset s.S i y) j x } :=
  ⟨fun k hk => by
    show aget (aset (aset s.S i y) j x) k = aget s.S k
    rw [aget_aset_other _ _ _ _ (ne_of_notMem hk hj), aget_aset_other _ _ _ _ (ne_of_notMem hk hi)],
   rfl, rfl, fun _ => ⟨rfl, rfl, rfl, rfl⟩⟩

theorem sframe_mkFun (s s0 : St) (b : Bool) (spec : FSpec) (fn : Fun) (hf : mkFun s b spec = .ok (fn, s0))
    (j : Nat) (x : SlotVar) (ws : List Nat) (hj : j ∈ ws) :
    SFrameL (plainSpec spec) ws s { s0 with S := aset s0.S j x } := by
  obtain ⟨⟨hS, hC, hI, _⟩, hp, _⟩ := (mkFun_all s s0 b spec fn hf).1
  refine ⟨fun k hk => ?_, hI, hC, fun h => ?_⟩
  · show aget (aset s0.S j x) k = aget s.S k
    rw [aget_aset_other _ _ _ _ (ne_of_notMem hk hj), hS]
  · rw [hp h]; exact ⟨rfl, rfl, rfl, rfl⟩

/-! ## connecting a slot: `ensureImpl`, `insertCell`, `conn`, `connfn` -/

theorem ensureImpl_spec (s s1 : St) (g im : Nat) (he : ensureImpl s g = some (s1, im)) :
    s1.S = s.S ∧ s1.C = s.C ∧ s1.K = s.K ∧ s1.T = s.T ∧
    ((s1 = s ∧ ∃ h, aget s.G g = some h ∧ h.impl = some im) ∨
     (∃ h, aget s.G g = some h ∧ h.impl = none ∧ im = s.next ∧ aget s1.impls im = some {} ∧
           s1.next = s.next + 1 ∧ (∀ k, k ≠ im → aget s1.impls k = aget s.impls k) ∧
           aget s1.G g = some { h with impl := some im } ∧ ∀ k, k ≠ g → aget s1.G k = aget s.G k)) := by
  obtain ⟨h, hg, ⟨hi, rfl⟩ | ⟨hi, rfl, rfl⟩⟩ := Model.ensureImpl_cases he
  · exact ⟨rfl, rfl, rfl, rfl, .inl ⟨rfl, h, hg, hi⟩⟩
  · exact ⟨rfl, rfl, rfl, rfl, .inr ⟨h, hg, hi, rfl, aget_aset_same _ _ _, rfl,
      fun k hk => aget_aset_other _ _ _ _ hk, aget_aset_same _ _ _, fun k hk => aget_aset_other _ _ _ _ hk⟩⟩

theorem ensureImpl_handle (s s1 : St) (g im : Nat) (he : ensureImpl s g = some (s1, im)) :
    ∃ h', aget s1.G g = some h' ∧ h'.impl = some im := by
  obtain ⟨_, _, _, _, ⟨rfl, h0, hg, hi⟩ | ⟨h0, _, _, _, _, _, _, hg, _⟩⟩ := ensureImpl_spec s s1 g im he
  · exact ⟨h0, hg, hi⟩
  · exact ⟨_, hg, rfl⟩

/-- the cell `signal_impl::insert` creates for slot value `sl` with id `cid` -/
def newCell (cid : Nat) (sl : SlotB) : Cell := { id := cid, slot := withDummy sl, linked := true }

/-- insertion at the front (`connect_first`) or at the back (`connect`) -/
def insAt (first : Bool) (c : Cell) (cs : List Cell) : List Cell := if first then c :: cs else cs ++ [c]

theorem all_insAt (first : Bool) (c : Cell) (cs : List Cell) (p : Cell → Bool) :
    (insAt first c cs).all p = (p c && cs.all p) := by
  cases first <;> simp [insAt, Bool.and_comm]

/-- `Model.insertCell_some` in the words `newCell`, `insAt` of this file -/
theorem insertCell_newCell (s : St) (i : Nat) (first : Bool) (sl : SlotB) (x : Impl) (hx : aget s.impls i = some x) :
    insertCell s i first sl =
      (setImpl { s with next := s.next + 1 } i { x with cells := insAt first (newCell s.next sl) x.cells }, s.next) :=
  by rw [insertCell_some hx first sl, newCell, insAt, withDummy_eq_normSlot]

theorem conn_copy_eq (s s1 : St) (k g sv : Nat) (first : Bool) (h : Handle) (v : SlotVar) (im : Nat) (x : Impl)
    (hg : aget s.G g = some h) (hv : aget s.S sv = some v)
    (hty : h.fl.isVoid = v.isVoid) (hta : v.taint < (h.lvl : Int))
    (he : ensureImpl s g = some (s1, im)) (hx : aget s1.impls im = some x) :
    stepSimple s (.conn k g sv first false) =
      some (setConn (setImpl { s1 with next := s1.next + 1 } im
                       { x with cells := insAt first (newCell s1.next v.slot.copy) x.cells }) k (some s1.next), "ok") := by
  have h1 : (h.fl.isVoid != v.isVoid) = false := by simp [hty]
  have h2 : ¬ (v.taint ≥ (h.lvl : Int)) := by omega
  simp only [stepSimple.eq_def, hg, hv, h1, h2, he, Bool.false_and, Bool.false_eq_true, if_false, insertCell_newCell _ _ _ _ _ hx]

theorem conn_move_eq (s s1 : St) (k g sv : Nat) (first : Bool) (h : Handle) (v : SlotVar) (im : Nat) (x : Impl)
    (hg : aget s.G g = some h) (hv : aget s.S sv = some v)
    (hty : h.fl.isVoid = v.isVoid) (hta : v.taint < (h.lvl : Int)) (hin : v.incall = 0)
    (he : ensureImpl s g = some (s1, im)) (hx : aget s1.impls im = some x) :
    stepSimple s (.conn k g sv first true) =
      some (setConn (setImpl { s1 with next := s1.next + 1, S := aset s1.S sv { v with slot := v.slot.move.2 } } im
                       { x with cells := insAt first (newCell s1.next v.slot.move.1) x.cells }) k (some s1.next), "ok") := by
  have h1 : (h.fl.isVoid != v.isVoid) = false := by simp [hty]
  have h2 : ¬ (v.taint ≥ (h.lvl : Int)) := by omega
  have h3 : (true && decide (v.incall > 0)) = false := by simp; omega
  have hx' : aget ({ s1 with S := aset s1.S sv { v with slot := v.slot.move.2 } } : St).impls im = some x := hx
  simp only [stepSimple.eq_def, hg, hv, h1, h2, h3, he, Bool.false_eq_true, if_false, if_true, insertCell_newCell _ _ _ _ _ hx']

theorem connfn_eq (s s0 s1 : St) (k g : Nat) (spec : FSpec) (first : Bool) (h : Handle) (fn : Fun) (im : Nat) (x : Impl)
    (hg : aget s.G g = some h) (hf : mkFun s h.fl.isVoid spec = .ok (fn, s0))
    (hta : specTaint s spec < (h.lvl : Int))
    (he : ensureImpl s0 g = some (s1, im)) (hx : aget s1.impls im = some x) :
    stepSimple s (.connfn k g spec first) =
      some (setConn (setImpl { s1 with next := s1.next + 1 } im
                       { x with cells := insAt first (newCell s1.next { blocked := false, rep := some { call := true, fn := some fn } }) x.cells })
                    k (some s1.next), "ok") := by
  have h2 : ¬ (specTaint s spec ≥ (h.lvl : Int)) := by omega
  simp only [stepSimple.eq_def, hg, hf, h2, he, if_false, insertCell_newCell _ _ _ _ _ hx]

theorem liveCount_setImpl (s : St) (im : Nat) (x x' : Impl) (fid : Nat) (hx : aget s.impls im = some x) :
    liveCount (setImpl s im x') fid + (x.cells.map (fun c => c.slot.live fid)).sum
      = liveCount s fid + (x'.cells.map (fun c => c.slot.live fid)).sum := by
  have := sum_aset s.impls im x' (fun y => (y.cells.map (fun c => c.slot.live fid)).sum)
  simp only [hx, Option.elim] at this
  simp only [liveCount, setImpl]
  omega

theorem liveCount_insert (s0 : St) (im : Nat) (x : Impl) (first : Bool) (k : Nat) (p : Option Nat) (c : Cell)
    (fid : Nat) (hx : aget s0.impls im = some x) :
    liveCount (setConn (setImpl s0 im { x with cells := insAt first c x.cells }) k p) fid
      = liveCount s0 fid + c.slot.live fid := by
  have h1 := liveCount_setImpl s0 im x { x with cells := insAt first c x.cells } fid hx
  have h2 : ((insAt first c x.cells).map (fun c => c.slot.live fid)).sum
      = (x.cells.map (fun c => c.slot.live fid)).sum + c.slot.live fid := by
    cases first <;> simp [insAt] <;> omega
  have h3 : liveCount (setConn (setImpl s0 im { x with cells := insAt first c x.cells }) k p) fid
      = liveCount (setImpl s0 im { x with cells := insAt first c x.cells }) fid := rfl
  simp only at h1
  omega

/-! ## cell lookup (`findCellImpl`, `getCell`) and `sizeq` under an id-preserving rewrite of one impl's cells -/

theorem find_map_id (cs : List Cell) (f : Cell → Cell) (cid : Nat) (hf : ∀ c, (f c).id = c.id) :
    (cs.map f).find? (·.id = cid) = (cs.find? (·.id = cid)).map f := by
  induction cs with
  | nil => rfl
  | cons c t ih =>
    by_cases hc : c.id = cid
    · simp [List.find?, hf, hc]
    · simp [List.find?, hf, hc, ih]

theorem getCell_id (s : St) (cid i : Nat) (c : Cell) (h : getCell s cid = some (i, c)) : c.id = cid := by
  obtain ⟨_, _, _, _, _, e⟩ := getCell_eq_some h
  exact e

theorem getCell_mapCells (s : St) (i : Nat) (im : Impl) (f : Cell → Cell) (hf : ∀ c, (f c).id = c.id)
    (him : aget s.impls i = some im) (cid : Nat) :
    getCell (setImpl s i { im with cells := im.cells.map f }) cid
      = (getCell s cid).map (fun p => if p.1 = i then (p.1, f p.2) else p) := by
  have hid : ({ im with cells := im.cells.map f } : Impl).cells.map (·.id) = im.cells.map (·.id) := by
    simp [List.map_map, Function.comp_def, hf]
  unfold getCell
  simp only [setImpl, StepConn.findCellImpl_aset_ids s.impls i im _ cid him hid]
  cases hk : findCellImpl s.impls cid with
  | none => rfl
  | some k =>
    by_cases hki : k = i
    · subst hki
      simp only [aget_aset_same, him, find_map_id _ f cid hf]
      cases im.cells.find? (·.id = cid) <;> simp
    · simp only [aget_aset_other _ _ _ _ hki]
      cases aget s.impls k with
      | none => rfl
      | some w => simp [Function.comp_def, hki]

theorem getCell_congr (s s' : St) (h : s'.impls = s.impls) (cid : Nat) : getCell s' cid = getCell s cid := by
  simp only [getCell, h]

theorem connConnected_congr (s s' : St) (h : s'.impls = s.impls) (p : Option Nat) :
    connConnected s' p = connConnected s p := by
  cases p with
  | none => rfl
  | some cid => simp only [connConnected, getCell_congr s s' h]

theorem connBlocked_congr (s s' : St) (h : s'.impls = s.impls) (p : Option Nat) :
    connBlocked s' p = connBlocked s p := by
  cases p with
  | none => rfl
  | some cid => simp only [connBlocked, getCell_congr s s' h]

theorem connConnected_mapCells (s : St) (i : Nat) (im : Impl) (f : Cell → Cell) (hf : ∀ c, (f c).id = c.id)
    (he : ∀ c, (f c).slot.empty = c.slot.empty) (him : aget s.impls i = some im) (p : Option Nat) :
    connConnected (setImpl s i { im with cells := im.cells.map f }) p = connConnected s p := by
  cases p with
  | none => rfl
  | some cid =>
    simp only [connConnected, getCell_mapCells s i im f hf him cid]
    cases hc' : getCell s cid with
    | none => rfl
    | some p =>
      obtain ⟨k, c'⟩ := p
      by_cases hk : k = i <;> simp [hk, he]

theorem sizeq_mapCells (s : St) (i : Nat) (im : Impl) (f : Cell → Cell) (him : aget s.impls i = some im)
    (g : Nat) (r0 : String) (h : stepSimple s (.sizeq g) = some (s, r0)) :
    stepSimple (setImpl s i { im with cells := im.cells.map f }) (.sizeq g)
      = some (setImpl s i { im with cells := im.cells.map f }, r0) := by
  have hlen : ∀ k, (aget (aset s.impls i { im with cells := im.cells.map f }) k).map (·.cells.length)
                 = (aget s.impls k).map (·.cells.length) := by
    intro k
    by_cases hk : k = i
    · subst hk; simp [him]
    · rw [aget_aset_other _ _ _ _ hk]
  simp only [stepSimple.eq_def, setImpl] at h ⊢
  cases hg : aget s.G g with
  | none => simp only [hg] at h ⊢; simpa using h
  | some h0 =>
    simp only [hg] at h ⊢
    cases hi : h0.impl with
    | none => simp only [hi] at h ⊢; simpa using h
    | some k =>
      simp only [hi] at h ⊢
      rw [hlen k]
      simpa using h

theorem sizeq_congr (s s' : St) (hG : s'.G = s.G) (hI : s'.impls = s.impls)
    (g : Nat) (r0 : String) (h : stepSimple s (.sizeq g) = some (s, r0)) :
    stepSimple s' (.sizeq g) = some (s', r0) := by
  simp only [stepSimple.eq_def, hG, hI] at h ⊢
  repeat' split at h
  all_goals (simp only [Option.some.injEq, Prod.mk.injEq] at h; obtain ⟨_, rfl⟩ := h)
  all_goals simp_all

/-! ## what `connBlock` and `blockG` compute (for C12) -/

/-- `slot_base::block(b)` on the cell with id `cid` -/
def blockCellF (cid : Nat) (b : Bool) (c : Cell) : Cell :=
  if c.id = cid then { c with slot := { c.slot with blocked := b } } else c

def setBlocked (cid : Nat) (b : Bool) (cs : List Cell) : List Cell := cs.map (blockCellF cid b)

/-- `signal_impl::block(b)`: every cell's flag set to `b` -/
def blockAll (b : Bool) (cs : List Cell) : List Cell := cs.map (fun c => { c with slot := { c.slot with blocked := b } })

theorem blockCellF_id (cid : Nat) (b : Bool) (c : Cell) : (blockCellF cid b c).id = c.id := by
  unfold blockCellF; split <;> rfl

theorem blockCellF_other (cid : Nat) (b : Bool) (c : Cell) (h : c.id ≠ cid) : blockCellF cid b c = c := by
  simp [blockCellF, h]

theorem blockCellF_empty (cid : Nat) (b : Bool) (c : Cell) : (blockCellF cid b c).slot.empty = c.slot.empty := by
  unfold blockCellF; split <;> rfl

theorem connBlock_none (s : St) (p : Option Nat) (b : Bool)
    (h : p = none ∨ ∃ cid, p = some cid ∧ getCell s cid = none) : connBlock s p b = s ∧ connBlocked s p = false := by
  rcases h with rfl | ⟨cid, rfl, hc⟩
  · exact ⟨rfl, rfl⟩
  · simp [connBlock, connBlocked, hc]

theorem connBlock_eq (s : St) (cid i : Nat) (c : Cell) (b : Bool) (hc : getCell s cid = some (i, c)) :
    ∃ im, aget s.impls i = some im ∧ im.cells.find? (·.id = cid) = some c ∧
      connBlock s (some cid) b = setImpl s i { im with cells := setBlocked cid b im.cells } := by
  obtain ⟨_, im, him, hf, _⟩ := getCell_eq_some hc
  refine ⟨im, him, hf, ?_⟩
  simp only [connBlock, hc, updCell, him]
  rfl

/-- `connection::block(b)` on a connection pointing at the live cell `cid` (of impl `i`): only that flag changes;
    every other impl, cell lookup and `connected()` answer and the tables `S C K G T` are as before -/
theorem connBlock_spec (s : St) (cid i : Nat) (c : Cell) (b : Bool) (hc : getCell s cid = some (i, c)) :
    connBlocked s (some cid) = c.slot.blocked ∧
    (∃ x, aget s.impls i = some x ∧ x.cells.find? (·.id = cid) = some c ∧
          aget (connBlock s (some cid) b).impls i = some { x with cells := setBlocked cid b x.cells }) ∧
    (∀ k, k ≠ i → aget (connBlock s (some cid) b).impls k = aget s.impls k) ∧
    getCell (connBlock s (some cid) b) cid = some (i, { c with slot := { c.slot with blocked := b } }) ∧
    connBlocked (connBlock s (some cid) b) (some cid) = b ∧
    (∀ cid', cid' ≠ cid → getCell (connBlock s (some cid) b) cid' = getCell s cid') ∧
    (∀ p, connConnected (connBlock s (some cid) b) p = connConnected s p) ∧
    (connBlock s (some cid) b).S = s.S ∧ (connBlock s (some cid) b).C = s.C ∧ (connBlock s (some cid) b).K = s.K ∧
    (connBlock s (some cid) b).G = s.G ∧ (connBlock s (some cid) b).T = s.T := by
  obtain ⟨im, him, hf, heq⟩ := connBlock_eq s cid i c b hc
  have hcid := getCell_id s cid i c hc
  have hg := getCell_mapCells s i im (blockCellF cid b) (blockCellF_id cid b) him
  have h1 : getCell (connBlock s (some cid) b) cid = some (i, { c with slot := { c.slot with blocked := b } }) := by
    rw [heq]
    exact (hg cid).trans (by simp [hc, blockCellF, hcid])
  rw [heq] at h1 ⊢
  refine ⟨by simp [connBlocked, hc], ⟨im, him, hf, aget_aset_same _ _ _⟩, fun k hk => aget_aset_other _ _ _ _ hk,
    h1, by simp [connBlocked, h1], fun cid' hne => (hg cid').trans ?_,
    connConnected_mapCells s i im _ (blockCellF_id cid b) (blockCellF_empty cid b) him, rfl, rfl, rfl, rfl, rfl⟩
  cases hc' : getCell s cid' with
  | none => rfl
  | some p =>
    obtain ⟨k, c'⟩ := p
    have : c'.id ≠ cid := by rw [getCell_id s cid' k c' hc']; exact hne
    by_cases hk : k = i <;> simp [hk, blockCellF_other cid b c' this]

theorem connBlock_size (s : St) (p : Option Nat) (b : Bool) (g : Nat) (r0 : String)
    (h0 : stepSimple s (.sizeq g) = some (s, r0)) :
    stepSimple (connBlock s p b) (.sizeq g) = some (connBlock s p b, r0) := by
  cases p with
  | none => exact h0
  | some cid =>
    cases hc : getCell s cid with
    | none => rw [(connBlock_none s (some cid) b (.inr ⟨cid, rfl, hc⟩)).1]; exact h0
    | some q =>
      obtain ⟨x, hx, _, heq⟩ := connBlock_eq s cid q.1 q.2 b hc
      rw [heq]
      exact sizeq_mapCells s q.1 x _ hx g r0 h0

theorem connBlocked_reports (s : St) (p : Option Nat) :
    (∀ cid im c, p = some cid → getCell s cid = some (im, c) → connBlocked s p = c.slot.blocked) ∧
    ((p = none ∨ ∃ cid, p = some cid ∧ getCell s cid = none) → connBlocked s p = false) := by
  refine ⟨fun cid im c hpc hc => ?_, fun hd => (connBlock_none s p false hd).2⟩
  subst hpc
  simp [connBlocked, hc]

theorem blockAll_shape (b : Bool) (cs : List Cell) :
    (blockAll b cs).length = cs.length ∧
    (blockAll b cs).map (·.id) = cs.map (·.id) ∧
    (blockAll b cs).map (·.slot.rep) = cs.map (·.slot.rep) ∧
    (blockAll b cs).map (·.linked) = cs.map (·.linked) ∧
    (∀ c ∈ blockAll b cs, c.slot.blocked = b) := by
  refine ⟨by simp [blockAll], by simp [blockAll, List.map_map, Function.comp_def],
          by simp [blockAll, List.map_map, Function.comp_def], by simp [blockAll, List.map_map, Function.comp_def], ?_⟩
  intro c hc
  simp [blockAll] at hc
  obtain ⟨c0, _, rfl⟩ := hc
  rfl

theorem blockG_eq (s : St) (g im : Nat) (b : Bool) (h0 : Handle) (x : Impl)
    (hg : aget s.G g = some h0) (hi : h0.impl = some im) (hx : aget s.impls im = some x) :
    stepSimple s (.blockG g b) = some (setImpl s im { x with cells := blockAll b x.cells }, "ok") := by
  simp only [stepSimple.eq_def, hg, hi, hx]
  rfl

theorem all_blockAll (b : Bool) (cs : List Cell) :
    (blockAll b cs).all (fun c => c.slot.blocked) = (cs.isEmpty || b) := by
  cases cs with
  | nil => rfl
  | cons c t => cases b <;> simp [blockAll]

end Sigc.StepSlots
