import Sigc.Lemmas.StepWFOps
import Sigc.Lemmas.InvSchema
/-!
# `WF` holds in every reachable state

`WF` is `Stable` in the sense of `Sigc.Inv` (the preservation schema for the mutual block): it is kept by `stepSimple`,
by the prologue / epilogue primitives of `emitImpl` and by `collect`.  Hence all eleven interpreter functions keep it,
and every state in which any operation of any run executes — in particular every final state of `runTop` and of the
harness `teardown` — satisfies `WF`, hence `UniqueCells` and `TracksBelow` (the hypotheses of the C18 theorems).
-/
namespace Sigc.StepWF
open Sigc.Model Sigc.StepConn Sigc.StepHandles Sigc.StepTrack

theorem WF.stable : Sigc.Inv.Stable WF :=
  Sigc.Inv.StableRel.ofPrims WF.prims (fun _ _ _ _ _ h => h.frame _ rfl rfl rfl rfl rfl rfl)
    (fun _ i v _ h hv => h.withS _ (h.vars.aset i _ (h.var (v := v) hv)))
    (fun _ _ => trivial) (fun m _ => WF.move m) (fun _ _ h => h.collect)
    (WF.grow.emitPro fun _ => SlotBelow.of_nil rfl) WF.grow.dropHolder (fun _ g _ h => h.dropHandle g)

/-! ### the eleven interpreter functions -/

/-- the conjuncts of `PresAll` in order: `invokeFun`, `runBody`, `execLine`, `emitImpl`, `emitLoop`, `deref`, `accLoop`,
    `revLoop`, `walkLoop`, `runStrat`, `execOp` -/
theorem interp_WF (f : Nat) : Sigc.Inv.PresAll (fun (_ : Unit) => WF) f := Sigc.Inv.preserved WF.stable.toK f

theorem invokeFun_WF {f : Nat} {P : Prog} {s : St} {fn : Fun} {arg : Nat} {r : St × Outcome × Nat}
    (hw : WF s) (h : invokeFun f P s fn arg = some r) : WF r.1 := WF.stable.invokeFun hw h

theorem runBody_WF {f : Nat} {P : Prog} {s : St} {b : List Line} {r : St × Outcome}
    (hw : WF s) (h : runBody f P s b = some r) : WF r.1 := (interp_WF f).2.1 () _ _ _ _ hw h

theorem execLine_WF {f : Nat} {P : Prog} {s : St} {l : Line} {r : St × Outcome}
    (hw : WF s) (h : execLine f P s l = some r) : WF r.1 := WF.stable.execLine hw h

/-- with `emitLoop_WF`, `invokeFun_WF`, `execOp_WF`: every state inside an emission from a `WF` state is `WF` -/
theorem emitImpl_WF {f : Nat} {P : Prog} {s : St} {fl : Flavour} {impl : Option Nat} {arg : Nat} {strat : Strat}
    {r : St × Outcome × Nat} (hw : WF s) (h : emitImpl f P s fl impl arg strat = some r) : WF r.1 :=
  WF.stable.emitImpl hw h

theorem emitLoop_WF {f : Nat} {P : Prog} {s : St} {i cur m arg v : Nat} {r : St × Outcome × Nat}
    (hw : WF s) (h : emitLoop f P s i cur m arg v = some r) : WF r.1 :=
  (interp_WF f).2.2.2.2.1 () _ _ _ _ _ _ _ _ hw h

theorem deref_WF {f : Nat} {P : Prog} {s : St} {i : Nat} {it : IterBuf} {arg : Nat} {r : St × Outcome × IterBuf}
    (hw : WF s) (h : deref f P s i it arg = some r) : WF r.1 :=
  (interp_WF f).2.2.2.2.2.1 () _ _ _ _ _ _ hw h

theorem accLoop_WF {f : Nat} {P : Prog} {s : St} {i : Nat} {it : IterBuf} {m arg mode k v : Nat}
    {r : St × Outcome × Nat} (hw : WF s) (h : accLoop f P s i it m arg mode k v = some r) : WF r.1 :=
  (interp_WF f).2.2.2.2.2.2.1 () _ _ _ _ _ _ _ _ _ _ hw h

theorem revLoop_WF {f : Nat} {P : Prog} {s : St} {i : Nat} {it : IterBuf} {first arg v : Nat}
    {r : St × Outcome × Nat} (hw : WF s) (h : revLoop f P s i it first arg v = some r) : WF r.1 :=
  (interp_WF f).2.2.2.2.2.2.2.1 () _ _ _ _ _ _ _ _ hw h

theorem walkLoop_WF {f : Nat} {P : Prog} {s : St} {i : Nat} {it : IterBuf} {first m arg : Nat} {cs : List Char}
    {v : Nat} {r : St × Outcome × Nat} (hw : WF s) (h : walkLoop f P s i it first m arg cs v = some r) : WF r.1 :=
  (interp_WF f).2.2.2.2.2.2.2.2.1 () _ _ _ _ _ _ _ _ _ _ hw h

theorem runStrat_WF {f : Nat} {P : Prog} {s : St} {i first m arg : Nat} {strat : Strat} {r : St × Outcome × Nat}
    (hw : WF s) (h : runStrat f P s i first m arg strat = some r) : WF r.1 :=
  (interp_WF f).2.2.2.2.2.2.2.2.2.1 () _ _ _ _ _ _ _ _ hw h

theorem execOp_WF {f : Nat} {P : Prog} {s : St} {op : Op} {r : St × Except Unit String}
    (hw : WF s) (h : execOp f P s op = some r) : WF r.1 := WF.stable.execOp hw h

/-! ### reachable states -/

theorem runTop_WF (f : Nat) (P : Prog) (ls : List Line) (s : St) (h : runTop f P {} ls = some s) : WF s :=
  WF.stable.runTop_from f P ls {} s WF.init h

theorem teardown_WF (f : Nat) (P : Prog) (s s' : St) (hw : WF s) (h : teardown f P s = some s') : WF s' :=
  WF.stable.teardown f P s s' hw h

/-- the hypothesis `UniqueCells` of `C18.delG/mvG/masgG_dies_with_object` holds in every reachable state -/
theorem reachable_UniqueCells (f : Nat) (P : Prog) (ls : List Line) (s : St) (h : runTop f P {} ls = some s) :
    UniqueCells s.impls := (runTop_WF f P ls s h).uniqueCells

/-- the hypothesis `TracksBelow` of `C18.copy_is_distinct` holds in every reachable state -/
theorem reachable_TracksBelow (f : Nat) (P : Prog) (ls : List Line) (s : St) (h : runTop f P {} ls = some s) :
    TracksBelow s := (runTop_WF f P ls s h).tracksBelow

/-- so both hold in every state in which an operation of a run executes, not only in final states -/
theorem execOp_UniqueCells_TracksBelow {f : Nat} {P : Prog} {s : St} {op : Op} {r : St × Except Unit String}
    (hw : WF s) (h : execOp f P s op = some r) : UniqueCells r.1.impls ∧ TracksBelow r.1 :=
  ⟨(execOp_WF hw h).uniqueCells, (execOp_WF hw h).tracksBelow⟩

/-- a concrete run: a trackable functor connected to a trackable signal, emitted with a body that
    disconnects and copies the signal during the emission -/
def exProgWF : Prog :=
  { bodies := [(1, [⟨"delT 0", .delT 0⟩, ⟨"cpG 1 0", .cpG 1 0⟩, ⟨"emit 1 2", .emit 1 2 .sum false⟩])],
    top := [⟨"newT 0", .newT 0⟩, ⟨"newG 0 TI", .newG 0 (some .TI)⟩, ⟨"connfn 0 0 mem 1 0", .connfn 0 0 (.mem 1 0) false⟩,
            ⟨"connfn 1 0 fn 2", .connfn 1 0 (.fn 2) true⟩, ⟨"emit 0 7", .emit 0 7 .sum false⟩, ⟨"mvG 2 0", .mvG 2 0⟩] }

/-- the run terminates (so the next statement is not vacuous) -/
example : (runTop 60 exProgWF {} exProgWF.top).isSome = true := by decide +kernel

example : ∀ f s, runTop f exProgWF {} exProgWF.top = some s → UniqueCells s.impls ∧ TracksBelow s :=
  fun f s h => ⟨reachable_UniqueCells f _ _ s h, reachable_TracksBelow f _ _ s h⟩

end Sigc.StepWF
