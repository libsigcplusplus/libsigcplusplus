import Sigc.Lemmas.SpecKRemove
/-!
# SpecKPrimCells — `Sim0`, the conclusion of every `<primitive>_sim` that allocates nothing; on related states: looking an
entry up by id (`findSig`, `getCell`), the connection queries, removal from a given list (`setSig_remove_sim`: the `clear` arm
and the end of `removeCell`), `invalidateTrackable`
-/
namespace Sigc.SpecK
open Sigc.Model Sigc.Spec
open Sigc.Emit (aget_some_mem)

/-- a step of each run that allocates nothing: related again under the same `ρ`, frame kept.  The states come in the
    order `t u t' u'` (in `Step`: `t t' u u'`) -/
structure Sim0 (ρ : IdRel) (t u t' u' : LSt) : Prop where
  q : Q ρ t' u'
  fr : Fr t t'
  nk : t'.next = t.next
  np : u'.next = u.next

theorem Sim0.refl {ρ : IdRel} {t u : LSt} (h : Q ρ t u) : Sim0 ρ t u t u := ⟨h, Fr.refl t, rfl, rfl⟩

theorem Sim0.trans {ρ : IdRel} {t u t1 u1 t2 u2 : LSt} (h1 : Sim0 ρ t u t1 u1) (h2 : Sim0 ρ t1 u1 t2 u2) :
    Sim0 ρ t u t2 u2 := ⟨h2.q, h1.fr.trans h2.fr, h2.nk.trans h1.nk, h2.np.trans h1.np⟩

theorem Sim0.step {ρ : IdRel} {t u t' u' : LSt} (h : Sim0 ρ t u t' u') : Step ρ ρ t t' u u' :=
  Step.of_eq h.nk h.np

theorem Sim0.pre {ρ : IdRel} {t u t1 u1 t' u' : LSt} (h : Sim0 ρ t1 u1 t' u') (hd : t1.depth = t.depth)
    (hs : t1.sigs = t.sigs) (hn : t1.next = t.next) (hn' : u1.next = u.next) : Sim0 ρ t u t' u' :=
  ⟨h.q, h.fr.pre hd hs, h.nk.trans hn, h.np.trans hn'⟩

/-- an operation on what an optional id names, nothing where it names nothing -/
theorem Sim0.onSome {ρ : IdRel} {t u : LSt} (h : Q ρ t u) {p p' : Option Nat} (hp : OR ρ p p') {F F' : Nat → LSt}
    (hF : ∀ {c c'}, ρ c c' → Sim0 ρ t u (F c) (F' c')) :
    Sim0 ρ t u (match (generalizing := false) p with | some c => F c | none => t)
      (match (generalizing := false) p' with | some c => F' c | none => u) := by
  exact hp.on (Sim0.refl h) hF

theorem SigR.find_id {ρ : IdRel} {n n' : Nat} (hp : PB ρ n n') {g g' : LSig} (h : SigR ρ g g') {cid cid' : Nat}
    (hc : ρ cid cid') :
    OR (CellR ρ) (g.cells.find? (fun c => decide (c.id = cid) && !c.zombie))
      (g'.cells.find? (fun c => decide (c.id = cid') && !c.zombie)) := by
  have e : g.cells.find? (fun c => decide (c.id = cid) && !c.zombie)
      = (g.cells.filter live).find? (fun c => decide (c.id = cid) && !c.zombie) := by
    rw [List.find?_filter]
    refine find?_congr_mem fun c hcm => ?_
    cases hl : live c
    · -- an entry with that id that is neither live nor a zombie would be an end marker with a related id;
      -- `nomk`: end markers exist in the first configuration only, so nothing is related to their ids
      cases hz : c.zombie
      · have : ¬ c.id = cid := fun hid => h.nomk c hcm (marker_of_dead hl hz) cid' (hid ▸ hc)
        simp [this]
      · simp
    · simp
  rw [e]
  exact (h.cells.attach.find _ _ fun a b hr => by
    rw [hp.dec hr.2.2.id hc, (live_iff.mp (List.mem_filter.mp hr.1).2).2, hr.2.2.zombie]).imp fun _ _ hr => hr.2.2

theorem findSig_sim {ρ : IdRel} {n n' : Nat} (hp : PB ρ n n') {l m : List (Nat × LSig)} (h : KR ρ (SigR ρ) l m)
    {cid cid' : Nat} (hc : ρ cid cid') : OR ρ (findSig l cid) (findSig m cid') := by
  induction h with
  | nil => exact .none
  | @cons p q l m hpq _ ih =>
    obtain ⟨i, g⟩ := p
    obtain ⟨i', g'⟩ := q
    simp only [findSig]
    rw [← List.isSome_find?, ← List.isSome_find? (xs := g'.cells), (hpq.2.find_id hp hc).isSome]
    split
    · exact .some hpq.1
    · exact ih

theorem getCell_sim {ρ : IdRel} {t u : LSt} (h : Q ρ t u) {cid cid' : Nat} (hc : ρ cid cid') :
    OR (fun x y => ρ x.1 y.1 ∧ CellR ρ x.2 y.2) (Spec.getCell t cid) (Spec.getCell u cid') := by
  unfold Spec.getCell
  refine (findSig_sim h.pb h.sigs hc).on .none fun hi => ?_
  dsimp only
  refine (h.sig_get hi).on .none fun hg => ?_
  dsimp only
  exact (hg.find_id h.pb hc).on .none fun hr => .some ⟨hi, hr⟩

theorem connConnected_sim {ρ : IdRel} {t u : LSt} (h : Q ρ t u) {p p' : Option Nat} (hpp : OR ρ p p') :
    Spec.connConnected u p' = Spec.connConnected t p := by
  unfold Spec.connConnected
  refine hpp.on rfl fun hc => ?_
  dsimp only
  exact (getCell_sim h hc).on rfl fun hr => by dsimp only; rw [hr.2.slot.empty]

theorem connBlockedStr_sim {ρ : IdRel} {t u : LSt} (h : Q ρ t u) {p p' : Option Nat} (hpp : OR ρ p p') :
    Spec.connBlockedStr u p' = Spec.connBlockedStr t p := by
  unfold Spec.connBlockedStr
  refine hpp.on rfl fun hc => ?_
  dsimp only
  exact (getCell_sim h hc).on rfl fun hr => by dsimp only; rw [hr.2.slot.blocked]

theorem setSig_remove_sim {ρ : IdRel} {t u : LSt} (h : Q ρ t u) {i i' : Nat} (hi : ρ i i') {g g' : LSig}
    (hx : aget t.sigs i = some g) (hy : aget u.sigs i' = some g') (d : Bool) (p p' : LCell → Bool)
    (hpp : ∀ c c', c ∈ g.cells → live c = true → CellR ρ c c' → p' c' = p c) :
    Sim0 ρ t u (setSig t i (g.remove true true d p)) (setSig u i' (g'.remove false false d p')) := by
  have hg := h.sig_get hi
  rw [hx, hy] at hg
  cases hg with
  | some hg =>
    obtain ⟨hr, hv', ha, hm⟩ := remove_sim hg (h.sig_inv hx).2 d p p' hpp
    exact ⟨h.setSig hi hr hv', Fr.setSig hx ha hm, rfl, rfl⟩

theorem removeCell_sim {ρ : IdRel} {t u : LSt} (h : Q ρ t u) {cid cid' : Nat} (hc : ρ cid cid') :
    Sim0 ρ t u (removeCell t cid) (removeCell u cid') := by
  unfold removeCell
  refine (findSig_sim h.pb h.sigs hc).on (Sim0.refl h) fun {i i'} hi => ?_
  dsimp only
  cases hx : aget t.sigs i with
  | none => rw [(h.sig_get hi).none_left hx]; exact Sim0.refl h
  | some g =>
    obtain ⟨g', hy, _⟩ := (h.sig_get hi).some_left hx
    rw [hy]
    simp only
    rw [h.k1, h.k2, h.k1', h.k2']
    exact setSig_remove_sim h hi hx hy false _ _ (fun c c' _ _ hcr => (h.pb.dec hcr.id hc).symm)

theorem invalidateTrackable_cfg (t : LSt) (a b : Bool) (hk1 : t.k1 = a) (hk2 : t.k2 = b) (o : Nat) :
    Spec.invalidateTrackable t o =
      { t with S := amap t.S (fun v => if v.slot.tracksObj o then { v with slot := v.slot.invalidate } else v),
               sigs := amap t.sigs (fun g => g.remove a b true (fun c => c.slot.tracksObj o)) } := by
  unfold Spec.invalidateTrackable
  subst hk1 hk2
  rfl

theorem invalidateTrackable_sim {ρ : IdRel} {t u : LSt} (h : Q ρ t u) {o o' : Nat} (ho : ρ o o') :
    Sim0 ρ t u (Spec.invalidateTrackable t o) (Spec.invalidateTrackable u o') := by
  rw [invalidateTrackable_cfg t _ _ h.k1 h.k2, invalidateTrackable_cfg u _ _ h.k1' h.k2']
  have hent : ∀ (p q : Nat × LSig), p ∈ t.sigs → (ρ p.1 q.1 ∧ SigR ρ p.2 q.2) →
      SigR ρ (p.2.remove true true true (fun c => c.slot.tracksObj o))
             (q.2.remove false false true (fun c => c.slot.tracksObj o')) ∧
      SigInv t.next (p.2.remove true true true (fun c => c.slot.tracksObj o)) ∧
      (p.2.remove true true true (fun c => c.slot.tracksObj o)).active = p.2.active ∧
      ((p.2.remove true true true (fun c => c.slot.tracksObj o)).cells.filter (·.marker)).map (·.id)
        = (p.2.cells.filter (·.marker)).map (·.id) := fun p q hpm hr =>
    remove_sim hr.2 (h.inv p hpm).2 true _ _ (fun c c' _ _ hcr => hcr.slot.tracksObj h.pb ho)
  refine ⟨{ h with S := ?_, sigs := ?_, keys := ?_, inv := ?_ }, ⟨rfl, fun i => ?_, fun i => ?_⟩, rfl, rfl⟩
  · dsimp only
    exact AR.map h.S _ _ (fun a b hr => by
      rw [hr.slot.tracksObj h.pb ho]
      split
      · exact ⟨hr.isVoid, hr.slot.invalidate, hr.incall, hr.taint⟩
      · exact hr)
  · dsimp only
    unfold amap
    exact h.sigs.attach.map _ _ (fun p q hr => ⟨hr.2.2.1, (hent p q hr.1 hr.2.2).1⟩)
  · simp only [keys_amap]; exact h.keys
  · intro p hpm
    dsimp only at hpm ⊢
    obtain ⟨q, hq, e⟩ := mem_amap hpm
    subst e
    obtain ⟨q', _, hr⟩ := h.sigs.mem_left hq
    exact ⟨(h.inv q hq).1, (hent q q' hq hr).2.1⟩
  · simp only [act, aget_amap]
    cases hx : aget t.sigs i with
    | none => rfl
    | some g =>
      simp only [Option.map]
      obtain ⟨q', _, hr⟩ := h.sigs.mem_left (aget_some_mem hx)
      exact (hent (i, g) q' (aget_some_mem hx) hr).2.2.1
  · simp only [mks, aget_amap]
    cases hx : aget t.sigs i with
    | none => rfl
    | some g =>
      simp only [Option.map]
      obtain ⟨q', _, hr⟩ := h.sigs.mem_left (aget_some_mem hx)
      exact (hent (i, g) q' (aget_some_mem hx) hr).2.2.2

end Sigc.SpecK
