import Sigc.Model
/-! the association lists of `Sigc.Model` (`aget`, `aset`, `adel`, `amap`).  Their lemmas stand under `Sigc.Model`, except
`Emit.aget_aset`, `Emit.mem_*`, `Emit.keys_nodup_*` …, which keep the names that the entry of property C01 in MANIFEST.json
points at; where a `Model.` lemma says the same, the `Emit.` one is its corollary.  Then the facts about lists and `if` that
several families use (`ite_eq_elim`, `foldl_frame`, `eq_of_nodup_map`, `find?_congr_mem`, `filter_idem`), and `stepSimple_user` -/
namespace Sigc

/-- case analysis on an `if` in a hypothesis; unlike `split at` it does not rewrite the branches (slow when they are large) -/
theorem ite_eq_elim {α : Sort _} {c : Prop} [Decidable c] {t e y : α} {Q : Prop} (h : (if c then t else e) = y)
    (ht : c → t = y → Q) (he : ¬ c → e = y → Q) : Q := by
  by_cases hc : c
  · rw [if_pos hc] at h; exact ht hc h
  · rw [if_neg hc] at h; exact he hc h

theorem Model.foldl_frame {σ β γ : Type} (g : σ → β → σ) (π : σ → γ) (h : ∀ s c, π (g s c) = π s) (cs : List β) (s : σ) :
    π (cs.foldl g s) = π s := by
  induction cs generalizing s with
  | nil => rfl
  | cons c t ih => rw [List.foldl_cons, ih, h]

theorem eq_of_nodup_map {α β : Type} {f : α → β} {l : List α} (hn : (l.map f).Nodup) {a b : α} (ha : a ∈ l) (hb : b ∈ l)
    (e : f a = f b) : a = b := by
  induction l with
  | nil => cases ha
  | cons c t ih =>
    simp only [List.map_cons, List.nodup_cons] at hn
    cases ha with
    | head =>
      cases hb with
      | head => rfl
      | tail _ hb => exact absurd (List.mem_map.2 ⟨b, hb, e.symm⟩) hn.1
    | tail _ ha =>
      cases hb with
      | head => exact absurd (List.mem_map.2 ⟨a, ha, e⟩) hn.1
      | tail _ hb => exact ih hn.2 ha hb

theorem find?_congr_mem {α : Type} {l : List α} {p q : α → Bool} (h : ∀ a ∈ l, p a = q a) : l.find? p = l.find? q := by
  induction l with
  | nil => rfl
  | cons a t ih =>
    simp only [List.find?, h a (by simp)]
    rw [ih (fun x hx => h x (List.mem_cons_of_mem _ hx))]

theorem filter_idem {α : Type} (p : α → Bool) (l : List α) : (l.filter p).filter p = l.filter p := by
  rw [List.filter_filter]
  congr
  funext a
  exact Bool.and_self _

open Model

section
universe u
variable {α : Type u} {l : List (Nat × α)} {k : Nat} {v : α} {p : Nat × α}

theorem Model.mem_of_aget (h : aget l k = some v) : (k, v) ∈ l := by
  induction l with
  | nil => cases h
  | cons p t ih =>
    rw [aget] at h
    refine ite_eq_elim h (fun e h => ?_) fun _ h => List.mem_cons_of_mem _ (ih h)
    cases h; cases e; exact List.mem_cons_self

theorem Model.ne_of_aget {i j : Nat} (hi : aget l i = some v)
    (hj : aget l j = none) : j ≠ i := by
  intro e; subst e; rw [hi] at hj; cases hj

theorem Model.mem_aset (h : p ∈ aset l k v) : p ∈ l ∨ p = (k, v) := by
  induction l with
  | nil => exact Or.inr (List.mem_singleton.mp h)
  | cons q t ih =>
    rw [aset] at h
    by_cases e : q.1 = k
    · rw [if_pos e] at h
      exact (List.mem_cons.mp h).symm.imp (List.mem_cons_of_mem _) id
    · rw [if_neg e] at h
      rcases List.mem_cons.mp h with h | h
      · exact Or.inl (h ▸ List.mem_cons_self)
      · exact (ih h).imp (List.mem_cons_of_mem _) id

theorem Model.mem_adel (h : p ∈ adel l k) : p ∈ l ∧ p.1 ≠ k := by
  unfold adel at h
  simpa using h

theorem Model.mem_amap {f : α → α} (h : p ∈ amap l f) : ∃ q ∈ l, p = (q.1, f q.2) := by
  obtain ⟨q, hq, rfl⟩ := List.mem_map.mp h
  exact ⟨q, hq, rfl⟩

theorem Model.keys_amap (l : List (Nat × α)) (f : α → α) : (amap l f).map (·.1) = l.map (·.1) := by
  simp [amap, List.map_map, Function.comp_def]

theorem Model.amap_amap (l : List (Nat × α)) (f g : α → α) : amap (amap l f) g = amap l fun x => g (f x) := by
  simp [amap, List.map_map, Function.comp_def]

theorem Model.amap_congr {f g : α → α} (h : ∀ p ∈ l, f p.2 = g p.2) : amap l f = amap l g :=
  List.map_congr_left fun p hp => by rw [h p hp]

theorem Model.amap_id {f : α → α} (h : ∀ p ∈ l, f p.2 = p.2) : amap l f = l :=
  (List.map_congr_left (g := id) fun p hp => by rw [h p hp]; rfl).trans (List.map_id l)

theorem Model.aset_self (h : aget l k = some v) : aset l k v = l := by
  induction l with
  | nil => cases h
  | cons p t ih =>
    rw [aget] at h
    rw [aset]
    refine ite_eq_elim h (fun e h => ?_) fun e h => ?_
    · cases h; rw [if_pos e, ← e]
    · rw [if_neg e, ih h]

end

theorem Model.amap_eq_aset {α : Type} {l : List (Nat × α)} (hn : (l.map (·.1)).Nodup) {i : Nat} {a : α} (hi : aget l i = some a)
    {f : α → α} (hf : ∀ p ∈ l, p.1 ≠ i → f p.2 = p.2) : amap l f = aset l i (f a) := by
  induction l with
  | nil => simp [aget] at hi
  | cons p t ih =>
    obtain ⟨k, v⟩ := p
    simp only [List.map_cons, List.nodup_cons] at hn
    by_cases e : k = i
    · subst e
      simp [aget] at hi; subst hi
      simp only [amap, aset, List.map_cons, if_true]
      congr 1
      have := amap_id (l := t) (f := f) (fun p hp => hf p (List.mem_cons_of_mem _ hp) (by
        intro e; apply hn.1; rw [← e]; exact List.mem_map.mpr ⟨p, hp, rfl⟩))
      unfold amap at this; exact this
    · simp [aget, e] at hi
      have hv : f v = v := hf (k, v) (by simp) e
      simp only [amap, aset, List.map_cons, e, if_false, hv]
      congr 1
      have := ih hn.2 hi (fun p hp => hf p (List.mem_cons_of_mem _ hp))
      unfold amap at this; exact this

variable {α : Type}

@[simp] theorem Model.aget_nil (k : Nat) : aget ([] : List (Nat × α)) k = none := rfl

theorem Emit.aget_aset (l : List (Nat × α)) (k k' : Nat) (v : α) :
    aget (aset l k v) k' = if k' = k then some v else aget l k' := by
  induction l with
  | nil => simp [aset, aget, eq_comm]
  | cons p t ih =>
    obtain ⟨k2, v2⟩ := p
    rw [aset]
    by_cases h : k2 = k
    · subst h
      by_cases h' : k' = k2
      · simp [aget, h']
      · simp [aget, h', Ne.symm h']
    · rw [if_neg h, aget, aget, ih]
      by_cases h' : k2 = k'
      · subst h'; simp [h]
      · simp [h']

@[simp] theorem Model.aget_aset_same (l : List (Nat × α)) (k : Nat) (v : α) : aget (aset l k v) k = some v := by
  rw [Emit.aget_aset, if_pos rfl]

theorem Model.aget_aset_other (l : List (Nat × α)) (k k' : Nat) (v : α) (h : k' ≠ k) :
    aget (aset l k v) k' = aget l k' := by
  rw [Emit.aget_aset, if_neg h]

theorem Model.adel_cons (p : Nat × α) (t : List (Nat × α)) (k : Nat) :
    adel (p :: t) k = if p.1 = k then adel t k else p :: adel t k := by
  by_cases h : p.1 = k <;> simp [adel, List.filter, h]

theorem Emit.aget_adel (l : List (Nat × α)) (k k' : Nat) :
    aget (adel l k) k' = if k' = k then none else aget l k' := by
  induction l with
  | nil => simp [adel, aget]
  | cons p t ih =>
    obtain ⟨k2, v2⟩ := p
    rw [adel_cons, aget]
    by_cases h : k2 = k
    · subst h
      rw [if_pos rfl, ih]
      by_cases h' : k' = k2
      · simp [h']
      · simp [h', Ne.symm h']
    · rw [if_neg h, aget, ih]
      by_cases h' : k2 = k'
      · subst h'; simp [h]
      · simp [h']

@[simp] theorem Model.aget_adel_same (l : List (Nat × α)) (k : Nat) : aget (adel l k) k = none := by
  rw [Emit.aget_adel, if_pos rfl]

theorem Model.aget_adel_other (l : List (Nat × α)) (k k' : Nat) (h : k' ≠ k) :
    aget (adel l k) k' = aget l k' := by
  rw [Emit.aget_adel, if_neg h]

theorem Model.aget_of_adel {l : List (Nat × α)} {k k' : Nat} {v : α} (h : aget (adel l k) k' = some v) : aget l k' = some v := by
  rw [Emit.aget_adel] at h
  split at h
  · cases h
  · exact h

/-- deleting a key removes at least the first entry with that key -/
theorem Model.sum_adel_le {l : List (Nat × α)} {k : Nat} {v : α} (g : α → Nat) (h : aget l k = some v) :
    ((adel l k).map fun p => g p.2).sum + g v ≤ (l.map fun p => g p.2).sum := by
  have hle (t : List (Nat × α)) : ((adel t k).map fun p => g p.2).sum ≤ (t.map fun p => g p.2).sum := by
    induction t with
    | nil => exact Nat.le_refl _
    | cons p t ih =>
      rw [adel_cons, List.map_cons, List.sum_cons]
      split
      · exact Nat.le_add_left_of_le ih
      · rw [List.map_cons, List.sum_cons]; exact Nat.add_le_add_left ih _
  induction l with
  | nil => cases h
  | cons p t ih =>
    rw [aget] at h
    rw [adel_cons, List.map_cons, List.sum_cons]
    refine ite_eq_elim h (fun e h => ?_) fun e h => ?_
    · cases h
      rw [if_pos e, Nat.add_comm]
      exact Nat.add_le_add_left (hle t) _
    · rw [if_neg e, List.map_cons, List.sum_cons, Nat.add_assoc]
      exact Nat.add_le_add_left (ih h) _

/-- with distinct keys it removes nothing else -/
theorem Model.sum_adel_eq {l : List (Nat × α)} {k : Nat} {v : α} (g : α → Nat) (h : aget l k = some v)
    (hn : (l.map (·.1)).Nodup) :
    ((adel l k).map fun p => g p.2).sum + g v = (l.map fun p => g p.2).sum := by
  induction l with
  | nil => cases h
  | cons p t ih =>
    rw [List.map_cons, List.nodup_cons] at hn
    rw [aget] at h
    rw [adel_cons, List.map_cons, List.sum_cons]
    refine ite_eq_elim h (fun e h => ?_) fun e h => ?_
    · cases h
      have : adel t k = t :=
        List.filter_eq_self.mpr fun q hq => decide_eq_true fun e' => hn.1 (List.mem_map.mpr ⟨q, hq, e'.trans e.symm⟩)
      rw [if_pos e, this, Nat.add_comm]
    · rw [if_neg e, List.map_cons, List.sum_cons, Nat.add_assoc, ih h hn.2]

theorem Model.aget_amap (l : List (Nat × α)) (f : α → α) (k : Nat) :
    aget (amap l f) k = (aget l k).map f := by
  induction l with
  | nil => rfl
  | cons p t ih =>
    simp only [amap] at ih ⊢
    by_cases h : p.1 = k <;> simp [aget, h, ih]

theorem Emit.aset_aset {α} (l : List (Nat × α)) (i : Nat) (a b : α) : aset (aset l i a) i b = aset l i b := by
  induction l with
  | nil => simp [aset]
  | cons p t ih => by_cases e : p.1 = i <;> simp [aset, e, ih]

theorem Emit.aget_some_mem {l : List (Nat × α)} {k : Nat} {v : α} (h : aget l k = some v) : (k, v) ∈ l :=
  mem_of_aget h

theorem Emit.mem_keys_of_aget {l : List (Nat × α)} {k : Nat} {v : α} (h : aget l k = some v) : k ∈ l.map (·.1) :=
  List.mem_map.mpr ⟨(k, v), aget_some_mem h, rfl⟩

theorem Model.aget_none_iff {l : List (Nat × α)} {k : Nat} : aget l k = none ↔ k ∉ l.map (·.1) := by
  induction l with
  | nil => simp [aget]
  | cons p t ih =>
    obtain ⟨k', v'⟩ := p
    simp only [aget, List.map_cons, List.mem_cons, not_or]
    by_cases hk : k' = k
    · simp [hk]
    · simp only [hk, if_false, ih]
      constructor
      · intro h; exact ⟨fun e => hk e.symm, h⟩
      · intro h; exact h.2

theorem Emit.aget_none_of_not_mem_keys {l : List (Nat × α)} {k : Nat} (h : k ∉ l.map (·.1)) : aget l k = none :=
  aget_none_iff.mpr h

theorem Emit.aget_of_mem_nodup {l : List (Nat × α)} (hn : (l.map (·.1)).Nodup) {k : Nat} {v : α}
    (h : (k, v) ∈ l) : aget l k = some v := by
  induction l with
  | nil => cases h
  | cons p t ih =>
    rw [List.map_cons, List.nodup_cons] at hn
    rw [aget]
    rcases List.mem_cons.mp h with e | e
    · rw [← e, if_pos rfl]
    · rw [if_neg, ih hn.2 e]
      intro e'; exact hn.1 (e' ▸ List.mem_map.mpr ⟨(k, v), e, rfl⟩)

theorem Emit.mem_aset {l : List (Nat × α)} {k : Nat} {v : α} {p : Nat × α} (h : p ∈ aset l k v) :
    p ∈ l ∨ p = (k, v) :=
  Model.mem_aset h

theorem Emit.mem_adel {l : List (Nat × α)} {k : Nat} {p : Nat × α} (h : p ∈ adel l k) : p ∈ l ∧ p.1 ≠ k :=
  Model.mem_adel h

theorem Model.keys_adel (l : List (Nat × α)) (k : Nat) :
    (adel l k).map (·.1) = (l.map (·.1)).filter (fun x => x ≠ k) := by
  induction l with
  | nil => rfl
  | cons p t ih =>
    obtain ⟨k', v'⟩ := p
    rw [adel_cons]
    by_cases hk : k' = k
    · simp [hk, ih]
    · simp [hk, ih]

theorem Emit.keys_nodup_aset {l : List (Nat × α)} (h : (l.map (·.1)).Nodup) (k : Nat) (v : α) :
    ((aset l k v).map (·.1)).Nodup := by
  induction l with
  | nil => simp [aset]
  | cons p t ih =>
    rw [List.map_cons, List.nodup_cons] at h
    by_cases e : p.1 = k
    · simpa [aset, e] using h
    · simp only [aset, e, if_false, List.map_cons, List.nodup_cons]
      refine ⟨fun hm => ?_, ih h.2⟩
      obtain ⟨q, hq, hqk⟩ := List.mem_map.mp hm
      rcases mem_aset hq with hq | hq
      · exact h.1 (List.mem_map.mpr ⟨q, hq, hqk⟩)
      · exact e (hqk.symm.trans (by rw [hq]))

theorem Emit.keys_nodup_adel {l : List (Nat × α)} (h : (l.map (·.1)).Nodup) (k : Nat) :
    ((adel l k).map (·.1)).Nodup :=
  List.Nodup.sublist (List.filter_sublist.map _) h

/-- `callS`, `emit` and `throw_` run user code: they are operations of `execOp`, not of `stepSimple`.
    `simp only`, not `rfl`: the equation lemmas of `stepSimple` are made here, once. -/
theorem Model.stepSimple_user (s : St) :
    (∀ i arg, stepSimple s (.callS i arg) = none) ∧ (∀ g arg st t, stepSimple s (.emit g arg st t) = none) ∧
    stepSimple s .throw_ = none := by
  simp only [stepSimple, implies_true, and_self]

end Sigc
