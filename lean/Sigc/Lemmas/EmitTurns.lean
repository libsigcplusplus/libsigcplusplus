import Sigc.Lemmas.EmitMutual
/-! which cells an emission offers a turn: the instrumented loop `emitLoopT` (`emitLoop` plus the ghost list of
visited cell ids) visits exactly the snapshot, in order, each once -/
namespace Sigc.Emit
open Sigc.Model

/-- `emitLoop` with a ghost result: the ids of the cells that were offered a turn, in order -/
def emitLoopT : Nat → Prog → St → Nat → Nat → Nat → Nat → Nat → Option ((St × Outcome × Nat) × List Nat)
  | 0, _, _, _, _, _, _, _ => none
  | f+1, P, s, i, cur, m, arg, r =>
    if cur = m then some ((s, .ok, r), []) else
    match aget s.impls i with
    | none => some ((s.fail "loop: impl destroyed", .ok, r), [])
    | some im =>
      match im.cells.find? (·.id = cur) with
      | none => some ((s.fail "loop: iterator invalidated", .ok, r), [])
      | some c =>
        let step : Option (St × Outcome × Nat) :=
          match c.slot.rep with
          | some { call := true, fn := some fn } =>
            if c.slot.blocked then some (s, .ok, r) else invokeFun f P s fn arg
          | _ => some (s, .ok, r)
        match step with
        | none => none
        | some (s, .exc, v) => some ((s, .exc, v), [cur])
        | some (s, .ok, v) =>
          match aget s.impls i with
          | none => some ((s.fail "loop: impl destroyed", .ok, v), [cur])
          | some im2 =>
            match succId im2.cells cur with
            | none => some ((s.fail "loop: iterator invalidated", .ok, v), [cur])
            | some nxt => (emitLoopT f P s i nxt m arg v).map (fun p => (p.1, cur :: p.2))

/-- `emitLoopT` in the form of `StepIter.emitLoop_unfold` -/
theorem emitLoopT_unfold (f : Nat) (P : Prog) (s : St) (i cur m arg r : Nat) :
    emitLoopT (f+1) P s i cur m arg r =
      (if cur = m then some ((s, .ok, r), []) else
       match aget s.impls i with
       | none => some ((s.fail "loop: impl destroyed", .ok, r), [])
       | some im =>
         match im.cells.find? (·.id = cur) with
         | none => some ((s.fail "loop: iterator invalidated", .ok, r), [])
         | some _ =>
           match StepIter.emitStep f P s i cur arg r with
           | none => none
           | some (s, .exc, v) => some ((s, .exc, v), [cur])
           | some (s, .ok, v) =>
             match aget s.impls i with
             | none => some ((s.fail "loop: impl destroyed", .ok, v), [cur])
             | some im2 =>
               match succId im2.cells cur with
               | none => some ((s.fail "loop: iterator invalidated", .ok, v), [cur])
               | some nxt => (emitLoopT f P s i nxt m arg v).map (fun p => (p.1, cur :: p.2))) := by
  rw [emitLoopT]
  by_cases hcm : cur = m
  · simp [hcm]
  · simp only [hcm, if_false]
    cases hi : aget s.impls i with
    | none => rfl
    | some im =>
      cases hc : im.cells.find? (·.id = cur) with
      | none => simp [hc]
      | some c =>
        simp only [StepIter.emitStep_eq hi hc, hc]
        rfl

theorem emitLoopT_erase (f : Nat) (P : Prog) (s : St) (i cur m arg r : Nat) :
    (emitLoopT f P s i cur m arg r).map (·.1) = emitLoop f P s i cur m arg r := by
  induction f generalizing s cur r with
  | zero => simp [emitLoopT, emitLoop]
  | succ f ih =>
    rw [emitLoopT_unfold, StepIter.emitLoop_unfold]
    by_cases hcm : cur = m
    · simp [hcm]
    · simp only [hcm, if_false]
      cases aget s.impls i with
      | none => rfl
      | some im =>
        simp only
        cases im.cells.find? (·.id = cur) with
        | none => rfl
        | some c =>
          simp only
          cases StepIter.emitStep f P s i cur arg r with
          | none => rfl
          | some q =>
            obtain ⟨s1, o1, v1⟩ := q
            cases o1 with
            | exc => rfl
            | ok =>
              simp only
              cases aget s1.impls i with
              | none => rfl
              | some im2 =>
                simp only
                cases succId im2.cells cur with
                | none => rfl
                | some nxt =>
                  simp only
                  rw [← ih]; simp [Option.map_map, Function.comp_def]

/-- the loop invariant: the block of the emission is `done ++ todo ++ [m]` and `cur` is the head of
    `todo ++ [m]`; then the visited cells are exactly `todo` (or a non-empty prefix of it when a slot
    throws) -/
theorem emitLoopT_turns (f : Nat) : ∀ (P : Prog) (s : St) (i cur m arg r : Nat) (B : List (Nat × Bool))
    (done todo tl : List Nat) (res : St × Outcome × Nat) (vis : List Nat),
    Inv s → InBlk s i B → B.map (·.1) = done ++ todo ++ [m] → todo ++ [m] = cur :: tl →
    emitLoopT f P s i cur m arg r = some (res, vis) →
    (res.2.1 = .ok → vis = todo) ∧ (res.2.1 = .exc → vis ≠ [] ∧ vis <+: todo) := by
  induction f with
  | zero => intro P s i cur m arg r B done todo tl res vis _ _ _ _ h; simp [emitLoopT] at h
  | succ f ih =>
    intro P s i cur m arg r B done todo tl res vis hs hb hB hcur h
    rw [emitLoopT_unfold] at h
    cases todo with
    | nil =>
      simp at hcur
      obtain ⟨rfl, _⟩ := hcur
      simp at h
      obtain ⟨rfl, rfl⟩ := h
      simp
    | cons t todo' =>
      simp only [List.cons_append, List.cons.injEq] at hcur
      obtain ⟨rfl, htl⟩ := hcur
      obtain ⟨hcm, hmemB, n, tl', hn, hB2, hnext⟩ := blk_step hs hb hB
      simp only [hcm, if_false] at h
      obtain ⟨im', c, him', hfind⟩ := hb.find hmemB
      rw [him'] at h
      simp only [hfind] at h
      split at h
      · contradiction
      · rename_i s1 v1 hstep
        simp at h; obtain ⟨rfl, rfl⟩ := h
        simp
      · rename_i s1 v1 hstep
        have g1 := cell_step_ok f (all_ok f).invoke hs i t arg r hstep
        have hb1 := hb.frame g1.frame
        obtain ⟨im1, him1, hsucc⟩ := hnext s1 g1.inv hb1
        rw [him1] at h
        simp only [hsucc] at h
        cases hrec : emitLoopT f P s1 i n m arg v1 with
        | none => rw [hrec] at h; simp at h
        | some p =>
          rw [hrec] at h
          simp at h
          obtain ⟨rfl, rfl⟩ := h
          have := ih P s1 i n m arg v1 B (done ++ [t]) todo' tl' p.1 p.2 g1.inv hb1 hB2 hn (by rw [hrec])
          constructor
          · intro ho; rw [this.1 ho]
          · intro ho
            obtain ⟨_, hp⟩ := this.2 ho
            refine ⟨by simp, ?_⟩
            obtain ⟨z, hz⟩ := hp
            exact ⟨z, by rw [← hz]; simp⟩


/-- the loop of an emission started on impl `i` (cells `im.cells`) offers a turn
    to exactly the cells present at the start, in order, each once — whatever the invoked slots do;
    when a slot throws, to a non-empty prefix of them -/
theorem emitLoopT_snapshot (f : Nat) (P : Prog) (s : St) (i arg : Nat) (im : Impl) (hs : Inv s)
    (hi : aget s.impls i = some im) (res : St × Outcome × Nat) (vis : List Nat)
    (h : emitLoopT f P (emitStart s i im) i (emitFirst s im) s.next arg 0 = some (res, vis)) :
    (res.2.1 = .ok → vis = cids im) ∧ (res.2.1 = .exc → vis ≠ [] ∧ vis <+: cids im) := by
  obtain ⟨h1, hb1⟩ := emitStart_inv hs hi
  have hB : (skel im ++ [(s.next, true)]).map (·.1) = [] ++ cids im ++ [s.next] := by
    simp [cids_eq_skel]
  obtain ⟨tl, hcur⟩ := emitFirst_cons s im
  rw [hB] at hcur
  exact emitLoopT_turns f P _ i _ s.next arg 0 _ [] (cids im) tl res vis h1 hb1 hB hcur h

theorem emitImpl_loop (f : Nat) (P : Prog) (s : St) (fl : Flavour) (i arg : Nat) (strat : Strat) (im : Impl)
    (hi : aget s.impls i = some im) (hacc : fl.isAcc = false) (s' : St) (o : Outcome) (v : Nat)
    (h : emitImpl (f+1) P s fl (some i) arg strat = some (s', o, v)) :
    (im.cells = [] ∧ s' = s ∧ o = .ok ∧ v = 0) ∨
    ∃ s2, emitLoop f P (emitStart s i im) i (emitFirst s im) s.next arg 0 = some (s2, o, v) := by
  rw [emitImpl_succ, hi] at h
  simp only [hacc, Bool.not_false, Bool.true_and, Bool.false_eq_true, if_false] at h
  refine ite_eq_elim h (fun hc h => ?_) fun _ h => ?_
  · cases h; exact Or.inl ⟨by simpa using hc, rfl, rfl, rfl⟩
  · split at h
    · contradiction
    · rename_i s2 o2 v2 hr
      cases h; exact Or.inr ⟨s2, hr⟩

/-- the turns of an emission of a non-accumulating flavour are the snapshot (a non-empty prefix of it when a slot throws) -/
theorem emitImpl_turns (f : Nat) (P : Prog) (s : St) (fl : Flavour) (i arg : Nat) (strat : Strat) (im : Impl)
    (hs : Inv s) (hi : aget s.impls i = some im) (hacc : fl.isAcc = false) (s' : St) (o : Outcome) (v : Nat)
    (h : emitImpl (f+1) P s fl (some i) arg strat = some (s', o, v)) :
    (im.cells = [] ∧ o = .ok) ∨
    ∃ s2 vis, emitLoopT f P (emitStart s i im) i (emitFirst s im) s.next arg 0 = some ((s2, o, v), vis) ∧
      (o = .ok → vis = cids im) ∧ (o = .exc → vis ≠ [] ∧ vis <+: cids im) := by
  rcases emitImpl_loop f P s fl i arg strat im hi hacc s' o v h with ⟨hc, _, ho, _⟩ | ⟨s2, hl⟩
  · exact Or.inl ⟨hc, ho⟩
  · rw [← emitLoopT_erase] at hl
    cases hT : emitLoopT f P (emitStart s i im) i (emitFirst s im) s.next arg 0 with
    | none => rw [hT] at hl; cases hl
    | some p =>
      obtain ⟨res, vis⟩ := p
      rw [hT] at hl
      cases hl
      exact Or.inr ⟨s2, vis, rfl, emitLoopT_snapshot f P s i arg im hs hi (s2, o, v) vis hT⟩

end Sigc.Emit
