import Sigc.Lemmas.InvHandle
import Sigc.Lemmas.StepConn
/-!
# `Ptrs`: a connection never dangles

every `weak_raw_ptr` held by a connection, a scoped connection or a scoped connection owned by a
functor is `none` or the id of a cell that exists in some impl — because `nullConns` runs at every
place a cell is erased.
-/
namespace Sigc.Inv
open Sigc.Model
open Sigc.StepConn (nullF)

def CellIn (impls : List (Nat × Impl)) (cid : Nat) : Prop :=
  ∃ i im, aget impls i = some im ∧ ∃ c ∈ im.cells, c.id = cid

def PtrVal (impls : List (Nat × Impl)) (p : Option Nat) : Prop := ∀ cid, p = some cid → CellIn impls cid

def PtrOK (impls : List (Nat × Impl)) (l : List (Nat × Option Nat)) : Prop := ∀ p ∈ l, PtrVal impls p.2

def PtrsI (impls : List (Nat × Impl)) (C K oK : List (Nat × Option Nat)) : Prop :=
  PtrOK impls C ∧ PtrOK impls K ∧ PtrOK impls oK

def Ptrs (s : St) : Prop := PtrsI s.impls s.C s.K s.ownedK

theorem Ptrs.init : Ptrs {} := by
  refine ⟨?_, ?_, ?_⟩ <;> intro p hp <;> cases hp

theorem getCell_ne_none_of_cellIn {s : St} (hw : WF s) {cid : Nat} (h : CellIn s.impls cid) :
    getCell s cid ≠ none :=
  (getCell_ne_none_iff hw.keys cid).2 h

theorem cellIn_of_getCell {s : St} {cid : Nat} (h : getCell s cid ≠ none) : CellIn s.impls cid := by
  cases hg : getCell s cid with
  | none => exact absurd hg h
  | some x =>
    obtain ⟨i, c⟩ := x
    obtain ⟨im, hi, _, hc, he⟩ := getCell_some hg
    exact ⟨i, im, hi, c, hc, he⟩

theorem CellIn.aset {impls : List (Nat × Impl)} {cid i : Nat} {im' : Impl} (h : CellIn impls cid)
    (hk : ∀ im, aget impls i = some im → ∀ c ∈ im.cells, c.id = cid → ∃ c' ∈ im'.cells, c'.id = cid) :
    CellIn (Model.aset impls i im') cid := by
  obtain ⟨j, jm, hj, c, hc, he⟩ := h
  by_cases e : j = i
  · subst e
    obtain ⟨c', hc', he'⟩ := hk jm hj c hc he
    exact ⟨j, im', by simp, c', hc', he'⟩
  · exact ⟨j, jm, by rw [aget_aset_other _ _ _ _ e]; exact hj, c, hc, he⟩

theorem CellIn.adel {impls : List (Nat × Impl)} {cid i : Nat} (h : CellIn impls cid)
    (hk : ∀ im, aget impls i = some im → ∀ c ∈ im.cells, c.id ≠ cid) : CellIn (Model.adel impls i) cid := by
  obtain ⟨j, jm, hj, c, hc, he⟩ := h
  by_cases e : j = i
  · subst e; exact absurd he (hk jm hj c hc)
  · exact ⟨j, jm, by rw [aget_adel_other _ _ _ e]; exact hj, c, hc, he⟩

theorem PtrVal.none (impls : List (Nat × Impl)) : PtrVal impls none := fun _ h => by cases h

theorem PtrOK.impls {impls impls' : List (Nat × Impl)} {l : List (Nat × Option Nat)} (h : PtrOK impls l)
    (hm : ∀ cid, CellIn impls cid → CellIn impls' cid) : PtrOK impls' l :=
  fun q hq cid e => hm cid (h q hq cid e)

def nullList (l : List (Nat × Option Nat)) (ids : List Nat) : List (Nat × Option Nat) :=
  ids.foldl (fun l c => amap l (nullF c)) l

theorem mem_nullList {ids : List Nat} : ∀ {l : List (Nat × Option Nat)} {k cid : Nat},
    (k, some cid) ∈ nullList l ids → cid ∉ ids ∧ (k, some cid) ∈ l := by
  induction ids with
  | nil => intro l k cid h; exact ⟨by simp, h⟩
  | cons c cs ih =>
    intro l k cid h
    simp only [nullList, List.foldl_cons] at h
    obtain ⟨h1, h2⟩ := ih (l := amap l (nullF c)) h
    obtain ⟨p, hp, e⟩ := mem_amap h2
    simp only [Prod.mk.injEq, nullF] at e
    obtain ⟨e1, e2⟩ := e
    split at e2
    · cases e2
    · refine ⟨?_, ?_⟩
      · simp only [List.mem_cons, not_or]
        refine ⟨?_, h1⟩
        intro e3; subst e3
        rename_i hne
        exact hne e2.symm
      · have : p = (k, some cid) := by rw [e1, e2]
        rw [← this]; exact hp

theorem nullConnsList_ptrs (ids : List Nat) : ∀ (s : St),
    (nullConnsList s ids).C = nullList s.C ids ∧ (nullConnsList s ids).K = nullList s.K ids ∧
    (nullConnsList s ids).ownedK = nullList s.ownedK ids := by
  induction ids with
  | nil => intro s; exact ⟨rfl, rfl, rfl⟩
  | cons c cs ih =>
    intro s
    exact ih (nullConns s c)

/-- after nulling `ids`, pointers only have to be found among the cells not in `ids` -/
theorem PtrOK.nullList {impls impls' : List (Nat × Impl)} {l : List (Nat × Option Nat)} (h : PtrOK impls l)
    (ids : List Nat) (hm : ∀ cid, cid ∉ ids → CellIn impls cid → CellIn impls' cid) :
    PtrOK impls' (Inv.nullList l ids) := by
  intro q hq cid e
  obtain ⟨k, p⟩ := q
  simp only at e
  subst e
  obtain ⟨h1, h2⟩ := mem_nullList hq
  exact hm cid h1 (h (k, some cid) h2 cid rfl)

theorem PtrsI.nullConnsList {impls0 impls' : List (Nat × Impl)} (s0 : St)
    (h : PtrsI impls0 s0.C s0.K s0.ownedK) (ids : List Nat)
    (hm : ∀ cid, cid ∉ ids → CellIn impls0 cid → CellIn impls' cid) :
    PtrsI impls' (nullConnsList s0 ids).C (nullConnsList s0 ids).K (nullConnsList s0 ids).ownedK := by
  obtain ⟨e1, e2, e3⟩ := nullConnsList_ptrs ids s0
  rw [e1, e2, e3]
  exact ⟨h.1.nullList ids hm, h.2.1.nullList ids hm, h.2.2.nullList ids hm⟩

theorem PtrsI.impls {impls impls' : List (Nat × Impl)} {C K oK : List (Nat × Option Nat)} (h : PtrsI impls C K oK)
    (hm : ∀ cid, CellIn impls cid → CellIn impls' cid) : PtrsI impls' C K oK :=
  ⟨h.1.impls hm, h.2.1.impls hm, h.2.2.impls hm⟩

theorem Ptrs.prims : PrimsA Ptrs where
  upd s i im g e d _ h hi hg := by
    refine PtrsI.impls h (fun cid hc => hc.aset ?_)
    intro im0 hi0 c hc he
    rw [hi] at hi0; cases hi0
    exact ⟨g c, List.mem_map.2 ⟨c, hc, rfl⟩, by rw [(hg c).1]; exact he⟩
  filter s i im p d ids _ h hi hp := by
    show PtrsI (nullConnsList _ _).impls _ _ _
    rw [nullConnsList_impls]
    refine PtrsI.nullConnsList (impls0 := s.impls)
      (setImpl s i { im with cells := im.cells.filter p, deferred := d }) h ids ?_
    intro cid hn hc
    refine hc.aset ?_
    intro im0 hi0 c hc he
    rw [hi] at hi0; cases hi0
    refine ⟨c, List.mem_filter.2 ⟨hc, ?_⟩, he⟩
    cases hpc : p c with
    | true => rfl
    | false => exact absurd (he ▸ hp c hc hpc) hn
  delImpl s i im _ h hi _ _ := by
    show PtrsI (nullConnsList _ _).impls _ _ _
    rw [nullConnsList_impls]
    refine PtrsI.nullConnsList (impls0 := s.impls) { s with impls := adel s.impls i } h _ ?_
    intro cid hn hc
    refine hc.adel ?_
    intro im0 hi0 c hc he
    rw [hi] at hi0; cases hi0
    exact hn (he ▸ List.mem_map.2 ⟨c, hc, rfl⟩)
  invalS s t _ h := h

theorem CellIn.aset_fresh {impls : List (Nat × Impl)} {cid i : Nat} {im' : Impl} (h : CellIn impls cid)
    (hk : aget impls i = none) : CellIn (Model.aset impls i im') cid :=
  h.aset (fun im hi => by rw [hk] at hi; cases hi)

theorem Ptrs.ensureImpl {s s1 : St} {g i : Nat} (hw : WF s) (h : Ptrs s)
    (he : ensureImpl s g = some (s1, i)) : Ptrs s1 := by
  obtain ⟨_, _, ⟨_, rfl⟩ | ⟨_, rfl, rfl⟩⟩ := ensureImpl_cases he
  · exact h
  · refine PtrsI.impls h (fun cid hc => hc.aset_fresh ?_)
    cases hn : aget s.impls s.next with
    | none => rfl
    | some im => exact absurd (hw.keyLt _ _ hn) (Nat.lt_irrefl _)

theorem Ptrs.mkFun {s s' : St} {fn : Fun} (h : Ptrs s) {τ : Int} (m : MkFun s τ fn s') : Ptrs s' := by
  cases m with
  | plain _ => exact h
  | fwd _ _ => exact h
  | ownT _ _ => exact h
  | ownK _ hk => exact ⟨h.1, all_adel h.2.1 _, List.forall_mem_cons.2 ⟨all_get h.2.1 hk, h.2.2⟩⟩
  | ownG _ _ _ _ => exact h

theorem cellIn_insertCell_new {s : St} {i : Nat} {first : Bool} {sl : SlotB}
    (hi : ∃ im, aget s.impls i = some im) :
    CellIn (insertCell s i first sl).fst.impls (insertCell s i first sl).snd := by
  obtain ⟨im, hi⟩ := hi
  unfold Model.insertCell
  simp only [St.fresh, hi]
  cases first
  · refine ⟨i, _, aget_aset_same _ _ _, ?_⟩
    exact ⟨_, List.mem_append_right _ List.mem_cons_self, rfl⟩
  · refine ⟨i, _, aget_aset_same _ _ _, ?_⟩
    exact ⟨_, List.mem_cons_self, rfl⟩

theorem Ptrs.grow : Grow (fun _ => True) Ptrs := by
  -- an impl is replaced by one that has all its cells
  have keep : ∀ {s : St} {i : Nat} {im im' : Impl}, Ptrs s → aget s.impls i = some im →
      (∀ c ∈ im.cells, c ∈ im'.cells) → PtrsI (aset s.impls i im') s.C s.K s.ownedK :=
    fun h hi hs => PtrsI.impls h fun cid hc => hc.aset fun im0 hi0 c hc he => by
      rw [hi] at hi0; cases hi0; exact ⟨c, hs c hc, he⟩
  exact ⟨fun _ _ h => h, fun _ _ _ _ h hi => keep h hi fun _ hc => hc,
    fun _ _ _ _ _ _ _ h hi _ _ hp => keep h hi fun _ hc => hp.mem_iff.2 (List.mem_cons_of_mem _ hc)⟩

theorem Ptrs.insertCell {s : St} (i : Nat) (first : Bool) (sl : SlotB) (h : Ptrs s) :
    Ptrs (insertCell s i first sl).fst := Ptrs.grow.insertCell i first trivial h

theorem ptrs_insert_conn {s : St} {i : Nat} {first : Bool} {sl : SlotB} {k : Nat}
    (hi : ∃ im, aget s.impls i = some im) (h : PtrsI s.impls s.C s.K s.ownedK) :
    PtrsI (insertCell s i first sl).fst.impls
      (aset (insertCell s i first sl).fst.C k (some (insertCell s i first sl).snd))
      (insertCell s i first sl).fst.K (insertCell s i first sl).fst.ownedK := by
  obtain ⟨h1, h2, h3⟩ := Ptrs.insertCell i first sl h
  exact ⟨all_aset h1 k (fun cid e => by cases e; exact cellIn_insertCell_new hi), h2, h3⟩

theorem Ptrs.ckWrite {s : St} {C' K' : List (Nat × Option Nat)} (w : CKWrite s C' K') (h : Ptrs s) :
    PtrsI s.impls C' K' s.ownedK := by
  have old : ∀ {p}, OldPtr s p → PtrVal s.impls p := by
    rintro p (rfl | ⟨k, hk⟩ | ⟨k, hk⟩)
    · exact PtrVal.none _
    · exact all_get h.1 hk
    · exact all_get h.2.1 hk
  cases w with
  | setC k hp => exact ⟨all_aset h.1 k (old hp), h.2.1, h.2.2⟩
  | delC k => exact ⟨all_adel h.1 k, h.2.1, h.2.2⟩
  | setK k hp => exact ⟨h.1, all_aset h.2.1 k (old hp), h.2.2⟩
  | setK2 i j ha hb => exact ⟨h.1, all_aset (all_aset h.2.1 i (old ha)) j (old hb), h.2.2⟩
  | delK k => exact ⟨h.1, all_adel h.2.1 k, h.2.2⟩
  | rel c hk => exact ⟨all_aset h.1 c (all_get h.2.1 hk), all_aset h.2.1 _ (PtrVal.none _), h.2.2⟩

theorem Ptrs.forceDelG (s : St) (g : Nat) (hI : Ptrs s) : Ptrs (forceDelG s g) :=
  Ptrs.prims.dropHandle g (fun _ h => h) hI

theorem Ptrs.move {s s' : St} (m : Move s s') (hW : WF s) (hH : HOK s) (h : Ptrs s) : Ptrs s' := by
  cases m with
  | lib l => exact Ptrs.prims.lib l h
  | newT _ => exact h
  | delT _ => exact Ptrs.prims.invalidateTrackable _ h
  | setS _ => exact h
  | made hm => exact Ptrs.mkFun h hm
  | mkS hm _ _ => exact (Ptrs.mkFun h hm :)
  | newG _ _ _ _ => exact h
  | ensure he => exact Ptrs.ensureImpl hW h he
  | mvG _ _ => exact h
  | asgG _ _ => exact Ptrs.prims.gcOpt _ h
  | masgG _ _ _ => exact Ptrs.prims.gcOpt _ h
  | drop _ => exact Ptrs.forceDelG _ _ h
  | conn _ _ _ hh => exact ptrs_insert_conn (hH.held hh.held _ rfl) h
  | connMv _ _ _ hh => exact ptrs_insert_conn (hH.held hh.held _ rfl) h
  | connfn _ _ hm he =>
    exact ptrs_insert_conn (HOK.ensureImpl (HOK.mkFun hH hm) he).2
      (Ptrs.ensureImpl (WF.mkFun hW hm) (Ptrs.mkFun h hm) he)
  | setCK w => exact (Ptrs.ckWrite w h :)


theorem Ptrs.collect (s : St) (hI : Ptrs s) : Ptrs (collect s) :=
  Ptrs.prims.collect (fun _ _ h => h) (fun _ f h => ⟨h.1, h.2.1, fun q hq => h.2.2 q (List.mem_filter.1 hq).1⟩)
    (dropG_of (fun _ _ h => h) Ptrs.forceDelG) hI

/-- what `Ptrs` is kept relative to (`Ptrs.stable`) -/
def Base (s : St) : Prop := WF s ∧ HOK s

theorem Base.stable : Stable Base := StableRel.and WF.stable HOK.stable.weaken

theorem Ptrs.stable : StableRel Base Ptrs :=
  StableRel.ofPrims Ptrs.prims (fun _ _ _ _ _ h => h) (fun _ _ _ _ h _ => h) (fun m j => ⟨WF.move m j.1, HOK.move m j.2⟩)
    (fun m j => Ptrs.move m j.1 j.2) (fun s _ h => Ptrs.collect s h) (Ptrs.grow.emitPro fun _ => trivial)
    Ptrs.grow.dropHolder (fun s g _ h => Ptrs.forceDelG s g h)

/-- identities, handles and pointers: the link invariant -/
def Links (s : St) : Prop := Base s ∧ Ptrs s

theorem Links.stable : Stable Links := StableRel.and Base.stable Ptrs.stable

theorem Links.init : Links {} := ⟨⟨WF.init, HOK.init⟩, Ptrs.init⟩

theorem Links.reachable (f : Nat) (P : Prog) (s : St) (h : runTop f P {} P.top = some s) : Links s :=
  Links.stable.runTop Links.init f P s h

end Sigc.Inv
