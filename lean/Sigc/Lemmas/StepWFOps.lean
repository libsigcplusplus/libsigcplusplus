import Sigc.Lemmas.Built
import Sigc.Lemmas.StepWF
/-!
# `mkFun` and every move, hence every operation of `stepSimple`, preserve `WF`
-/
namespace Sigc.StepWF
open Sigc.Model Sigc.StepConn Sigc.StepHandles Sigc.StepTrack

theorem SlotBelow.of_fun {n : Nat} {fn : Fun} (h : ∀ t ∈ fn.tracks, t < n) (b c : Bool) :
    SlotBelow n { blocked := b, rep := some { call := c, fn := some fn } } := h

theorem WF.made {s s1 : St} {fn : Fun} (hw : WF s) {τ : Int} (m : MkFun s τ fn s1) : WF s1 ∧ ∀ t ∈ fn.tracks, t < s1.next := by
  cases m with
  | plain ht _ =>
    refine ⟨hw, fun o ho => ?_⟩
    rcases ht o ho with ⟨_, h⟩ | ⟨_, _, hv, h⟩
    · exact hw.obj h
    · exact hw.var hv o (by simpa [tracksObj_eq] using h)
  | @fwd g h hg _ =>
    refine ⟨hw.withG _ (hw.trks.aset g _ (hw.trk (hd := h) hg)), fun t ht => ?_⟩
    simp only [Fun.tracks] at ht
    split at ht
    · simp at ht; subst ht; exact hw.trk (hd := h) hg
    · cases ht
  | ownT fid _ => exact ⟨(hw.withT _ (hw.objs.adel _)).frame _ rfl rfl rfl rfl rfl rfl, by simp [Fun.tracks]⟩
  | ownK fid _ => exact ⟨hw.bump _ (Nat.le_succ _) rfl rfl rfl rfl rfl, by simp [Fun.tracks]⟩
  | @ownG fid g _ _ _ _ =>
    have h1 : WF { s with next := s.next + 1 } := hw.fresh
    exact ⟨⟨h1.impls, h1.vars, h1.objs, h1.trks, hw.owners.fresh g⟩, by simp [Fun.tracks]⟩

theorem WF.allocT {s : St} (h : WF s) (t : Nat) :
    WF { s with next := s.next + 1, T := aset s.T t s.next } :=
  have h1 : WF { s with next := s.next + 1 } := h.fresh
  h1.withT _ (h1.objs.aset t s.next (Nat.lt_succ_self _))

theorem WF.bumpG {s : St} (h : WF s) (n' : Nat) (hn : s.next ≤ n') (G : List (Nat × Handle))
    (hG : AllV (fun h : Handle => h.trk < n') G) : WF { s with next := n', G := G } :=
  have h1 : WF { s with next := n' } := h.bump _ hn rfl rfl rfl rfl rfl
  ⟨h1.impls, h1.vars, h1.objs, hG, h1.owners⟩

theorem WF.trksUp {s : St} (h : WF s) {n' : Nat} (hn : s.next ≤ n') : AllV (fun h : Handle => h.trk < n') s.G :=
  h.trks.imp (fun _ hv => Nat.lt_of_lt_of_le hv hn)

/-- copy / move construction: the new signal object `j` takes two fresh identities -/
theorem WF.newHandle {s : St} (h : WF s) (j : Nat) (fl : Flavour) (impl : Option Nat) (lvl : Nat) :
    WF { s with next := s.next + 1 + 1,
                G := aset s.G j { obj := s.next, fl := fl, impl := impl, trk := s.next + 1, lvl := lvl } } :=
  h.bumpG _ (by omega) _ ((h.trksUp (by omega)).aset j _ (Nat.lt_succ_self _))

/-- move construction: the new signal object `j` takes the list of `i` -/
theorem WF.moveHandle {s : St} (h : WF s) {i : Nat} {h0 : Handle} (hi : aget s.G i = some h0) (j : Nat) :
    WF { s with next := s.next + 1 + 1,
                G := aset (aset s.G i { h0 with impl := none }) j
                  { obj := s.next, fl := h0.fl, impl := h0.impl, trk := s.next + 1, lvl := h0.lvl } } := by
  refine h.bumpG _ (by omega) _ (((h.trksUp (by omega)).aset i _ ?_).aset j _ (Nat.lt_succ_self _))
  exact Nat.lt_succ_of_lt (Nat.lt_succ_of_lt (h.trk (hd := h0) hi))

theorem WF.gcOpt {s : St} (h : WF s) (o : Option Nat) : WF (Model.gcOpt s o) := WF.prims.gcOpt o h

/-- move assignment: `j` takes the list of `i`, the old list of `j` loses an owner -/
theorem WF.moveAssign {s : St} (hw : WF s) {j i : Nat} {d h : Handle} (hj : aget s.G j = some d)
    (hi : aget s.G i = some h) :
    WF (Model.gcOpt { s with G := aset (aset s.G j { d with impl := h.impl }) i { h with impl := none } } d.impl) := by
  refine WF.gcOpt (hw.withG _ ((hw.trks.aset j _ ?_).aset i _ ?_)) _
  · exact hw.trk (hd := d) hj
  · exact hw.trk (hd := h) hi

/-- substitute a branch `h : some (s₁, r₁) = some (s', r)` -/
macro "wf_subst" h:ident : tactic => `(tactic| (
  injection $h:ident with hx
  injection hx with hy hz
  subst hy))

theorem WF.slotFrom {s : St} (hw : WF s) {sl : SlotB} {τ : Int} (h : SlotFrom s sl τ) : SlotBelow s.next sl := by
  rcases h with e | ⟨i, v, hv, _, e | e⟩
  · exact .of_nil (by unfold slotTracks; rw [e])
  · exact (hw.var hv).of_eq (slotTracks_of_rep _ _ e)
  · exact (hw.var hv).disconnectRep.of_eq (slotTracks_of_rep _ _ e)

theorem WF.move {s s' : St} (m : Move s s') (hw : WF s) : WF s' := by
  cases m with
  | lib l => exact WF.prims.lib l hw
  | newT _ => exact hw.allocT _
  | delT _ => exact (hw.withT _ (hw.objs.adel _)).invalidateTrackable _
  | setS w =>
    refine hw.withS _ ?_
    cases w with
    | one _ h => exact hw.vars.aset _ _ (hw.slotFrom h)
    | two _ _ ha _ _ hb => exact (hw.vars.aset _ _ (hw.slotFrom ha)).aset _ _ (hw.slotFrom hb)
    | del _ _ => exact hw.vars.adel _
  | made m => exact (hw.made m).1
  | mkS m _ e =>
    obtain ⟨h1, htr⟩ := hw.made m
    exact h1.withS _ (h1.vars.aset _ _ (e ▸ htr))
  | newG fl lvl _ _ => exact hw.newHandle _ fl _ lvl
  | ensure he => exact hw.ensureImpl he
  | mvG hi _ => exact hw.moveHandle hi _
  | @asgG j d new hj _ =>
    refine (hw.withG _ (hw.trks.aset j _ ?_)).gcOpt _
    exact hw.trk (hd := d) hj
  | masgG hj hi _ => exact hw.moveAssign hj hi
  | drop _ _ => exact hw.dropHandle _
  | conn k first hv _ => exact (hw.insertCell _ _ _ ((hw.var hv).copy.mono (Nat.le_succ _))).setConn _ _
  | connMv k first hv _ =>
    exact ((hw.withS _ (hw.vars.aset _ _ (hw.var hv).move2)).insertCell _ _ _
      ((hw.var hv).move1.mono (Nat.le_succ _))).setConn _ _
  | connfn k first m he =>
    obtain ⟨h1, htr⟩ := hw.made m
    exact ((h1.ensureImpl he).insertCell _ _ _ (SlotBelow.of_fun (fun t ht =>
      Nat.lt_succ_of_le (Nat.le_trans (Nat.le_of_lt (htr t ht)) (ensureImpl_next_le he))) _ _)).setConn _ _
  | setCK _ => exact hw.frame _ rfl rfl rfl rfl rfl rfl

theorem stepSimple_WF {s s' : St} {op : Op} {r : String} (hw : WF s) (h : stepSimple s op = some (s', r)) : WF s' :=
  Model.stepSimple_preserved' WF.move h hw

example : ∀ s' r, stepSimple exStT (.delG 0) = some (s', r) → WF s' := fun _ _ h => stepSimple_WF (by decide) h

end Sigc.StepWF
