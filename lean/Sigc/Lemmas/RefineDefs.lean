import Sigc.Spec
import Sigc.Lemmas.EmitMutual
import Sigc.Lemmas.RelLists
/-!
The simulation relation `R` between the mechanism model (`Sigc.Model.St`) and the specification with the two known
findings reproduced (`Sigc.Spec.LSt`, `k1 = k2 = true`), the trace relation `Allows`, and the lemmas of pointwise
related lists and tables `F2`/`AR`, each from its twin of `RelLists` through `F2.toK`/`F2.ofK`.
-/
namespace Sigc.Refine
open Sigc.Model


/-- specification event vs model event: equal, or the specification leaves the result open (`*`) -/
inductive EvAllows : Event → Event → Prop
  | same (e : Event) : EvAllows e e
  | star (d : Nat) (text r : String) : EvAllows (.res d text "*") (.res d text r)

inductive F2 {α β : Type} (r : α → β → Prop) : List α → List β → Prop
  | nil : F2 r [] []
  | cons {a b l m} : r a b → F2 r l m → F2 r (a :: l) (b :: m)

def Allows (ts tm : List Event) : Prop := F2 EvAllows ts tm

def ResAllows (rs rm : String) : Prop := rs = rm ∨ rs = "*"


def SameHold (a b : SlotB) : Prop := (∀ o, a.holdsT o = b.holdsT o) ∧ (∀ k, a.holdsK k = b.holdsK k)

/-- model cell vs specification entry: a linked cell is a live entry with the same slot value; an
    unlinked cell without rep is an end marker; an unlinked cell with a rep is an entry that left the
    list while an emission runs (its `blocked_` flag and released functor are unobservable) -/
structure CellR (c : Cell) (d : Spec.LCell) : Prop where
  id : d.id = c.id
  marker : d.marker = (!c.linked && c.slot.rep.isNone)
  zombie : d.zombie = (!c.linked && c.slot.rep.isSome)
  slot : d.zombie = false → d.slot = c.slot
  zslot : d.zombie = true → d.slot.empty = true ∧ SameHold c.slot d.slot
  lrep : c.linked = true → c.slot.rep.isSome = true

/-- `active` is the number of holders, not `exec`: `clear()` raises `exec_count_` without being an emission.  With `k2`
    what leaves the list during an emission stays in `cells` as a zombie, so `limbo` is empty; `dirty` is K1's flag. -/
structure SigR (im : Impl) (g : Spec.LSig) : Prop where
  cells : F2 CellR im.cells g.cells
  active : g.active = im.holders
  dirty : g.dirty = im.deferred
  limbo : g.limbo = []

def AR {α β : Type} (r : α → β → Prop) (l : List (Nat × α)) (m : List (Nat × β)) : Prop :=
  F2 (fun p q => p.1 = q.1 ∧ r p.2 q.2) l m

/-- no entry of any list has id `cid`, and none ever will (ids are allocated from `next`) -/
def Gone (sigs : List (Nat × Spec.LSig)) (next : Nat) (cid : Nat) : Prop :=
  cid < next ∧ ∀ p ∈ sigs, ∀ c ∈ p.2.cells, c.id ≠ cid

/-- model connection vs specification connection: equal, or the model has nulled a pointer that
    dangles in the specification -/
def PtrR (sigs : List (Nat × Spec.LSig)) (next : Nat) (pm ps : Option Nat) : Prop :=
  pm = ps ∨ (pm = none ∧ ∃ cid, ps = some cid ∧ Gone sigs next cid)

/-- the tables are equal except where they hold connection ids (`PtrR`); the lists are related cell by cell -/
structure R (s : St) (t : Spec.LSt) : Prop where
  T : t.T = s.T
  S : t.S = s.S
  G : t.G = s.G
  C : AR (PtrR t.sigs t.next) s.C t.C
  K : AR (PtrR t.sigs t.next) s.K t.K
  sigs : AR SigR s.impls t.sigs
  ownedT : t.ownedT = s.ownedT
  ownedK : AR (PtrR t.sigs t.next) s.ownedK t.ownedK
  ownedG : t.ownedG = s.ownedG
  next : t.next = s.next
  depth : t.depth = s.depth
  steps : t.steps = s.steps
  trace : Allows t.trace s.trace
  k1 : t.k1 = true
  k2 : t.k2 = true

/-- outside of every emission (`depth = 0` is reached only between top-level operations) no list is
    being emitted; the one operation that needs it is the count of live functor copies (`liveq`), which at
    `depth = 0` must agree exactly (`liveCount_sim`) -/
def Quiet (s : St) : Prop := s.depth = 0 → ∀ i, Emit.execOf s i = 0

/-- the cells with an id in `Z` are unlinked (and `Z` is below the allocation counter).  Unlinked cells are never
    linked again (`Keeps.off`), so the simulation of `emitLoop` carries the set `Z` of cells seen unlinked and
    drops them from the turns the specification still has to offer (`LoopE`) -/
def Off (Z : List Nat) (s : St) : Prop :=
  (∀ z ∈ Z, z < s.next) ∧ ∀ p ∈ s.impls, ∀ c ∈ p.2.cells, c.id ∈ Z → c.linked = false

def AnsSim (t : Spec.LSt) : Option (St × String) → Option (Spec.LSt × String) → Prop
  | some (s', r), some (t', r') => R s' t' ∧ t'.err = t.err ∧ ResAllows r' r
  | none, none => True
  | _, _ => False

def StepSim (op : Op) : Prop :=
  ∀ s t, Emit.Inv s → R s t → Quiet s → AnsSim t (Model.stepSimple s op) (Spec.stepSimple t op)


section F2
variable {α β : Type} {r : α → β → Prop} {l : List α} {m : List β}

theorem F2.toK (h : F2 r l m) : SpecK.F2 r l m := by
  induction h with
  | nil => exact .nil
  | cons hab _ ih => exact .cons hab ih

theorem F2.ofK (h : SpecK.F2 r l m) : F2 r l m := by
  induction h with
  | nil => exact .nil
  | cons hab _ ih => exact .cons hab ih

/-- related options, in the form the look-ups of this namespace are stated -/
theorem of_OR {a : Option α} {b : Option β} (h : SpecK.OR r a b) :
    (a = none ∧ b = none) ∨ (∃ x y, a = some x ∧ b = some y ∧ r x y) := by
  cases h with
  | none => exact .inl ⟨rfl, rfl⟩
  | some hab => exact .inr ⟨_, _, rfl, rfl, hab⟩

/-- the side conditions of the lemmas below may use that the two elements are in the lists -/
theorem F2.att (h : F2 r l m) : SpecK.F2 (fun a b => a ∈ l ∧ b ∈ m ∧ r a b) l m := h.toK.attach

theorem F2.length {l : List α} {m : List β} (h : F2 r l m) : l.length = m.length := h.toK.length

theorem F2.isEmpty {l : List α} {m : List β} (h : F2 r l m) : l.isEmpty = m.isEmpty := h.toK.isEmpty

theorem F2.append {l l' : List α} {m m' : List β} (h : F2 r l m) (h' : F2 r l' m') : F2 r (l ++ l') (m ++ m') :=
  .ofK (h.toK.append h'.toK)

theorem F2.map {γ δ : Type} {r' : γ → δ → Prop} {l : List α} {m : List β} (h : F2 r l m) (f : α → γ) (g : β → δ)
    (hfg : ∀ a b, a ∈ l → b ∈ m → r a b → r' (f a) (g b)) : F2 r' (l.map f) (m.map g) :=
  .ofK (h.att.map f g fun a b ⟨ha, hb, hr⟩ => hfg a b ha hb hr)

theorem F2.imp {r' : α → β → Prop} {l : List α} {m : List β} (h : F2 r l m)
    (hi : ∀ a b, a ∈ l → b ∈ m → r a b → r' a b) : F2 r' l m :=
  .ofK (h.att.mono fun a b ⟨ha, hb, hr⟩ => hi a b ha hb hr)

theorem F2.filter {l : List α} {m : List β} (h : F2 r l m) (p : α → Bool) (q : β → Bool)
    (hpq : ∀ a b, a ∈ l → b ∈ m → r a b → p a = q b) : F2 r (l.filter p) (m.filter q) :=
  .ofK ((h.att.filter p q fun a b ⟨ha, hb, hr⟩ => hpq a b ha hb hr).mono fun _ _ x => x.2.2)

theorem F2.any {l : List α} {m : List β} (h : F2 r l m) (p : α → Bool) (q : β → Bool)
    (hpq : ∀ a b, a ∈ l → b ∈ m → r a b → p a = q b) : l.any p = m.any q :=
  h.att.any p q fun a b ⟨ha, hb, hr⟩ => hpq a b ha hb hr

theorem F2.all {l : List α} {m : List β} (h : F2 r l m) (p : α → Bool) (q : β → Bool)
    (hpq : ∀ a b, a ∈ l → b ∈ m → r a b → p a = q b) : l.all p = m.all q :=
  h.att.all p q fun a b ⟨ha, hb, hr⟩ => hpq a b ha hb hr

theorem F2.mem_left {l : List α} {m : List β} (h : F2 r l m) {a : α} (ha : a ∈ l) : ∃ b ∈ m, r a b := h.toK.mem_left ha

theorem F2.mem_right {l : List α} {m : List β} (h : F2 r l m) {b : β} (hb : b ∈ m) : ∃ a ∈ l, r a b := h.toK.mem_right hb

theorem F2.map_eq {γ : Type} {l : List α} {m : List β} (h : F2 r l m) (f : α → γ) (g : β → γ)
    (hfg : ∀ a b, a ∈ l → b ∈ m → r a b → f a = g b) : l.map f = m.map g :=
  h.att.map_eq f g fun a b ⟨ha, hb, hr⟩ => hfg a b ha hb hr

theorem F2.find {l : List α} {m : List β} (h : F2 r l m) (p : α → Bool) (q : β → Bool)
    (hpq : ∀ a b, a ∈ l → b ∈ m → r a b → p a = q b) :
    (l.find? p = none ∧ m.find? q = none) ∨
    (∃ a b, l.find? p = some a ∧ m.find? q = some b ∧ r a b) := by
  rcases of_OR (h.att.find p q fun a b ⟨ha, hb, hr⟩ => hpq a b ha hb hr) with e | ⟨a, b, e1, e2, hab⟩
  · exact .inl e
  · exact .inr ⟨a, b, e1, e2, hab.2.2⟩

theorem F2.refl_of {l : List α} {r : α → α → Prop} (h : ∀ a ∈ l, r a a) : F2 r l l := by
  induction l with
  | nil => exact .nil
  | cons a t ih => exact .cons (h a (by simp)) (ih (fun x hx => h x (List.mem_cons_of_mem _ hx)))

end F2


section AR
variable {α β : Type} {r : α → β → Prop}

theorem AR.keys {l : List (Nat × α)} {m : List (Nat × β)} (h : AR r l m) : l.map (·.1) = m.map (·.1) :=
  F2.map_eq h _ _ (fun _ _ _ _ hr => hr.1)

theorem AR.imp {r' : α → β → Prop} {l : List (Nat × α)} {m : List (Nat × β)} (h : AR r l m)
    (hi : ∀ k a b, (k, a) ∈ l → (k, b) ∈ m → r a b → r' a b) : AR r' l m :=
  F2.imp h (fun p q hp hq hr => ⟨hr.1, hi p.1 p.2 q.2 hp (by rw [hr.1]; exact hq) hr.2⟩)

/-- the form the rule `SpecK.OR.on` takes, for a look-up whose two answers sit in the goal; `AR.get` below is the same as a
    disjunction with the two equations, for the proofs that need an equation afterwards -/
theorem AR.getOR {l : List (Nat × α)} {m : List (Nat × β)} (h : AR r l m) (k : Nat) : SpecK.OR r (aget l k) (aget m k) :=
  SpecK.AR.get (F2.toK h) k

theorem AR.get {l : List (Nat × α)} {m : List (Nat × β)} (h : AR r l m) (k : Nat) :
    (aget l k = none ∧ aget m k = none) ∨ (∃ a b, aget l k = some a ∧ aget m k = some b ∧ r a b) :=
  of_OR (h.getOR k)

theorem AR.get_some_left {l : List (Nat × α)} {m : List (Nat × β)} (h : AR r l m) {k : Nat} {a : α}
    (ha : aget l k = some a) : ∃ b, aget m k = some b ∧ r a b := (h.getOR k).some_left ha

theorem AR.get_none_left {l : List (Nat × α)} {m : List (Nat × β)} (h : AR r l m) {k : Nat}
    (ha : aget l k = none) : aget m k = none := (h.getOR k).none_left ha

theorem AR.get_some_right {l : List (Nat × α)} {m : List (Nat × β)} (h : AR r l m) {k : Nat} {b : β}
    (hb : aget m k = some b) : ∃ a, aget l k = some a ∧ r a b := (h.getOR k).some_right hb

theorem AR.get_none_right {l : List (Nat × α)} {m : List (Nat × β)} (h : AR r l m) {k : Nat}
    (hb : aget m k = none) : aget l k = none := by
  rw [← Option.isNone_iff_eq_none] at hb ⊢
  rw [(h.getOR k).isNone]; exact hb

theorem AR.set {l : List (Nat × α)} {m : List (Nat × β)} (h : AR r l m) (k : Nat) {a : α} {b : β} (hab : r a b) :
    AR r (aset l k a) (aset m k b) := F2.ofK (SpecK.AR.set (F2.toK h) k hab)

theorem AR.del {l : List (Nat × α)} {m : List (Nat × β)} (h : AR r l m) (k : Nat) :
    AR r (adel l k) (adel m k) := F2.ofK (SpecK.AR.del (F2.toK h) k)

theorem AR.map {l : List (Nat × α)} {m : List (Nat × β)} (h : AR r l m) {r' : α → β → Prop} (f : α → α) (g : β → β)
    (hfg : ∀ k a b, (k, a) ∈ l → (k, b) ∈ m → r a b → r' (f a) (g b)) : AR r' (amap l f) (amap m g) := by
  unfold Model.amap
  exact F2.map h _ _ (fun p q hp hq hr => ⟨hr.1, hfg p.1 p.2 q.2 hp (by rw [hr.1]; exact hq) hr.2⟩)

theorem AR.map_left {l : List (Nat × α)} {m : List (Nat × β)} (h : AR r l m) {r' : α → β → Prop} (f : α → α)
    (hf : ∀ k a b, (k, a) ∈ l → (k, b) ∈ m → r a b → r' (f a) b) : AR r' (amap l f) m := by
  have := h.map (r' := r') f id hf
  unfold Model.amap at this ⊢
  simpa using this

theorem AR.cons {l : List (Nat × α)} {m : List (Nat × β)} (h : AR r l m) (k : Nat) {a : α} {b : β} (hab : r a b) :
    AR r ((k, a) :: l) ((k, b) :: m) := F2.cons ⟨rfl, hab⟩ h

theorem AR.filt {l : List (Nat × α)} {m : List (Nat × β)} (h : AR r l m) (p : Nat × α → Bool) (q : Nat × β → Bool)
    (hpq : ∀ k a b, (k, a) ∈ l → (k, b) ∈ m → r a b → p (k, a) = q (k, b)) : AR r (l.filter p) (m.filter q) :=
  F2.filter h p q (fun x y hx hy hr => by
    obtain ⟨k, a⟩ := x
    obtain ⟨k', b⟩ := y
    obtain ⟨e, hr⟩ := hr
    simp only at e hr; subst e
    exact hpq k a b hx hy hr)

end AR


theorem Allows.refl (l : List Event) : Allows l l := F2.refl_of (fun e _ => .same e)

theorem Allows.cons_same {ts tm : List Event} (h : Allows ts tm) (e : Event) : Allows (e :: ts) (e :: tm) :=
  .cons (.same e) h

theorem Allows.cons_res {ts tm : List Event} (h : Allows ts tm) (d : Nat) (text : String) {rs rm : String}
    (hr : ResAllows rs rm) : Allows (.res d text rs :: ts) (.res d text rm :: tm) := by
  rcases hr with e | e
  · subst e; exact .cons (.same _) h
  · subst e; exact .cons (.star d text rm) h

theorem ResAllows.refl (r : String) : ResAllows r r := Or.inl rfl


theorem AnsSim.res {t t' : Spec.LSt} {s' : St} {r r' : String} (hR : R s' t') (he : t'.err = t.err)
    (hr : ResAllows r' r) : AnsSim t (some (s', r)) (some (t', r')) := ⟨hR, he, hr⟩

theorem AnsSim.ok {t t' : Spec.LSt} {s' : St} {r : String} (hR : R s' t') (he : t'.err = t.err) :
    AnsSim t (some (s', r)) (some (t', r)) := ⟨hR, he, .refl r⟩

theorem AnsSim.same {s : St} {t : Spec.LSt} (hR : R s t) (r : String) : AnsSim t (some (s, r)) (some (t, r)) :=
  .ok hR rfl

/-- the two sides branch alike: for `AnsSim t`, `FunSim t`, `SimRun e Q` -/
theorem sim_ite {α β : Type} {r : α → β → Prop} {c c' : Prop} [Decidable c] [Decidable c'] {a b : α} {a' b' : β}
    (h1 : c → r a a') (h2 : ¬ c → r b b') (hc : c' ↔ c := by exact Iff.rfl) :
    r (if c then a else b) (if c' then a' else b') := by
  by_cases h : c
  · rw [if_pos h, if_pos (hc.mpr h)]; exact h1 h
  · rw [if_neg h, if_neg (mt hc.mp h)]; exact h2 h

theorem AnsSim.of_some {t : Spec.LSt} {x : Option (St × String)} {y : Option (Spec.LSt × String)} (h : AnsSim t x y)
    {s' : St} {r : String} (hx : x = some (s', r)) :
    ∃ t' r', y = some (t', r') ∧ R s' t' ∧ t'.err = t.err ∧ ResAllows r' r := by
  subst hx
  cases y with
  | none => exact h.elim
  | some q => exact ⟨q.1, q.2, rfl, h⟩

theorem AnsSim.of_none {t : Spec.LSt} {x : Option (St × String)} {y : Option (Spec.LSt × String)} (h : AnsSim t x y)
    (hx : x = none) : y = none := by
  subst hx
  cases y with
  | none => rfl
  | some q => exact h.elim

end Sigc.Refine
