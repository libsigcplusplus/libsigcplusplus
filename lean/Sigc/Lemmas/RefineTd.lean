import Sigc.Lemmas.RefineMutual
import Sigc.Lemmas.InvLive
import Sigc.Lemmas.EmitTeardown
/-!
The driver's `teardown` is simulated (`Td.teardown_bun`) and never runs out of fuel (`Td.teardown_terminates`); what is left
after it; the line-level trace relation of the statement about `runProgram`; the example programs of `Props/Refine.lean`.

`teardown` = `delK*`, then `delC* ++ delS* ++ clear*` (all through `execOp`, i.e. without `collect`), then the
forced destruction of every signal object (`dropHandle`, also of pinned / functor-owned ones), then `delT*`.
The `execOp` parts are simulated by `OpE` (`all_simE`); the forced destruction by `R_dropHandle`, whose
hypothesis `Emit.Inv` survives the destruction of a pinned signal object because at that point no functor is
left (`NoFn`: no slot variable, no cell).
-/
namespace Sigc.Refine
open Sigc.Model

namespace Td

/-- no emission in progress (at any depth) -/
def Calm (s : St) : Prop := ∀ i, Emit.execOf s i = 0

theorem Calm.quiet {s : St} (h : Calm s) : Quiet s := fun _ => h

theorem Calm.step {s s' : St} (h : Calm s) (hf : Emit.Frame s s') : Calm s' := fun i => by
  rw [hf.exec i]; exact h i

theorem calm_of_quiet {s : St} (hq : Quiet s) (hd : s.depth = 0) : Calm s := hq hd

/-- what the simulation of the teardown carries from one operation to the next -/
structure Bun (e : Option String) (s : St) (t : Spec.LSt) : Prop where
  inv : Emit.Inv s
  rel : R s t
  err : t.err = e
  calm : Calm s
  td : Inv.TdInv s

theorem op_step (f : Nat) (P : Prog) {e : Option String} {s : St} {t : Spec.LSt} {op : Op}
    {r : St × Except Unit String} (h : Bun e s t) (hx : execOp f P s op = some r) :
    ∃ t1 r1, Spec.execOp f P t op = some (t1, r1) ∧ Bun e r.1 t1 := by
  obtain ⟨s1, res⟩ := r
  obtain ⟨t1, r1, ht, hR1, _⟩ :=
    (all_simE f).op e P s t op s1 res h.inv ⟨h.rel, h.err⟩ h.calm.quiet hx f (Nat.le_refl _)
  have g1 := (Emit.all_ok f).op P s op s1 res h.inv hx
  exact ⟨t1, r1, ht, g1.inv, hR1.r, hR1.err, h.calm.step g1.frame, h.td.execOp hx⟩

theorem seq_step (f : Nat) (P : Prog) {e : Option String} : ∀ (ops : List Op) (s : St) (t : Spec.LSt) (s' : St),
    Bun e s t → Inv.tdSeq f P (some s) ops = some s' → ∃ t', sSeq f P (some t) ops = some t' ∧ Bun e s' t' := by
  intro ops
  induction ops with
  | nil =>
    intro s t s' hb h
    simp only [Inv.tdSeq, List.foldl_nil, Option.some.injEq] at h
    subst h
    exact ⟨t, rfl, hb⟩
  | cons op ops ih =>
    intro s t s' hb h
    obtain ⟨s1, r, heq, h⟩ := Inv.tdSeq_cons_some h
    obtain ⟨t1, r1, ht1, hb1⟩ := op_step f P hb heq
    obtain ⟨t', ht', hb'⟩ := ih _ t1 s' hb1 h
    refine ⟨t', ?_, hb'⟩
    rw [sSeq_cons]
    simp only [sQuiet, ht1]
    exact ht'

def Emp (i : Nat) (s : St) : Prop := ∀ im, aget s.impls i = some im → im.cells = []

/-- no slot variable, no cell: no functor is left in the state -/
def NoFn (s : St) : Prop := s.S = [] ∧ ∀ i, Emp i s

theorem emp_prims (i : Nat) : Inv.PrimsA (Emp i) where
  upd s j im g e d _ h hj _ := by
    intro x hx
    rw [Emit.aget_setImpl] at hx
    split at hx
    · rename_i e; subst e; cases hx
      simp [h im hj]
    · exact h x hx
  filter s j im p d ids _ h hj _ := by
    intro x hx
    rw [(Emit.nullConnsList_core _ _).1, Emit.aget_setImpl] at hx
    split at hx
    · rename_i e; subst e; cases hx
      simp [h im hj]
    · exact h x hx
  delImpl s j im _ h _ _ _ := by
    intro x hx
    rw [(Emit.nullConnsList_core _ _).1] at hx
    simp only [Emit.aget_adel] at hx
    split at hx
    · cases hx
    · exact h x hx
  invalS s t _ h := h

theorem noS_prims : Inv.PrimsL (fun s => s.S = []) :=
  { cellBlind_S.prims [] with invalS := fun s t h => by simp [h, amap] }

theorem emp_clearImpl {s : St} {i : Nat} (hx : ∀ im, aget s.impls i = some im → im.exec = 0) :
    Emp i (clearImpl s i) := by
  unfold Model.clearImpl
  split
  · rename_i hn
    intro x hx'; rw [hn] at hx'; cases hx'
  · rename_i im hi
    have h0 := hx im hi
    simp only []
    split
    · rename_i hn
      intro x hx'; rw [hn] at hx'; cases hx'
    · rename_i im2 hi2
      apply (emp_prims i).unrefExec
      rw [if_neg (by omega)]
      intro x hx'
      rw [(Emit.nullConnsList_core _ _).1, Emit.aget_setImpl, if_pos rfl] at hx'
      cases hx'
      rfl

theorem clear_op {f : Nat} {P : Prog} {s : St} {g : Nat} {r : St × Except Unit String} (hc : Calm s)
    (h : execOp f P s (.clear g) = some r) :
    r.1.G = s.G ∧ (∀ i, Emp i s → Emp i r.1) ∧
    (∀ hd i, aget s.G g = some hd → hd.impl = some i → Emp i r.1) := by
  rcases Inv.execOp_simple_of g (by simp) h with ⟨r0, hs⟩ | ⟨hs, _⟩
  · simp only [stepSimple] at hs
    split at hs
    · rename_i hn
      simp only [Option.some.injEq, Prod.mk.injEq] at hs
      rw [← hs.1]
      exact ⟨rfl, fun _ h => h, fun hd i hg _ => by rw [hn] at hg; cases hg⟩
    · rename_i hd0 hg0
      simp only [Option.some.injEq, Prod.mk.injEq] at hs
      rw [← hs.1]
      cases him : hd0.impl with
      | none =>
        exact ⟨rfl, fun _ h => h, fun hd i hg hi => by rw [hg0] at hg; cases hg; rw [him] at hi; cases hi⟩
      | some im =>
        simp only
        refine ⟨(libBlind_G.prims s.G).clearImpl im rfl, fun i h => (emp_prims i).clearImpl im h, ?_⟩
        intro hd i hg hi
        rw [hg0] at hg; cases hg
        rw [him] at hi; cases hi
        apply emp_clearImpl
        intro x hx
        have := hc im
        rw [Emit.execOf_pos hx] at this
        exact this
  · simp [stepSimple] at hs
    split at hs <;> cases hs

theorem clear_phase (f : Nat) (P : Prog) : ∀ (gs : List Nat) (s s' : St), Emit.Inv s → Calm s →
    Inv.tdSeq f P (some s) (gs.map Op.clear) = some s' →
    s'.G = s.G ∧ (∀ i, Emp i s → Emp i s') ∧
    (∀ g ∈ gs, ∀ hd i, aget s.G g = some hd → hd.impl = some i → Emp i s') := by
  intro gs
  induction gs with
  | nil =>
    intro s s' _ _ h
    simp only [List.map_nil, Inv.tdSeq, List.foldl_nil, Option.some.injEq] at h
    subst h
    exact ⟨rfl, fun _ h => h, fun g hg => by simp at hg⟩
  | cons g gs ih =>
    intro s s' hs hc h
    obtain ⟨r1, r2, heq, h⟩ := Inv.tdSeq_cons_some h
    have g1 := (Emit.all_ok f).op P s _ r1 r2 hs heq
    obtain ⟨a1, a2, a3⟩ := clear_op hc heq
    obtain ⟨b1, b2, b3⟩ := ih r1 s' g1.inv (hc.step g1.frame) h
    simp only at a1 a2 a3 b1 b2 b3
    refine ⟨b1.trans a1, fun i h => b2 i (a2 i h), ?_⟩
    intro g' hg' hd i hg hi
    rcases List.mem_cons.mp hg' with e | e
    · subst e
      exact b2 i (a3 hd i hg hi)
    · exact b3 g' e hd i (by rw [a1]; exact hg) hi

/-- with no functor left, destroying a signal object — also a pinned one — keeps the invariant -/
theorem good_forceDrop {s : St} (h : Emit.Inv s) (hn : NoFn s) (g : Nat) :
    Emit.Good0 s (dropHandle s g) ∧ NoFn (dropHandle s g) := by
  unfold Model.dropHandle
  cases hg : aget s.G g with
  | none => exact ⟨Emit.Good.refl h, hn⟩
  | some hd =>
    simp only
    generalize hs1 : (if hd.fl.isTrackable = true then invalidateTrackable s hd.trk else s) = s1
    have g1 : Emit.Good0 s s1 := by
      subst hs1; split
      · exact Emit.good_invalidateTrackable h _
      · exact Emit.Good.refl h
    have hn1 : NoFn s1 := by
      subst hs1; split
      · exact ⟨noS_prims.invalidateTrackable _ hn.1, fun i => (emp_prims i).invalidateTrackable _ (hn.2 i)⟩
      · exact hn
    have i1 := g1.inv
    have g2 : Emit.Good0 s1 { s1 with G := Sigc.Model.adel s1.G g } :=
      Emit.Good.adelG i1 g (fun j v hv => by rw [hn1.1] at hv; simp [aget] at hv)
        fun j im hj c hc => by rw [hn1.2 j im hj] at hc; simp at hc
    have hn2 : NoFn { s1 with G := Sigc.Model.adel s1.G g } := hn1
    cases hd.impl with
    | none => exact ⟨g1.trans g2, hn2⟩
    | some im =>
      exact ⟨(g1.trans g2).andThen (fun h => Emit.Good.gcImpl h im),
        (gcImpl_S _ im).trans hn2.1, fun i => (emp_prims i).gcImpl im (hn2.2 i)⟩

theorem force_sim {e : Option String} : ∀ (gs : List Nat) (s : St) (t : Spec.LSt), Bun e s t → NoFn s →
    Bun e (gs.foldl Inv.forceDelG s) (gs.foldl Spec.dropHandle t) ∧ NoFn (gs.foldl Inv.forceDelG s) := by
  intro gs
  induction gs with
  | nil => intro s t hb hn; exact ⟨hb, hn⟩
  | cons g gs ih =>
    intro s t hb hn
    simp only [List.foldl_cons]
    obtain ⟨g1, hn1⟩ := good_forceDrop hb.inv hn g
    have hR1 := R_dropHandle hb.inv hb.rel g
    exact ih _ _ ⟨g1.inv, hR1, (SErr.dropHandle_err t g).trans hb.err, hb.calm.step g1.frame, hb.td.forceDelG g⟩ hn1

theorem sortedKeys_AR {α β : Type} {r : α → β → Prop} {l : List (Nat × α)} {m : List (Nat × β)} (h : AR r l m) :
    sortedKeys m = sortedKeys l := by
  unfold sortedKeys
  rw [h.keys]

theorem mseq_good (f : Nat) (P : Prog) (ops : List Op) (s s' : St) (hs : Emit.Inv s) (hc : Calm s)
    (h : Inv.tdSeq f P (some s) ops = some s') : Emit.Inv s' ∧ Calm s' := by
  have g := Emit.seq_good f P ops s s' hs h
  exact ⟨g.inv, hc.step g.frame⟩

/-- after `delC* ++ delS* ++ clear*` no functor is left: no slot variable, and no list has a cell -/
theorem nofn_phase2 (f : Nat) (P : Prog) (s1 s2 : St) (hs : Emit.Inv s1) (hc : Calm s1) (htd : Inv.TdInv s1)
    (h2 : Inv.tdSeq f P (some s1) ((sortedKeys s1.C).map Op.delC ++ (sortedKeys s1.S).map Op.delS
            ++ (sortedKeys s1.G).map Op.clear) = some s2) : NoFn s2 := by
  rw [Inv.tdSeq_append, Inv.tdSeq_append] at h2
  cases ha : Inv.tdSeq f P (some s1) ((sortedKeys s1.C).map Op.delC) with
  | none => rw [ha, Inv.tdSeq_none, Inv.tdSeq_none] at h2; cases h2
  | some s1a =>
  rw [ha] at h2
  obtain ⟨ia, ba, -⟩ := Inv.tdSeq_phase f P Op.delC (·.C) (·.C) (fun s k r _ hr => Inv.delC_keys hr) _ s1 s1a htd ha
  obtain ⟨ea, ca⟩ := mseq_good f P _ s1 s1a hs hc ha
  cases hb : Inv.tdSeq f P (some s1a) ((sortedKeys s1.S).map Op.delS) with
  | none => rw [hb, Inv.tdSeq_none] at h2; cases h2
  | some s1b =>
  rw [hb] at h2
  obtain ⟨ib, bb, gb⟩ := Inv.tdSeq_phase f P Op.delS (·.S) (·.S) (fun s k r hi hr => Inv.delS_keys hi.2.2 hr)
    _ s1a s1b ia hb
  obtain ⟨eb, cb⟩ := mseq_good f P _ s1a s1b ea ca hb
  obtain ⟨i2, b2, -⟩ := Inv.tdSeq_phase f P Op.clear (fun _ => []) (fun _ _ h => h)
    (fun s k r _ hr => ⟨Inv.clear_keys hr ▸ .refl _, fun h => nomatch h⟩) _ s1b s2 ib h2
  obtain ⟨c1, _, c3⟩ := clear_phase f P _ s1b s2 eb cb h2
  refine ⟨Inv.nil_of_removed b2.S (bb.trans ba).S gb, ?_⟩
  intro i im hi
  -- `Bal` at top level: list `i` is referenced by a signal object `g`, whose `clear` has emptied it
  rcases (i2.2.1.2.1 i im hi).2 with e | e | ⟨g, hd, hg, hgi⟩
  · cases e
  · exact absurd e (Nat.lt_irrefl 0)
  · rw [c1] at hg
    exact c3 g ((Inv.mem_sortedKeys _ _).2 ((bb.trans ba).G (Emit.mem_keys_of_aget hg))) hd i hg hgi im hi

theorem teardown_bun (f : Nat) (P : Prog) {e : Option String} {s : St} {t : Spec.LSt} {s' : St} (hb : Bun e s t)
    (h : Model.teardown f P s = some s') : ∃ t', Spec.teardown f P t = some t' ∧ Bun e s' t' := by
  rw [Inv.teardown_eq] at h
  rw [spec_teardown_eq]
  split at h
  · cases h
  rename_i s1 h1
  obtain ⟨t1, ht1, hb1⟩ := seq_step f P _ s t s1 hb h1
  rw [sortedKeys_AR hb.rel.K, ht1]
  simp only
  split at h
  · cases h
  rename_i s2 h2
  obtain ⟨t2, ht2, hb2⟩ := seq_step f P _ s1 t1 s2 hb1 h2
  rw [sortedKeys_AR hb1.rel.C, hb1.rel.S, hb1.rel.G, ht2]
  simp only
  have hn2 : NoFn s2 := nofn_phase2 f P s1 s2 hb1.inv hb1.calm hb1.td h2
  obtain ⟨hb3, _⟩ := force_sim (sortedKeys s2.G) s2 t2 hb2 hn2
  simp only [] at h
  obtain ⟨t', ht', hb'⟩ := seq_step f P _ _ _ s' hb3 h
  rw [hb2.rel.G, hb3.rel.T]
  exact ⟨t', ht', hb'⟩

/-- these operations take the last arm of `execOp`, which always answers -/
theorem tdQuiet_some (f : Nat) (P : Prog) (s : St) (k : Nat) (op : Op)
    (hop : op = .delK k ∨ op = .delC k ∨ op = .delS k ∨ op = .clear k ∨ op = .delT k) :
    ∃ s1, Inv.tdQuiet (f+1) P s op = some s1 := by
  have h : ∃ r, execOp (f+1) P s op = some r := by
    rcases hop with rfl | rfl | rfl | rfl | rfl
    all_goals (
      rw [execOp]
      · simp only [modeRule]
        split <;> exact ⟨_, rfl⟩
      all_goals simp)
  obtain ⟨r, hr⟩ := h
  unfold Inv.tdQuiet
  rw [hr]
  exact ⟨_, rfl⟩

theorem tdSeq_some (f : Nat) (P : Prog) : ∀ (ops : List Op) (s : St),
    (∀ op ∈ ops, ∃ k, op = .delK k ∨ op = .delC k ∨ op = .delS k ∨ op = .clear k ∨ op = .delT k) →
    ∃ s', Inv.tdSeq (f+1) P (some s) ops = some s' := by
  intro ops
  induction ops with
  | nil => intro s _; exact ⟨s, rfl⟩
  | cons op ops ih =>
    intro s h
    obtain ⟨k, hk⟩ := h op (by simp)
    obtain ⟨s1, h1⟩ := tdQuiet_some f P s k op hk
    rw [Inv.tdSeq_cons, h1]
    exact ih s1 (fun o ho => h o (List.mem_cons_of_mem _ ho))

theorem teardown_terminates (f : Nat) (P : Prog) (s : St) : ∃ s', Model.teardown (f+1) P s = some s' := by
  rw [Inv.teardown_eq]
  obtain ⟨s1, h1⟩ := tdSeq_some f P ((sortedKeys s.K).map Op.delK) s (by
    intro op hop; obtain ⟨k, _, rfl⟩ := List.mem_map.mp hop; exact ⟨k, Or.inl rfl⟩)
  rw [h1]
  simp only
  obtain ⟨s2, h2⟩ := tdSeq_some f P ((sortedKeys s1.C).map Op.delC ++ (sortedKeys s1.S).map Op.delS
      ++ (sortedKeys s1.G).map Op.clear) s1 (by
    intro op hop
    simp only [List.mem_append, List.mem_map] at hop
    rcases hop with (⟨k, _, rfl⟩ | ⟨k, _, rfl⟩) | ⟨k, _, rfl⟩
    · exact ⟨k, Or.inr (Or.inl rfl)⟩
    · exact ⟨k, Or.inr (Or.inr (Or.inl rfl))⟩
    · exact ⟨k, Or.inr (Or.inr (Or.inr (Or.inl rfl)))⟩)
  rw [h2]
  simp only
  exact tdSeq_some f P _ _ (by
    intro op hop; obtain ⟨k, _, rfl⟩ := List.mem_map.mp hop; exact ⟨k, Or.inr (Or.inr (Or.inr (Or.inr rfl)))⟩)

end Td

theorem spec_liveTotal_zero {s : St} {t : Spec.LSt} (hR : R s t) (hS : s.S = []) (hI : s.impls = []) :
    Spec.liveTotal t = 0 := by
  have h1 : t.S = [] := by rw [hR.S, hS]
  have h2 : t.sigs = [] := by
    have := F2.length hR.sigs
    rw [hI] at this
    exact List.length_eq_zero_iff.1 this.symm
  simp [Spec.liveTotal, h1, h2]

theorem final_ne_fuel (n : Nat) : (s!"0 final live={n}" : String) ≠ "MODEL-FUEL" := by
  intro h
  have := congrArg String.toList h
  simp [toString] at this

theorem body_ne_fuel (pre : List String) (n : Nat) :
    pre ++ [s!"0 final live={n}"] ≠ ["MODEL-FUEL"] ∧ ∀ x, pre ++ [s!"0 final live={n}"] ++ [x] ≠ ["MODEL-FUEL"] := by
  refine ⟨fun hx => ?_, fun x hx => ?_⟩
  · cases pre with
    | nil => exact final_ne_fuel n (by simpa using hx)
    | cons a l => cases l <;> simp at hx
  · have := congrArg List.length hx
    simp at this

/-- specification line vs model line: equal, or the specification leaves the result open (`… => *`) -/
def LineAllows (ls lm : String) : Prop :=
  ls = lm ∨ ∃ d text r, ls = renderEvent (.res d text "*") ∧ lm = renderEvent (.res d text r)

def AllowsLines (outS outM : List String) : Prop := F2 LineAllows outS outM

theorem F2.reverse {α β : Type} {r : α → β → Prop} {l : List α} {m : List β} (h : F2 r l m) :
    F2 r l.reverse m.reverse := by
  induction h with
  | nil => exact .nil
  | cons hab _ ih =>
    simp only [List.reverse_cons]
    exact ih.append (.cons hab .nil)

theorem lineAllows_of_ev {a b : Event} (h : EvAllows a b) : LineAllows (renderEvent a) (renderEvent b) := by
  cases h with
  | same e => exact Or.inl rfl
  | star d text r => exact Or.inr ⟨d, text, r, rfl, rfl⟩

/-- the traces are stored newest first -/
theorem lines_of_allows {ts tm : List Event} (h : Allows ts tm) :
    AllowsLines (ts.reverse.map renderEvent) (tm.reverse.map renderEvent) :=
  F2.map (F2.reverse h) _ _ (fun _ _ _ _ hab => lineAllows_of_ev hab)

theorem AllowsLines.snoc_same {a b : List String} (h : AllowsLines a b) (l : String) :
    AllowsLines (a ++ [l]) (b ++ [l]) :=
  F2.append h (.cons (Or.inl rfl) .nil)

/-- a concrete program with a re-entrant emission: slot body 1 disconnects its own connection, emits
    the signal again and asks for its size -/
def exProg : Prog :=
  { bodies := [(1, [⟨"disc 1", .disc 1⟩, ⟨"emit 1 0", .emit 1 0 .sum false⟩, ⟨"size? 1", .sizeq 1⟩])],
    top := [⟨"newG 1 V", .newG 1 (some .V)⟩, ⟨"connfn 1 1 fn 1", .connfn 1 1 (.fn 1) false⟩,
            ⟨"connfn 2 1 fn 2", .connfn 2 1 (.fn 2) true⟩, ⟨"emit 1 7", .emit 1 7 .sum false⟩] }

/-- a concrete program with a functor-owned signal object: the slot list of signal 1 holds a functor that owns
    signal 2 (`ownG`); `delG 2` is refused (`owned`), and signal 2 dies in `collect` when signal 1 (and with it the
    last functor copy) is destroyed -/
def exProgG : Prog :=
  { bodies := [],
    top := [⟨"newG 1 V", .newG 1 (some .V)⟩, ⟨"newG 2 V", .newG 2 (some .V)⟩,
            ⟨"connfn 1 1 ownG 5 2", .connfn 1 1 (.ownG 5 2) false⟩, ⟨"connfn 2 2 fn 6", .connfn 2 2 (.fn 6) false⟩,
            ⟨"delG 2", .delG 2⟩, ⟨"emit 2 3", .emit 2 3 .sum false⟩, ⟨"delG 1", .delG 1⟩,
            ⟨"emit 2 4", .emit 2 4 .sum false⟩] }

/-- the slot invocations logged in a trace: `(depth, functor, argument)` in order (newest first) -/
def calls (tr : List Event) : List (Nat × Nat × Nat) :=
  tr.filterMap (fun e => match e with
    | .call d fid a => some (d, fid, a)
    | .res _ _ _ => none)

end Sigc.Refine
