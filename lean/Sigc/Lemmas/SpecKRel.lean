import Sigc.Lemmas.SpecKBasic
/-!
# SpecKRel — lemmas about the simulation relation `Q`: extension of the id relation, allocation, list
access and update, what functors hold, the frame `Fr`
-/
namespace Sigc.SpecK
open Sigc.Model Sigc.Spec
open Sigc.Emit (aget_some_mem keys_nodup_aset)

theorem Step.of_le {ρ : IdRel} {t t' u u' : LSt} (h1 : t.next ≤ t'.next) (h2 : u.next ≤ u'.next) :
    Step ρ ρ t t' u u' :=
  ⟨fun _ _ h => h, fun _ _ h => Or.inl h, h1, h2⟩

theorem Step.refl (ρ : IdRel) (t u : LSt) : Step ρ ρ t t u u := .of_le (Nat.le_refl _) (Nat.le_refl _)

theorem Step.of_eq {ρ : IdRel} {t t' u u' : LSt} (h1 : t'.next = t.next) (h2 : u'.next = u.next) :
    Step ρ ρ t t' u u' := .of_le (Nat.le_of_eq h1.symm) (Nat.le_of_eq h2.symm)

theorem Step.trans {ρ ρ1 ρ2 : IdRel} {t t1 t2 u u1 u2 : LSt} (h1 : Step ρ ρ1 t t1 u u1)
    (h2 : Step ρ1 ρ2 t1 t2 u1 u2) : Step ρ ρ2 t t2 u u2 := by
  refine ⟨fun a b h => h2.sub _ _ (h1.sub _ _ h), fun a b h => ?_, Nat.le_trans h1.nk h2.nk,
    Nat.le_trans h1.np h2.np⟩
  rcases h2.new a b h with h | ⟨ha, hb⟩
  · exact h1.new a b h
  · exact Or.inr ⟨Nat.le_trans h1.nk ha, Nat.le_trans h1.np hb⟩

theorem Step.congr {ρ ρ' : IdRel} {t t' u u' s s' v v' : LSt} (h : Step ρ ρ' t t' u u')
    (e1 : s.next = t.next) (e2 : s'.next = t'.next) (e3 : v.next = u.next) (e4 : v'.next = u'.next) :
    Step ρ ρ' s s' v v' :=
  ⟨h.sub, fun a b x => by rw [e1, e3]; exact h.new a b x, by rw [e1, e2]; exact h.nk, by rw [e3, e4]; exact h.np⟩

theorem Fr.refl (t : LSt) : Fr t t := ⟨rfl, fun _ => rfl, fun _ => rfl⟩

theorem Fr.trans {t t1 t2 : LSt} (h1 : Fr t t1) (h2 : Fr t1 t2) : Fr t t2 :=
  ⟨h2.depth.trans h1.depth, fun i => (h2.act i).trans (h1.act i), fun i => (h2.mks i).trans (h1.mks i)⟩

theorem Fr.of_eq {t t' : LSt} (hd : t'.depth = t.depth) (hs : t'.sigs = t.sigs) : Fr t t' :=
  ⟨hd, fun i => by unfold SpecK.act; rw [hs], fun i => by unfold SpecK.mks; rw [hs]⟩

theorem Fr.pre {t t1 t2 : LSt} (h : Fr t1 t2) (hd : t1.depth = t.depth) (hs : t1.sigs = t.sigs) : Fr t t2 :=
  (Fr.of_eq hd hs).trans h

theorem Quiet.of_fr {t t' : LSt} (h : Quiet t) (hf : Fr t t') : Quiet t' := by
  intro hd i
  rw [hf.act i]
  exact h (by rw [← hf.depth]; exact hd) i

theorem SigInv.mono {n m : Nat} {g : LSig} (h : SigInv n g) (hnm : n ≤ m) : SigInv m g :=
  ⟨fun c hc => Nat.lt_of_lt_of_le (h.lt c hc) hnm, h.nodup, h.idle, h.dead, h.mkslot⟩

theorem SigInv.sublist {n : Nat} {g g2 : LSig} (h : SigInv n g) (hs : g2.cells.Sublist g.cells)
    (hidle : g2.active = 0 → ∀ c ∈ g2.cells, live c = true) : SigInv n g2 :=
  ⟨fun c hc => h.lt c (hs.subset hc), (hs.map _).nodup h.nodup, hidle, fun c hc => h.dead c (hs.subset hc),
    fun c hc => h.mkslot c (hs.subset hc)⟩

theorem SigInv.no_marker {n : Nat} {g : LSig} (h : SigInv n g) (ha : g.active = 0) : g.cells.filter (·.marker) = [] :=
  List.filter_eq_nil_iff.mpr fun c hc => by simp [(live_iff.mp (h.idle ha c hc)).1]

theorem SigInv.map {n : Nat} {g g2 : LSig} (h : SigInv n g) (F : LCell → LCell) (hc : g2.cells = g.cells.map F)
    (hid : ∀ c, (F c).id = c.id) (hidle : g2.active = 0 → ∀ c ∈ g.cells, live (F c) = true)
    (hdead : ∀ c ∈ g.cells, live (F c) = false → (F c).slot.empty = true)
    (hmk : ∀ c ∈ g.cells, (F c).marker = true → (F c).slot.rep = none) : SigInv n g2 := by
  refine ⟨?_, ?_, ?_, ?_, ?_⟩ <;> rw [hc]
  · exact List.forall_mem_map.mpr fun c hc => by rw [hid]; exact h.lt c hc
  · rw [List.map_map, show (fun c : LCell => c.id) ∘ F = (fun c => c.id) from funext hid]; exact h.nodup
  · exact fun ha => List.forall_mem_map.mpr (hidle ha)
  · exact List.forall_mem_map.mpr hdead
  · exact List.forall_mem_map.mpr hmk

theorem mks_map (l : List LCell) (F : LCell → LCell) (hid : ∀ c, (F c).id = c.id)
    (hm : ∀ c, (F c).marker = c.marker) :
    ((l.map F).filter (·.marker)).map (·.id) = (l.filter (·.marker)).map (·.id) := by
  rw [List.filter_map, List.map_map, show (fun c : LCell => c.marker) ∘ F = (fun c => c.marker) from funext hm,
    show (fun c : LCell => c.id) ∘ F = (fun c => c.id) from funext hid]

theorem SigR.step {ρ ρ' : IdRel} {n m : Nat} {g g' : LSig} (h : SigR ρ g g') (hi : SigInv n g)
    (hs : ∀ a b, ρ a b → ρ' a b) (hn : ∀ a b, ρ' a b → ρ a b ∨ (n ≤ a ∧ m ≤ b)) : SigR ρ' g g' := by
  refine ⟨h.cells.mono (fun _ _ x => x.mono hs), h.active, h.dirty, h.limbo, ?_, ?_, fun c hc hmk b hb => ?_⟩
  · intro c hc hl f hf
    obtain ⟨sl, hsl, f', hf', hr⟩ := h.hold1 c hc hl f hf
    exact ⟨sl, hsl, f', hf', hr.mono hs⟩
  · intro sl hsl f' hf'
    obtain ⟨c, hc, hl, f, hf, hr⟩ := h.hold2 sl hsl f' hf'
    exact ⟨c, hc, hl, f, hf, hr.mono hs⟩
  · rcases hn _ _ hb with hb | ⟨hb, _⟩
    · exact h.nomk c hc hmk b hb
    · have := hi.lt c hc; omega

/-- `Q` under a larger id relation and larger counters: the common form of `Q.step`, `Q.fresh`, `Q.burnU`, `Q.burn` -/
theorem Q.renext {ρ ρ' : IdRel} {t u : LSt} (h : Q ρ t u) (hs : ∀ a b, ρ a b → ρ' a b)
    (hn : ∀ a b, ρ' a b → ρ a b ∨ (t.next ≤ a ∧ u.next ≤ b)) (n m : Nat) (h1 : t.next ≤ n)
    (hp : PB ρ' n m) : Q ρ' { t with next := n } { u with next := m } :=
  { T := h.T.imp hs, S := h.S.imp (fun _ _ x => x.mono hs), G := h.G.imp (fun _ _ x => x.mono hs),
    C := h.C.imp (fun _ _ x => x.imp hs), K := h.K.imp (fun _ _ x => x.imp hs),
    sigs := h.sigs.attach.mono (fun p _ hr => ⟨hs _ _ hr.2.2.1, hr.2.2.2.step (h.inv p hr.1).2 hs hn⟩),
    ownedT := h.ownedT.mono hs,
    ownedK := KR.imp h.ownedK hs (fun _ _ x => x.imp hs),
    ownedG := KR.imp h.ownedG hs (fun _ _ x => x), pb := hp,
    depth := h.depth, steps := h.steps, trace := h.trace, k1 := h.k1, k2 := h.k2, k1' := h.k1', k2' := h.k2',
    keys := h.keys,
    inv := fun p hp' => ⟨Nat.lt_of_lt_of_le (h.inv p hp').1 h1, (h.inv p hp').2.mono h1⟩ }

theorem Q.step {ρ ρ' : IdRel} {t u : LSt} (h : Q ρ t u) (hs : ∀ a b, ρ a b → ρ' a b)
    (hn : ∀ a b, ρ' a b → ρ a b ∨ (t.next ≤ a ∧ u.next ≤ b)) (hp : PB ρ' t.next u.next) : Q ρ' t u :=
  h.renext hs hn t.next u.next (Nat.le_refl _) hp

theorem Step.fresh (ρ : IdRel) (t u : LSt) :
    Step ρ (ext ρ t.next u.next) t { t with next := t.next + 1 } u { u with next := u.next + 1 } :=
  ⟨ext_sub _ _ _, fun a b x => by
      rcases x with x | ⟨rfl, rfl⟩
      · exact Or.inl x
      · exact Or.inr ⟨Nat.le_refl _, Nat.le_refl _⟩, Nat.le_succ _, Nat.le_succ _⟩

theorem Step.fresh_of_eq {ρ : IdRel} {t t' u u' : LSt} (h1 : t'.next = t.next + 1) (h2 : u'.next = u.next + 1) :
    Step ρ (ext ρ t.next u.next) t t' u u' := (Step.fresh ρ t u).congr rfl h1 rfl h2

/-- both runs allocate an id: the two new ids correspond -/
theorem Q.fresh {ρ : IdRel} {t u : LSt} (h : Q ρ t u) :
    Q (ext ρ t.next u.next) { t with next := t.next + 1 } { u with next := u.next + 1 } :=
  h.renext (ext_sub _ _ _) (Step.fresh ρ t u).new _ _ (Nat.le_succ _) h.pb.ext

/-- only the second run allocates an id (the `k2` shortcut of the first) -/
theorem Q.burnU {ρ : IdRel} {t u : LSt} (h : Q ρ t u) : Q ρ t { u with next := u.next + 1 } :=
  h.renext (fun _ _ x => x) (fun _ _ x => Or.inl x) t.next _ (Nat.le_refl _)
    (h.pb.mono (Nat.le_refl _) (Nat.le_succ _))

/-- both runs allocate an id that is not put into correspondence (end markers) -/
theorem Q.burn {ρ : IdRel} {t u : LSt} (h : Q ρ t u) :
    Q ρ { t with next := t.next + 1 } { u with next := u.next + 1 } :=
  h.renext (fun _ _ x => x) (fun _ _ x => Or.inl x) _ _ (Nat.le_succ _)
    (h.pb.mono (Nat.le_succ _) (Nat.le_succ _))

theorem Q.sig_get {ρ : IdRel} {t u : LSt} (h : Q ρ t u) {i i' : Nat} (hi : ρ i i') :
    OR (SigR ρ) (aget t.sigs i) (aget u.sigs i') := KR.get h.pb.keyed h.sigs hi

theorem Q.sig_inv {ρ : IdRel} {t u : LSt} (h : Q ρ t u) {i : Nat} {g : LSig} (hg : aget t.sigs i = some g) :
    i < t.next ∧ SigInv t.next g := h.inv (i, g) (aget_some_mem hg)

theorem Q.setSig {ρ : IdRel} {t u : LSt} (h : Q ρ t u) {i i' : Nat} (hi : ρ i i') {g g' : LSig}
    (hg : SigR ρ g g') (hv : SigInv t.next g) : Q ρ (setSig t i g) (setSig u i' g') :=
  { h with sigs := KR.set h.pb.keyed h.sigs hi hg,
           keys := keys_nodup_aset h.keys _ _,
           inv := fun p hp => by
             rcases mem_aset hp with e | e
             · exact h.inv p e
             · subst e; exact ⟨(h.pb.lt hi).1, hv⟩ }

theorem act_setSig (t : LSt) (i : Nat) (g : LSig) (j : Nat) :
    act (setSig t i g) j = if j = i then g.active else act t j := by
  unfold act setSig
  by_cases e : j = i
  · subst e; simp
  · simp [e, aget_aset_other _ _ _ _ e]

theorem mks_setSig (t : LSt) (i : Nat) (g : LSig) (j : Nat) :
    mks (setSig t i g) j = if j = i then (g.cells.filter (·.marker)).map (·.id) else mks t j := by
  unfold mks setSig
  by_cases e : j = i
  · subst e; simp
  · simp [e, aget_aset_other _ _ _ _ e]

theorem Fr.setSig {t : LSt} {i : Nat} {g0 g : LSig} (h0 : aget t.sigs i = some g0) (ha : g.active = g0.active)
    (hm : (g.cells.filter (·.marker)).map (·.id) = (g0.cells.filter (·.marker)).map (·.id)) :
    Fr t (setSig t i g) := by
  refine ⟨rfl, fun j => ?_, fun j => ?_⟩
  · rw [act_setSig]; split
    · rename_i e; subst e; simp [SpecK.act, h0, ha]
    · rfl
  · rw [mks_setSig]; split
    · rename_i e; subst e; simp [SpecK.mks, h0, hm]
    · rfl

theorem any_split {α : Type} (l : List α) (q p : α → Bool) :
    l.any p = ((l.filter q).any p || l.any (fun c => !q c && p c)) := by
  rw [Bool.eq_iff_iff]
  simp only [Bool.or_eq_true, List.any_eq_true, List.mem_filter, Bool.and_eq_true, Bool.not_eq_true']
  constructor
  · rintro ⟨x, hx, hp⟩
    cases hq : q x
    · exact Or.inr ⟨x, hx, hq, hp⟩
    · exact Or.inl ⟨x, ⟨hx, hq⟩, hp⟩
  · rintro (⟨x, ⟨hx, _⟩, hp⟩ | ⟨x, hx, _, hp⟩) <;> exact ⟨x, hx, hp⟩

/-- whether the functors in the entries of a list own an object (`own` = `Fun.ownsT` or `Fun.ownsK`) is answered
    alike: the live entries correspond, and the functors of the other entries are those of `limbo` -/
theorem SigR.holds {ρ : IdRel} {n n' : Nat} (hp : PB ρ n n') {g g' : LSig} (h : SigR ρ g g') (own : Fun → List Nat)
    (hown : ∀ {f f'}, FunR ρ f f' → F2 ρ (own f) (own f')) {P : SlotB → Nat → Bool}
    (hP : ∀ s x, P s x = match SlotB.fnOf s with | some f => (own f).contains x | none => false) {o o' : Nat}
    (ho : ρ o o') :
    (g'.cells.any (fun c => P c.slot o') || g'.limbo.any (fun sl => P sl o'))
      = (g.cells.any (fun c => P c.slot o) || g.limbo.any (fun sl => P sl o)) := by
  rw [h.limbo, any_split g.cells live]
  simp only [List.any_nil, Bool.or_false]
  have e1 : (g.cells.filter live).any (fun c => P c.slot o) = g'.cells.any (fun c => P c.slot o') :=
    F2.any h.cells _ _ (fun a b hr => by
      rw [hP, hP]
      exact hr.slot.fnOf.on rfl fun hf => F2.contains hp (hown hf) ho)
  have e2 : g.cells.any (fun c => !live c && P c.slot o) = g'.limbo.any (fun sl => P sl o') := by
    rw [Bool.eq_iff_iff]
    simp only [List.any_eq_true, Bool.and_eq_true, Bool.not_eq_true']
    constructor
    · rintro ⟨c, hc, hl, hh⟩
      rw [hP] at hh
      cases hf : SlotB.fnOf c.slot with
      | none => rw [hf] at hh; cases hh
      | some f =>
        rw [hf] at hh
        obtain ⟨sl, hsl, f', hf', hr⟩ := h.hold1 c hc hl f hf
        refine ⟨sl, hsl, ?_⟩
        rw [hP, hf']
        dsimp only
        rw [← F2.contains hp (hown hr) ho]; exact hh
    · rintro ⟨sl, hsl, hh⟩
      rw [hP] at hh
      cases hf' : SlotB.fnOf sl with
      | none => rw [hf'] at hh; cases hh
      | some f' =>
        rw [hf'] at hh
        obtain ⟨c, hc, hl, f, hf, hr⟩ := h.hold2 sl hsl f' hf'
        refine ⟨c, hc, hl, ?_⟩
        rw [hP, hf]
        dsimp only
        rw [F2.contains hp (hown hr) ho]; exact hh
  rw [e1, e2]

theorem Q.heldT {ρ : IdRel} {t u : LSt} (h : Q ρ t u) {o o' : Nat} (ho : ρ o o') :
    Spec.heldT u o' = Spec.heldT t o := by
  unfold Spec.heldT
  congr 1
  · exact (AR.any h.S _ _ (fun _ a b hr => (hr.slot.holdsT h.pb ho).symm)).symm
  · exact (F2.any h.sigs _ _ (fun p q hr =>
      (hr.2.holds h.pb Fun.ownsT FunR.ownsT (fun s _ => ofFn_eq s _ _) ho).symm)).symm

theorem Q.heldK {ρ : IdRel} {t u : LSt} (h : Q ρ t u) {o o' : Nat} (ho : ρ o o') :
    Spec.heldK u o' = Spec.heldK t o := by
  unfold Spec.heldK
  congr 1
  · exact (AR.any h.S _ _ (fun _ a b hr => (hr.slot.holdsK h.pb ho).symm)).symm
  · exact (F2.any h.sigs _ _ (fun p q hr =>
      (hr.2.holds h.pb Fun.ownsK FunR.ownsK (fun s _ => ofFn_eq s _ _) ho).symm)).symm

theorem filter_live_idle {n : Nat} {g : LSig} (hv : SigInv n g) (ha : g.active = 0) : g.cells.filter live = g.cells :=
  List.filter_eq_self.mpr (hv.idle ha)

end Sigc.SpecK
