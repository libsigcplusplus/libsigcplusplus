import Sigc.Lemmas.Basic
import Sigc.Lemmas.Frames
/-! what the invariants need of look-ups: cells (`findCellImpl`, `getCell`), "every value of a table" (`all_get`, `all_aset`,
`all_adel`), and tables of signal objects that keep their entries under a projection (`GExt`) -/
namespace Sigc.Inv
open Sigc.Model
open Sigc.Emit (aget_of_mem_nodup)

theorem findCellImpl_some {l : List (Nat × Impl)} {cid i : Nat} (h : findCellImpl l cid = some i) :
    ∃ im, (i, im) ∈ l ∧ ∃ c ∈ im.cells, c.id = cid := by
  induction l with
  | nil => simp [findCellImpl] at h
  | cons p t ih =>
    obtain ⟨k, im⟩ := p
    simp only [findCellImpl] at h
    split at h
    · rename_i ha
      cases h
      refine ⟨im, List.mem_cons_self, ?_⟩
      simpa using ha
    · obtain ⟨im', hm, hc⟩ := ih h
      exact ⟨im', List.mem_cons_of_mem _ hm, hc⟩

theorem findCellImpl_none {l : List (Nat × Impl)} {cid : Nat} (h : findCellImpl l cid = none) :
    ∀ i im, (i, im) ∈ l → ∀ c ∈ im.cells, c.id ≠ cid := by
  induction l with
  | nil => intro i im hm; cases hm
  | cons p t ih =>
    obtain ⟨k, im0⟩ := p
    simp only [findCellImpl] at h
    split at h
    · cases h
    · rename_i ha
      intro i im hm c hc
      cases hm with
      | head =>
        intro e
        apply ha
        simp only [List.any_eq_true, decide_eq_true_eq]
        exact ⟨c, hc, e⟩
      | tail _ ht => exact ih h i im ht c hc

theorem find?_id_some {cs : List Cell} {cid : Nat} {c : Cell} (hc : c ∈ cs) (he : c.id = cid) :
    ∃ c', cs.find? (·.id = cid) = some c' := by
  cases h : cs.find? (·.id = cid) with
  | some c' => exact ⟨c', rfl⟩
  | none =>
    rw [List.find?_eq_none] at h
    exact absurd (by simpa using he) (h c hc)

theorem getCell_ne_none_iff {s : St} (hn : (s.impls.map (·.1)).Nodup) (cid : Nat) :
    getCell s cid ≠ none ↔ ∃ i im, aget s.impls i = some im ∧ ∃ c ∈ im.cells, c.id = cid := by
  unfold getCell
  constructor
  · intro h
    split at h
    · exact absurd rfl h
    · rename_i i hf
      obtain ⟨im, hm, hc⟩ := findCellImpl_some hf
      exact ⟨i, im, aget_of_mem_nodup hn hm, hc⟩
  · rintro ⟨i, im, hi, c, hc, he⟩
    split
    · rename_i hf
      exact absurd he (findCellImpl_none hf i im (mem_of_aget hi) c hc)
    · rename_i j hf
      obtain ⟨jm, hm, c', hc', he'⟩ := findCellImpl_some hf
      rw [aget_of_mem_nodup hn hm]
      obtain ⟨c'', h''⟩ := find?_id_some hc' he'
      simp [h'']

theorem getCell_some {s : St} {cid i : Nat} {c : Cell} (h : getCell s cid = some (i, c)) :
    ∃ im, aget s.impls i = some im ∧ im.cells.find? (·.id = cid) = some c ∧ c ∈ im.cells ∧ c.id = cid :=
  (getCell_eq_some h).2

section
variable {α : Type} {P : α → Prop} {l : List (Nat × α)}

theorem all_get (h : ∀ p ∈ l, P p.2) {k : Nat} {v : α} (hk : aget l k = some v) : P v := h (k, v) (mem_of_aget hk)

theorem all_aset (h : ∀ p ∈ l, P p.2) (k : Nat) {v : α} (hv : P v) : ∀ p ∈ aset l k v, P p.2 :=
  fun p hp => (mem_aset hp).elim (h p) (fun e => e ▸ hv)

theorem all_adel (h : ∀ p ∈ l, P p.2) (k : Nat) : ∀ p ∈ adel l k, P p.2 := fun p hp => h p (mem_adel hp).1

end

/-- every handle of `G` is still in `G'` under its name, with the same `π` -/
def GExt {α : Type} (π : Handle → α) (G G' : List (Nat × Handle)) : Prop :=
  ∀ g h, aget G g = some h → ∃ h', aget G' g = some h' ∧ π h' = π h

theorem GExt.refl {α : Type} (π : Handle → α) (G : List (Nat × Handle)) : GExt π G G := fun _ h hg => ⟨h, hg, rfl⟩

theorem GExt.trans {α : Type} {π : Handle → α} {G G' G'' : List (Nat × Handle)} (h1 : GExt π G G')
    (h2 : GExt π G' G'') : GExt π G G'' := by
  intro g h hg
  obtain ⟨h', hg', e1⟩ := h1 g h hg
  obtain ⟨h'', hg'', e2⟩ := h2 g h' hg'
  exact ⟨h'', hg'', e2.trans e1⟩

theorem GExt.aset_fresh {α : Type} {π : Handle → α} {G : List (Nat × Handle)} {g : Nat} (hd : Handle)
    (h : aget G g = none) : GExt π G (aset G g hd) := by
  intro g' h' hg'
  refine ⟨h', ?_, rfl⟩
  rw [aget_aset_other _ _ _ _ (fun e => by rw [e, h] at hg'; cases hg')]; exact hg'

theorem GExt.aset_same {α : Type} {π : Handle → α} {G : List (Nat × Handle)} {g : Nat} {h0 hd : Handle}
    (h : aget G g = some h0) (e : π hd = π h0) : GExt π G (aset G g hd) := by
  intro g' h' hg'
  by_cases eg : g' = g
  · subst eg; rw [h] at hg'; cases hg'; exact ⟨hd, aget_aset_same _ _ _, e⟩
  · exact ⟨h', by rw [aget_aset_other _ _ _ _ eg]; exact hg', rfl⟩

theorem GExt.setImpl {α : Type} {π : Handle → α} (hπ : ∀ h new, π { h with impl := new } = π h)
    {G : List (Nat × Handle)} {g : Nat} {h0 : Handle} (h : aget G g = some h0) (new : Option Nat) :
    GExt π G (aset G g { h0 with impl := new }) := GExt.aset_same h (hπ _ _)

end Sigc.Inv
