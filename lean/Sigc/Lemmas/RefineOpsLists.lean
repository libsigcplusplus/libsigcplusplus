import Sigc.Lemmas.RefinePrimLifetime
/-!
The operations without user code that touch the signals' lists: trackables that invalidate slots, connections and scoped
connections that disconnect or block, signal objects, connecting, `clear`, the queries; `stepSim_all` collects all of them.
-/
namespace Sigc.Refine
open Sigc.Model

theorem step_delT (k : Nat) : StepSim (.delT k) := by
  intro s t hs hR hq
  dsimp only [Model.stepSimple, Spec.stepSimple]
  rw [hR.T]
  cases aget s.T k with
  | none => exact .same hR _
  | some o =>
    dsimp only
    exact .ok (R_invalidateTrackable (s := { s with T := adel s.T k }) (Emit.InvX.congr hs rfl rfl rfl rfl (Nat.le_refl _))
      (hR.updT _) o) rfl

theorem step_notifyT (k : Nat) : StepSim (.notifyT k) := by
  intro s t hs hR hq
  dsimp only [Model.stepSimple, Spec.stepSimple]
  rw [hR.T]
  cases aget s.T k with
  | none => exact .same hR _
  | some o => exact .ok (R_invalidateTrackable hs hR o) rfl

theorem step_mvT (j i : Nat) : StepSim (.mvT j i) := by
  intro s t hs hR hq
  dsimp only [Model.stepSimple, Spec.stepSimple]
  rw [hR.T]
  cases aget s.T i with
  | none => exact .same hR _
  | some oi =>
    dsimp only
    cases aget s.T j with
    | some oj => exact .same hR _
    | none =>
      dsimp only
      simp only [St.fresh, Spec.LSt.fresh, hR.next, hR.T]
      exact .ok (R_invalidateTrackable (s := { s with next := s.next + 1, T := aset s.T j s.next })
        (Emit.InvX.congr hs rfl rfl rfl rfl (Nat.le_succ _)) (hR.fresh'.updT _) oi) rfl

theorem step_asgT (j i : Nat) : StepSim (.asgT j i) := by
  intro s t hs hR hq
  dsimp only [Model.stepSimple, Spec.stepSimple]
  rw [hR.T]
  cases aget s.T j <;> cases aget s.T i
  case some.some oj oi =>
    dsimp only
    by_cases e : j = i
    · simp only [e, if_true]; exact .same hR _
    · simp only [e, if_false]; exact .ok (R_invalidateTrackable hs hR _) rfl
  all_goals exact .same hR _

theorem step_masgT (j i : Nat) : StepSim (.masgT j i) := by
  intro s t hs hR hq
  dsimp only [Model.stepSimple, Spec.stepSimple]
  rw [hR.T]
  cases aget s.T j <;> cases aget s.T i
  case some.some oj oi =>
    dsimp only
    by_cases e : j = i
    · simp only [e, if_true]; exact .same hR _
    · simp only [e, if_false]
      exact .ok (R_invalidateTrackable (Emit.good_invalidateTrackable hs oj).inv (R_invalidateTrackable hs hR oj) oi) rfl
  all_goals exact .same hR _

local macro "leaf" h:ident hR:term : tactic =>
  `(tactic| (cases $h:ident; exact ⟨_, _, rfl, $hR, .refl _⟩))

theorem step_disc (i : Nat) : StepSim (.disc i) :=
  fun _ t hs hR _ => sim_ptr hR hR.C i fun hr => .ok (R_disc hs hR hr) (sdisc_err t _)

theorem step_discK (i : Nat) : StepSim (.discK i) :=
  fun _ t hs hR _ => sim_ptr hR hR.K i fun hr => .ok (R_disc hs hR hr) (sdisc_err t _)

theorem step_delK (i : Nat) : StepSim (.delK i) :=
  fun s _ hs hR _ => sim_ptr hR hR.K i fun hr =>
    .ok (R_disc (s := { s with K := adel s.K i }) (Emit.InvX.congr hs rfl rfl rfl rfl (Nat.le_refl _))
      (hR.updK (hR.K.del i)) hr) (sdisc_err _ _)

/-- the assignments to a scoped connection disconnect the old connection first; the value assigned is read
    afterwards in the model and before in the specification: nulled by the disconnect in the one, dangling in
    the other -/
theorem step_asgKC (i c : Nat) : StepSim (.asgKC i c) := by
  intro s t hs hR hq
  dsimp only [Model.stepSimple, Spec.stepSimple]
  refine (hR.K.getOR i).on (.same hR _) fun {a b} hr => ?_
  -- a look-up is used through `.getOR … |>.on` unless one of its equations is needed afterwards (here `k2`): then `.get`
  rcases hR.C.get c with ⟨k1, k2⟩ | ⟨a', b', k1, k2, hr'⟩ <;> rw [k1, k2]
  · exact .same hR _
  have hR1 : R (mdisc s a) (sdisc t b) := R_disc hs hR hr
  show AnsSim t (match aget (mdisc s a).C c with
    | some p' => some ({ mdisc s a with K := aset (mdisc s a).K i p' }, "ok")
    | none => some (mdisc s a, "ok")) (some ({ sdisc t b with K := aset t.K i b' }, "ok"))
  rcases hR1.C.get c with ⟨m1, m2⟩ | ⟨a2, b2, m1, m2, hr2⟩ <;> rw [sdisc_C, k2] at m2 <;> cases m2
  rw [m1]
  have hfin := hR1.updK (hR1.K.set i hr2)
  rw [sdisc_K] at hfin
  exact .ok hfin (sdisc_err t b)

theorem step_masgK (j i : Nat) : StepSim (.masgK j i) := by
  intro s t hs hR hq
  dsimp only [Model.stepSimple, Spec.stepSimple]
  refine (hR.K.getOR j).on (.same hR _) fun {a b} hr => ?_
  rcases hR.K.get i with ⟨k1, k2⟩ | ⟨a', b', k1, k2, hr'⟩ <;> rw [k1, k2]
  · exact .same hR _
  refine sim_ite (fun _ => .same hR _) (fun _ => ?_)
  have hR1 : R (mdisc s a) (sdisc t b) := R_disc hs hR hr
  show AnsSim t (match aget (mdisc s a).K i with
    | some p' => some ({ mdisc s a with K := aset (aset (mdisc s a).K i none) j p' }, "ok")
    | none => some (mdisc s a, "ok")) (some ({ sdisc t b with K := aset (aset t.K i none) j b' }, "ok"))
  rcases hR1.K.get i with ⟨m1, m2⟩ | ⟨a2, b2, m1, m2, hr2⟩ <;> rw [sdisc_K, k2] at m2 <;> cases m2
  rw [m1]
  have hfin := hR1.updK ((hR1.K.set i (PtrR.rfl' none)).set j hr2)
  rw [sdisc_K] at hfin
  exact .ok hfin (sdisc_err t b)

theorem step_connectedq (i : Nat) : StepSim (.connectedq i) :=
  fun _ _ hs hR _ => sim_ptr hR hR.C i fun hr => by rw [connConnected_sim hs hR hr]; exact .same hR _

theorem step_emptyCq (i : Nat) : StepSim (.emptyCq i) :=
  fun _ _ hs hR _ => sim_ptr hR hR.C i fun hr => by rw [connConnected_sim hs hR hr]; exact .same hR _

theorem step_blockedCq (i : Nat) : StepSim (.blockedCq i) :=
  fun _ _ hs hR _ => sim_ptr hR hR.C i fun hr => .res hR rfl (connBlocked_sim hs hR hr)

theorem specBlock_err (t : Spec.LSt) (p : Option Nat) (b : Bool) : (specBlock t p b).err = t.err := by
  cases p
  · rfl
  · exact SErr.updCell_err t _ _

theorem step_blockC (i : Nat) (b : Bool) : StepSim (.blockC i b) :=
  fun _ t hs hR _ => sim_ptr hR hR.C i fun hr => .res (R_connBlock hs hR hr b) (specBlock_err t _ b) (connBlocked_sim hs hR hr)

theorem step_connectedKq (i : Nat) : StepSim (.connectedKq i) :=
  fun _ _ hs hR _ => sim_ptr hR hR.K i fun hr => by rw [connConnected_sim hs hR hr]; exact .same hR _

theorem step_blockedKq (i : Nat) : StepSim (.blockedKq i) :=
  fun _ _ hs hR _ => sim_ptr hR hR.K i fun hr => .res hR rfl (connBlocked_sim hs hR hr)

theorem step_blockK (i : Nat) (b : Bool) : StepSim (.blockK i b) :=
  fun _ t hs hR _ => sim_ptr hR hR.K i fun hr => .res (R_connBlock hs hR hr b) (specBlock_err t _ b) (connBlocked_sim hs hR hr)

/-- `signal_base::impl()` on both sides, in the form the operations use it -/
theorem ensure_sim {s : St} {t : Spec.LSt} (hs : Emit.Inv s) (hR : R s t) (g : Nat) :
    (Model.ensureImpl s g = none ∧ Spec.ensureSig t g = none) ∨
    ∃ s1 t1 im, Model.ensureImpl s g = some (s1, im) ∧ Spec.ensureSig t g = some (t1, im) ∧ Emit.Inv s1 ∧ R s1 t1 ∧
      t1.err = t.err ∧ (aget t1.sigs im).isSome = true := by
  cases he : Model.ensureImpl s g with
  | none => exact .inl ⟨rfl, (R_ensure hR g).1 he⟩
  | some p =>
    obtain ⟨s1, im⟩ := p
    obtain ⟨t1, ht1, hR1⟩ := (R_ensure hR g).2 s1 im he
    obtain ⟨g1, him, _⟩ := Emit.ensureImpl_good hs he
    refine .inr ⟨s1, t1, im, rfl, ht1, g1.inv, hR1, SErr.ensureSig_err ht1, ?_⟩
    cases hx : aget s1.impls im with
    | none => rw [hx] at him; cases him
    | some x => obtain ⟨y, hy, _⟩ := hR1.sig_of_impl hx; rw [hy]; rfl

theorem step_cpG (j i : Nat) : StepSim (.cpG j i) := by
  intro s t hs hR hq
  dsimp only [Model.stepSimple, Spec.stepSimple]
  rw [hR.G]
  cases aget s.G i with
  | none => exact .same hR _
  | some hi0 =>
    dsimp only
    cases aget s.G j with
    | some _ => exact .same hR _
    | none =>
      dsimp only
      rcases ensure_sim hs hR i with ⟨e1, e2⟩ | ⟨s1, t1, im, e1, e2, _, hR1, he1, _⟩ <;> rw [e1, e2]
      · exact .same hR _
      · simp only [hR1.G]
        cases aget s1.G i with
        | none => exact .ok hR1 he1
        | some h1 =>
          dsimp only
          simp only [St.fresh, Spec.LSt.fresh, hR1.next, hR1.G]
          exact .ok (hR1.fresh'.fresh'.updG _) he1

theorem step_mvG (j i : Nat) : StepSim (.mvG j i) := by
  intro s t hs hR hq
  dsimp only [Model.stepSimple, Spec.stepSimple]
  rw [hR.G]
  cases hi : aget s.G i with
  | none => exact .same hR _
  | some h0 =>
    dsimp only
    cases hj : aget s.G j with
    | some _ => exact .same hR _
    | none =>
      dsimp only
      refine sim_ite (fun _ => ?_) (fun _ => ?_)
      · rcases ensure_sim hs hR i with ⟨e1, e2⟩ | ⟨s1, t1, im, e1, e2, _, hR1, he1, _⟩ <;> rw [e1, e2]
        · exact .same hR _
        · simp only [St.fresh, Spec.LSt.fresh, hR1.next, hR1.G]
          exact .ok (hR1.fresh'.fresh'.updG _) he1
      · simp only [St.fresh, Spec.LSt.fresh, hR.next, hR.G]
        have hR2 := hR.fresh'.fresh'.updG (aset (aset s.G i { h0 with impl := none }) j
              { obj := s.next, fl := h0.fl, impl := h0.impl, trk := s.next + 1, lvl := h0.lvl })
        cases htk : h0.fl.isTrackable with
        | false => exact .ok hR2 rfl
        | true => exact .ok (R_invalidateTrackable (Emit.good_move (.mvG hi hj) hs).inv hR2 _) rfl

/-- the specification's counterpart of `Model.gcOpt`: the old list loses a reference -/
def sgc (t : Spec.LSt) (old : Option Nat) : Spec.LSt :=
  match old with
  | some o => Spec.gcSig t o
  | none => t

theorem sgc_err (t : Spec.LSt) (old : Option Nat) : (sgc t old).err = t.err := by
  cases old
  · rfl
  · exact SErr.gcSig_err t _

/-- `gcImpl` vs `gcSig` after a write to `G`: of the invariant only `impls` and `next` are read, and those are
    still the ones of the state `s0` before the write -/
theorem R_gcOpt {s s0 : St} {t : Spec.LSt} (hR : R s t) (hs : Emit.Inv s0) (hi : s.impls = s0.impls)
    (hn : s.next = s0.next) (old : Option Nat) : R (gcOpt s old) (sgc t old) := by
  cases old
  · exact hR
  · exact R_gc' (hi ▸ hs.keys) (by rw [hi, hn]; exact hs.lt) (by rw [hi]; exact hs.disj) hR _

/-- copy assignment of signal objects (`asgG`, and `masgG` on accumulated signals), behind the refusals -/
theorem sim_copyAssign {s : St} {t : Spec.LSt} (hs : Emit.Inv s) (hR : R s t) {j i : Nat} {d : Handle} :
    AnsSim t
      (if j = i then some (s, "ok") else
        match Model.ensureImpl s i with
        | none => some (s, "dead")
        | some (s, im) =>
          if d.impl = some im then some (s, "ok") else
          some (match d.impl with
            | some old => gcImpl { s with G := aset s.G j { d with impl := some im } } old
            | none => { s with G := aset s.G j { d with impl := some im } }, "ok"))
      (if j = i then some (t, "ok") else
        match Spec.ensureSig t i with
        | none => some (t, "dead")
        | some (s, im) =>
          if d.impl = some im then some (s, "ok") else
          some (match d.impl with
            | some old => Spec.gcSig { s with G := aset s.G j { d with impl := some im } } old
            | none => { s with G := aset s.G j { d with impl := some im } }, "ok")) := by
  refine sim_ite (fun _ => .same hR _) (fun _ => ?_)
  rcases ensure_sim hs hR i with ⟨e1, e2⟩ | ⟨s1, t1, im, e1, e2, hs1, hR1, he1, _⟩ <;> rw [e1, e2]
  · exact .same hR _
  · refine sim_ite (fun _ => .ok hR1 he1) (fun _ => ?_)
    rw [hR1.G]
    exact .ok (R_gcOpt (hR1.updG (aset s1.G j { d with impl := some im })) hs1 rfl rfl d.impl)
      ((sgc_err _ d.impl).trans he1)

theorem step_asgG (j i : Nat) : StepSim (.asgG j i) := by
  intro s t hs hR hq
  dsimp only [Model.stepSimple, Spec.stepSimple]
  rw [hR.G]
  cases hj : aget s.G j <;> cases aget s.G i
  case some.some d h0 =>
    dsimp only
    exact sim_ite (fun _ => .same hR _) (fun _ => sim_ite (fun _ => .same hR _) (fun _ => sim_copyAssign hs hR))
  all_goals exact .same hR _

theorem step_masgG (j i : Nat) : StepSim (.masgG j i) := by
  intro s t hs hR hq
  dsimp only [Model.stepSimple, Spec.stepSimple]
  rw [hR.G]
  cases hj : aget s.G j <;> cases hi : aget s.G i
  case some.some d h0 =>
    dsimp only
    refine sim_ite (fun _ => .same hR _) (fun _ => sim_ite (fun _ => .same hR _) (fun hl =>
      sim_ite (fun _ => .same hR _) (fun _ => sim_ite (fun _ => sim_copyAssign hs hR) (fun _ =>
        sim_ite (fun _ => .same hR _) (fun hji => ?_))) (by rw [hR.ownedG])))
    have hR2 := R_gcOpt (hR.updG (aset (aset s.G j { d with impl := h0.impl }) i { h0 with impl := none })) hs rfl rfl
      d.impl
    have hs2 := (Emit.good_move (.masgG hj hi hji (Decidable.of_not_not hl)) hs).inv
    have he2 := sgc_err { t with G := aset (aset s.G j { d with impl := h0.impl }) i { h0 with impl := none } } d.impl
    by_cases hc : (h0.fl.isTrackable && h0.impl.isSome) = true
    · rw [if_pos hc, if_pos hc]; exact .ok (R_invalidateTrackable hs2 hR2 _) he2
    · rw [if_neg hc, if_neg hc]; exact .ok hR2 he2
  all_goals exact .same hR _

theorem step_delG (i : Nat) : StepSim (.delG i) := by
  intro s t hs hR hq
  dsimp only [Model.stepSimple, Spec.stepSimple]
  rw [hR.G]
  cases hi : aget s.G i with
  | none => exact .same hR _
  | some hd =>
    dsimp only
    refine sim_ite (fun _ => .same hR _) (fun _ => sim_ite (fun _ => .same hR _) (fun _ => ?_) (by rw [hR.ownedG]))
    have hR' := R_dropHandle hs hR i
    have he' := SErr.dropHandle_err t i
    simp only [Model.dropHandle, Spec.dropHandle, hR.G, hi] at hR' he'
    exact .ok hR' he'

/-- the common tail of `conn` and `connfn`: insert the cell, store its id in connection `k` -/
theorem sim_insertConn {s : St} {t t0 : Spec.LSt} (hR : R s t) (he : t.err = t0.err) {im : Nat}
    (him : (aget t.sigs im).isSome = true) (first : Bool) (sl : SlotB) (k : Nat) :
    AnsSim t0 (some (setConn (Model.insertCell s im first sl).1 k (some (Model.insertCell s im first sl).2), "ok"))
      (some ({ (Spec.insertCell t im first sl).1 with
        C := aset (Spec.insertCell t im first sl).1.C k (some (Spec.insertCell t im first sl).2) }, "ok")) := by
  obtain ⟨e, hR2⟩ := R_insert hR im first sl
  rw [e]
  exact .ok (hR2.updC (hR2.C.set k (Or.inl rfl))) ((SErr.insertCell_err first sl him).trans he)

theorem step_conn (k g sv : Nat) (first mv : Bool) : StepSim (.conn k g sv first mv) := by
  intro s t hs hR hq
  dsimp only [Model.stepSimple, Spec.stepSimple]
  rw [hR.G, hR.S]
  cases aget s.G g <;> cases aget s.S sv
  case some.some hd v =>
    dsimp only
    refine sim_ite (fun _ => .same hR _) (fun _ => sim_ite (fun _ => .same hR _) (fun _ => sim_ite (fun _ => .same hR _)
      (fun _ => ?_)))
    rcases ensure_sim hs hR g with ⟨e1, e2⟩ | ⟨s1, t1, im, e1, e2, _, hR1, he1, him⟩ <;> rw [e1, e2]
    · exact .same hR _
    · simp only [hR1.S]
      cases mv with
      | false => exact sim_insertConn hR1 he1 him first v.slot.copy k
      | true =>
        exact sim_insertConn (hR1.updS (aset s1.S sv { v with slot := v.slot.move.2 })) he1 him first v.slot.move.1 k
  all_goals exact .same hR _

theorem step_connfn (k g : Nat) (spec : FSpec) (first : Bool) : StepSim (.connfn k g spec first) := by
  intro s t hs hR hq
  dsimp only [Model.stepSimple, Spec.stepSimple]
  rw [hR.G, specTaint_sim hR]
  cases aget s.G g with
  | none => exact .same hR _
  | some hd =>
    dsimp only
    cases hm : Model.mkFun s hd.fl.isVoid spec with
    | error e => rw [mkFun_sim_err hR _ _ hm]; exact .same hR _
    | ok p =>
      obtain ⟨fn, s1⟩ := p
      obtain ⟨t1, ht1, hR1, he1⟩ := mkFun_sim_ok hR _ _ hm
      rw [ht1]
      refine sim_ite (fun _ => .ok hR1 he1) (fun _ => ?_)
      rcases ensure_sim (Emit.mkFun_good hs hm).1.inv hR1 g with ⟨e1, e2⟩ | ⟨s2, t2, im, e1, e2, _, hR2, he2, him⟩ <;>
        rw [e1, e2]
      · exact .same hR _
      · exact sim_insertConn hR2 (he2.trans he1) him first _ k

theorem step_clear (g : Nat) : StepSim (.clear g) := by
  intro s t hs hR hq
  dsimp only [Model.stepSimple, Spec.stepSimple]
  rw [hR.G, hR.k1, hR.k2]
  cases aget s.G g with
  | none => exact .same hR _
  | some hd =>
    dsimp only
    cases hd.impl with
    | none => exact .same hR _
    | some im =>
      dsimp only
      rcases hR.sigs.get im with ⟨h1, h2⟩ | ⟨x, y, h1, h2, hr⟩ <;> simp only [h2]
      · have : clearImpl s im = s := by unfold Model.clearImpl; rw [h1]
        rw [this]; exact .same hR _
      · exact .ok (R_clear hs hR h1 h2) rfl

/-- a query whose answer the specification leaves open while the list is being emitted -/
theorem sim_query {s : St} {t : Spec.LSt} (hR : R s t) {y : Spec.LSig} {rm rs : String} (h : y.active = 0 → rs = rm) :
    AnsSim t (some (s, rm)) (some (t, if y.active > 0 then "*" else rs)) := by
  by_cases ha : y.active > 0
  · rw [if_pos ha]; exact .res hR rfl (Or.inr rfl)
  · rw [if_neg ha, h (by omega)]; exact .same hR _

theorem step_sizeq (g : Nat) : StepSim (.sizeq g) := by
  intro s t hs hR hq
  dsimp only [Model.stepSimple, Spec.stepSimple]
  rw [hR.G]
  cases aget s.G g with
  | none => exact .same hR _
  | some hd =>
    dsimp only
    cases hd.impl with
    | none => exact .same hR _
    | some im =>
      dsimp only
      exact (hR.sigs.getOR im).on (.same hR _) fun hr =>
        sim_query hR (fun _ => by simp only [Option.map_some, Option.getD_some, hr.cells.length])

theorem step_emptyGq (g : Nat) : StepSim (.emptyGq g) := by
  intro s t hs hR hq
  dsimp only [Model.stepSimple, Spec.stepSimple]
  rw [hR.G]
  cases aget s.G g with
  | none => exact .same hR _
  | some hd =>
    dsimp only
    cases hd.impl with
    | none => exact .same hR _
    | some im =>
      dsimp only
      exact (hR.sigs.getOR im).on (.same hR _) fun hr =>
        sim_query hR (fun _ => by simp only [Option.map_some, Option.getD_some, F2.isEmpty hr.cells])

theorem step_blockedGq (g : Nat) : StepSim (.blockedGq g) := by
  intro s t hs hR hq
  dsimp only [Model.stepSimple, Spec.stepSimple]
  rw [hR.G]
  cases aget s.G g with
  | none => exact .same hR _
  | some hd =>
    dsimp only
    cases hd.impl with
    | none => exact .same hR _
    | some im =>
      dsimp only
      rcases hR.sigs.get im with ⟨h1, h2⟩ | ⟨x, y, h1, h2, hr⟩ <;> simp only [h1, h2]
      · exact .same hR _
      · refine sim_query hR (fun ha0 => ?_)
        have hqz := hr.quiet (hs.ok im x h1) ha0
        have : x.cells.all (·.slot.blocked) = y.cells.all (·.slot.blocked) :=
          F2.all hr.cells _ _ (fun c d _ hd hcd => by rw [hcd.slot (hqz d hd).1])
        simp only [Option.map_some, Option.getD_some, this]

theorem step_blockG (g : Nat) (b : Bool) : StepSim (.blockG g b) := by
  intro s t hs hR hq
  dsimp only [Model.stepSimple, Spec.stepSimple]
  rw [hR.G]
  cases aget s.G g with
  | none => exact .same hR _
  | some hd =>
    dsimp only
    cases hd.impl with
    | none => exact .same hR _
    | some im =>
      dsimp only
      rcases hR.sigs.get im with ⟨h1, h2⟩ | ⟨x, y, h1, h2, hr⟩ <;> simp only [h1, h2]
      · exact .same hR _
      · refine .ok (hR.setSig h1 { hr with cells := hr.cells.map _ _ fun c d _ _ hcd => ?_ } fun k hk _ => ?_) rfl
        · refine ⟨hcd.id, hcd.marker, hcd.zombie, fun hz => ?_, fun hz => ?_, hcd.lrep⟩
          · show ({ d.slot with blocked := b } : SlotB) = { c.slot with blocked := b }
            rw [hcd.slot hz]
          · obtain ⟨e1, e2⟩ := hcd.zslot hz
            exact ⟨e1, ((sameHold_blocked _ _).trans e2).trans (sameHold_blocked _ _).symm⟩
        · simpa [Emit.cids, List.map_map, Function.comp_def] using hk

theorem step_liveq (fid : Nat) : StepSim (.liveq fid) := by
  intro s t hs hR hq
  dsimp only [Model.stepSimple, Spec.stepSimple]
  rw [hR.depth]
  by_cases hd : s.depth > 0
  · rw [if_pos hd]; exact .res hR rfl (Or.inr rfl)
  · rw [if_neg hd, liveCount_sim hs hR (hq (by omega)) fid]; exact .same hR _

theorem stepSim_all (op : Op) : StepSim op := by
  cases op with
  | newT t => exact step_newT t
  | delT t => exact step_delT t
  | notifyT t => exact step_notifyT t
  | cpT j i => exact step_cpT j i
  | mvT j i => exact step_mvT j i
  | asgT j i => exact step_asgT j i
  | masgT j i => exact step_masgT j i
  | mkS _ _ _ | mkS0 _ _ | cpS _ _ | mvS _ _ | asgS _ _ | masgS _ _ | setS _ _ | delS _ | discS _ | blockS _ _
  | blockedSq _ | emptySq _ =>
    exact step_slotOp _ _ rfl
  | boolSq i => exact step_boolSq i
  | callS i arg => exact fun _ _ _ _ _ => trivial
  | newG i fl => exact step_newG i fl
  | cpG j i => exact step_cpG j i
  | mvG j i => exact step_mvG j i
  | asgG j i => exact step_asgG j i
  | masgG j i => exact step_masgG j i
  | delG i => exact step_delG i
  | conn k g s first mv => exact step_conn k g s first mv
  | connfn k g f first => exact step_connfn k g f first
  | emit g arg strat try_ => exact fun _ _ _ _ _ => trivial
  | throw_ => exact fun _ _ _ _ _ => trivial
  | clear g => exact step_clear g
  | sizeq g => exact step_sizeq g
  | emptyGq g => exact step_emptyGq g
  | blockedGq g => exact step_blockedGq g
  | blockG g b => exact step_blockG g b
  | newC i => exact step_newC i
  | cpC j i => exact step_cpC j i
  | asgC j i => exact step_asgC j i
  | delC i => exact step_delC i
  | disc i => exact step_disc i
  | connectedq i => exact step_connectedq i
  | emptyCq i => exact step_emptyCq i
  | blockedCq i => exact step_blockedCq i
  | blockC i b => exact step_blockC i b
  | newK0 i => exact step_newK0 i
  | newK i c => exact step_newK i c
  | asgKC i c => exact step_asgKC i c
  | mvK j i => exact step_mvK j i
  | masgK j i => exact step_masgK j i
  | swapK i j => exact step_swapK i j
  | relK c k => exact step_relK c k
  | discK i => exact step_discK i
  | delK i => exact step_delK i
  | connectedKq i => exact step_connectedKq i
  | blockedKq i => exact step_blockedKq i
  | blockK i b => exact step_blockK i b
  | liveq fid => exact step_liveq fid
  | mark => exact step_mark
  | allocsq => exact step_allocsq
  | bad => exact step_bad

end Sigc.Refine
