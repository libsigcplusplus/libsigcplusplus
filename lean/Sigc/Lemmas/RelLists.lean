import Sigc.Lemmas.SpecKDefs
import Sigc.Lemmas.Basic
/-!
# RelLists — lemmas about the relations of `SpecKDefs` on lists (`F2`: `Forall₂`), options (`OR`) and association lists
(`KR`: keys related by `ρ`; `AR`: equal keys): what related lists answer alike (`length`, `any`, `all`, `find`, …), and
look-up, update and deletion in related tables; `OR.on` is how the answer of a look-up is used.  No lemma speaks of the states of `Spec`; `SpecK` and `Refine` both use them.
-/
namespace Sigc.SpecK
open Sigc.Model

section F2
variable {α β : Type} {r : α → β → Prop} {l : List α} {m : List β}

theorem F2.mono {r' : α → β → Prop} (h : F2 r l m) (hi : ∀ a b, r a b → r' a b) : F2 r' l m := by
  induction h with
  | nil => exact .nil
  | cons hab _ ih => exact .cons (hi _ _ hab) ih

/-- makes the lemmas below usable when the pointwise hypothesis holds for members only -/
theorem F2.attach (h : F2 r l m) : F2 (fun a b => a ∈ l ∧ b ∈ m ∧ r a b) l m := by
  induction h with
  | nil => exact .nil
  | cons hab _ ih =>
    exact .cons ⟨by simp, by simp, hab⟩
      (ih.mono fun a b hr => ⟨List.mem_cons_of_mem _ hr.1, List.mem_cons_of_mem _ hr.2.1, hr.2.2⟩)

theorem F2.length {l : List α} {m : List β} (h : F2 r l m) : l.length = m.length := by
  induction h with
  | nil => rfl
  | cons _ _ ih => simp [ih]

theorem F2.append {l' : List α} {m' : List β} (h : F2 r l m) (h' : F2 r l' m') : F2 r (l ++ l') (m ++ m') := by
  induction h with
  | nil => exact h'
  | cons hab _ ih => exact .cons hab ih

theorem F2.single {a : α} {b : β} (h : r a b) : F2 r [a] [b] := .cons h .nil

theorem F2.map {γ δ : Type} {r' : γ → δ → Prop} (h : F2 r l m) (f : α → γ) (g : β → δ)
    (hfg : ∀ a b, r a b → r' (f a) (g b)) : F2 r' (l.map f) (m.map g) := by
  induction h with
  | nil => exact .nil
  | cons hab _ ih => exact .cons (hfg _ _ hab) ih

theorem F2.filter (h : F2 r l m) (p : α → Bool) (q : β → Bool) (hpq : ∀ a b, r a b → p a = q b) :
    F2 r (l.filter p) (m.filter q) := by
  induction h with
  | nil => exact .nil
  | @cons a b l m hab _ ih =>
    rw [List.filter_cons, List.filter_cons, hpq a b hab]
    split
    · exact .cons hab ih
    · exact ih

theorem F2.map_eq {γ : Type} (h : F2 r l m) (f : α → γ) (g : β → γ) (hfg : ∀ a b, r a b → f a = g b) :
    l.map f = m.map g := by
  induction h with
  | nil => rfl
  | cons hab _ ih => rw [List.map_cons, List.map_cons, hfg _ _ hab, ih]

theorem F2.any (h : F2 r l m) (p : α → Bool) (q : β → Bool) (hpq : ∀ a b, r a b → p a = q b) :
    l.any p = m.any q := by
  induction h with
  | nil => rfl
  | cons hab _ ih => rw [List.any_cons, List.any_cons, hpq _ _ hab, ih]

theorem F2.all (h : F2 r l m) (p : α → Bool) (q : β → Bool) (hpq : ∀ a b, r a b → p a = q b) :
    l.all p = m.all q := by
  induction h with
  | nil => rfl
  | cons hab _ ih => rw [List.all_cons, List.all_cons, hpq _ _ hab, ih]

theorem F2.mem_left (h : F2 r l m) {a : α} (ha : a ∈ l) : ∃ b ∈ m, r a b := by
  induction h with
  | nil => simp at ha
  | cons hab _ ih =>
    rcases List.mem_cons.mp ha with e | e
    · subst e; exact ⟨_, by simp, hab⟩
    · obtain ⟨b, hb, hr⟩ := ih e; exact ⟨b, List.mem_cons_of_mem _ hb, hr⟩

theorem F2.mem_right (h : F2 r l m) {b : β} (hb : b ∈ m) : ∃ a ∈ l, r a b := by
  induction h with
  | nil => simp at hb
  | cons hab _ ih =>
    rcases List.mem_cons.mp hb with e | e
    · subst e; exact ⟨_, by simp, hab⟩
    · obtain ⟨a, ha, hr⟩ := ih e; exact ⟨a, List.mem_cons_of_mem _ ha, hr⟩

theorem F2.find (h : F2 r l m) (p : α → Bool) (q : β → Bool) (hpq : ∀ a b, r a b → p a = q b) :
    OR r (l.find? p) (m.find? q) := by
  induction h with
  | nil => exact .none
  | @cons a b l m hab _ ih =>
    rw [List.find?_cons, List.find?_cons, hpq a b hab]
    split
    · exact .some hab
    · exact ih

theorem F2.get? (h : F2 r l m) (k : Nat) : OR r l[k]? m[k]? := by
  induction h generalizing k with
  | nil => simp; exact .none
  | cons hab _ ih =>
    cases k with
    | zero => simp; exact .some hab
    | succ k => simp; exact ih k

theorem F2.isEmpty (h : F2 r l m) : l.isEmpty = m.isEmpty := by
  cases h <;> rfl

end F2

theorem OR.imp {α β : Type} {r r' : α → β → Prop} {a : Option α} {b : Option β} (h : OR r a b)
    (hi : ∀ x y, r x y → r' x y) : OR r' a b := by
  cases h with
  | none => exact .none
  | some h => exact .some (hi _ _ h)

/-- **The rule for every look-up under a relation.**  The look-up lemmas (`AR.get`, `KR.get`, `F2.find`, `F2.get?` and what
    is built on them) conclude `OR r a b` for the two answers `a`, `b`, which sit in the goal under the `match` of the code
    that made them.  It is enough to go on where both are `none` and where both are `some`, with related contents; `motive` is
    found by abstracting `a` and `b` out of the goal, so no `match` of the code has to be named and it reduces by itself in
    either case (the call rule of the mutual induction, `SimP.call` in `SpecKSimDefs`, has the same form).  A look-up that
    only appears once an earlier `match` has reduced wants a `dsimp only` first. -/
@[elab_as_elim]
theorem OR.on {α β : Type} {r : α → β → Prop} {motive : Option α → Option β → Prop} {a : Option α} {b : Option β}
    (h : OR r a b) (hn : motive Option.none Option.none) (hs : ∀ {x y}, r x y → motive (Option.some x) (Option.some y)) :
    motive a b := by
  cases h with
  | none => exact hn
  | some hr => exact hs hr

theorem OR.some_left {α β : Type} {r : α → β → Prop} {a : Option α} {b : Option β} (h : OR r a b) {x : α}
    (ha : a = Option.some x) : ∃ y, b = Option.some y ∧ r x y := by
  cases h with
  | none => cases ha
  | some hr => cases ha; exact ⟨_, rfl, hr⟩

theorem OR.some_right {α β : Type} {r : α → β → Prop} {a : Option α} {b : Option β} (h : OR r a b) {y : β}
    (hb : b = Option.some y) : ∃ x, a = Option.some x ∧ r x y := by
  cases h with
  | none => cases hb
  | some hr => cases hb; exact ⟨_, rfl, hr⟩

theorem OR.none_left {α β : Type} {r : α → β → Prop} {a : Option α} {b : Option β} (h : OR r a b)
    (ha : a = Option.none) : b = Option.none := by
  cases h with
  | none => rfl
  | some _ => cases ha

theorem OR.isSome {α β : Type} {r : α → β → Prop} {a : Option α} {b : Option β} (h : OR r a b) :
    a.isSome = b.isSome := by cases h <;> rfl

theorem OR.isNone {α β : Type} {r : α → β → Prop} {a : Option α} {b : Option β} (h : OR r a b) :
    a.isNone = b.isNone := by cases h <;> rfl

/-- related ids are equal on one side iff they are on the other: what the lemmas on association lists need of
    the relation between keys (`PB.keyed`; equality of keys for `AR`) -/
def Keyed (ρ : IdRel) : Prop := ∀ a a' b b', ρ a b → ρ a' b' → (a = a' ↔ b = b')

theorem keyed_eq : Keyed Eq := fun _ _ _ _ h1 h2 => by rw [h1, h2]

theorem Keyed.dec {ρ : IdRel} (h : Keyed ρ) {a a' b b' : Nat} (h1 : ρ a b) (h2 : ρ a' b') :
    decide (a = a') = decide (b = b') := decide_eq_decide.mpr (h _ _ _ _ h1 h2)

/-! ## `KR`, and `AR` (= `KR` with equal keys) -/

section KR
variable {α β : Type} {r : α → β → Prop} {ρ : IdRel} {l : List (Nat × α)} {m : List (Nat × β)}

theorem KR.imp {ρ' : IdRel} {r' : α → β → Prop} (h : KR ρ r l m) (hρ : ∀ a b, ρ a b → ρ' a b)
    (hi : ∀ a b, r a b → r' a b) : KR ρ' r' l m :=
  F2.mono h (fun p q hr => ⟨hρ _ _ hr.1, hi p.2 q.2 hr.2⟩)

theorem KR.get (hp : Keyed ρ) (h : KR ρ r l m) {k k' : Nat} (hk : ρ k k') : OR r (aget l k) (aget m k') := by
  induction h with
  | nil => exact .none
  | @cons p q l m hab _ ih =>
    obtain ⟨k1, a⟩ := p
    obtain ⟨k2, b⟩ := q
    have e : k1 = k ↔ k2 = k' := hp _ _ _ _ hab.1 hk
    by_cases hk2 : k2 = k'
    · simp only [Model.aget, e, hk2, if_true]; exact .some hab.2
    · simp only [Model.aget, e, hk2, if_false]; exact ih

theorem KR.set (hp : Keyed ρ) (h : KR ρ r l m) {k k' : Nat} (hk : ρ k k') {a : α} {b : β} (hab : r a b) :
    KR ρ r (aset l k a) (aset m k' b) := by
  induction h with
  | nil => exact F2.single ⟨hk, hab⟩
  | @cons p q l m hpq hlm ih =>
    obtain ⟨k1, a1⟩ := p
    obtain ⟨k2, b1⟩ := q
    have e : k1 = k ↔ k2 = k' := hp _ _ _ _ hpq.1 hk
    by_cases hk2 : k2 = k'
    · simp only [Model.aset, e, hk2, if_true]; exact .cons ⟨hk, hab⟩ hlm
    · simp only [Model.aset, e, hk2, if_false]; exact .cons hpq ih

theorem F2.filter_key (hp : Keyed ρ) {l : List α} {m : List β} (h : F2 r l m) (f : α → Nat) (g : β → Nat)
    (hfg : ∀ a b, r a b → ρ (f a) (g b)) {k k' : Nat} (hk : ρ k k') :
    F2 r (l.filter (fun a => f a ≠ k)) (m.filter (fun b => g b ≠ k')) :=
  F2.filter h _ _ (fun a b hr => by rw [decide_not, decide_not, hp.dec (hfg a b hr) hk])

theorem KR.del (hp : Keyed ρ) (h : KR ρ r l m) {k k' : Nat} (hk : ρ k k') : KR ρ r (adel l k) (adel m k') :=
  F2.filter_key hp h (·.1) (·.1) (fun _ _ hr => hr.1) hk

theorem KR.map {l : List (Nat × α)} {m : List (Nat × β)} (h : KR ρ r l m) {r' : α → β → Prop} (f : α → α) (g : β → β)
    (hfg : ∀ a b, r a b → r' (f a) (g b)) : KR ρ r' (amap l f) (amap m g) := by
  unfold Model.amap
  exact F2.map h _ _ (fun p q hr => ⟨hr.1, hfg p.2 q.2 hr.2⟩)

theorem AR.keys {l : List (Nat × α)} {m : List (Nat × β)} (h : AR r l m) : l.map (·.1) = m.map (·.1) :=
  F2.map_eq h _ _ (fun _ _ hr => hr.1)

theorem AR.imp {r' : α → β → Prop} (h : AR r l m) (hi : ∀ a b, r a b → r' a b) : AR r' l m :=
  KR.imp (ρ := Eq) h (fun _ _ e => e) hi

theorem AR.get (h : AR r l m) (k : Nat) : OR r (aget l k) (aget m k) := KR.get keyed_eq h rfl

theorem AR.set (h : AR r l m) (k : Nat) {a : α} {b : β} (hab : r a b) : AR r (aset l k a) (aset m k b) :=
  KR.set keyed_eq h rfl hab

theorem AR.del (h : AR r l m) (k : Nat) : AR r (adel l k) (adel m k) := KR.del keyed_eq h rfl

theorem AR.map (h : AR r l m) {r' : α → β → Prop} (f : α → α) (g : β → β) (hfg : ∀ a b, r a b → r' (f a) (g b)) :
    AR r' (amap l f) (amap m g) := KR.map (ρ := Eq) h f g hfg

theorem AR.any (h : AR r l m) (p : Nat × α → Bool) (q : Nat × β → Bool)
    (hpq : ∀ k a b, r a b → p (k, a) = q (k, b)) : l.any p = m.any q :=
  F2.any h p q (fun x y hr => by
    obtain ⟨k, a⟩ := x
    obtain ⟨k', b⟩ := y
    obtain ⟨e, hr⟩ := hr
    simp only at e hr; subst e
    exact hpq k a b hr)

end KR

end Sigc.SpecK
