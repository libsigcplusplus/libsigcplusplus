import Sigc.Model
import Sigc.Lemmas.Basic
import Sigc.Lemmas.Frames
import Sigc.Lemmas.Blind
/-!
# `disconnectCell` as a pure function of the impl table; the scoped-connection operations

`disconnectCell s cid` (= `slot_rep::disconnect()` on the rep of list cell `cid`) is
`applyDisc s cid (discI s.impls cid)`: a pure transformation `discI` of the impl table together with a
flag telling whether the cell was erased (then, and only then, every connection to it is nulled); this is
`touchCell_cellI`, for `disconnectCell` and `invalidateCell` at once.  No well-formedness is assumed.
`Res P o`: `P` holds of every result of a step `o`.  `kop_eq`: the shape of a scoped-connection operation.
-/
namespace Sigc.StepConn
open Sigc.Model

/-- what `nullConns` does to every entry of `C`, `K`, `ownedK` -/
def nullF (cid : Nat) (p : Option Nat) : Option Nat := if p = some cid then none else p

theorem nullConns_eq (s : St) (cid : Nat) :
    nullConns s cid = { s with C := amap s.C (nullF cid), K := amap s.K (nullF cid), ownedK := amap s.ownedK (nullF cid) } := rfl

@[simp] theorem nullConns_C (s : St) (cid : Nat) : (nullConns s cid).C = amap s.C (nullF cid) := rfl
@[simp] theorem nullConns_K (s : St) (cid : Nat) : (nullConns s cid).K = amap s.K (nullF cid) := rfl

/-- the cell after `slot_rep::disconnect()`: `call_ = nullptr`, parent record detached -/
def discCell (c : Cell) : Cell := { c with slot := c.slot.disconnectRep, linked := false }

/-- pure effect of `slot_rep::disconnect()` of cell `cid` on the impl table; the flag: was the cell erased.
    It is `cellI discCell` written out (`discI_eq_cellI`). -/
def discI (impls : List (Nat × Impl)) (cid : Nat) : List (Nat × Impl) × Bool :=
  match findCellImpl impls cid with
  | none => (impls, false)
  | some i =>
    match aget impls i with
    | none => (impls, false)
    | some im =>
      match im.cells.find? (·.id = cid) with
      | none => (impls, false)
      | some c =>
        let cells1 := im.cells.map (fun c => if c.id = cid then discCell c else c)
        if c.linked then
          if im.exec = 0 then (aset impls i { im with cells := cells1.filter (·.id ≠ cid) }, true)
          else (aset impls i { im with cells := cells1, deferred := true }, false)
        else (aset impls i { im with cells := cells1 }, false)

/-- the state after `discI` answered `r` -/
def applyDisc (s : St) (cid : Nat) (r : List (Nat × Impl) × Bool) : St :=
  if r.2 then nullConns { s with impls := r.1 } cid else { s with impls := r.1 }

theorem aset_self_of_aget {α} (l : List (Nat × α)) (k : Nat) (v : α) (h : aget l k = some v) : aset l k v = l :=
  aset_self h

/-- `discI` with an arbitrary change `f` of the cell itself: the common shape of `slot_rep::disconnect()`
    (`discI = cellI discCell`) and `slot_rep::notify_slot_rep_invalidated` -/
def cellI (f : Cell → Cell) (impls : List (Nat × Impl)) (cid : Nat) : List (Nat × Impl) × Bool :=
  match findCellImpl impls cid with
  | none => (impls, false)
  | some i =>
    match aget impls i with
    | none => (impls, false)
    | some im =>
      match im.cells.find? (·.id = cid) with
      | none => (impls, false)
      | some c =>
        let cells1 := im.cells.map (fun c => if c.id = cid then f c else c)
        if c.linked then
          if im.exec = 0 then (aset impls i { im with cells := cells1.filter (·.id ≠ cid) }, true)
          else (aset impls i { im with cells := cells1, deferred := true }, false)
        else (aset impls i { im with cells := cells1 }, false)

theorem discI_eq_cellI : discI = cellI discCell := rfl

theorem cellI_of_getCell_none (f : Cell → Cell) {s : St} {cid : Nat} (hg : getCell s cid = none) :
    cellI f s.impls cid = (s.impls, false) := by
  unfold getCell at hg
  unfold cellI
  split <;> try rfl
  split <;> try rfl
  split <;> try rfl
  simp_all

theorem touchCell_cellI (hf : SlotB → SlotB) (s : St) (cid : Nat) :
    touchCell hf s cid = applyDisc s cid (cellI (touchC hf) s.impls cid) := by
  cases hg : getCell s cid with
  | none =>
    rw [cellI_of_getCell_none _ hg]
    simp only [touchCell, hg]
    rfl
  | some p =>
    obtain ⟨i, c⟩ := p
    obtain ⟨hfi, im, hi, hc, _, _⟩ := getCell_eq_some hg
    rw [touchCell_eq hf hg hi]
    unfold cellI applyDisc
    simp only [hfi, hi, hc]
    cases c.linked with
    | false => rfl
    | true =>
      by_cases hx : im.exec = 0
      · simp only [if_pos hx, if_true]
        rw [eraseCell_eq hi, ← map_updC_filter im.cells cid (touchC hf) (fun _ => rfl)]
        rfl
      · simp only [if_neg hx, if_true, Bool.false_eq_true, if_false]
        rfl

theorem disconnectCell_discI (s : St) (cid : Nat) : disconnectCell s cid = applyDisc s cid (discI s.impls cid) :=
  touchCell_cellI SlotB.disconnectRep s cid

theorem touchCell_impls (hf : SlotB → SlotB) (s : St) (cid : Nat) :
    (touchCell hf s cid).impls = (cellI (touchC hf) s.impls cid).1 := by
  rw [touchCell_cellI]; unfold applyDisc; split <;> rfl

/-! ### what `disconnectCell` leaves alone -/

theorem disconnectCell_blind {γ : Type} {π : St → γ} (h : LibBlind π) (s : St) (cid : Nat) :
    π (disconnectCell s cid) = π s :=
  (h.prims _).disconnectCell cid rfl

@[simp] theorem disconnectCell_T (s : St) (cid : Nat) : (disconnectCell s cid).T = s.T :=
  disconnectCell_blind (π := (·.T)) (fun _ _ _ _ _ _ => rfl) s cid
@[simp] theorem disconnectCell_next (s : St) (cid : Nat) : (disconnectCell s cid).next = s.next :=
  disconnectCell_blind (π := (·.next)) (fun _ _ _ _ _ _ => rfl) s cid
@[simp] theorem disconnectCell_trace (s : St) (cid : Nat) : (disconnectCell s cid).trace = s.trace :=
  disconnectCell_blind (π := (·.trace)) (fun _ _ _ _ _ _ => rfl) s cid
@[simp] theorem disconnectCell_depth (s : St) (cid : Nat) : (disconnectCell s cid).depth = s.depth :=
  disconnectCell_blind (π := (·.depth)) (fun _ _ _ _ _ _ => rfl) s cid
@[simp] theorem disconnectCell_steps (s : St) (cid : Nat) : (disconnectCell s cid).steps = s.steps :=
  disconnectCell_blind (π := (·.steps)) (fun _ _ _ _ _ _ => rfl) s cid
@[simp] theorem disconnectCell_err (s : St) (cid : Nat) : (disconnectCell s cid).err = s.err :=
  disconnectCell_blind (π := (·.err)) (fun _ _ _ _ _ _ => rfl) s cid

theorem disconnectCell_impls (s : St) (cid : Nat) : (disconnectCell s cid).impls = (discI s.impls cid).1 :=
  touchCell_impls SlotB.disconnectRep s cid

theorem disconnectCell_C (s : St) (cid : Nat) :
    (disconnectCell s cid).C = if (discI s.impls cid).2 then amap s.C (nullF cid) else s.C := by
  rw [disconnectCell_discI]; unfold applyDisc; split <;> rfl

theorem disconnectCell_K (s : St) (cid : Nat) :
    (disconnectCell s cid).K = if (discI s.impls cid).2 then amap s.K (nullF cid) else s.K := by
  rw [disconnectCell_discI]; unfold applyDisc; split <;> rfl

theorem disconnectCell_impls_congr (s t : St) (cid : Nat) (h : s.impls = t.impls) :
    (disconnectCell s cid).impls = (disconnectCell t cid).impls := by
  rw [disconnectCell_impls, disconnectCell_impls, h]

theorem disconnectCell_setK (s : St) (k : List (Nat × Option Nat)) (cid : Nat) :
    disconnectCell { s with K := k } cid =
      { disconnectCell s cid with K := if (discI s.impls cid).2 then amap k (nullF cid) else k } := by
  rw [disconnectCell_discI, disconnectCell_discI]
  unfold applyDisc
  by_cases h : (discI s.impls cid).2 = true <;> simp [h, nullConns] <;> rfl

/-! ### the shape of `discI` -/

theorem any_id_of_map_ids (l l' : List Cell) (cid : Nat) (h : l'.map (·.id) = l.map (·.id)) :
    l'.any (fun c => decide (c.id = cid)) = l.any (fun c => decide (c.id = cid)) := by
  have e : ∀ l : List Cell, l.any (fun c => decide (c.id = cid)) = (l.map (·.id)).any (fun x => decide (x = cid)) := by
    intro l; simp [List.any_map, Function.comp_def]
  rw [e, e, h]

theorem findCellImpl_aset_ids (impls : List (Nat × Impl)) (i : Nat) (im im1 : Impl) (cid : Nat)
    (h : aget impls i = some im) (hids : im1.cells.map (·.id) = im.cells.map (·.id)) :
    findCellImpl (aset impls i im1) cid = findCellImpl impls cid := by
  induction impls with
  | nil => simp [aget] at h
  | cons p t ih =>
    obtain ⟨k, x⟩ := p
    by_cases hk : k = i
    · subst hk
      simp [aget] at h
      subst h
      simp only [aset, if_true, findCellImpl]
      rw [any_id_of_map_ids _ _ cid hids]
    · simp [aget, hk] at h
      simp only [aset, hk, if_false, findCellImpl]
      rw [ih h]

theorem map_cell_ids (f : Cell → Cell) (hid : ∀ c, (f c).id = c.id) (l : List Cell) (cid : Nat) :
    (l.map (fun c => if c.id = cid then f c else c)).map (·.id) = l.map (·.id) := by
  induction l with
  | nil => rfl
  | cons c t ih =>
    simp only [List.map_cons, ih]
    by_cases h : c.id = cid <;> simp [h, hid]

theorem discI_absent (impls : List (Nat × Impl)) (cid : Nat) (h : findCellImpl impls cid = none) :
    discI impls cid = (impls, false) := by
  simp [discI, h]

theorem disconnectCell_absent (s : St) (cid : Nat) (h : getCell s cid = none) : disconnectCell s cid = s := by
  unfold disconnectCell; rw [h]

/-- `cellI` where the cell is found: the impl holding it gets the changed cell, which is erased (idle list) or
    marked for the deferred sweep (emission in progress) if it still had its parent record -/
theorem cellI_at (f : Cell → Cell) (impls : List (Nat × Impl)) (cid i : Nat) (im : Impl) (c : Cell)
    (hf : findCellImpl impls cid = some i) (hi : aget impls i = some im) (hc : im.cells.find? (·.id = cid) = some c) :
    ∃ d, cellI f impls cid =
      (aset impls i { im with
        cells := if c.linked && im.exec = 0
          then (im.cells.map (fun c => if c.id = cid then f c else c)).filter (·.id ≠ cid)
          else im.cells.map (fun c => if c.id = cid then f c else c),
        deferred := d }, c.linked && im.exec = 0) := by
  unfold cellI
  simp only [hf, hi, hc]
  cases c.linked
  · exact ⟨im.deferred, by simp⟩
  · by_cases he : im.exec = 0
    · exact ⟨im.deferred, by simp [he]⟩
    · exact ⟨true, by simp [he]⟩

theorem cellI_found (f : Cell → Cell) (impls : List (Nat × Impl)) (cid : Nat) :
    cellI f impls cid = (impls, false) ∨
    ∃ i im c, findCellImpl impls cid = some i ∧ aget impls i = some im ∧ im.cells.find? (·.id = cid) = some c := by
  unfold cellI
  cases findCellImpl impls cid with
  | none => exact .inl rfl
  | some i =>
    dsimp only
    cases hi : aget impls i with
    | none => exact .inl rfl
    | some im =>
      dsimp only
      cases hc : im.cells.find? (·.id = cid) with
      | none => exact .inl rfl
      | some c => exact .inr ⟨i, im, c, rfl, hi, hc⟩

theorem discI_other (impls : List (Nat × Impl)) (cid i : Nat) (hf : findCellImpl impls cid = some i) (k : Nat) (hk : k ≠ i) :
    aget (discI impls cid).1 k = aget impls k := by
  rw [discI_eq_cellI]
  rcases cellI_found discCell impls cid with h | ⟨i', im, c, hf', hi, hc⟩
  · rw [h]
  · obtain ⟨d, h⟩ := cellI_at discCell impls cid i' im c hf' hi hc
    rw [hf] at hf'
    cases hf'
    rw [h]
    exact aget_aset_other _ _ _ _ hk

def Res (P : St → String → Prop) (o : Option (St × String)) : Prop := ∀ s' r, o = some (s', r) → P s' r

theorem Res.ok {P : St → String → Prop} {s : St} {r : String} (h : P s r) : Res P (some (s, r)) := by
  intro s' r' e; cases e; exact h

theorem Res.byCases {P : St → String → Prop} {c : Prop} [Decidable c] {a b : Option (St × String)}
    (ha : c → Res P a) (hb : ¬ c → Res P b) : Res P (if c then a else b) := by
  split
  · exact ha ‹_›
  · exact hb ‹_›

theorem Res.ite {P : St → String → Prop} {c : Prop} [Decidable c] {a b : Option (St × String)}
    (ha : Res P a) (hb : Res P b) : Res P (if c then a else b) :=
  .byCases (fun _ => ha) (fun _ => hb)

/-! ### scoped-connection operations -/

/-- the operations on `scoped_connection` objects; `blockK` is left out because it writes a cell's `blocked`
    flag: its step is not `discOpt` plus writes to `K`/`C` -/
def isKOp : Op → Bool
  | .newK0 _ | .newK _ _ | .asgKC _ _ | .mvK _ _ | .masgK _ _ | .swapK _ _ | .relK _ _ | .discK _ | .delK _
  | .connectedKq _ | .blockedKq _ => true
  | _ => false

/-- the cell a scoped-connection operation disconnects in state `s`: the one held by the object that is
    destroyed (`delK`), assigned to (`asgKC`), moved into (`masgK`, not self) or explicitly disconnected
    (`discK`); every other operation disconnects nothing -/
def kDisconnects (s : St) : Op → Option Nat
  | .delK i => match aget s.K i with | some p => p | none => none
  | .discK i => match aget s.K i with | some p => p | none => none
  | .asgKC i c => match aget s.K i, aget s.C c with | some old, some _ => old | _, _ => none
  | .masgK j i => match aget s.K j, aget s.K i with | some old, some _ => if j = i then none else old | _, _ => none
  | _ => none

/-- `disconnect()` through a pointer that may be null -/
def discOpt (s : St) (p : Option Nat) : St :=
  match p with
  | some cid => disconnectCell s cid
  | none => s

theorem discOpt_impls (s : St) (p : Option Nat) :
    (discOpt s p).impls = match p with | some cid => (discI s.impls cid).1 | none => s.impls := by
  cases p <;> simp [discOpt, disconnectCell_impls]

/-- a scoped-connection operation is total; the cell named by `kDisconnects` is disconnected; beyond that only
    the table `K` changes and — for `release()` alone — the connection variable it returns into -/
theorem kop_eq (s : St) (op : Op) (hop : isKOp op = true) :
    ∃ K C r, stepSimple s op = some ({ discOpt s (kDisconnects s op) with K := K, C := C }, r) ∧
      (C = (discOpt s (kDisconnects s op)).C ∨ ∃ c k, op = .relK c k) := by
  cases op <;> cases hop
  all_goals simp only [stepSimple, kDisconnects]
  case newK0 i => cases aget s.K i <;> exact ⟨_, _, _, rfl, .inl rfl⟩
  case newK i c =>
    cases aget s.C c with
    | none => exact ⟨_, _, _, rfl, .inl rfl⟩
    | some p => cases aget s.K i <;> exact ⟨_, _, _, rfl, .inl rfl⟩
  case asgKC i c =>
    cases aget s.K i with
    | none => exact ⟨_, _, _, rfl, .inl rfl⟩
    | some old =>
      cases hc : aget s.C c with
      | none => exact ⟨_, _, _, rfl, .inl rfl⟩
      | some p =>
        cases old with
        | none => exact ⟨_, _, _, by simp only [hc]; rfl, .inl rfl⟩
        | some cid =>
          dsimp only
          cases aget (disconnectCell s cid).C c <;> exact ⟨_, _, _, rfl, .inl rfl⟩
  case mvK j i =>
    cases aget s.K i with
    | none => exact ⟨_, _, _, rfl, .inl rfl⟩
    | some p => cases aget s.K j <;> exact ⟨_, _, _, rfl, .inl rfl⟩
  case masgK j i =>
    cases aget s.K j with
    | none => exact ⟨_, _, _, rfl, .inl rfl⟩
    | some old =>
      cases hi : aget s.K i with
      | none => exact ⟨_, _, _, rfl, .inl rfl⟩
      | some p =>
        by_cases hji : j = i
        · exact ⟨_, _, _, by simp only [hji, if_true]; rfl, .inl rfl⟩
        · simp only [hji, if_false]
          cases old with
          | none => exact ⟨_, _, _, by simp only [hi]; rfl, .inl rfl⟩
          | some cid => cases aget (disconnectCell s cid).K i <;> exact ⟨_, _, _, rfl, .inl rfl⟩
  case swapK i j =>
    cases aget s.K i with
    | none => exact ⟨_, _, _, rfl, .inl rfl⟩
    | some a => cases aget s.K j <;> exact ⟨_, _, _, rfl, .inl rfl⟩
  case relK c k =>
    cases aget s.K k with
    | none => exact ⟨_, _, _, rfl, .inl rfl⟩
    | some p => exact ⟨_, _, _, rfl, .inr ⟨c, k, rfl⟩⟩
  case discK i => cases aget s.K i <;> exact ⟨_, _, _, rfl, .inl rfl⟩
  case delK i =>
    cases aget s.K i with
    | none => exact ⟨_, _, _, rfl, .inl rfl⟩
    | some p =>
      cases p with
      | none => exact ⟨_, _, _, rfl, .inl rfl⟩
      | some cid =>
        dsimp only
        rw [disconnectCell_setK]
        exact ⟨_, _, _, rfl, .inl rfl⟩
  case connectedKq i => cases aget s.K i <;> exact ⟨_, _, _, rfl, .inl rfl⟩
  case blockedKq i => cases aget s.K i <;> exact ⟨_, _, _, rfl, .inl rfl⟩

theorem kop_impls (s s' : St) (r : String) (op : Op) (hop : isKOp op = true)
    (h : stepSimple s op = some (s', r)) :
    s'.impls = match kDisconnects s op with
               | some cid => (discI s.impls cid).1
               | none => s.impls := by
  obtain ⟨K, C, r', h', _⟩ := kop_eq s op hop
  rw [h'] at h
  cases h
  exact discOpt_impls s _

/-! ### connections after a `disconnect()` -/

theorem find_map_discCell (l : List Cell) (cid : Nat) :
    (l.map (fun c => if c.id = cid then discCell c else c)).find? (fun c => decide (c.id = cid))
      = (l.find? (fun c => decide (c.id = cid))).map discCell := by
  induction l with
  | nil => rfl
  | cons c t ih =>
    by_cases h : c.id = cid
    · simp [List.find?, h, discCell]
    · simp only [List.map_cons, h, if_false, List.find?, decide_false]
      exact ih

theorem discCell_empty (c : Cell) : (discCell c).slot.empty = true := by
  unfold discCell SlotB.disconnectRep SlotB.empty
  cases h : c.slot.rep <;> simp [h]

/-- after `disconnect()` of cell `cid`, a connection that pointed at it either was nulled (the cell is
    erased) or still points at the cell, which is now invalid: in both cases it reports "not connected" -/
theorem conn_after_disconnect (s : St) (cid c : Nat) (hc : aget s.C c = some (some cid)) :
    ∃ p', aget (disconnectCell s cid).C c = some p' ∧ connConnected (disconnectCell s cid) p' = false := by
  rw [disconnectCell_C]
  cases he : (discI s.impls cid).2 with
  | true => exact ⟨none, by simp [aget_amap, hc, nullF], rfl⟩
  | false =>
    refine ⟨some cid, by simpa using hc, ?_⟩
    have habs : getCell s cid = none → connConnected (disconnectCell s cid) (some cid) = false := fun hg => by
      rw [disconnectCell_absent s cid hg]; simp [connConnected, hg]
    cases hf : findCellImpl s.impls cid with
    | none => exact habs (by simp [getCell, hf])
    | some i =>
      cases hi : aget s.impls i with
      | none => exact habs (by simp [getCell, hf, hi])
      | some im =>
        cases hx : im.cells.find? (·.id = cid) with
        | none => exact habs (by simp [getCell, hf, hi, hx])
        | some x =>
          -- not erased: the cell is still in its list, with the same id, invalid
          obtain ⟨d, h⟩ := cellI_at discCell s.impls cid i im x hf hi hx
          simp only [discI_eq_cellI, h] at he
          simp only [connConnected, getCell, disconnectCell_impls, discI_eq_cellI, h, he, Bool.false_eq_true, if_false]
          rw [findCellImpl_aset_ids s.impls i im _ cid hi (map_cell_ids discCell (fun _ => rfl) _ _), hf]
          simp only [aget_aset_same, find_map_discCell, hx]
          simp [discCell_empty]

theorem discOpt_tables (s : St) (p : Option Nat) :
    ((discOpt s p).C = s.C ∧ (discOpt s p).K = s.K) ∨
    ∃ cid, p = some cid ∧ (discI s.impls cid).2 = true ∧
      (discOpt s p).C = amap s.C (nullF cid) ∧ (discOpt s p).K = amap s.K (nullF cid) := by
  cases p with
  | none => exact .inl ⟨rfl, rfl⟩
  | some cid =>
    simp only [discOpt, disconnectCell_C, disconnectCell_K]
    by_cases h : (discI s.impls cid).2 = true
    · exact .inr ⟨cid, rfl, h, by simp [h]⟩
    · exact .inl (by simp [h])

theorem nulled_entry {T T' : List (Nat × Option Nat)} {old : Option Nat}
    (h : T' = T ∨ ∃ cid, old = some cid ∧ T' = amap T (nullF cid)) {k : Nat} {p : Option Nat} (hk : aget T k = some p) :
    ∃ p', aget T' k = some p' ∧ (p' = p ∨ (p' = none ∧ p = old ∧ old ≠ none)) := by
  rcases h with rfl | ⟨cid, rfl, rfl⟩
  · exact ⟨p, hk, .inl rfl⟩
  · rw [aget_amap, hk]
    by_cases hp : p = some cid
    · exact ⟨none, by simp [nullF, hp], .inr ⟨rfl, hp, by simp⟩⟩
    · exact ⟨p, by simp [nullF, hp], .inl rfl⟩

/-! ### `execOp` on the scoped-connection operations -/

theorem modeRule_none (P : Prog) (s : St) (op : Op)
    (hop : (match op with | .conn _ _ _ _ _ | .mkS _ _ _ | .setS _ _ | .connfn _ _ _ _ => false | _ => true) = true) :
    modeRule P s op = none := by
  cases op <;> first | rfl | simp at hop

theorem kop_total (s : St) (op : Op) (hop : isKOp op = true) : ∃ s' r, stepSimple s op = some (s', r) :=
  let ⟨_, _, r, h, _⟩ := kop_eq s op hop
  ⟨_, r, h⟩

theorem execOp_kop (f : Nat) (P : Prog) (s s' : St) (res : Except Unit String) (op : Op) (hop : isKOp op = true)
    (h : execOp (f+1) P s op = some (s', res)) : ∃ r, stepSimple s op = some (s', r) ∧ res = .ok r := by
  rw [Model.execOp_simple f P s op (fun _ _ e => by subst e; cases hop) (fun _ _ _ _ e => by subst e; cases hop)
    (fun e => by subst e; cases hop)] at h
  have hm : modeRule P s op = none := by
    cases op <;> first | rfl | cases hop
  rw [hm] at h
  obtain ⟨s1, r1, h1⟩ := kop_total s op hop
  rw [h1] at h
  simp at h
  obtain ⟨rfl, rfl⟩ := h
  exact ⟨r1, h1, rfl⟩

/-- a concrete non-trivial state: one list (impl 1) with two linked cells 5 and 6; plain connections 0, 1
    and scoped connections 0, 1 to cells 5, 6 -/
def exStK : St :=
  { impls := [(1, { cells := [{ id := 5, slot := { rep := some { call := true, fn := some (.leaf 2 []) } }, linked := true },
                              { id := 6, slot := { rep := some { call := true, fn := some (.leaf 3 []) } }, linked := true }] })],
    C := [(0, some 5), (1, some 6)], K := [(0, some 5), (1, some 6)], next := 7 }

end Sigc.StepConn
