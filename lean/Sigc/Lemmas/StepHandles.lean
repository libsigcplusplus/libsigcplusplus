import Sigc.Model
import Sigc.Lemmas.Basic
import Sigc.Lemmas.Frames
import Sigc.Lemmas.StepConn
import Sigc.Lemmas.Built
/-!
# Signal objects (`Handle`) and the life time of their lists (`gcImpl`)

`ensureImpl` (`signal_base::impl()`), the refusal `masgOwned`, `mkFun` frames, `nullConnsList`, `gcImpl`
(`~signal_impl` when the last owner goes), and what a torn-down list releases (`implLive`, `gcImpl_last_liveCount`).
Everything holds for arbitrary states.
-/
namespace Sigc.StepHandles
open Sigc.Model Sigc.StepConn

theorem ensureImpl_some (s : St) (g i : Nat) (h : Handle) (hg : aget s.G g = some h) (hi : h.impl = some i) :
    ensureImpl s g = some (s, i) := by
  simp [ensureImpl, hg, hi]

/-- `ensureImpl` on a handle without list -/
def allocImpl (s : St) (g : Nat) (h : Handle) : St :=
  { s with next := s.next + 1, impls := aset s.impls s.next {}, G := aset s.G g { h with impl := some s.next } }

theorem ensureImpl_none (s : St) (g : Nat) (h : Handle) (hg : aget s.G g = some h) (hi : h.impl = none) :
    ensureImpl s g = some (allocImpl s g h, s.next) := by
  simp [ensureImpl, hg, hi, St.fresh, allocImpl]

theorem ensureImpl_dead (s : St) (g : Nat) (hg : aget s.G g = none) : ensureImpl s g = none := by
  simp [ensureImpl, hg]

theorem ensureImpl_cases (s : St) (g : Nat) (h : Handle) (hg : aget s.G g = some h) :
    ∃ s1 im, ensureImpl s g = some (s1, im) ∧ aget s1.G g = some { h with impl := some im } ∧
      (∀ k, k ≠ g → aget s1.G k = aget s.G k) ∧ s1.S = s.S ∧ s1.C = s.C ∧ s1.K = s.K ∧ s1.T = s.T ∧
      s1.trace = s.trace ∧
      ((h.impl = some im ∧ s1 = s) ∨ (h.impl = none ∧ im = s.next ∧ s1 = allocImpl s g h)) := by
  cases hi : h.impl with
  | some i =>
    refine ⟨s, i, ensureImpl_some s g i h hg hi, ?_, fun _ _ => rfl, rfl, rfl, rfl, rfl, rfl, Or.inl ⟨rfl, rfl⟩⟩
    rw [hg]; congr 1; cases h; simp_all
  | none =>
    refine ⟨allocImpl s g h, s.next, ensureImpl_none s g h hg hi, by simp [allocImpl], ?_, rfl, rfl, rfl, rfl, rfl,
      Or.inr ⟨rfl, rfl, rfl⟩⟩
    intro k hk
    simp [allocImpl, aget_aset_other _ _ _ _ hk]

/-- the refusal `owned` of move assignment `masgG j i` (not for the `accumulated` flavours, whose move assignment
    is a copy assignment): the old slot list of the destination, which the assignment releases, may own the
    source `i` or the destination `j`, and both are written to after the release.  `fl` does not enter the test. -/
def masgOwned (s : St) (fl : Flavour) (j i : Nat) : Bool :=
  s.ownedG.any (fun p => p.2 = i) || s.ownedG.any (fun p => p.2 = j)

/-! ### `mkFun` frame: only the `everFwd` mark of a handle may change -/

theorem mkFun_frame (s s' : St) (isVoid : Bool) (spec : FSpec) (fn : Fun) (h : mkFun s isVoid spec = .ok (fn, s')) :
    s'.impls = s.impls ∧ s'.S = s.S ∧ s'.C = s.C ∧ s'.trace = s.trace ∧
    ∀ g hd, aget s.G g = some hd → ∃ hd', aget s'.G g = some hd' ∧ hd'.impl = hd.impl ∧ hd'.fl = hd.fl ∧
      hd'.lvl = hd.lvl ∧ hd'.trk = hd.trk ∧ hd'.obj = hd.obj := by
  have m := mkFun_cases h
  obtain ⟨hi, _, hS, hC, _, _⟩ := m.frame
  refine ⟨hi, hS, hC, by cases m <;> rfl, fun g hd hg => ?_⟩
  rcases m.G with e | ⟨g0, h0, hg0, e⟩ <;> rw [e]
  · exact ⟨hd, hg, rfl, rfl, rfl, rfl, rfl⟩
  · by_cases hgg : g = g0
    · subst hgg
      rw [hg0] at hg; cases hg
      exact ⟨_, aget_aset_same _ _ _, rfl, rfl, rfl, rfl, rfl⟩
    · exact ⟨hd, by rw [aget_aset_other _ _ _ _ hgg]; exact hg, rfl, rfl, rfl, rfl, rfl⟩

/-- `nullConnsList` on one entry -/
def nullFL (cids : List Nat) (p : Option Nat) : Option Nat :=
  match p with
  | some c => if c ∈ cids then none else some c
  | none => none

theorem nullFL_cons (x : Nat) (t : List Nat) (p : Option Nat) : nullFL t (nullF x p) = nullFL (x :: t) p := by
  cases p with
  | none => simp [nullF, nullFL]
  | some c =>
    by_cases h : c = x
    · subst h; simp [nullF, nullFL]
    · simp [nullF, nullFL, h]

/-- no entry of a table that went through `nullFL ids` points at one of `ids` -/
theorem nullFL_ne {ids : List Nat} {x : Nat} (hx : x ∈ ids) (p : Option (Option Nat)) :
    p.map (nullFL ids) ≠ some (some x) := by
  rcases p with _ | _ | y <;> simp [nullFL]
  rintro h rfl; exact h hx

theorem nullConnsList_eq (cids : List Nat) (s : St) :
    nullConnsList s cids = { s with C := amap s.C (nullFL cids), K := amap s.K (nullFL cids),
                                    ownedK := amap s.ownedK (nullFL cids) } := by
  induction cids generalizing s with
  | nil =>
    have e : ∀ l : List (Nat × Option Nat), amap l (nullFL []) = l := by
      intro l
      have : ∀ p : Option Nat, nullFL [] p = p := fun p => by cases p <;> simp [nullFL]
      simp [amap, this]
    simp only [e]
    rfl
  | cons x t ih =>
    show nullConnsList (nullConns s x) t = _
    rw [ih, nullConns_eq]
    simp only [amap_amap, nullFL_cons]

theorem nullConnsList_C_entry (cids : List Nat) (s : St) (c : Nat) :
    aget (nullConnsList s cids).C c = (aget s.C c).map (nullFL cids) := by
  rw [nullConnsList_eq]; exact aget_amap _ _ _

theorem nullConnsList_K_entry (cids : List Nat) (s : St) (c : Nat) :
    aget (nullConnsList s cids).K c = (aget s.K c).map (nullFL cids) := by
  rw [nullConnsList_eq]; exact aget_amap _ _ _

/-- `gcImpl`'s test -/
def refersTo (G : List (Nat × Handle)) (i : Nat) : Bool := G.any (fun p => p.2.impl = some i)

theorem refersTo_of_aget (G : List (Nat × Handle)) (g i : Nat) (h : Handle) (hg : aget G g = some h) (hi : h.impl = some i) :
    refersTo G i = true := by
  unfold refersTo
  rw [List.any_eq_true]
  exact ⟨(g, h), mem_of_aget hg, by simp [hi]⟩

theorem gcImpl_referred (s : St) (i : Nat) (h : refersTo s.G i = true) : gcImpl s i = s := by
  unfold gcImpl
  split
  · rfl
  · unfold refersTo at h; simp [h]

/-- a list held by a running emission (`signal_impl_holder`) is left alone -/
theorem gcImpl_held (s : St) (i : Nat) (im : Impl) (hi : aget s.impls i = some im) (hh : im.holders ≠ 0) : gcImpl s i = s := by
  unfold gcImpl
  simp [hi, hh]

theorem gcImpl_last (s : St) (i : Nat) (im : Impl) (hi : aget s.impls i = some im) (hh : im.holders = 0)
    (hr : refersTo s.G i = false) :
    gcImpl s i = nullConnsList { s with impls := adel s.impls i } (im.cells.map (·.id)) := by
  unfold gcImpl
  unfold refersTo at hr
  simp [hi, hh, hr]

theorem gcImpl_absent (s : St) (i : Nat) (hi : aget s.impls i = none) : gcImpl s i = s := by
  unfold gcImpl; simp [hi]

theorem gcImpl_cases (s : St) (i : Nat) : gcImpl s i = s ∨
    ∃ im, aget s.impls i = some im ∧ im.holders = 0 ∧ refersTo s.G i = false ∧
      gcImpl s i = nullConnsList { s with impls := adel s.impls i } (im.cells.map (·.id)) := by
  cases hi : aget s.impls i with
  | none => exact Or.inl (gcImpl_absent s i hi)
  | some im =>
    by_cases hh : im.holders = 0
    · cases hr : refersTo s.G i with
      | true => exact Or.inl (gcImpl_referred s i hr)
      | false => exact Or.inr ⟨im, rfl, hh, rfl, gcImpl_last s i im hi hh hr⟩
    · exact Or.inl (gcImpl_held s i im hi hh)

theorem gcImpl_blind {γ : Type} {π : St → γ} (h : LibBlind π) (s : St) (i : Nat) : π (gcImpl s i) = π s :=
  (h.prims _).gcImpl i rfl

@[simp] theorem gcImpl_T (s : St) (i : Nat) : (gcImpl s i).T = s.T :=
  gcImpl_blind (π := (·.T)) (fun _ _ _ _ _ _ => rfl) s i
@[simp] theorem gcImpl_next (s : St) (i : Nat) : (gcImpl s i).next = s.next :=
  gcImpl_blind (π := (·.next)) (fun _ _ _ _ _ _ => rfl) s i
@[simp] theorem gcImpl_trace (s : St) (i : Nat) : (gcImpl s i).trace = s.trace :=
  gcImpl_blind (π := (·.trace)) (fun _ _ _ _ _ _ => rfl) s i

theorem gcImpl_impls_cases (s : St) (i : Nat) : (gcImpl s i).impls = s.impls ∨ (gcImpl s i).impls = adel s.impls i := by
  rcases gcImpl_cases s i with e | ⟨_, _, _, _, e⟩ <;> rw [e]
  · exact .inl rfl
  · exact .inr (nullConnsList_impls _ _)

theorem gcImpl_other (s : St) (i k : Nat) (hk : k ≠ i) : aget (gcImpl s i).impls k = aget s.impls k := by
  rcases gcImpl_impls_cases s i with e | e <;> rw [e]
  exact aget_adel_other _ _ _ hk

/-! ### functor copies held by a list that is torn down -/

def implLive (fid : Nat) (im : Impl) : Nat := (im.cells.map (fun c => c.slot.live fid)).sum

theorem liveCount_eq (s : St) (fid : Nat) :
    liveCount s fid = (s.S.map (fun p => p.2.slot.live fid)).sum + (s.impls.map (fun p => implLive fid p.2)).sum := rfl

theorem gcImpl_last_liveCount (s : St) (i : Nat) (im : Impl) (fid : Nat) (hi : aget s.impls i = some im) (hh : im.holders = 0)
    (hr : refersTo s.G i = false) :
    liveCount (gcImpl s i) fid + implLive fid im ≤ liveCount s fid ∧
    ((s.impls.map (·.1)).Nodup → liveCount (gcImpl s i) fid + implLive fid im = liveCount s fid) := by
  rw [gcImpl_last s i im hi hh hr, liveCount_eq, liveCount_eq, nullConnsList_S, nullConnsList_impls]
  simp only []
  constructor
  · have := sum_adel_le (implLive fid) hi
    omega
  · intro hn
    have := sum_adel_eq (implLive fid) hi hn
    omega

end Sigc.StepHandles
