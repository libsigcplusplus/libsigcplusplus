import Sigc.Spec
import Sigc.Lemmas.Basic
/-!
# SpecBasic — lemmas of `Spec`'s own definitions, for every family that reasons about `S`

The functor invoked at an entry's turn (`callFn`, `callable`) with `turns_cons`, `deref_eq` through it; one emission
(`emitSig_some` over `proState`, `snapOf`, `epi`); which fields `removeCell`, `updCell`, `gcSig`, `dropHandle` can change;
`collectStep` by cases, `collect` to the end; `Releases R`: the elementary ways of letting go that `removeCell`, `gcSig`,
`dropHandle`, `collect` consist of, so that a relation admitting them holds across these; `LSig.remove` in the two
configurations; `stepSimple` on single operations (`onList`: those on a signal object's list); `Spec.teardown` as
sequences of operations (`Refine.Td.sSeq`).  The families have these functions under names of their own, with the same
bodies: `SpecK.callable`, `StepIter.specCallable`, `SpecP.callable` are `callable`; `SpecP.enter s i g` is
`proState s i g s.k2`, `SpecP.snapOf b fl g` is `snapOf g b fl`, `SpecP.closeSig m g` is `epi g m` (no equation is stated:
`SpecP.turns_cons` and `SpecP.emitSig_eq` accept the lemmas of this file by unfolding).
-/
namespace Sigc.Spec
open Sigc.Model

/-- the functor a slot value is invoked with: the slot must be unblocked and valid -/
def callFn (sl : SlotB) : Option Fun :=
  match sl with
  | { blocked := false, rep := some { call := true, fn := some fn } } => some fn
  | _ => none

/-- the functor `S` invokes when entry `cid` of list `i` gets its turn -/
def callable (s : LSt) (i cid : Nat) : Option Fun :=
  match (aget s.sigs i).bind (fun g => g.cells.find? (·.id = cid)) with
  | some { slot := { blocked := false, rep := some { call := true, fn := some fn } }, .. } => some fn
  | _ => none

/-- the `match` by which `turns` and `deref` decide whether to invoke, as `callFn` of the entry's slot -/
theorem cell_match {α : Type} (c : Option LCell) (a : Fun → α) (b : α) :
    (match c with
     | some { slot := { blocked := false, rep := some { call := true, fn := some fn } }, .. } => a fn
     | _ => b) =
    match c.bind (fun c => callFn c.slot) with
    | none => b
    | some fn => a fn := by
  rcases c with _ | ⟨id, ⟨_ | _, _ | ⟨_ | _, _ | fn⟩⟩, mk, zo⟩ <;> rfl

theorem callable_eq (s : LSt) (i cid : Nat) :
    callable s i cid = ((aget s.sigs i).bind (fun g => g.cells.find? (·.id = cid))).bind (fun c => callFn c.slot) :=
  (cell_match _ some none).trans (by cases Option.bind _ fun c : LCell => callFn c.slot <;> rfl)

theorem callFn_eq_some {sl : SlotB} {fn : Fun} :
    callFn sl = some fn ↔ sl.blocked = false ∧ sl.rep = some { call := true, fn := some fn } := by
  rcases sl with ⟨_ | _, _ | ⟨_ | _, _ | f⟩⟩ <;> simp [callFn]

theorem callFn_empty {sl : SlotB} (h : sl.empty = true) : callFn sl = none := by
  rcases sl with ⟨_ | _, _ | ⟨_ | _, _ | f⟩⟩ <;> first | rfl | simp [SlotB.empty] at h

theorem turns_cons (f : Nat) (P : Prog) (s : LSt) (i cid : Nat) (rest : List Nat) (arg r : Nat) :
    turns (f+1) P s i (cid :: rest) arg r =
      (match (match callable s i cid with
              | none => some (s, Outcome.ok, r)
              | some fn => invokeFun f P s fn arg) with
       | none => none
       | some (s, .exc, v) => some (s, .exc, v)
       | some (s, .ok, v) => turns f P s i rest arg v) := by
  rw [turns, callable_eq, ← cell_match]
  rfl

theorem deref_eq (f : Nat) (P : Prog) (s : LSt) (i : Nat) (snap : List Nat) (it : It) (arg : Nat) :
    deref (f+1) P s i snap it arg =
      (match snap[it.pos]? with
       | none => some (s, .ok, it)
       | some cid =>
         match callable s i cid with
         | none => some (s, .ok, it)
         | some fn =>
           if it.invoked then some (s, .ok, it) else
           match invokeFun f P s fn arg with
           | none => none
           | some (s, .exc, _) => some (s, .exc, it)
           | some (s, .ok, v) => some (s, .ok, { it with buf := v, invoked := true })) := by
  rw [Spec.deref]
  cases snap[it.pos]? with
  | none => rfl
  | some cid =>
    dsimp only
    rw [callable_eq, ← cell_match]
    rfl

/-! ## one emission

`emitSig` on an existing list: the turns (or the accumulator's strategy) run in `proState` over the snapshot `snapOf`, both
taken before any functor runs; afterwards the list is closed (`epi`), collected if nothing refers to it, and `collect` runs.
`b` stands for the flag `k2` of the state. -/

/-- the state in which the turns of an emission of list `i` (= `g`) run: one more emission in progress and one id consumed;
    with `k2`, an end marker with that id appended -/
def proState (s : LSt) (i : Nat) (g : LSig) (b : Bool) : LSt :=
  setSig { s with next := s.next + 1 } i
    { g with active := g.active + 1,
             cells := if b then g.cells ++ [{ id := s.next, slot := {}, marker := true }] else g.cells }

/-- the snapshot of an emission (with `k2`, an accumulated emission takes the end markers and zombies too) -/
def snapOf (g : LSig) (b : Bool) (fl : Flavour) : List Nat :=
  (g.cells.filter (fun c => (b && fl.isAcc) || (!c.marker && !c.zombie))).map (·.id)

/-- the list at the end of one of its emissions (`m` = the id consumed by the prologue) -/
def epi (g2 : LSig) (m : Nat) : LSig :=
  let g3 := { g2 with active := g2.active - 1, cells := g2.cells.filter (·.id ≠ m) }
  let g3 := if g3.active = 0 then { g3 with cells := g3.cells.filter (fun c => !c.zombie), limbo := [] } else g3
  if g3.active = 0 && g3.dirty then { g3 with dirty := false, cells := g3.cells.filter (fun c => !c.slot.empty) }
  else g3

theorem emitSig_some (f : Nat) (P : Prog) (s : LSt) (fl : Flavour) (i arg : Nat) (strat : Strat) (g : LSig)
    (hx : aget s.sigs i = some g) (b : Bool) (hk : s.k2 = b) :
    Spec.emitSig (f+1) P s fl (some i) arg strat =
      if (b && !fl.isAcc && g.cells.isEmpty) = true then some (s, .ok, 0) else
      match (if fl.isAcc = true then Spec.runStrat f P (proState s i g b) i (snapOf g b fl) arg (strat.forFlavour fl)
             else Spec.turns f P (proState s i g b) i (snapOf g b fl) arg 0) with
      | none => none
      | some (s3, o, v) =>
        match aget s3.sigs i with
        | none => some (s3.fail "emit: list died during its emission", o, v)
        | some g2 => some (Spec.collect (gcSig (setSig s3 i (epi g2 s.next)) i), o, v) := by
  subst hk
  unfold Spec.emitSig
  simp only [hx, LSt.fresh]
  rfl

/-! ## which fields the state transformers can change

`removeCell`, `updCell` and `gcSig` change `sigs` only, `dropHandle` changes `S`, `sigs` and `G` only: after rewriting with
one of these equations every other field of the result is the field of `s` by `rfl`. -/

theorem removeCell_only_sigs (s : LSt) (cid : Nat) : removeCell s cid = { s with sigs := (removeCell s cid).sigs } := by
  unfold removeCell
  split
  · rfl
  · split <;> rfl

theorem updCell_only_sigs (s : LSt) (cid : Nat) (f : LCell → LCell) :
    updCell s cid f = { s with sigs := (updCell s cid f).sigs } := by
  unfold updCell
  split
  · rfl
  · split <;> rfl

theorem gcSig_only_sigs (s : LSt) (i : Nat) : gcSig s i = { s with sigs := (gcSig s i).sigs } := by
  unfold gcSig
  split
  · rfl
  · split <;> rfl

theorem dropHandle_fields (s : LSt) (g : Nat) :
    dropHandle s g = { s with S := (dropHandle s g).S, sigs := (dropHandle s g).sigs, G := (dropHandle s g).G } := by
  unfold dropHandle
  split
  · rfl
  · next h _ =>
    cases h.impl with
    | none => cases h.fl.isTrackable <;> rfl
    | some im =>
      dsimp only
      cases h.fl.isTrackable
      all_goals
        rw [gcSig_only_sigs]
        rfl

/-! ## `gcSig`, `dropHandle`, `ensureSig` -/

theorem gcSig_sigs_other (s : LSt) (i k : Nat) (hk : k ≠ i) : aget (gcSig s i).sigs k = aget s.sigs k := by
  unfold gcSig
  split
  · rfl
  · split
    · exact aget_adel_other _ _ _ hk
    · rfl

theorem gcSig_eq (s : LSt) (i : Nat) (g : LSig) (hg : aget s.sigs i = some g) :
    gcSig s i = if g.active = 0 ∧ ∀ p ∈ s.G, p.2.impl ≠ some i then { s with sigs := adel s.sigs i } else s := by
  have hc : (g.active = 0 && !(s.G.any (fun p => p.2.impl = some i))) = true ↔
      (g.active = 0 ∧ ∀ p ∈ s.G, p.2.impl ≠ some i) := by simp
  unfold gcSig
  simp only [hg, hc]

theorem dropHandle_eq (s : LSt) (g : Nat) (h : Handle) (hg : aget s.G g = some h) :
    dropHandle s g =
      (match h.impl with
       | some im => gcSig { (if h.fl.isTrackable then invalidateTrackable s h.trk else s) with
                            G := adel (if h.fl.isTrackable then invalidateTrackable s h.trk else s).G g } im
       | none => { (if h.fl.isTrackable then invalidateTrackable s h.trk else s) with
                   G := adel (if h.fl.isTrackable then invalidateTrackable s h.trk else s).G g }) := by
  unfold dropHandle
  simp only [hg]
  cases h.impl <;> rfl

theorem dropHandle_dead (s : LSt) (g : Nat) (hg : aget s.G g = none) : dropHandle s g = s := by
  unfold dropHandle
  simp only [hg]

theorem dropHandle_G (s : LSt) (g g' : Nat) : aget (dropHandle s g).G g' = aget (adel s.G g) g' := by
  cases hg : aget s.G g with
  | none =>
    rw [dropHandle_dead s g hg, Emit.aget_adel]
    split
    · next e => rw [e, hg]
    · rfl
  | some h =>
    rw [dropHandle_eq s g h hg]
    cases h.impl with
    | none => cases h.fl.isTrackable <;> rfl
    | some im => dsimp only; rw [gcSig_only_sigs]; cases h.fl.isTrackable <;> rfl

theorem gcSig_ref {s : LSt} {i : Nat} (h : s.G.any (fun p => p.2.impl = some i) = true) : gcSig s i = s := by
  unfold gcSig
  cases aget s.sigs i with
  | none => rfl
  | some g => simp [h]

theorem ensureSig_spec (s s1 : LSt) (g im : Nat) (h : ensureSig s g = some (s1, im)) :
    ∃ h0 h1, aget s.G g = some h0 ∧ aget s1.G g = some h1 ∧ h1.impl = some im ∧ h1.fl = h0.fl ∧ h1.lvl = h0.lvl ∧
      h1.obj = h0.obj ∧ h1.trk = h0.trk ∧ (∀ k, k ≠ g → aget s1.G k = aget s.G k) ∧
      (h0.impl = some im → s1 = s) ∧ (h0.impl = none ∨ h0.impl = some im) ∧ s1.ownedG = s.ownedG := by
  unfold ensureSig at h
  cases hg : aget s.G g with
  | none => simp [hg] at h
  | some h0 =>
    simp only [hg] at h
    cases hi : h0.impl with
    | some i0 =>
      simp only [hi, Option.some.injEq, Prod.mk.injEq] at h
      obtain ⟨rfl, rfl⟩ := h
      exact ⟨h0, h0, rfl, hg, hi, rfl, rfl, rfl, rfl, fun _ _ => rfl, fun _ => rfl, Or.inr hi, rfl⟩
    | none =>
      simp only [hi, LSt.fresh, Option.some.injEq, Prod.mk.injEq] at h
      obtain ⟨rfl, rfl⟩ := h
      refine ⟨h0, { h0 with impl := some s.next }, rfl, aget_aset_same _ _ _, rfl, rfl, rfl, rfl, rfl,
        fun k hk => aget_aset_other _ _ _ _ hk, fun hc => (by rw [hi] at hc; cases hc), Or.inl hi, rfl⟩

/-! ## `collect` -/

theorem collectStep_cases (s s' : LSt) (h : collectStep s = some s') :
    (∃ o, s.ownedT.find? (fun o => !heldT s o) = some o ∧
       s' = invalidateTrackable { s with ownedT := s.ownedT.filter (· ≠ o) } o) ∨
    (∃ k p, s.ownedT.find? (fun o => !heldT s o) = none ∧ s.ownedK.find? (fun p => !heldK s p.1) = some (k, p) ∧
       s' = (match p with
             | some cid => removeCell { s with ownedK := s.ownedK.filter (fun q => q.1 ≠ k) } cid
             | none => { s with ownedK := s.ownedK.filter (fun q => q.1 ≠ k) })) ∨
    (∃ k g, s.ownedT.find? (fun o => !heldT s o) = none ∧ s.ownedK.find? (fun p => !heldK s p.1) = none ∧
       s.ownedG.find? (fun p => !heldK s p.1) = some (k, g) ∧
       s' = dropHandle { s with ownedG := s.ownedG.filter (fun q => q.1 ≠ k) } g) := by
  unfold collectStep at h
  split at h
  · next o ho => exact .inl ⟨o, ho, (Option.some.inj h).symm⟩
  · next hT =>
    split at h
    · next k p hK => exact .inr (.inl ⟨k, p, hT, hK, (Option.some.inj h).symm⟩)
    · next hK =>
      split at h
      · next k g hG => exact .inr (.inr ⟨k, g, hT, hK, hG, (Option.some.inj h).symm⟩)
      · cases h

/-- The ways `S` lets go of something, as what a relation `R` between states has to admit (beside being reflexive and
    transitive): entries leave a list or become zombies (`remove`: disconnect, `clear`, and `invalidate`: the death of a
    trackable, in every list at once); a list with no emission in progress is dropped (`delSig`); a signal object's name
    goes (`delG`); an owned trackable, scoped connection or signal object is struck off its register (`ownedT`, `ownedK`,
    `ownedG`).  `removeCell`, `gcSig`, `dropHandle`, `collectStep` and `collect` consist of these and nothing else, so `R`
    holds across them: `Releases.removeCell` … `Releases.collect`. -/
structure Releases (R : LSt → LSt → Prop) : Prop where
  refl : ∀ s, R s s
  trans : ∀ {a b c}, R a b → R b c → R a c
  remove : ∀ {s i g} (d : Bool) (p : LCell → Bool), aget s.sigs i = some g → R s (setSig s i (g.remove s.k1 s.k2 d p))
  invalidate : ∀ s t, R s (invalidateTrackable s t)
  delSig : ∀ {s i g}, aget s.sigs i = some g → g.active = 0 → R s { s with sigs := adel s.sigs i }
  delG : ∀ s g, R s { s with G := adel s.G g }
  ownedT : ∀ s (q : Nat → Bool), R s { s with ownedT := s.ownedT.filter q }
  ownedK : ∀ s (q : Nat × Option Nat → Bool), R s { s with ownedK := s.ownedK.filter q }
  ownedG : ∀ s (q : Nat × Nat → Bool), R s { s with ownedG := s.ownedG.filter q }

theorem Releases.removeCell {R : LSt → LSt → Prop} (h : Releases R) (s : LSt) (cid : Nat) : R s (removeCell s cid) := by
  unfold Spec.removeCell
  split
  · exact h.refl s
  · split
    · exact h.refl s
    · next hg => exact h.remove _ _ hg

theorem Releases.gcSig {R : LSt → LSt → Prop} (h : Releases R) (s : LSt) (i : Nat) : R s (gcSig s i) := by
  unfold Spec.gcSig
  split
  · exact h.refl s
  · next g hg =>
    split
    · next hc =>
      simp only [Bool.and_eq_true, decide_eq_true_eq] at hc
      exact h.delSig hg hc.1
    · exact h.refl s

theorem Releases.dropHandle {R : LSt → LSt → Prop} (h : Releases R) (s : LSt) (g : Nat) : R s (dropHandle s g) := by
  cases hg : aget s.G g with
  | none => rw [dropHandle_dead s g hg]; exact h.refl s
  | some hd =>
    rw [dropHandle_eq s g hd hg]
    have h1 : R s (if hd.fl.isTrackable then invalidateTrackable s hd.trk else s) := by
      split
      · exact h.invalidate _ _
      · exact h.refl s
    generalize (if hd.fl.isTrackable then invalidateTrackable s hd.trk else s) = s1 at h1
    cases hd.impl with
    | none => exact h.trans h1 (h.delG _ _)
    | some im => exact h.trans (h.trans h1 (h.delG _ _)) (h.gcSig _ _)

theorem Releases.collectStep {R : LSt → LSt → Prop} (h : Releases R) {s s' : LSt} (hs : collectStep s = some s') : R s s' := by
  rcases collectStep_cases s s' hs with ⟨o, _, rfl⟩ | ⟨k, p, _, _, rfl⟩ | ⟨k, g, _, _, _, rfl⟩
  · exact h.trans (h.ownedT s _) (h.invalidate _ _)
  · cases p with
    | none => exact h.ownedK s _
    | some cid => exact h.trans (h.ownedK s _) (h.removeCell _ _)
  · exact h.trans (h.ownedG s _) (h.dropHandle _ _)

theorem Releases.collectN {R : LSt → LSt → Prop} (h : Releases R) (n : Nat) : ∀ s, R s (collectN n s) := by
  induction n with
  | zero => exact h.refl
  | succ n ih =>
    intro s
    unfold Spec.collectN
    split
    · next s' hs => exact h.trans (h.collectStep hs) (ih s')
    · exact h.refl s

theorem Releases.collect {R : LSt → LSt → Prop} (h : Releases R) (s : LSt) : R s (collect s) := h.collectN _ s

theorem collectStep_none_iff (s : LSt) :
    collectStep s = none ↔ (∀ o ∈ s.ownedT, heldT s o = true) ∧ (∀ p ∈ s.ownedK, heldK s p.1 = true) ∧
      (∀ p ∈ s.ownedG, heldK s p.1 = true) := by
  constructor
  · intro h
    unfold collectStep at h
    split at h
    · cases h
    · rename_i hT
      split at h
      · cases h
      · rename_i hK
        split at h
        · cases h
        · rename_i hG
          rw [List.find?_eq_none] at hT hK hG
          exact ⟨fun o ho => by simpa using hT o ho, fun p hp => by simpa using hK p hp,
            fun p hp => by simpa using hG p hp⟩
  · rintro ⟨hT, hK, hG⟩
    cases hc : collectStep s with
    | none => rfl
    | some s' =>
      rcases collectStep_cases s s' hc with ⟨o, ho, _⟩ | ⟨k, p, _, hk, _⟩ | ⟨k, g, _, _, hg, _⟩
      · have := List.find?_some ho
        simp [hT o (List.mem_of_find?_eq_some ho)] at this
      · have := List.find?_some hk
        simp [hK _ (List.mem_of_find?_eq_some hk)] at this
      · have := List.find?_some hg
        simp [hG _ (List.mem_of_find?_eq_some hg)] at this

/-- the number of owned objects: what every `collectStep` lowers -/
def ownMeasure (s : LSt) : Nat := s.ownedT.length + s.ownedK.length + s.ownedG.length

theorem collectStep_measure (s s' : LSt) (h : collectStep s = some s') : ownMeasure s' < ownMeasure s := by
  have lt : ∀ {α : Type} (l : List α) (p : α → Bool) (a : α), a ∈ l → p a = false → (l.filter p).length < l.length :=
    fun l p a ha hp => List.length_filter_lt_length_iff_exists.2 ⟨a, ha, by simp [hp]⟩
  rcases collectStep_cases s s' h with ⟨o, ho, rfl⟩ | ⟨k, p, _, hK, rfl⟩ | ⟨k, g, _, _, hG, rfl⟩
  · have := lt s.ownedT (· ≠ o) o (List.mem_of_find?_eq_some ho) (by simp)
    simp only [ownMeasure, invalidateTrackable]
    omega
  · have := lt s.ownedK (fun q => q.1 ≠ k) (k, p) (List.mem_of_find?_eq_some hK) (by simp)
    cases p with
    | none => simp only [ownMeasure]; omega
    | some cid => dsimp only; rw [removeCell_only_sigs]; simp only [ownMeasure]; omega
  · have := lt s.ownedG (fun q => q.1 ≠ k) (k, g) (List.mem_of_find?_eq_some hG) (by simp)
    rw [dropHandle_fields]; simp only [ownMeasure]; omega

theorem collectN_complete (n : Nat) : ∀ s, ownMeasure s ≤ n → collectStep (collectN n s) = none := by
  induction n with
  | zero =>
    intro s h
    cases hs : collectStep s with
    | none => exact hs
    | some s' => have := collectStep_measure s s' hs; omega
  | succ n ih =>
    intro s h
    unfold collectN
    split
    · rename_i s' hs
      have := collectStep_measure s s' hs
      exact ih s' (by omega)
    · rename_i hs; exact hs

theorem collectStep_collect (s : LSt) : collectStep (collect s) = none :=
  collectN_complete _ s (Nat.le_refl _)

/-! ## `LSig.remove`

With `k2`, while an emission of the list runs, an entry that is hit stays as a zombie position (`zomb`); otherwise it is
filtered out (the configurations differ here, in the three tests of `k2` in `emitSig`, and in its epilogue on `dirty` and
zombies). -/

theorem remove_ids (g : LSig) (k1 k2 d : Bool) (p : LCell → Bool) (c : LCell) (hc : c ∈ (g.remove k1 k2 d p).cells) :
    ∃ c0 ∈ g.cells, c0.id = c.id := by
  unfold LSig.remove at hc
  simp only at hc
  split at hc
  · simp only [List.mem_map] at hc
    obtain ⟨c0, hc0, rfl⟩ := hc
    refine ⟨c0, hc0, ?_⟩
    split <;> rfl
  · exact ⟨c, (List.mem_filter.1 hc).1, rfl⟩

/-- what `LSig.remove` does to one entry while an emission runs (`k2`) -/
def zomb (d : Bool) (p : LCell → Bool) (c : LCell) : LCell :=
  if p c && !c.marker && !c.zombie then
    { c with zombie := true, slot := if d then c.slot.invalidate else c.slot.disconnectRep }
  else c

theorem zomb_id (d : Bool) (p : LCell → Bool) (c : LCell) : (zomb d p c).id = c.id := by
  unfold zomb; split <;> rfl

theorem zomb_marker (d : Bool) (p : LCell → Bool) (c : LCell) : (zomb d p c).marker = c.marker := by
  unfold zomb; split <;> rfl

theorem zomb_keep {d : Bool} {p : LCell → Bool} {c : LCell} (h : p c = false) : zomb d p c = c := by
  unfold zomb; simp [h]

theorem zomb_congr {d : Bool} {p q : LCell → Bool} {c : LCell} (h : c.zombie = false → c.marker = false → p c = q c) :
    zomb d p c = zomb d q c := by
  unfold zomb
  cases hz : c.zombie <;> cases hm : c.marker
  · rw [h hz hm]
  all_goals simp

theorem remove_known (g : LSig) (d : Bool) (p : LCell → Bool) :
    g.remove true true d p =
      { g with cells := if g.active > 0 then g.cells.map (zomb d p) else g.cells.filter (fun c => !(p c) || c.marker),
               dirty := g.dirty || (decide (g.active > 0) && g.cells.any (fun c => p c && !c.zombie && !c.marker)) } := by
  unfold LSig.remove zomb
  simp

theorem remove_pure (g : LSig) (d : Bool) (p : LCell → Bool) :
    g.remove false false d p =
      { g with cells := g.cells.filter (fun c => !(p c) || c.marker),
               limbo := if g.active > 0 ∧ d = false then
                          g.limbo ++ ((g.cells.filter (fun c => p c && !c.marker)).map (·.slot))
                        else g.limbo } := by
  unfold LSig.remove
  simp

/-! ## single operations -/

theorem execOp_simple (f : Nat) (P : Prog) (s : LSt) (op : Op)
    (hc : ∀ i arg, op ≠ .callS i arg) (he : ∀ g a st t, op ≠ .emit g a st t) (ht : op ≠ .throw_) :
    execOp (f+1) P s op =
      (match modeRule P s op with
       | some r => some (s, .ok r)
       | none =>
         match stepSimple s op with
         | some (s, r) => some (s, .ok r)
         | none => some (s, .ok "badop")) := by
  rw [execOp]
  · rfl
  · exact hc
  · exact he
  · exact ht

theorem mkFun_fn (s : LSt) (v : Bool) (fid : Nat) : Spec.mkFun s v (.fn fid) = .ok (.leaf fid [], s) := rfl

theorem mkFun_ownG (s : LSt) (v : Bool) (fid g : Nat) :
    Spec.mkFun s v (.ownG fid g) =
      match aget s.G g with
      | none => .error "dead"
      | some h =>
        if (h.everFwd && !h.fl.isTrackable) = true then .error "pinned"
        else if s.ownedG.any (fun p => p.2 = g) = true then .error "owned"
        else .ok (.owner fid [] [s.next], { s with next := s.next + 1, ownedG := (s.next, g) :: s.ownedG }) := rfl

theorem stepSimple_delG (s : LSt) (g : Nat) :
    Spec.stepSimple s (.delG g) =
      match aget s.G g with
      | none => some (s, "dead")
      | some h =>
        if (h.everFwd && !h.fl.isTrackable) = true then some (s, "pinned")
        else if s.ownedG.any (fun p => p.2 = g) = true then some (s, "owned")
        else some (dropHandle s g, "ok") := by
  conv => lhs; whnf
  cases hg : aget s.G g with
  | none => rfl
  | some h =>
    rw [dropHandle_eq s g h hg]
    dsimp only
    cases h.impl <;> rfl

/-- the shape of the operations on the list of the signal object named `g` -/
def onList {α : Type} (s : LSt) (g : Nat) (dead nolist : α) (f : Nat → LSig → α) : α :=
  match aget s.G g with
  | none => dead
  | some h =>
    match h.impl with
    | none => nolist
    | some im =>
      match aget s.sigs im with
      | none => nolist
      | some x => f im x

theorem stepSimple_clear (s : LSt) (g : Nat) : Spec.stepSimple s (.clear g) =
    onList s g (some (s, "dead")) (some (s, "ok"))
      (fun im x => some (setSig s im (x.remove s.k1 s.k2 false (fun _ => true)), "ok")) := rfl

theorem stepSimple_sizeq (s : LSt) (g : Nat) : Spec.stepSimple s (.sizeq g) =
    onList s g (some (s, "dead")) (some (s, "0"))
      (fun _ x => some (s, if x.active > 0 then "*" else toString x.cells.length)) := rfl

theorem stepSimple_emptyGq (s : LSt) (g : Nat) : Spec.stepSimple s (.emptyGq g) =
    onList s g (some (s, "dead")) (some (s, "1"))
      (fun _ x => some (s, if x.active > 0 then "*" else bstr x.cells.isEmpty)) := rfl

theorem stepSimple_blockedGq (s : LSt) (g : Nat) : Spec.stepSimple s (.blockedGq g) =
    onList s g (some (s, "dead")) (some (s, "1"))
      (fun _ x => some (s, if x.active > 0 then "*" else bstr (x.cells.all (·.slot.blocked)))) := rfl

theorem stepSimple_blockG (s : LSt) (g : Nat) (b : Bool) : Spec.stepSimple s (.blockG g b) =
    onList s g (some (s, "dead")) (some (s, "ok"))
      (fun im x => some (setSig s im { x with cells := x.cells.map (fun c => { c with slot := { c.slot with blocked := b } }) }, "ok")) :=
  rfl

theorem onList_of {α : Type} (s : LSt) (g im : Nat) (h : Handle) (x : LSig) (d n : α) (f : Nat → LSig → α)
    (hg : aget s.G g = some h) (hi : h.impl = some im) (hx : aget s.sigs im = some x) :
    onList s g d n f = f im x := by simp only [onList, hg, hi, hx]

theorem onList_nolist {α : Type} (s : LSt) (g : Nat) (h : Handle) (d n : α) (f : Nat → LSig → α)
    (hg : aget s.G g = some h) (hi : h.impl = none) : onList s g d n f = n := by simp only [onList, hg, hi]

theorem onList_congr {α : Type} (s : LSt) (g1 g2 : Nat) (h1 h2 : Handle) (d n : α) (f : Nat → LSig → α)
    (hg1 : aget s.G g1 = some h1) (hg2 : aget s.G g2 = some h2) (himpl : h1.impl = h2.impl) :
    onList s g1 d n f = onList s g2 d n f := by simp only [onList, hg1, hg2, himpl]

theorem stepSimple_blockS (s : LSt) (i : Nat) (b : Bool) (v : SlotVar) (hv : aget s.S i = some v) :
    stepSimple s (.blockS i b) =
      some ({ s with S := aset s.S i { v with slot := { v.slot with blocked := b } } }, bstr v.slot.blocked) := by
  conv => lhs; whnf
  simp only [hv]

end Sigc.Spec

namespace Sigc.Refine.Td
open Sigc.Model

/-- one operation of `Spec.teardown`: the answer is dropped -/
def sQuiet (f : Nat) (P : Prog) (t : Spec.LSt) (op : Op) : Option Spec.LSt :=
  match Spec.execOp f P t op with
  | none => none
  | some (t, _) => some t

/-- `ops` in order, until one runs out of fuel; `Spec.teardown` is three of these and a `foldl dropHandle` (`spec_teardown_eq`) -/
def sSeq (f : Nat) (P : Prog) (t : Option Spec.LSt) (ops : List Op) : Option Spec.LSt :=
  ops.foldl (fun acc op => acc.bind (fun t => sQuiet f P t op)) t

theorem spec_teardown_eq (f : Nat) (P : Prog) (t : Spec.LSt) :
    Spec.teardown f P t =
      match sSeq f P (some t) ((sortedKeys t.K).map Op.delK) with
      | none => none
      | some t =>
        match sSeq f P (some t) ((sortedKeys t.C).map Op.delC ++ (sortedKeys t.S).map Op.delS
                          ++ (sortedKeys t.G).map Op.clear) with
        | none => none
        | some t =>
          let t := (sortedKeys t.G).foldl Spec.dropHandle t
          sSeq f P (some t) ((sortedKeys t.T).map Op.delT) := rfl

theorem sSeq_none (f : Nat) (P : Prog) (ops : List Op) : sSeq f P none ops = none := by
  induction ops with
  | nil => rfl
  | cons o os ih => simpa [sSeq] using ih

theorem sSeq_cons (f : Nat) (P : Prog) (t : Spec.LSt) (o : Op) (os : List Op) :
    sSeq f P (some t) (o :: os) = sSeq f P (sQuiet f P t o) os := by
  simp [sSeq]

theorem sSeq_append (f : Nat) (P : Prog) (t : Option Spec.LSt) (a b : List Op) :
    sSeq f P t (a ++ b) = sSeq f P (sSeq f P t a) b := by
  simp [sSeq, List.foldl_append]

end Sigc.Refine.Td
