import Sigc.Lemmas.InvTeardown
import Sigc.Lemmas.StepSlots
/-! accounting of functor copies (`liveCount`) under the operations that destroy reps: `eraseCell`, `sweep` and `~signal_impl`
(`gcImpl`) release exactly the copies held by the cells they remove (stated for the library in `Props/C07`) -/
namespace Sigc.Inv
open Sigc.Model

/-- copies of functor `fid` held by the cells of one impl -/
def cellsLive (fid : Nat) (cs : List Cell) : Nat := (cs.map (fun c => c.slot.live fid)).sum

def implsLive (fid : Nat) (impls : List (Nat × Impl)) : Nat :=
  (impls.map (fun p => cellsLive fid p.2.cells)).sum

def slotsLive (fid : Nat) (S : List (Nat × SlotVar)) : Nat := (S.map (fun p => p.2.slot.live fid)).sum

theorem liveCount_eq (s : St) (fid : Nat) : liveCount s fid = slotsLive fid s.S + implsLive fid s.impls := rfl

theorem implsLive_aset {fid : Nat} {impls : List (Nat × Impl)} {i : Nat} {im im' : Impl}
    (hi : aget impls i = some im) :
    implsLive fid (aset impls i im') + cellsLive fid im.cells = implsLive fid impls + cellsLive fid im'.cells := by
  have := StepSlots.sum_aset impls i im' (fun im => cellsLive fid im.cells)
  rwa [hi] at this

theorem cellsLive_filter (fid : Nat) (p : Cell → Bool) (cs : List Cell) :
    cellsLive fid (cs.filter p) + cellsLive fid (cs.filter (fun c => !p c)) = cellsLive fid cs := by
  induction cs with
  | nil => rfl
  | cons c t ih =>
    cases hp : p c
    · simp only [List.filter_cons, hp, Bool.false_eq_true, if_false, Bool.not_false, if_true, cellsLive,
        List.map_cons, List.sum_cons] at ih ⊢
      omega
    · simp only [List.filter_cons, hp, if_true, Bool.not_true, Bool.false_eq_true, if_false, cellsLive,
        List.map_cons, List.sum_cons] at ih ⊢
      omega

@[simp] theorem nullConns_S' (s : St) (c : Nat) : (nullConns s c).S = s.S := rfl

theorem liveCount_eraseCell {s : St} {i cid : Nat} {im : Impl} (hi : aget s.impls i = some im) (fid : Nat) :
    liveCount (eraseCell s i cid) fid + cellsLive fid (im.cells.filter (fun c => !decide (c.id ≠ cid))) =
      liveCount s fid := by
  simp only [eraseCell, hi, liveCount_eq, nullConns_impls, nullConns_S', setImpl_impls]
  have h1 := implsLive_aset (fid := fid) (im' := { im with cells := im.cells.filter (fun c => decide (c.id ≠ cid)) }) hi
  have h2 := cellsLive_filter fid (fun c => decide (c.id ≠ cid)) im.cells
  simp only [setImpl] at h1 ⊢
  omega

theorem liveCount_sweep {s : St} {i : Nat} {im : Impl} (hi : aget s.impls i = some im) (fid : Nat) :
    liveCount (sweep s i) fid + cellsLive fid (im.cells.filter (fun c => c.slot.empty)) = liveCount s fid := by
  simp only [sweep, hi, liveCount_eq, nullConnsList_impls, nullConnsList_S, setImpl_impls]
  have h1 := implsLive_aset (fid := fid)
    (im' := { im with deferred := false, cells := im.cells.filter (fun c => !c.slot.empty) }) hi
  have h2 := cellsLive_filter fid (fun c => !c.slot.empty) im.cells
  simp only [Bool.not_not] at h2
  simp only [setImpl] at h1 ⊢
  omega

theorem liveCount_gcImpl_removed {s : St} (hw : WF s) {i : Nat} {im : Impl} (hi : aget s.impls i = some im)
    (hrm : aget (gcImpl s i).impls i = none) (fid : Nat) :
    liveCount (gcImpl s i) fid + cellsLive fid im.cells = liveCount s fid := by
  rcases StepHandles.gcImpl_cases s i with e | ⟨im', hi', hh, hr, -⟩
  · rw [e, hi] at hrm; cases hrm
  · cases hi.symm.trans hi'
    exact (StepHandles.gcImpl_last_liveCount s i im fid hi hh hr).2 hw.keys

theorem live_invalidate (sl : SlotB) (fid : Nat) : sl.invalidate.live fid = 0 := by
  simp only [SlotB.invalidate, SlotB.live]
  cases h : sl.rep <;> simp [h]

theorem live_disconnectRep (sl : SlotB) (fid : Nat) : sl.disconnectRep.live fid = sl.live fid := by
  simp only [SlotB.disconnectRep, SlotB.live]
  cases h : sl.rep with
  | none => simp [h]
  | some r => obtain ⟨c, f⟩ := r; cases f <;> simp

theorem liveTotal_nil {s : St} (hS : s.S = []) (hI : s.impls = []) : liveTotal s = 0 := by
  simp [liveTotal, hS, hI]

theorem liveCount_nil {s : St} (hS : s.S = []) (hI : s.impls = []) (fid : Nat) : liveCount s fid = 0 := by
  simp [liveCount, hS, hI]

end Sigc.Inv
