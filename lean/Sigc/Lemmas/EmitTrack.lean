import Sigc.Lemmas.EmitPrim
import Sigc.Lemmas.InvTracks
/-! `invalidateTrackable s t` preserves `InvX` and is a `Frame` step, and after it no slot held by the library
still refers to `t`: a forwarder to a destroyed `trackable_signal` is gone.  What only needs unique ids comes from
`Inv.WF`, which `InvX` implies (`InvX.wf`) -/
namespace Sigc.Emit
open Sigc.Model

/-- the first half of `invalidateTrackable`: the slot variables that refer to `t` are invalidated -/
theorem good_invalidateVars {off} {s : St} (h : InvX off s) (t : Nat) :
    Good off s { s with S := amap s.S (fun v => if v.slot.tracksObj t then { v with slot := v.slot.invalidate } else v) } := by
  refine ⟨h.writeS fun j w hw => ?_, .of_impls (Nat.le_refl _) rfl fun j => ?_⟩
  · simp only [aget_amap] at hw
    cases hj : aget s.S j with
    | none => rw [hj] at hw; simp at hw
    | some v =>
      rw [hj] at hw; simp at hw; subst hw
      split
      · exact (h.fwdS j v hj).invalidate
      · exact h.fwdS j v hj
  · simp only [incallOf, aget_amap]
    cases hj : aget s.S j with
    | none => simp
    | some v => simp; split <;> rfl

theorem good_invalidateTrackable {off} {s : St} (h : InvX off s) (t : Nat) :
    Good off s (invalidateTrackable s t) :=
  (good_invalidateVars h t).trans
    (Good.foldl invalidateCell (fun _ c hh => Good.invalidateCell hh c) (good_invalidateVars h t).inv _)

theorem good_invalidateTrackable' {off} {s s0 : St} (h : InvX off s) (hi : s0.impls = s.impls) (hG : s0.G = s.G)
    (hS : s0.S = s.S) (he : s0.err = s.err) (hn : s.next ≤ s0.next) (t : Nat)
    (hO : s0.ownedG = s.ownedG := by first | rfl | assumption) :
    Good off s (invalidateTrackable s0 t) :=
  .of_core_then h (fun h => good_invalidateTrackable h t) hi hG hS he hO hn

theorem invalidateTrackable_G (s : St) (t : Nat) : (invalidateTrackable s t).G = s.G :=
  Model.invalidateTrackable_G s t

theorem getCell_of_mem {off} {s : St} (h : InvX off s) {i : Nat} {im : Impl} (hi : aget s.impls i = some im)
    {cid : Nat} (hc : cid ∈ cids im) : ∃ c, getCell s cid = some (i, c) := by
  obtain ⟨c, hc', rfl⟩ := List.mem_map.mp hc
  exact ⟨c, Inv.getCell_of_mem h.wf hi hc'⟩

theorem mem_victims (impls : List (Nat × Impl)) (t k : Nat) :
    k ∈ impls.foldr (fun p acc => ((p.2.cells.filter (fun c => c.slot.tracksObj t)).map (·.id)) ++ acc) [] ↔
    ∃ p ∈ impls, ∃ c ∈ p.2.cells, c.slot.tracksObj t = true ∧ c.id = k := by
  induction impls with
  | nil => simp
  | cons q tl ih =>
    simp only [List.foldr_cons, List.mem_append, ih, List.mem_map, List.mem_filter, List.mem_cons]
    constructor
    · rintro (⟨c, ⟨hc, ht⟩, rfl⟩ | ⟨p, hp, c, hc, ht, rfl⟩)
      · exact ⟨q, Or.inl rfl, c, hc, ht, rfl⟩
      · exact ⟨p, Or.inr hp, c, hc, ht, rfl⟩
    · rintro ⟨p, hp | hp, c, hc, ht, rfl⟩
      · subst hp; exact Or.inl ⟨c, ⟨hc, ht⟩, rfl⟩
      · exact Or.inr ⟨p, hp, c, hc, ht, rfl⟩

theorem noTrack_invalidateTrackable {off} {s : St} (h : InvX off s) (t : Nat) :
    (∀ i v, aget (invalidateTrackable s t).S i = some v → v.slot.tracksObj t = false) ∧
    (∀ i im, aget (invalidateTrackable s t).impls i = some im → ∀ c ∈ im.cells, c.slot.tracksObj t = false) :=
  let n := Inv.invalidateTrackable_notrack h.wf t
  ⟨fun i v hv => n.1 (i, v) (aget_some_mem hv), fun i im hi c hc => n.2 i im c hi hc⟩

end Sigc.Emit
