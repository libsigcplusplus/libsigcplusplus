import Sigc.Lemmas.RefineDefs
import Sigc.Lemmas.StepLog
import Sigc.Lemmas.Built
import Sigc.Lemmas.InvPrims
/-!
`Keeps s s'`, a frame property of the model alone: nesting depth unchanged, allocation counter monotone, unlinked cells stay
unlinked.  It holds for every piece of model code, for all states (no invariant needed).  For the cascades of the library it
comes from `Inv.PrimsL` (`prim_lib`): only the three updates of cells and the invalidation of slot variables are looked at.
-/
namespace Sigc.Refine
open Sigc.Model

structure Keeps (s s' : St) : Prop where
  depth : s'.depth = s.depth
  next : s.next ≤ s'.next
  off : ∀ Z, Off Z s → Off Z s'

theorem Keeps.refl (s : St) : Keeps s s := ⟨rfl, Nat.le_refl _, fun _ h => h⟩

theorem Keeps.trans {a b c : St} (h1 : Keeps a b) (h2 : Keeps b c) : Keeps a c :=
  ⟨h2.depth.trans h1.depth, Nat.le_trans h1.next h2.next, fun Z h => h2.off Z (h1.off Z h)⟩

theorem Keeps.after {a b c : St} (h2 : Keeps b c) (h1 : Keeps a b) : Keeps a c := h1.trans h2


/-- every linked cell of `l'` was linked in `l` -/
def Sub (l l' : List (Nat × Impl)) : Prop :=
  ∀ p' ∈ l', ∀ c' ∈ p'.2.cells, c'.linked = true →
    ∃ p ∈ l, ∃ c ∈ p.2.cells, c.id = c'.id ∧ c.linked = true

/-- `Sub`, or the cell is fresh (`n ≤ id`) -/
def CF (n : Nat) (l l' : List (Nat × Impl)) : Prop :=
  ∀ p' ∈ l', ∀ c' ∈ p'.2.cells, c'.linked = true →
    n ≤ c'.id ∨ ∃ p ∈ l, ∃ c ∈ p.2.cells, c.id = c'.id ∧ c.linked = true

theorem Sub.refl (l : List (Nat × Impl)) : Sub l l := fun p hp c hc hl => ⟨p, hp, c, hc, rfl, hl⟩

theorem Sub.trans {a b c : List (Nat × Impl)} (h1 : Sub a b) (h2 : Sub b c) : Sub a c := by
  intro p' hp' c' hc' hl
  obtain ⟨p, hp, c0, hc0, hid, hl0⟩ := h2 p' hp' c' hc' hl
  obtain ⟨q, hq, d, hd, hid2, hl2⟩ := h1 p hp c0 hc0 hl0
  exact ⟨q, hq, d, hd, hid2.trans hid, hl2⟩

theorem Sub.of_eq {a b : List (Nat × Impl)} (h : b = a) : Sub a b := h ▸ Sub.refl a

theorem CF.of_sub {n : Nat} {a b : List (Nat × Impl)} (h : Sub a b) : CF n a b :=
  fun p hp c hc hl => Or.inr (h p hp c hc hl)

theorem Keeps.of_cf {s s' : St} (hd : s'.depth = s.depth) (hn : s.next ≤ s'.next)
    (hc : CF s.next s.impls s'.impls) : Keeps s s' := by
  refine ⟨hd, hn, ?_⟩
  intro Z hoff
  obtain ⟨hz, ho⟩ := hoff
  refine ⟨fun z h => Nat.lt_of_lt_of_le (hz z h) hn, ?_⟩
  intro p' hp' c' hc' hcz
  cases hlk : c'.linked with
  | false => rfl
  | true =>
    rcases hc p' hp' c' hc' hlk with h | ⟨p, hp, c, hcc, hid, hl⟩
    · have := hz _ hcz
      omega
    · have := ho p hp c hcc (by rw [hid]; exact hcz)
      rw [this] at hl; contradiction

theorem Keeps.of_sub {s s' : St} (hd : s'.depth = s.depth) (hn : s.next ≤ s'.next)
    (hc : Sub s.impls s'.impls) : Keeps s s' := Keeps.of_cf hd hn (CF.of_sub hc)

theorem Keeps.of_eq {s s' : St} (hi : s'.impls = s.impls) (hn : s.next ≤ s'.next) (hd : s'.depth = s.depth) :
    Keeps s s' := Keeps.of_sub hd hn (Sub.of_eq hi)

theorem sub_aset {l : List (Nat × Impl)} {i : Nat} {im : Impl}
    (h : ∀ c' ∈ im.cells, c'.linked = true → ∃ p ∈ l, ∃ c ∈ p.2.cells, c.id = c'.id ∧ c.linked = true) :
    Sub l (aset l i im) := by
  intro p' hp' c' hc' hl
  rcases Emit.mem_aset hp' with hp | rfl
  · exact ⟨p', hp, c', hc', rfl, hl⟩
  · exact h c' hc' hl


/-- what a cascade of the library does: it allocates nothing and links no cell -/
structure Prim (a b : St) : Prop where
  depth : b.depth = a.depth
  next : b.next = a.next
  sub : Sub a.impls b.impls

theorem Prim.refl (s : St) : Prim s s := ⟨rfl, rfl, Sub.refl _⟩

theorem Prim.trans {a b c : St} (h1 : Prim a b) (h2 : Prim b c) : Prim a c :=
  ⟨h2.depth.trans h1.depth, h2.next.trans h1.next, h1.sub.trans h2.sub⟩


theorem Prim.keeps {a b : St} (h : Prim a b) : Keeps a b :=
  Keeps.of_sub h.depth (Nat.le_of_eq h.next.symm) h.sub

theorem Prim.of_eq {a b : St} (hd : b.depth = a.depth) (hn : b.next = a.next) (hi : b.impls = a.impls) :
    Prim a b := ⟨hd, hn, Sub.of_eq hi⟩

theorem prim_fail (s : St) (m : String) : Prim s (s.fail m) := by
  unfold St.fail; split
  · exact Prim.of_eq rfl rfl rfl
  · exact Prim.refl s

theorem prim_nullConns (s : St) (cid : Nat) : Prim s (nullConns s cid) := Prim.of_eq rfl rfl rfl

theorem prim_nullConnsList (s : St) (cids : List Nat) : Prim s (nullConnsList s cids) := by
  unfold nullConnsList
  induction cids generalizing s with
  | nil => exact .refl s
  | cons c t ih => exact (prim_nullConns s c).trans (ih _)

theorem prim_setImpl_of {s : St} {i : Nat} {im0 : Impl} (hg : aget s.impls i = some im0) (im : Impl)
    (h : ∀ c' ∈ im.cells, c'.linked = true → ∃ c ∈ im0.cells, c.id = c'.id ∧ c.linked = true) :
    Prim s (setImpl s i im) :=
  ⟨rfl, rfl, sub_aset (fun c' hc' hl =>
    let ⟨c, hc, hid, hlk⟩ := h c' hc' hl
    ⟨(i, im0), Emit.aget_some_mem hg, c, hc, hid, hlk⟩)⟩

/-- the updates out of which the cascades of the library are built are `Prim` steps (a cell that an update leaves
    linked was linked before), so every cascade is: `Inv.PrimsL` -/
theorem prim_lib (a : St) : Inv.PrimsL (Prim a) where
  upd s i im g e d h hi hg := by
    refine h.trans (prim_setImpl_of hi _ (fun c' hc' hl => ?_))
    obtain ⟨c, hc, rfl⟩ := List.mem_map.mp hc'
    refine ⟨c, hc, (hg c).1.symm, ?_⟩
    rcases (hg c).2.2 with e | e
    · rw [e] at hl; cases hl
    · rw [← e]; exact hl
  filter s i im p d ids h hi _ :=
    (h.trans (prim_setImpl_of hi _ (fun c' hc' hl => ⟨c', (List.mem_filter.mp hc').1, rfl, hl⟩))).trans
      (prim_nullConnsList _ _)
  delImpl s i im h _ _ _ :=
    (h.trans (c := { s with impls := adel s.impls i })
      ⟨rfl, rfl, fun p hp c hc hl => ⟨p, (Emit.mem_adel hp).1, c, hc, rfl, hl⟩⟩).trans (prim_nullConnsList _ _)
  invalS _ _ h := h.trans (Prim.of_eq rfl rfl rfl)

theorem prim_dropHandle (s : St) (g : Nat) : Prim s (dropHandle s g) :=
  (prim_lib s).dropHandle g (fun _ h => h.trans (Prim.of_eq rfl rfl rfl)) (.refl s)

theorem prim_collectStep {s s' : St} (h : collectStep s = some s') : Prim s s' :=
  (prim_lib s).collectStep (fun _ _ h => h.trans (Prim.of_eq rfl rfl rfl)) (fun _ _ h => h.trans (Prim.of_eq rfl rfl rfl))
    (fun _ _ g h _ => (prim_lib s).dropHandle g (fun _ h => h.trans (Prim.of_eq rfl rfl rfl))
      (h.trans (Prim.of_eq rfl rfl rfl))) (.refl s) h

theorem prim_collectN (n : Nat) (s : St) : Prim s (collectN n s) :=
  Inv.collectN_preserved (I := Prim s) (fun _ _ h hc => h.trans (prim_collectStep hc)) n s (.refl s)


theorem keeps_fail (s : St) (m : String) : Keeps s (s.fail m) := (prim_fail s m).keeps
theorem keeps_nullConns (s : St) (cid : Nat) : Keeps s (nullConns s cid) := (prim_nullConns s cid).keeps
theorem keeps_nullConnsList (s : St) (cids : List Nat) : Keeps s (nullConnsList s cids) :=
  (prim_nullConnsList s cids).keeps
theorem keeps_setConn (s : St) (k : Nat) (p : Option Nat) : Keeps s (setConn s k p) := Keeps.of_eq rfl (Nat.le_refl _) rfl
theorem keeps_setImpl (s : St) (i : Nat) (im : Impl)
    (h : ∀ c' ∈ im.cells, c'.linked = true → ∃ p ∈ s.impls, ∃ c ∈ p.2.cells, c.id = c'.id ∧ c.linked = true) :
    Keeps s (setImpl s i im) := Prim.keeps ⟨rfl, rfl, sub_aset h⟩
theorem keeps_setImpl_of {s : St} {i : Nat} {im0 : Impl} (hg : aget s.impls i = some im0) (im : Impl)
    (h : ∀ c' ∈ im.cells, c'.linked = true → ∃ c ∈ im0.cells, c.id = c'.id ∧ c.linked = true) :
    Keeps s (setImpl s i im) := (prim_setImpl_of hg im h).keeps
theorem keeps_setImpl_fresh (s : St) (i : Nat) (im : Impl)
    (h : ∀ c' ∈ im.cells, c'.linked = true →
      s.next ≤ c'.id ∨ ∃ p ∈ s.impls, ∃ c ∈ p.2.cells, c.id = c'.id ∧ c.linked = true) :
    Keeps s (setImpl s i im) := by
  refine Keeps.of_cf rfl (Nat.le_refl _) ?_
  intro p' hp' c' hc' hl
  rcases Emit.mem_aset hp' with hp | rfl
  · exact Or.inr ⟨p', hp, c', hc', rfl, hl⟩
  · exact h c' hc' hl
theorem keeps_updCell (s : St) (i cid : Nat) (f : Cell → Cell) (hid : ∀ c, (f c).id = c.id)
    (hl : ∀ c, (f c).linked = false ∨ (f c).linked = c.linked) : Keeps s (updCell s i cid f) := by
  refine Prim.keeps ?_
  unfold updCell
  split
  · exact Prim.refl _
  · rename_i im him
    apply prim_setImpl_of him
    intro c' hc' hlk
    simp only [List.mem_map] at hc'
    obtain ⟨c, hc, rfl⟩ := hc'
    by_cases e : c.id = cid
    · rw [if_pos e] at hlk ⊢
      refine ⟨c, hc, (hid c).symm, ?_⟩
      rcases hl c with h | h
      · rw [h] at hlk; contradiction
      · rw [← h]; exact hlk
    · rw [if_neg e] at hlk ⊢
      exact ⟨c, hc, rfl, hlk⟩
theorem keeps_eraseCell (s : St) (i cid : Nat) : Keeps s (eraseCell s i cid) := ((prim_lib s).eraseCell i cid (.refl s)).keeps
theorem keeps_sweep (s : St) (i : Nat) : Keeps s (sweep s i) := ((prim_lib s).sweep i (.refl s)).keeps
theorem keeps_unrefExec (s : St) (i : Nat) : Keeps s (unrefExec s i) := ((prim_lib s).unrefExec i (.refl s)).keeps
theorem keeps_gcImpl (s : St) (i : Nat) : Keeps s (gcImpl s i) := ((prim_lib s).gcImpl i (.refl s)).keeps
theorem keeps_notifyParent (s : St) (i cid : Nat) : Keeps s (notifyParent s i cid) :=
  ((prim_lib s).notifyParent i cid (.refl s)).keeps
theorem keeps_disconnectCell (s : St) (cid : Nat) : Keeps s (disconnectCell s cid) :=
  ((prim_lib s).disconnectCell cid (.refl s)).keeps
theorem keeps_invalidateCell (s : St) (cid : Nat) : Keeps s (invalidateCell s cid) :=
  ((prim_lib s).invalidateCell cid (.refl s)).keeps
theorem keeps_invalidateTrackable (s : St) (t : Nat) : Keeps s (invalidateTrackable s t) :=
  ((prim_lib s).invalidateTrackable t (.refl s)).keeps
theorem keeps_clearImpl (s : St) (i : Nat) : Keeps s (clearImpl s i) := ((prim_lib s).clearImpl i (.refl s)).keeps
theorem keeps_connBlock (s : St) (p : Option Nat) (b : Bool) : Keeps s (connBlock s p b) :=
  ((prim_lib s).connBlock p b (.refl s)).keeps
theorem keeps_collectStep {s s' : St} (h : collectStep s = some s') : Keeps s s' := (prim_collectStep h).keeps
theorem keeps_collectN (n : Nat) (s : St) : Keeps s (collectN n s) := (prim_collectN n s).keeps
theorem keeps_collect (s : St) : Keeps s (collect s) := (prim_collectN _ s).keeps

theorem keeps_ensureImpl {s s' : St} {g i : Nat} (h : ensureImpl s g = some (s', i)) : Keeps s s' := by
  unfold ensureImpl at h
  split at h
  · simp at h
  · split at h
    · simp at h; obtain ⟨rfl, _⟩ := h; exact Keeps.refl _
    · simp [St.fresh] at h; obtain ⟨rfl, _⟩ := h
      exact Keeps.of_sub rfl (Nat.le_succ _) (sub_aset (fun c' hc' _ => by simp at hc'))

theorem keeps_made {s s' : St} {fn : Fun} {τ : Int} (m : MkFun s τ fn s') : Keeps s s' :=
  let ⟨hi, hn, _, _, _, hd⟩ := m.frame
  Keeps.of_eq hi hn hd

theorem keeps_mkFun {s s' : St} {v : Bool} {spec : FSpec} {fn : Fun} (h : mkFun s v spec = .ok (fn, s')) :
    Keeps s s' := keeps_made (mkFun_cases h)

theorem keeps_insertCell (s : St) (i : Nat) (first : Bool) (sl : SlotB) : Keeps s (insertCell s i first sl).1 := by
  refine Keeps.of_cf (StepIter.insertCell_depth s i first sl) (by rw [insertCell_next]; exact Nat.le_succ _) ?_
  unfold insertCell
  simp only [St.fresh]
  split
  · exact CF.of_sub (prim_fail _ _).sub
  · rename_i im him
    intro p' hp' c' hc' hl
    rcases Emit.mem_aset hp' with hp | rfl
    · exact Or.inr ⟨p', hp, c', hc', rfl, hl⟩
    · simp only at hc'
      split at hc'
      · rcases List.mem_cons.mp hc' with e | e
        · left; rw [e]; exact Nat.le_refl _
        · exact Or.inr ⟨(i, im), Emit.aget_some_mem him, c', e, rfl, hl⟩
      · rcases List.mem_append.mp hc' with e | e
        · exact Or.inr ⟨(i, im), Emit.aget_some_mem him, c', e, rfl, hl⟩
        · left; simp at e; rw [e]; exact Nat.le_refl _

end Sigc.Refine
