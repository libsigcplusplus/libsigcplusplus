import Sigc.Spec
import Sigc.Lemmas.SpecBasic
import Sigc.Lemmas.FuelMono
/-!
`FuelMono` for the specification: every function of the mutual block of `Sigc.Spec`, `Spec.runTop`, `Spec.teardown` and
`runProgramWith`.
-/
namespace Sigc.Fuel.S
open Sigc.Model Sigc.Spec

structure Mono (f g : Nat) : Prop where
  invoke : ∀ P s fn arg, Spec.invokeFun f P s fn arg ≠ none → Spec.invokeFun g P s fn arg = Spec.invokeFun f P s fn arg
  body : ∀ P s ls, Spec.runBody f P s ls ≠ none → Spec.runBody g P s ls = Spec.runBody f P s ls
  line : ∀ P s l, Spec.execLine f P s l ≠ none → Spec.execLine g P s l = Spec.execLine f P s l
  emit : ∀ P s fl impl arg st, emitSig f P s fl impl arg st ≠ none →
    emitSig g P s fl impl arg st = emitSig f P s fl impl arg st
  turns : ∀ P s i snap arg r, turns f P s i snap arg r ≠ none →
    turns g P s i snap arg r = turns f P s i snap arg r
  deref : ∀ P s i snap it arg, Spec.deref f P s i snap it arg ≠ none →
    Spec.deref g P s i snap it arg = Spec.deref f P s i snap it arg
  acc : ∀ P s i snap it arg mode k r, Spec.accLoop f P s i snap it arg mode k r ≠ none →
    Spec.accLoop g P s i snap it arg mode k r = Spec.accLoop f P s i snap it arg mode k r
  rev : ∀ P s i snap it arg r, Spec.revLoop f P s i snap it arg r ≠ none →
    Spec.revLoop g P s i snap it arg r = Spec.revLoop f P s i snap it arg r
  walk : ∀ P s i snap it arg cs r, Spec.walkLoop f P s i snap it arg cs r ≠ none →
    Spec.walkLoop g P s i snap it arg cs r = Spec.walkLoop f P s i snap it arg cs r
  strat : ∀ P s i snap arg st, Spec.runStrat f P s i snap arg st ≠ none →
    Spec.runStrat g P s i snap arg st = Spec.runStrat f P s i snap arg st
  op : ∀ P s o, Spec.execOp f P s o ≠ none → Spec.execOp g P s o = Spec.execOp f P s o

theorem mono_zero (g : Nat) : Mono 0 g := by
  constructor
  · intro P s fn arg h; exact absurd (by rw [Spec.invokeFun.eq_def]) h
  · intro P s ls h; exact absurd (by rw [Spec.runBody.eq_def]) h
  · intro P s l h; exact absurd (by rw [Spec.execLine.eq_def]) h
  · intro P s fl impl arg st h; exact absurd (by rw [emitSig.eq_def]) h
  · intro P s i snap arg r h; exact absurd (by rw [turns.eq_def]) h
  · intro P s i snap it arg h; exact absurd (by rw [Spec.deref.eq_def]) h
  · intro P s i snap it arg mode k r h; exact absurd (by rw [Spec.accLoop.eq_def]) h
  · intro P s i snap it arg r h; exact absurd (by rw [Spec.revLoop.eq_def]) h
  · intro P s i snap it arg cs r h; exact absurd (by rw [Spec.walkLoop.eq_def]) h
  · intro P s i snap arg st h; exact absurd (by rw [Spec.runStrat.eq_def]) h
  · intro P s o h; exact absurd (by rw [Spec.execOp.eq_def]) h

theorem mono_succ {f g : Nat} (ih : Mono f g) : Mono (f+1) (g+1) where
  invoke P s fn arg := show Le _ _ by
    cases fn with
    | leaf fid _ | owner fid _ _ =>
      rw [Spec.invokeFun, Spec.invokeFun]
      split
      · exact Le.refl _
      · refine Le.elim (ih.body _ _ _) (fun _ => Le.none _) ?_
        split <;> exact Le.refl _
    | nest blocked inner =>
      cases inner with
      | none => rw [Spec.invokeFun, Spec.invokeFun]; exact Le.refl _
      | some g' =>
        rw [Spec.invokeFun, Spec.invokeFun]
        exact Le.ite (fun _ => Le.refl _) fun _ => ih.invoke _ _ _ _
    | fwd o _ =>
      rw [Spec.invokeFun, Spec.invokeFun]
      split
      · exact Le.refl _
      · exact ih.emit _ _ _ _ _ _
  body P s ls := show Le _ _ by
    cases ls with
    | nil => rw [Spec.runBody, Spec.runBody]; exact Le.refl _
    | cons l ls =>
      rw [Spec.runBody, Spec.runBody]
      refine Le.elim (ih.line _ _ _) (fun _ => Le.none _) ?_
      split
      · exact Le.refl _
      · exact Le.refl _
      · exact ih.body _ _ _
  line P s l := show Le _ _ by
    rw [Spec.execLine, Spec.execLine]
    refine Le.elim (ih.op _ _ _) (fun _ => Le.none _) ?_
    split <;> exact Le.refl _
  emit P s fl impl arg st := show Le _ _ by
    cases impl with
    | none => rw [emitSig, emitSig]; exact Le.refl _
    | some i =>
      rw [emitSig, emitSig]
      split
      · exact Le.refl _
      refine Le.ite (fun _ => Le.refl _) fun _ => ?_
      dsimp only [LSt.fresh]
      refine Le.elim (Le.ite (fun _ => ih.strat _ _ _ _ _ _) fun _ => ih.turns _ _ _ _ _ _) (fun _ => Le.none _) ?_
      exact Le.refl _
  turns P s i snap arg r := show Le _ _ by
    cases snap with
    | nil => rw [turns, turns]; exact Le.refl _
    | cons cid rest =>
      rw [Spec.turns_cons, Spec.turns_cons]
      cases callable s i cid with
      | none => exact ih.turns _ _ _ _ _ _
      | some fn =>
        dsimp only
        refine Le.elim (ih.invoke P s fn arg) (fun _ => Le.none _) ?_
        split
        · exact Le.refl _
        · exact Le.refl _
        · exact ih.turns _ _ _ _ _ _
  deref P s i snap it arg := show Le _ _ by
    rw [Spec.deref_eq, Spec.deref_eq]
    split
    · exact Le.refl _
    split
    · exact Le.refl _
    refine Le.ite (fun _ => Le.refl _) fun _ => Le.elim (ih.invoke _ _ _ _) (fun _ => Le.none _) ?_
    split <;> exact Le.refl _
  acc P s i snap it arg mode k r := show Le _ _ by
    rw [Spec.accLoop, Spec.accLoop]
    have next := ih.acc P
    refine Le.ite (fun _ => Le.refl _) fun _ => Le.ite (fun _ => next _ _ _ _ _ _ _ _) fun _ =>
      Le.elim (ih.deref P s i snap it arg) (fun _ => Le.none _) ?_
    split
    · exact Le.refl _
    · exact Le.refl _
    refine Le.ite (fun _ => Le.refl _) fun _ => Le.ite (fun _ => ?_) fun _ => next _ _ _ _ _ _ _ _
    refine Le.elim (ih.deref _ _ _ _ _ _) (fun _ => Le.none _) ?_
    split
    · exact Le.refl _
    · exact Le.refl _
    · exact next _ _ _ _ _ _ _ _
  rev P s i snap it arg r := show Le _ _ by
    rw [Spec.revLoop, Spec.revLoop]
    refine Le.ite (fun _ => Le.refl _) fun _ => ?_
    dsimp only
    refine Le.elim (ih.deref _ _ _ _ _ _) (fun _ => Le.none _) ?_
    split
    · exact Le.refl _
    · exact Le.refl _
    · exact ih.rev _ _ _ _ _ _ _
  walk P s i snap it arg cs r := show Le _ _ by
    cases cs with
    | nil => rw [Spec.walkLoop, Spec.walkLoop]; exact Le.refl _
    | cons c cs =>
      rw [Spec.walkLoop, Spec.walkLoop]
      have next := ih.walk P
      refine Le.ite (fun _ => Le.ite (fun _ => next _ _ _ _ _ _ _) fun _ => ?_) fun _ =>
        Le.ite (fun _ => Le.ite (fun _ => next _ _ _ _ _ _ _) fun _ => ?_) fun _ =>
        Le.ite (fun _ => Le.ite (fun _ => next _ _ _ _ _ _ _) fun _ => next _ _ _ _ _ _ _) fun _ =>
        Le.ite (fun _ => Le.ite (fun _ => next _ _ _ _ _ _ _) fun _ => next _ _ _ _ _ _ _) fun _ =>
          next _ _ _ _ _ _ _
      · refine Le.elim (ih.deref P s i snap it arg) (fun _ => Le.none _) ?_
        split
        · exact Le.refl _
        · exact Le.refl _
        · exact next _ _ _ _ _ _ _
      · refine Le.elim (ih.deref P s i snap it arg) (fun _ => Le.none _) ?_
        split
        · exact Le.refl _
        · exact Le.refl _
        · exact next _ _ _ _ _ _ _
  strat P s i snap arg st := show Le _ _ by
    rw [Spec.runStrat.eq_def, Spec.runStrat.eq_def]
    dsimp only
    split
    · exact ih.acc _ _ _ _ _ _ _ _ _
    · exact ih.acc _ _ _ _ _ _ _ _ _
    · exact ih.acc _ _ _ _ _ _ _ _ _
    · exact ih.acc _ _ _ _ _ _ _ _ _
    · exact ih.acc _ _ _ _ _ _ _ _ _
    · exact ih.rev _ _ _ _ _ _ _
    · exact ih.walk _ _ _ _ _ _ _ _
  op P s o := show Le _ _ by
    by_cases h1 : ∃ i arg, o = .callS i arg
    · obtain ⟨i, arg, rfl⟩ := h1
      rw [Spec.execOp, Spec.execOp]
      dsimp only
      split
      · exact Le.refl _
      refine Le.ite (fun _ => Le.refl _) fun _ => Le.ite (fun _ => Le.refl _) fun _ => ?_
      split
      · refine Le.ite (fun _ => Le.refl _) fun _ => Le.elim (ih.invoke _ _ _ _) (fun _ => Le.none _) ?_
        exact Le.refl _
      · exact Le.refl _
    by_cases h2 : ∃ g' arg st t, o = .emit g' arg st t
    · obtain ⟨g', arg, st, t, rfl⟩ := h2
      rw [Spec.execOp, Spec.execOp]
      dsimp only
      split
      · exact Le.refl _
      refine Le.ite (fun _ => Le.refl _) fun _ => Le.ite (fun _ => Le.refl _) fun _ =>
        Le.elim (ih.emit _ _ _ _ _ _) (fun _ => Le.none _) (Le.refl _)
    have h1' : ∀ i arg, o ≠ .callS i arg := fun i arg e => h1 ⟨i, arg, e⟩
    have h2' : ∀ g' arg st t, o ≠ .emit g' arg st t := fun g' arg st t e => h2 ⟨g', arg, st, t, e⟩
    by_cases h3 : o = .throw_
    · subst h3; rw [Spec.execOp, Spec.execOp]; exact Le.refl _
    rw [Spec.execOp_simple f P s o h1' h2' h3, Spec.execOp_simple g P s o h1' h2' h3]
    exact Le.refl _

theorem mono : ∀ {f g : Nat}, f ≤ g → Mono f g
  | 0, g, _ => mono_zero g
  | f+1, 0, h => absurd h (by omega)
  | f+1, g+1, h => mono_succ (mono (Nat.le_of_succ_le_succ h))

theorem invokeFun_mono {f g P s fn arg r} (hle : f ≤ g) (h : Spec.invokeFun f P s fn arg = some r) :
    Spec.invokeFun g P s fn arg = some r := of_ne_none ((mono hle).invoke P s fn arg) h
theorem runBody_mono {f g P s ls r} (hle : f ≤ g) (h : Spec.runBody f P s ls = some r) :
    Spec.runBody g P s ls = some r := of_ne_none ((mono hle).body P s ls) h
theorem emitSig_mono {f g P s fl impl arg st r} (hle : f ≤ g) (h : emitSig f P s fl impl arg st = some r) :
    emitSig g P s fl impl arg st = some r := of_ne_none ((mono hle).emit P s fl impl arg st) h
theorem turns_mono {f g P s i snap arg r0 r} (hle : f ≤ g) (h : turns f P s i snap arg r0 = some r) :
    turns g P s i snap arg r0 = some r := of_ne_none ((mono hle).turns P s i snap arg r0) h
theorem deref_mono {f g P s i snap it arg r} (hle : f ≤ g) (h : Spec.deref f P s i snap it arg = some r) :
    Spec.deref g P s i snap it arg = some r := of_ne_none ((mono hle).deref P s i snap it arg) h
theorem accLoop_mono {f g P s i snap it arg mode k r0 r} (hle : f ≤ g)
    (h : Spec.accLoop f P s i snap it arg mode k r0 = some r) : Spec.accLoop g P s i snap it arg mode k r0 = some r :=
  of_ne_none ((mono hle).acc P s i snap it arg mode k r0) h
theorem revLoop_mono {f g P s i snap it arg r0 r} (hle : f ≤ g) (h : Spec.revLoop f P s i snap it arg r0 = some r) :
    Spec.revLoop g P s i snap it arg r0 = some r := of_ne_none ((mono hle).rev P s i snap it arg r0) h
theorem walkLoop_mono {f g P s i snap it arg cs r0 r} (hle : f ≤ g)
    (h : Spec.walkLoop f P s i snap it arg cs r0 = some r) : Spec.walkLoop g P s i snap it arg cs r0 = some r :=
  of_ne_none ((mono hle).walk P s i snap it arg cs r0) h
theorem runStrat_mono {f g P s i snap arg st r} (hle : f ≤ g) (h : Spec.runStrat f P s i snap arg st = some r) :
    Spec.runStrat g P s i snap arg st = some r := of_ne_none ((mono hle).strat P s i snap arg st) h

theorem runTop_mono {f g : Nat} (hle : f ≤ g) (P : Prog) : ∀ (ls : List Line) (s r : LSt),
    Spec.runTop f P s ls = some r → Spec.runTop g P s ls = some r := by
  intro ls
  induction ls with
  | nil => intro s r h; simpa [Spec.runTop] using h
  | cons l ls ih =>
    intro s r h
    simp only [Spec.runTop] at h ⊢
    split at h
    · cases h
    · rename_i s1 o1 h1
      rw [of_ne_none ((mono hle).line P s l) h1]
      exact ih s1 r h

theorem teardown_mono {f g : Nat} (hle : f ≤ g) (P : Prog) (s r : LSt)
    (h : Spec.teardown f P s = some r) : Spec.teardown g P s = some r := by
  have hq : ∀ s o r, Refine.Td.sQuiet f P s o = some r → Refine.Td.sQuiet g P s o = some r := by
    intro s o r h
    unfold Refine.Td.sQuiet at h ⊢
    cases e : Spec.execOp f P s o with
    | none => rw [e] at h; cases h
    | some p => rw [of_ne_none ((mono hle).op P s o) e]; rw [e] at h; exact h
  -- `Refine.Td.sSeq f P` is `seqOps (Refine.Td.sQuiet f P)`
  have seq : ∀ ops s r, Refine.Td.sSeq f P (some s) ops = some r → Refine.Td.sSeq g P (some s) ops = some r :=
    fun ops s r => seqOps_mono hq ops (some s) (some s) r fun _ => id
  rw [Refine.Td.spec_teardown_eq] at h ⊢
  split at h
  · cases h
  · rename_i s1 h1
    rw [seq _ _ _ h1]
    simp only [] at h ⊢
    split at h
    · cases h
    · rename_i s2 h2
      rw [seq _ _ _ h2]
      exact seq _ _ _ h


/-- `Spec.runProgram` with the fuel as a parameter (`Spec.runProgram k1 k2 = runProgramWith defaultFuel k1 k2`) -/
def runProgramWith (fuel : Nat) (k1 k2 : Bool) (lines : List String) : List String :=
  let P := parseProg lines
  match Spec.runTop fuel P { k1 := k1, k2 := k2 } P.top with
  | none => ["SPEC-FUEL"]
  | some s =>
    match Spec.teardown fuel P s with
    | none => ["SPEC-FUEL"]
    | some s =>
      let body := (s.trace.reverse.map renderEvent) ++ [s!"0 final live={Spec.liveTotal s}"]
      match s.err with
      | none => body
      | some e => body ++ [s!"SPEC-ERROR {e}"]

theorem runProgram_eq_with (k1 k2 : Bool) (lines : List String) :
    Spec.runProgram k1 k2 lines = runProgramWith defaultFuel k1 k2 lines := rfl

theorem runProgramWith_mono {f g : Nat} (hle : f ≤ g) {k1 k2 : Bool} {lines : List String}
    (h : runProgramWith f k1 k2 lines ≠ ["SPEC-FUEL"]) :
    runProgramWith g k1 k2 lines = runProgramWith f k1 k2 lines := by
  unfold runProgramWith at h ⊢
  dsimp only at h ⊢
  cases h1 : Spec.runTop f (parseProg lines) { k1 := k1, k2 := k2 } (parseProg lines).top with
  | none => rw [h1] at h; exact absurd rfl h
  | some s =>
    rw [runTop_mono hle _ _ _ _ h1]
    rw [h1] at h
    dsimp only at h ⊢
    cases h2 : Spec.teardown f (parseProg lines) s with
    | none => rw [h2] at h; exact absurd rfl h
    | some t => rw [teardown_mono hle _ _ _ h2]

end Sigc.Fuel.S
