import Sigc.Lemmas.RefinePrimDisconnect
/-!
The primitives of the life time of lists and entries: `ensureImpl`, `insertCell`, `gcImpl`; queries and `block()` through a connection;
functor-copy counts; owned objects die with the last functor copy holding them (`collect` on both sides).
-/
namespace Sigc.Refine
open Sigc.Model
local macro "leaf" h:ident hR:term : tactic =>
  `(tactic| (cases $h:ident; exact ⟨_, _, rfl, $hR, .refl _⟩))


/-- errors are not part of the relation -/
theorem R.failL {s : St} {t : Spec.LSt} (hR : R s t) (m : String) : R (s.fail m) t := by
  unfold St.fail
  cases s.err
  · exact { hR with }
  · exact hR

theorem R.failR {s : St} {t : Spec.LSt} (hR : R s t) (m : String) : R s (t.fail m) := by
  unfold Spec.LSt.fail
  cases t.err
  · exact { hR with }
  · exact hR

/-- `signal_base::impl()` on both sides -/
theorem R_ensure {s : St} {t : Spec.LSt} (hR : R s t) (g : Nat) :
    (Model.ensureImpl s g = none → Spec.ensureSig t g = none) ∧
    (∀ s' i, Model.ensureImpl s g = some (s', i) → ∃ t', Spec.ensureSig t g = some (t', i) ∧ R s' t') := by
  unfold Model.ensureImpl Spec.ensureSig
  rw [hR.G]
  cases hg : aget s.G g with
  | none => simp
  | some h =>
    simp only
    cases hi : h.impl with
    | some i =>
      simp only
      refine ⟨by simp, ?_⟩
      intro s' i' he
      simp at he
      obtain ⟨rfl, rfl⟩ := he
      exact ⟨t, rfl, hR⟩
    | none =>
      simp only [St.fresh, Spec.LSt.fresh]
      refine ⟨by simp, ?_⟩
      intro s' i' he
      simp at he
      obtain ⟨rfl, rfl⟩ := he
      refine ⟨_, by rw [hR.next, hR.G], ?_⟩
      refine ((hR.lists0 (hR.sigs.set s.next ⟨.nil, rfl, rfl, rfl⟩) fun p' hp' k hk _ => ?_).fresh').updG _
      rcases Emit.mem_aset hp' with hp | rfl
      · exact ⟨p', hp, hk⟩
      · simp [Emit.cids] at hk

theorem normSlot_isSome (sl : SlotB) : (normSlot sl).rep.isSome = true := by
  unfold normSlot; cases h : sl.rep <;> simp [h]

theorem spec_insertCell_eq (t : Spec.LSt) (i : Nat) (first : Bool) (sl : SlotB) :
    Spec.insertCell t i first sl =
      match aget t.sigs i with
      | none => (({ t with next := t.next + 1 } : Spec.LSt).fail "insert: no list", t.next)
      | some g => (Spec.setSig { t with next := t.next + 1 } i
          { g with cells := if first then ({ id := t.next, slot := normSlot sl } : Spec.LCell) :: g.cells
                            else g.cells ++ [({ id := t.next, slot := normSlot sl } : Spec.LCell)] }, t.next) := by
  cases hr : sl.rep <;> cases hi : aget t.sigs i <;> simp [Spec.insertCell, Spec.LSt.fresh, normSlot, hr, hi]

/-- `signal_impl::insert` on both sides -/
theorem R_insert {s : St} {t : Spec.LSt} (hR : R s t) (i : Nat) (first : Bool) (sl : SlotB) :
    (Spec.insertCell t i first sl).2 = (Model.insertCell s i first sl).2 ∧
    R (Model.insertCell s i first sl).1 (Spec.insertCell t i first sl).1 := by
  rw [Model.insertCell_eq, spec_insertCell_eq]
  rcases hR.sigs.get i with ⟨h1, h2⟩ | ⟨im, g, h1, h2, hr⟩
  · simp only [h1, h2]
    exact ⟨hR.next, (hR.fresh.failL _).failR _⟩
  · simp only [h1, h2]
    refine ⟨hR.next, ?_⟩
    have hnew : CellR { id := s.next, slot := normSlot sl, linked := true } { id := t.next, slot := normSlot sl } :=
      ⟨hR.next, by simp, by simp, fun _ => rfl, fun h => by simp at h, fun _ => normSlot_isSome sl⟩
    -- the lists first (the new id is `t.next`, so no id below `t.next` is new), then the counter
    have key := hR.setSig h1
      (im' := { im with cells := if first then ({ id := s.next, slot := normSlot sl, linked := true } : Cell) :: im.cells
                                 else im.cells ++ [{ id := s.next, slot := normSlot sl, linked := true }] })
      (g' := { g with cells := if first then ({ id := t.next, slot := normSlot sl } : Spec.LCell) :: g.cells
                               else g.cells ++ [{ id := t.next, slot := normSlot sl }] })
      ⟨by cases first
          · exact hr.cells.append (.cons hnew .nil)
          · exact .cons hnew hr.cells, hr.active, hr.dirty, hr.limbo⟩
      (fun k hk hlt => by
        cases first <;> simp [Emit.cids] at hk <;> rcases hk with e | e
        · exact List.mem_map.mpr e
        · omega
        · omega
        · exact List.mem_map.mpr e)
    exact key.fresh

/-- `gcImpl` vs `gcSig`; of the invariant only the facts about `impls` / `next` are used (so the lemma also applies
    after a change of `G`) -/
theorem R_gc' {s : St} {t : Spec.LSt} (hkeys : (s.impls.map (·.1)).Nodup)
    (hlt : ∀ i im, aget s.impls i = some im → i < s.next ∧ ∀ k ∈ Emit.cids im, k < s.next)
    (hdisj : ∀ i j im jm, aget s.impls i = some im → aget s.impls j = some jm → i ≠ j →
      ∀ k ∈ Emit.cids im, k ∉ Emit.cids jm)
    (hR : R s t) (i : Nat) : R (gcImpl s i) (Spec.gcSig t i) := by
  unfold gcImpl Spec.gcSig
  rcases hR.sigs.get i with ⟨h1, h2⟩ | ⟨im, g, h1, h2, hr⟩
  · simp only [h1, h2]; exact hR
  · simp only [h1, h2, hr.active, hR.G]
    split
    · rw [Emit.nullConnsList_eq]
      refine (hR.lists (hR.sigs.del i) (fun p' hp' k hk _ => ⟨p', (Emit.mem_adel hp').1, hk⟩) (Emit.cids im)
        fun cid hc => ⟨(hlt i im h1).2 cid hc, fun q hq hin => ?_⟩).updG _
      obtain ⟨hq1, hq2⟩ := Emit.mem_adel hq
      exact hdisj q.1 i q.2 im (Emit.aget_of_mem_nodup hkeys (show (q.1, q.2) ∈ s.impls from hq1)) h1 hq2 cid hin hc
    · exact hR

theorem R_gc {s : St} {t : Spec.LSt} (hs : Emit.Inv s) (hR : R s t) (i : Nat) : R (gcImpl s i) (Spec.gcSig t i) :=
  R_gc' hs.keys hs.lt hs.disj hR i

/-- a signal object is destroyed: `delG`, and the death of a functor-owned signal in `collect` -/
theorem R_dropHandle {s : St} {t : Spec.LSt} (hs : Emit.Inv s) (hR : R s t) (g : Nat) :
    R (Model.dropHandle s g) (Spec.dropHandle t g) := by
  unfold Model.dropHandle Spec.dropHandle
  rw [hR.G]
  cases hg : aget s.G g with
  | none => exact hR
  | some hd =>
    simp only
    generalize hs1 : (if hd.fl.isTrackable = true then Model.invalidateTrackable s hd.trk else s) = s1
    generalize ht1 : (if hd.fl.isTrackable = true then Spec.invalidateTrackable t hd.trk else t) = t1
    have g1 : Emit.Good0 s s1 := by
      subst hs1; split
      · exact Emit.good_invalidateTrackable hs _
      · exact Emit.Good.refl hs
    have hR1 : R s1 t1 := by
      subst hs1; subst ht1; split
      · exact R_invalidateTrackable hs hR _
      · exact hR
    rw [hR1.G]
    have i1 := g1.inv
    cases him : hd.impl with
    | none => exact hR1.updG _
    | some im =>
      exact R_gc' (s := { s1 with G := Model.adel s1.G g }) i1.keys i1.lt i1.disj (hR1.updG _) im



theorem AR.set_left {α β : Type} {r : α → β → Prop} {l : List (Nat × α)} {m : List (Nat × β)} (h : AR r l m)
    {k : Nat} {a' : α} {b : β} (hb : aget m k = some b) (hab : r a' b) : AR r (aset l k a') m := by
  have := h.set k hab
  rwa [Model.aset_self hb] at this

theorem F2.map_left {α β : Type} {r r' : α → β → Prop} {l : List α} {m : List β} (h : F2 r l m) (f : α → α)
    (hf : ∀ a b, a ∈ l → b ∈ m → r a b → r' (f a) b) : F2 r' (l.map f) m := by
  have := h.map (r' := r') f id hf
  simpa using this

theorem spec_getCell_live {t : Spec.LSt} {cid i : Nat} {g : Spec.LSig} {d : Spec.LCell}
    (hf : Spec.findSig t.sigs cid = some i) (hg : aget t.sigs i = some g)
    (hd : g.cells.find? (fun c => c.id = cid && !c.zombie) = some d) : Spec.getCell t cid = some (i, d) := by
  simp [Spec.getCell, hf, hg, hd]

theorem spec_getCell_none {t : Spec.LSt} {cid : Nat} (hf : Spec.findSig t.sigs cid = none) : Spec.getCell t cid = none := by
  simp [Spec.getCell, hf]

theorem connConnected_sim {s : St} {t : Spec.LSt} (hs : Emit.Inv s) (hR : R s t) {pm ps : Option Nat}
    (hp : PtrR t.sigs t.next pm ps) : Spec.connConnected t ps = Model.connConnected s pm := by
  rcases hp with e | ⟨e, cid, e2, hgone⟩
  · subst e
    cases pm with
    | none => rfl
    | some cid =>
      simp only [Spec.connConnected, Model.connConnected]
      rcases lookup hs hR cid with ⟨h1, h2, _⟩ | ⟨i, c, im, g, d, h1, hi, hgi, hr, hcm, hcid, hd, hcd, _, hlive, hdead⟩
      · rw [h1, spec_getCell_none h2]
      · rw [h1]
        cases hz : d.zombie with
        | false =>
          obtain ⟨hf, hfd⟩ := hlive hz
          rw [spec_getCell_live hf hgi hfd]
          simp only [hcd.slot hz]
        | true =>
          rw [spec_getCell_none (hdead hz)]
          have hl : c.linked = false := by rw [hcd.live, hz]; rfl
          simp [(hs.ok i im hi).l c hcm hl]
  · subst e; subst e2
    simp [Spec.connConnected, Model.connConnected, spec_getCell_none (gone_findSig hgone)]

theorem connBlocked_sim {s : St} {t : Spec.LSt} (hs : Emit.Inv s) (hR : R s t) {pm ps : Option Nat}
    (hp : PtrR t.sigs t.next pm ps) : ResAllows (Spec.connBlockedStr t ps) (bstr (Model.connBlocked s pm)) := by
  rcases hp with e | ⟨e, cid, e2, hgone⟩
  · subst e
    cases pm with
    | none => left; rfl
    | some cid =>
      simp only [Spec.connBlockedStr, Model.connBlocked]
      rcases lookup hs hR cid with ⟨h1, h2, _⟩ | ⟨i, c, im, g, d, h1, hi, hgi, hr, hcm, hcid, hd, hcd, _, hlive, hdead⟩
      · rw [spec_getCell_none h2]; right; rfl
      · rw [h1]
        cases hz : d.zombie with
        | false =>
          obtain ⟨hf, hfd⟩ := hlive hz
          rw [spec_getCell_live hf hgi hfd]
          simp only [hcd.slot hz]
          left; rfl
        | true =>
          rw [spec_getCell_none (hdead hz)]; right; rfl
  · subst e; subst e2
    simp only [Spec.connBlockedStr, spec_getCell_none (gone_findSig hgone)]
    right; rfl

theorem sameHold_blocked (sl : SlotB) (b : Bool) : SameHold { sl with blocked := b } sl := ⟨fun _ => rfl, fun _ => rfl⟩

/-- the specification's `connection::block(b)`: the state of the arms `blockC`, `blockK` of `Spec.stepSimple` -/
def specBlock (t : Spec.LSt) (ps : Option Nat) (b : Bool) : Spec.LSt :=
  match ps with
  | some cid => Spec.updCell t cid (fun c => { c with slot := { c.slot with blocked := b } })
  | none => t

theorem R_connBlock {s : St} {t : Spec.LSt} (hs : Emit.Inv s) (hR : R s t) {pm ps : Option Nat}
    (hp : PtrR t.sigs t.next pm ps) (b : Bool) : R (Model.connBlock s pm b) (specBlock t ps b) := by
  unfold specBlock
  rcases hp with e | ⟨e, cid, e2, hgone⟩
  · subst e
    cases pm with
    | none => exact hR
    | some cid =>
      simp only [Model.connBlock]
      rcases lookup hs hR cid with ⟨h1, h2, _⟩ | ⟨i, c, im, g, d, h1, hi, hgi, hr, hcm, hcid, hd, hcd, hother, hlive, hdead⟩
      · rw [h1]
        simp only [Spec.updCell, h2]; exact hR
      · rw [h1]
        simp only
        rw [Emit.updCell_eq hi]
        have hcellsEq : ∀ c' d', c' ∈ im.cells → d' ∈ g.cells → CellR c' d' → c'.id = cid → d' = d := by
          intro c' d' _ hd' hcd' e
          exact (hother (i, g) (Emit.aget_some_mem hgi) d' hd' (by rw [hcd'.id, e])).2
        cases hz : d.zombie with
        | false =>
          obtain ⟨hf, _⟩ := hlive hz
          simp only [Spec.updCell, hf, hgi]
          refine hR.setSig hi { hr with cells := hr.cells.map _ _ fun c' d' hc' hd' hcd' => ?_ } fun k hk _ => ?_
          · unfold Emit.updC
            rw [hcd'.id]
            by_cases e : c'.id = cid
            · have := hcellsEq c' d' hc' hd' hcd' e
              subst this
              simp only [e, if_true]
              exact ⟨rfl, hcd'.marker, hcd'.zombie, fun _ => by simp [hcd'.slot hz], fun h => by simp [hz] at h, hcd'.lrep⟩
            · simp only [e, if_false]; exact hcd'
          · obtain ⟨c', hc', rfl⟩ := List.mem_map.mp hk
            obtain ⟨c0, hc0, rfl⟩ := List.mem_map.mp hc'
            refine List.mem_map.mpr ⟨c0, hc0, ?_⟩
            unfold Emit.updC
            split <;> rfl
        | true =>
          simp only [Spec.updCell, hdead hz]
          have hcells : F2 CellR (im.cells.map (Emit.updC cid (fun c => { c with slot := { c.slot with blocked := b } })))
              g.cells := by
            apply hr.cells.map_left
            intro c' d' hc' hd' hcd'
            unfold Emit.updC
            by_cases e : c'.id = cid
            · have := hcellsEq c' d' hc' hd' hcd' e
              subst this
              simp only [e, if_true]
              refine ⟨by rw [hcd'.id, e], hcd'.marker, hcd'.zombie, fun h => by simp [hz] at h, fun _ => ?_, hcd'.lrep⟩
              obtain ⟨h1, h2⟩ := hcd'.zslot hz
              exact ⟨h1, (sameHold_blocked _ _).trans h2⟩
            · simp only [e, if_false]; exact hcd'
          exact { hR with sigs := hR.sigs.set_left hgi { hr with cells := hcells } }
  · subst e; subst e2
    simp only [Model.connBlock, Spec.updCell, gone_findSig hgone]
    exact hR

theorem holds_sim {c : Cell} {d : Spec.LCell} (h : CellR c d) : SameHold c.slot d.slot := by
  cases hz : d.zombie with
  | false => rw [h.slot hz]; exact SameHold.refl _
  | true => exact (h.zslot hz).2

theorem heldT_sim {s : St} {t : Spec.LSt} (hR : R s t) (o : Nat) : Spec.heldT t o = Model.heldT s o := by
  unfold Spec.heldT Model.heldT
  rw [hR.S]
  congr 1
  apply Eq.symm
  apply F2.any hR.sigs
  intro p q _ _ hpq
  rw [hpq.2.limbo]
  simp only [List.any_nil, Bool.or_false]
  exact F2.any hpq.2.cells _ _ (fun c d _ _ hcd => (holds_sim hcd).1 o)

theorem heldK_sim {s : St} {t : Spec.LSt} (hR : R s t) (k : Nat) : Spec.heldK t k = Model.heldK s k := by
  unfold Spec.heldK Model.heldK
  rw [hR.S]
  congr 1
  apply Eq.symm
  apply F2.any hR.sigs
  intro p q _ _ hpq
  rw [hpq.2.limbo]
  simp only [List.any_nil, Bool.or_false]
  exact F2.any hpq.2.cells _ _ (fun c d _ _ hcd => (holds_sim hcd).2 k)

theorem liveCount_sim {s : St} {t : Spec.LSt} (hs : Emit.Inv s) (hR : R s t) (hq : ∀ i, Emit.execOf s i = 0) (fid : Nat) :
    Spec.liveCount t fid = Model.liveCount s fid := by
  unfold Spec.liveCount Model.liveCount
  rw [hR.S]
  congr 2
  apply Eq.symm
  apply F2.map_eq hR.sigs
  intro p q hp _ hpq
  have hi := Emit.aget_of_mem_nodup hs.keys (show (p.1, p.2) ∈ s.impls from hp)
  have hx : p.2.exec = 0 := by have := hq p.1; rw [Emit.execOf_pos hi] at this; exact this
  have hok := hs.ok p.1 p.2 hi
  congr 1
  apply F2.map_eq hpq.2.cells
  intro c d hc _ hcd
  have hl := hok.d (hok.q1 hx) c hc (hok.no_markers hx c hc)
  have hz : d.zombie = false := by rw [hcd.zombie, hl]; rfl
  rw [hcd.slot hz]


theorem R_collectStep {s : St} {t : Spec.LSt} (hs : Emit.Inv s) (hR : R s t) :
    (Model.collectStep s = none → Spec.collectStep t = none) ∧
    (∀ s', Model.collectStep s = some s' → ∃ t', Spec.collectStep t = some t' ∧ R s' t') := by
  unfold Model.collectStep Spec.collectStep
  have hfT : t.ownedT.find? (fun o => !Spec.heldT t o) = s.ownedT.find? (fun o => !Model.heldT s o) := by
    rw [hR.ownedT]
    exact find?_congr_mem (fun o _ => by rw [heldT_sim hR])
  rw [hfT]
  cases hT : s.ownedT.find? (fun o => !Model.heldT s o) with
  | some o =>
    simp only
    refine ⟨by simp, ?_⟩
    intro s' h
    cases h
    have hs1 : Emit.Inv { s with ownedT := s.ownedT.filter (· ≠ o) } := Emit.InvX.congr hs rfl rfl rfl rfl (Nat.le_refl _)
    refine ⟨_, rfl, ?_⟩
    have := R_invalidateTrackable hs1 (hR.updOwnedT (s.ownedT.filter (· ≠ o))) o
    rw [hR.ownedT]
    exact this
  | none =>
    simp only
    rcases F2.find hR.ownedK (fun p => !Model.heldK s p.1) (fun p => !Spec.heldK t p.1)
        (fun p q _ _ hpq => by rw [heldK_sim hR, hpq.1]) with ⟨h1, h2⟩ | ⟨a, b, h1, h2, hab⟩
    · rw [h1, h2]
      simp only
      have hfG : t.ownedG.find? (fun p => !Spec.heldK t p.1) = s.ownedG.find? (fun p => !Model.heldK s p.1) := by
        rw [hR.ownedG]
        exact find?_congr_mem (fun p _ => by rw [heldK_sim hR])
      rw [hfG]
      cases hG : s.ownedG.find? (fun p => !Model.heldK s p.1) with
      | none => simp
      | some p =>
        obtain ⟨k, g⟩ := p
        simp only
        refine ⟨by simp, ?_⟩
        intro s' h
        cases h
        have hs1 : Emit.Inv { s with ownedG := s.ownedG.filter (fun q => q.1 ≠ k) } :=
          Emit.InvX.congrSub hs rfl rfl rfl rfl (Nat.le_refl _) (fun p hp => (List.mem_filter.mp hp).1)
        refine ⟨_, rfl, ?_⟩
        have := R_dropHandle hs1 (hR.updOwnedG (s.ownedG.filter (fun q => q.1 ≠ k))) g
        rw [hR.ownedG]
        exact this
    · rw [h1, h2]
      obtain ⟨k, pm⟩ := a
      obtain ⟨k', ps⟩ := b
      obtain ⟨e, hp⟩ := hab
      simp only at e hp; subst e
      simp only
      refine ⟨by simp, ?_⟩
      intro s' h
      cases h
      have hs1 : Emit.Inv { s with ownedK := s.ownedK.filter (fun q => q.1 ≠ k) } :=
        Emit.InvX.congr hs rfl rfl rfl rfl (Nat.le_refl _)
      have hR1 : R { s with ownedK := s.ownedK.filter (fun q => q.1 ≠ k) }
          { t with ownedK := t.ownedK.filter (fun q => q.1 ≠ k) } :=
        hR.updOwnedK (hR.ownedK.filt _ _ (fun k' _ _ _ _ _ => rfl))
      refine ⟨_, rfl, ?_⟩
      have := R_disc hs1 hR1 hp
      cases pm <;> cases ps <;> exact this

theorem R_collectN (n : Nat) {s : St} {t : Spec.LSt} (hs : Emit.Inv s) (hR : R s t) :
    R (Model.collectN n s) (Spec.collectN n t) := by
  induction n generalizing s t with
  | zero => exact hR
  | succ n ih =>
    simp only [Model.collectN, Spec.collectN]
    obtain ⟨h1, h2⟩ := R_collectStep hs hR
    cases hc : Model.collectStep s with
    | none => rw [h1 hc]; exact hR
    | some s' =>
      obtain ⟨t', ht', hR'⟩ := h2 s' hc
      rw [ht']
      exact ih (Emit.good_collectStep hs hc).inv hR'

theorem R_collect {s : St} {t : Spec.LSt} (hs : Emit.Inv s) (hR : R s t) : R (Model.collect s) (Spec.collect t) := by
  unfold Model.collect Spec.collect
  rw [hR.ownedT, ← F2.length hR.ownedK, hR.ownedG]
  exact R_collectN _ hs hR

end Sigc.Refine
