import Sigc.Lemmas.RefineSimDefs
/-!
The simulation of the mutual block: `invokeFun`, `runBody`, `execLine`, `execOp` (the functions that are
textually the same in the model and in the specification).

Wherever the specification could call `fail` ("insert: no list", "emit: no list", "emit: list died during its
emission", "forward to a destroyed signal object", "callS: slot variable destroyed during its own call") the
simulation shows that it takes the other branch: the error flag keeps its value `e`.
-/
namespace Sigc.Refine
open Sigc.Model


theorem handleByObj_sim {s : St} {t : Spec.LSt} (hR : R s t) (o : Nat) :
    Spec.handleByObj t o = Model.handleByObj s o := by
  unfold Spec.handleByObj Model.handleByObj
  rw [hR.G]

theorem invoke_simE (f : Nat) (hb : BodyE f) (hi : InvokeE f) (he : EmitE f) : InvokeE (f+1) := by
  intro e P s t fn arg s' o v hs hfn hR h g hg
  obtain ⟨g', rfl, hfg⟩ := fuel_succ hg
  refine SimRun.eq_elim ?_ h
  have leafCase : ∀ fid, SimEq e (match aget P.bodies fid with
      | none => some (s.log (.call s.depth fid arg), Outcome.ok, resultOf fid arg)
      | some body =>
        match Model.runBody f P { (s.log (.call s.depth fid arg)) with depth := (s.log (.call s.depth fid arg)).depth + 1 } body with
        | none => none
        | some (s, o) => some ({ s with depth := s.depth - 1 }, o, resultOf fid arg))
      (match aget P.bodies fid with
      | none => some (t.log (.call t.depth fid arg), Outcome.ok, resultOf fid arg)
      | some body =>
        match Spec.runBody g' P { (t.log (.call t.depth fid arg)) with depth := (t.log (.call t.depth fid arg)).depth + 1 } body with
        | none => none
        | some (s, o) => some ({ s with depth := s.depth - 1 }, o, resultOf fid arg)) := by
    intro fid
    rw [hR.r.depth]
    have hR1 : RE e (s.log (.call s.depth fid arg)) (t.log (.call s.depth fid arg)) := hR.log _
    cases aget P.bodies fid with
    | none => exact .pure hR1 rfl
    | some body =>
      dsimp only
      have hRd : RE e { (s.log (.call s.depth fid arg)) with depth := (s.log (.call s.depth fid arg)).depth + 1 }
          { (t.log (.call s.depth fid arg)) with depth := (t.log (.call s.depth fid arg)).depth + 1 } := by
        rw [hR1.r.depth]; exact hR1.setDepth _
      refine SimRun.callEq (fun s2 o2 hr => hb e P _ _ body s2 o2
          (Emit.Good.of_core (s' := { (s.log (.call s.depth fid arg)) with depth := _ }) hs rfl rfl rfl rfl
            (Nat.le_refl _)).inv hRd (Quiet.of_depth (Nat.succ_ne_zero _)) hr g' hfg) (fun _ => .none)
        fun s2 t2 o2 _ hR2 => ?_
      dsimp only
      rw [hR2.r.depth]
      exact .pure (hR2.setDepth _) rfl
  cases fn with
  | leaf fid ts => rw [invokeFun.eq_def, Spec.invokeFun.eq_def]; exact leafCase fid
  | owner fid a b => rw [invokeFun.eq_def, Spec.invokeFun.eq_def]; exact leafCase fid
  | nest blocked inner =>
    rw [invokeFun.eq_def, Spec.invokeFun.eq_def]
    cases inner with
    | none => exact .pure hR rfl
    | some g0 =>
      exact sim_ite (fun _ => .pure hR rfl)
        (fun _ => .of_eq (fun s' c h => hi e P s t g0 arg s' c.1 c.2 hs (fun o ts ht => hfn o ts ht) hR h g' hfg))
  | fwd ob ts =>
    rw [invokeFun.eq_def, Spec.invokeFun.eq_def]
    dsimp only
    obtain ⟨g0, hd, hh, hmem⟩ := Emit.handleByObj_some hfn (o := ob) (ts := ts) rfl
    rw [handleByObj_sim hR.r, hh]
    exact .of_eq (fun s' c h =>
      he e P s t hd.fl hd.impl arg .sum s' c.1 c.2 hs (fun i hi => hs.himpl (g0, hd) hmem i hi) hR h g' hfg)


theorem body_simE (f : Nat) (hl : LineE f) (hb : BodyE f) : BodyE (f+1) := by
  intro e P s t ls s' o hs hR hq h g hg
  obtain ⟨g', rfl, hfg⟩ := fuel_succ hg
  refine SimRun.eq_elim ?_ h
  cases ls with
  | nil => rw [runBody, Spec.runBody]; exact .pure hR rfl
  | cons l ls =>
    rw [runBody, Spec.runBody]
    refine SimRun.callEq (fun s1 o1 h1 => hl e P s t l s1 o1 hs hR hq h1 g' hfg) (fun _ => .none)
      fun s1 t1 o1 h1 hR1 => ?_
    cases o1 with
    | exc => exact .pure hR1 rfl
    | ok =>
      have g1 := (Emit.all_ok f).line P s l _ _ hs h1
      exact .of_eq (fun s' c h =>
        hb e P s1 t1 ls s' c g1.inv hR1 (Quiet.step hq g1.frame (execLine_keeps h1).depth) h g' hfg)


theorem line_simE (f : Nat) (ho : OpE f) : LineE (f+1) := by
  intro e P s t l s' o hs hR hq h g hg
  obtain ⟨g', rfl, hfg⟩ := fuel_succ hg
  refine SimRun.eq_elim ?_ h
  rw [execLine, Spec.execLine]
  have g0 : Emit.Good0 s { s with steps := s.steps + 1 } := Emit.Good.of_core hs rfl rfl rfl rfl (Nat.le_refl _)
  have hR0 : RE e { s with steps := s.steps + 1 } { t with steps := t.steps + 1 } := by
    rw [hR.r.steps]; exact hR.setSteps _
  refine SimRun.call (Q := fun c d => ResR d c)
    (fun s1 res h1 => ho e P _ _ _ s1 res g0.inv hR0 (Quiet.step hq g0.frame rfl) h1 g' hfg) (fun _ => .none)
    fun s1 t1 res res1 h1 hR1 hres => ?_
  have g2 : ∀ r, Emit.Good0 s (s1.log (.res s1.depth l.text r)) := fun r =>
    (g0.trans ((Emit.all_ok f).op P _ _ _ _ g0.inv h1)).congr rfl rfl rfl rfl (Nat.le_refl _)
  cases res with
  | error u =>
    cases res1 with
    | ok r => exact hres.elim
    | error u' =>
      dsimp only
      rw [hR1.r.depth]
      exact .pure ((hR1.log _).collect (g2 _).inv) rfl
  | ok r =>
    cases res1 with
    | error u' => exact hres.elim
    | ok r' =>
      dsimp only
      rw [hR1.r.depth]
      exact .pure ((hR1.logRes _ _ hres).collect (g2 _).inv) rfl


/-- the operations without user code -/
theorem fall_simE {e : Option String} {P : Prog} {s : St} {t : Spec.LSt} {op : Op}
    (hs : Emit.Inv s) (hR : RE e s t) (hq : Quiet s) :
    SimRun e (fun c d => ResR d c)
      (match Model.modeRule P s op with
      | some r => some (s, (Except.ok r : Except Unit String))
      | none =>
        match Model.stepSimple s op with
        | some (s, r) => some (s, Except.ok r)
        | none => some (s, Except.ok "badop"))
      (match Spec.modeRule P t op with
      | some r => some (t, (Except.ok r : Except Unit String))
      | none =>
        match Spec.stepSimple t op with
        | some (s, r) => some (s, Except.ok r)
        | none => some (t, Except.ok "badop")) := by
  rw [modeRule_sim hR.r]
  cases Model.modeRule P s op with
  | some r => exact .pure hR (ResR.refl _)
  | none =>
    have hsim := stepSim_all op s t hs hR.r hq
    dsimp only
    cases hst : Model.stepSimple s op with
    | none => rw [hsim.of_none hst]; exact .pure hR (ResR.refl _)
    | some p =>
      obtain ⟨t1, r1, ht1, hR1, he1, hr⟩ := hsim.of_some (s' := p.1) (r := p.2) hst
      rw [ht1]
      exact .pure ⟨hR1, he1.trans hR.err⟩ hr

theorem op_simE (f : Nat) (hi : InvokeE f) (he : EmitE f) : OpE (f+1) := by
  intro e P s t op s' res hs hR hq h g hg
  obtain ⟨g', rfl, hfg⟩ := fuel_succ hg
  suffices key : SimRun e (fun c d => ResR d c) (Model.execOp (f+1) P s op) (Spec.execOp (g'+1) P t op) from
    key s' res h
  by_cases hc : ∃ i arg, op = .callS i arg
  · obtain ⟨i, arg, rfl⟩ := hc
    rw [execOp, Spec.execOp, hR.r.S]
    cases hv : aget s.S i with
    | none => exact .pure hR (ResR.refl _)
    | some v =>
      dsimp only
      refine sim_ite (fun _ => .pure hR (ResR.refl _)) (fun _ => sim_ite (fun _ => .pure hR (ResR.refl _)) (fun _ => ?_)
        (by rw [hR.r.steps])) (by rw [hR.r.depth])
      -- only a valid rep with a functor is called
      cases hrep : v.slot.rep with
      | none => exact .pure hR (ResR.refl _)
      | some rp =>
        obtain ⟨call, fno⟩ := rp
        cases call
        · exact .pure hR (ResR.refl _)
        cases fno with
        | none => exact .pure hR (ResR.refl _)
        | some fn =>
          refine sim_ite (fun _ => .pure hR (ResR.refl _)) (fun _ => ?_)
          have hsl := hs.fwdS i v hv
          have h0 : Emit.Inv { s with S := aset s.S i { v with incall := v.incall + 1 } } := hs.setS i _ hsl
          refine SimRun.callEq (fun s1 (c : Outcome × Nat) hinv => hi e P _ _ fn arg s1 c.1 c.2 h0 (hsl _ fn hrep rfl) (hR.updS _) hinv g' hfg)
            (fun _ => .none) fun s1 t1 c hinv hR1 => ?_
          have g1 := (Emit.all_ok f).invoke P _ fn arg s1 c.1 c.2 h0 (hsl _ fn hrep rfl) hinv
          dsimp only
          rw [hR1.r.S]
          cases hv2 : aget s1.S i with
          | none =>
            -- the variable being called survives the call
            exfalso
            have := g1.frame.vars i
            rw [Emit.incallOf_of_none hv2, Emit.incallOf_of_aget (Model.aget_aset_same _ _ _)] at this
            exact Nat.succ_ne_zero _ this.symm
          | some v2 => obtain ⟨o, r⟩ := c; cases o <;> exact .pure (hR1.updS _) (ResR.refl _)
  by_cases hem : ∃ gi arg strat try_, op = .emit gi arg strat try_
  · obtain ⟨gi, arg, strat, try_, rfl⟩ := hem
    rw [execOp, Spec.execOp, hR.r.G]
    cases hgs : aget s.G gi with
    | none => exact .pure hR (ResR.refl _)
    | some hd =>
      dsimp only
      refine sim_ite (fun _ => .pure hR (ResR.refl _)) (fun _ => sim_ite (fun _ => .pure hR (ResR.refl _)) (fun _ => ?_)
        (by rw [hR.r.steps])) (by rw [hR.r.depth])
      refine SimRun.callEq (fun s1 (c : Outcome × Nat) hemit => he e P s t hd.fl hd.impl arg strat s1 c.1 c.2 hs
          (fun k hk => hs.himpl (gi, hd) (Emit.aget_some_mem hgs) k hk) hR hemit g' hfg) (fun _ => .none)
        fun s1 t1 c _ hR1 => ?_
      obtain ⟨o, v1⟩ := c
      cases o with
      | exc => exact sim_ite (fun _ => .pure hR1 (ResR.refl _)) (fun _ => .pure hR1 (ResR.refl _))
      | ok => exact .pure hR1 (ResR.refl _)
  by_cases hth : op = .throw_
  · subst hth
    rw [execOp, Spec.execOp]
    exact .pure hR (ResR.refl _)
  rw [Model.execOp_simple f P s op (fun i a e => hc ⟨i, a, e⟩) (fun g a st tr e => hem ⟨g, a, st, tr, e⟩) hth,
    Spec.execOp_simple g' P t op (fun i a e => hc ⟨i, a, e⟩) (fun g a st tr e => hem ⟨g, a, st, tr, e⟩) hth]
  exact fall_simE hs hR hq

end Sigc.Refine
