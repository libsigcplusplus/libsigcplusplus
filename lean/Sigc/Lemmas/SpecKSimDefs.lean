import Sigc.Lemmas.SpecKEmitList
/-!
# SpecKSimDefs — the mutual induction on fuel: the statements (`All f`; the run of the first configuration with fuel `f` is
matched by the run of the second with fuel `f + 1`: where the first takes the `k2` shortcut the second calls `turns` on
the empty snapshot) and the rules by which its steps are proved (`SimP`: `ret`, `to`, `ite`, `check`, `after`, and `call`
for a call of one function of the block by another); what keeps `Settled`
-/
namespace Sigc.SpecK
open Sigc.Model Sigc.Spec

/-- some signal object refers to the emitted list, so that `gcSig` at the end of the emission does not drop it
    (`gcSig_ref`) -/
def Ref (t : LSt) (impl : Option Nat) : Prop := ∀ i, impl = some i → t.G.any (fun p => p.2.impl = some i) = true

def SInvoke (f : Nat) : Prop :=
  ∀ (P : Prog) (ρ : IdRel) (t u : LSt) (fn fn' : Fun) (arg : Nat) (t' : LSt) (o : Outcome) (v : Nat),
    Q ρ t u → Settled t → FunR ρ fn fn' → cInvoke f P t fn arg = true →
    Spec.invokeFun f P t fn arg = some (t', o, v) →
    ∃ u', Spec.invokeFun (f+1) P u fn' arg = some (u', o, v) ∧ Good ρ t u t' u' ∧ Settled t'

def SBody (f : Nat) : Prop :=
  ∀ (P : Prog) (ρ : IdRel) (t u : LSt) (ls : List Line) (t' : LSt) (o : Outcome),
    Q ρ t u → Settled t → Quiet t → cBody f P t ls = true →
    Spec.runBody f P t ls = some (t', o) →
    ∃ u', Spec.runBody (f+1) P u ls = some (u', o) ∧ Good ρ t u t' u' ∧ Settled t'

def SLine (f : Nat) : Prop :=
  ∀ (P : Prog) (ρ : IdRel) (t u : LSt) (l : Line) (t' : LSt) (o : Outcome),
    Q ρ t u → Settled t → Quiet t → cLine f P t l = true →
    Spec.execLine f P t l = some (t', o) →
    ∃ u', Spec.execLine (f+1) P u l = some (u', o) ∧ Good ρ t u t' u' ∧ Settled t'

def SOp (f : Nat) : Prop :=
  ∀ (P : Prog) (ρ : IdRel) (t u : LSt) (op : Op) (t' : LSt) (e : Except Unit String),
    Q ρ t u → Settled t → Quiet t → cOp f P t op = true →
    Spec.execOp f P t op = some (t', e) →
    ∃ u', Spec.execOp (f+1) P u op = some (u', e) ∧ Good ρ t u t' u'

def SEmit (f : Nat) : Prop :=
  ∀ (P : Prog) (ρ : IdRel) (t u : LSt) (fl : Flavour) (impl impl' : Option Nat) (arg : Nat) (strat : Strat)
    (t' : LSt) (o : Outcome) (v : Nat),
    Q ρ t u → Settled t → OR ρ impl impl' → Ref t impl → cEmit f P t fl impl arg strat = true →
    Spec.emitSig f P t fl impl arg strat = some (t', o, v) →
    ∃ u', Spec.emitSig (f+1) P u fl impl' arg strat = some (u', o, v) ∧ Good ρ t u t' u' ∧ Settled t'

def STurns (f : Nat) : Prop :=
  ∀ (P : Prog) (ρ : IdRel) (t u : LSt) (i i' : Nat) (snap snap' : List Nat) (arg r : Nat)
    (t' : LSt) (o : Outcome) (v : Nat),
    Q ρ t u → Settled t → ρ i i' → F2 ρ snap snap' → cTurns f P t i snap arg r = true →
    Spec.turns f P t i snap arg r = some (t', o, v) →
    ∃ u', Spec.turns (f+1) P u i' snap' arg r = some (u', o, v) ∧ Good ρ t u t' u' ∧ Settled t'

def SDeref (f : Nat) : Prop :=
  ∀ (P : Prog) (ρ : IdRel) (t u : LSt) (i i' : Nat) (snap snap' : List Nat) (it : It) (arg : Nat)
    (t' : LSt) (o : Outcome) (it' : It),
    Q ρ t u → Settled t → ρ i i' → F2 ρ snap snap' → cDeref f P t i snap it arg = true →
    Spec.deref f P t i snap it arg = some (t', o, it') →
    ∃ u', Spec.deref (f+1) P u i' snap' it arg = some (u', o, it') ∧ Good ρ t u t' u' ∧ Settled t'

def SAcc (f : Nat) : Prop :=
  ∀ (P : Prog) (ρ : IdRel) (t u : LSt) (i i' : Nat) (snap snap' : List Nat) (it : It) (arg mode k r : Nat)
    (t' : LSt) (o : Outcome) (v : Nat),
    Q ρ t u → Settled t → ρ i i' → F2 ρ snap snap' → cAcc f P t i snap it arg mode k r = true →
    Spec.accLoop f P t i snap it arg mode k r = some (t', o, v) →
    ∃ u', Spec.accLoop (f+1) P u i' snap' it arg mode k r = some (u', o, v) ∧ Good ρ t u t' u' ∧ Settled t'

def SRev (f : Nat) : Prop :=
  ∀ (P : Prog) (ρ : IdRel) (t u : LSt) (i i' : Nat) (snap snap' : List Nat) (it : It) (arg r : Nat)
    (t' : LSt) (o : Outcome) (v : Nat),
    Q ρ t u → Settled t → ρ i i' → F2 ρ snap snap' → cRev f P t i snap it arg r = true →
    Spec.revLoop f P t i snap it arg r = some (t', o, v) →
    ∃ u', Spec.revLoop (f+1) P u i' snap' it arg r = some (u', o, v) ∧ Good ρ t u t' u' ∧ Settled t'

def SWalk (f : Nat) : Prop :=
  ∀ (P : Prog) (ρ : IdRel) (t u : LSt) (i i' : Nat) (snap snap' : List Nat) (it : It) (arg : Nat) (ops : List Char)
    (r : Nat) (t' : LSt) (o : Outcome) (v : Nat),
    Q ρ t u → Settled t → ρ i i' → F2 ρ snap snap' → cWalk f P t i snap it arg ops r = true →
    Spec.walkLoop f P t i snap it arg ops r = some (t', o, v) →
    ∃ u', Spec.walkLoop (f+1) P u i' snap' it arg ops r = some (u', o, v) ∧ Good ρ t u t' u' ∧ Settled t'

def SStrat (f : Nat) : Prop :=
  ∀ (P : Prog) (ρ : IdRel) (t u : LSt) (i i' : Nat) (snap snap' : List Nat) (arg : Nat) (strat : Strat)
    (t' : LSt) (o : Outcome) (v : Nat),
    Q ρ t u → Settled t → ρ i i' → F2 ρ snap snap' → cStrat f P t i snap arg strat = true →
    Spec.runStrat f P t i snap arg strat = some (t', o, v) →
    ∃ u', Spec.runStrat (f+1) P u i' snap' arg strat = some (u', o, v) ∧ Good ρ t u t' u' ∧ Settled t'

structure All (f : Nat) : Prop where
  invoke : SInvoke f
  body : SBody f
  line : SLine f
  op : SOp f
  emit : SEmit f
  turns : STurns f
  deref : SDeref f
  acc : SAcc f
  rev : SRev f
  walk : SWalk f
  strat : SStrat f

/-- The answers `a`, `b` of two runs from the related states `t`, `u`: whenever the first passes the check `c`
    and answers, the second gives the same answer, the states are related again, and `Post` holds of the first run's
    state. -/
def SimP (Post : LSt → Prop) (ρ : IdRel) (t u : LSt) {α : Type} (c : Bool) (a b : Option (LSt × α)) : Prop :=
  ∀ t' x, c = true → a = some (t', x) → ∃ u', b = some (u', x) ∧ Good ρ t u t' u' ∧ Post t'

/-- the form of every statement of `All` but `SOp` -/
abbrev Sim (ρ : IdRel) (t u : LSt) {α : Type} (c : Bool) (a b : Option (LSt × α)) : Prop := SimP Settled ρ t u c a b

/-- the form of `SOp`: between an operation and the `collect` that ends its line nothing is said about owned objects -/
abbrev SimOp (ρ : IdRel) (t u : LSt) {α : Type} (c : Bool) (a b : Option (LSt × α)) : Prop :=
  SimP (fun _ => True) ρ t u c a b

namespace SimP
variable {Post : LSt → Prop} {ρ : IdRel} {t u : LSt} {α : Type} {c : Bool}

theorem nil {b : Option (LSt × α)} : SimP Post ρ t u c none b := fun _ _ _ h => nomatch h

theorem off {a b : Option (LSt × α)} : SimP Post ρ t u false a b := fun _ _ h _ => nomatch h

theorem to {t' u' : LSt} (hg : Good ρ t u t' u') (hS : Post t') (x : α) : SimP Post ρ t u c (some (t', x)) (some (u', x)) := by
  intro _ _ _ hr
  cases hr
  exact ⟨_, rfl, hg, hS⟩

theorem ret (hq : Q ρ t u) (hS : Post t) (x : α) : SimP Post ρ t u c (some (t, x)) (some (u, x)) := .to (Good.refl hq) hS x

theorem ite_iff {p p' : Prop} [Decidable p] [Decidable p'] {c1 c2 : Bool} {a1 a2 b1 b2 : Option (LSt × α)} (hp : p' ↔ p)
    (h1 : SimP Post ρ t u c1 a1 b1) (h2 : SimP Post ρ t u c2 a2 b2) :
    SimP Post ρ t u (if p then c1 else c2) (if p then a1 else a2) (if p' then b1 else b2) := by
  by_cases h : p
  · rw [if_pos h, if_pos h, if_pos (hp.mpr h)]
    exact h1
  · rw [if_neg h, if_neg h, if_neg (fun x => h (hp.mp x))]
    exact h2

theorem ite {p : Prop} [Decidable p] {c1 c2 : Bool} {a1 a2 b1 b2 : Option (LSt × α)} (h1 : SimP Post ρ t u c1 a1 b1)
    (h2 : SimP Post ρ t u c2 a2 b2) :
    SimP Post ρ t u (if p then c1 else c2) (if p then a1 else a2) (if p then b1 else b2) := .ite_iff Iff.rfl h1 h2

/-- what the check says may be used -/
theorem check {a b : Option (LSt × α)} (h : c = true → SimP Post ρ t u true a b) : SimP Post ρ t u c a b :=
  fun t' x hc hr => h hc t' x rfl hr

theorem and {c1 c2 : Bool} {a b : Option (LSt × α)} (h : c1 = true → SimP Post ρ t u c2 a b) : SimP Post ρ t u (c1 && c2) a b :=
  fun t' x hc hr => h ((Bool.and_eq_true _ _).mp hc).1 t' x ((Bool.and_eq_true _ _).mp hc).2 hr

/-- the rest of a run, after a piece of it that ended in related states -/
theorem after {ρ1 : IdRel} {t1 u1 : LSt} (hs : Step ρ ρ1 t t1 u u1) (hf : Fr t t1) {a b : Option (LSt × α)}
    (h : SimP Post ρ1 t1 u1 c a b) : SimP Post ρ t u c a b := fun t' x hc hr =>
  let ⟨u', e, hg, hS⟩ := h t' x hc hr
  ⟨u', e, Good.trans hs hf hg, hS⟩

/-- **The rule for every call inside the mutual block.**  `cA`, `A`, `B` are the callee's check and the answers of its two
    runs, related by the induction hypothesis.  Whatever the callers do with them (`motive` is found by abstracting the
    three out of the goal, which is why this is an eliminator: no `match` of a caller has to be named), it is enough to look
    at the case where both calls returned, in related states, with the same value.  Where the goal is itself a `SimP` (at
    every call site), `off` and `nil` are `fun _ _ => .off` and `fun _ => .nil`. -/
@[elab_as_elim]
theorem call {β : Type} {motive : Bool → Option (LSt × β) → Option (LSt × β) → Prop} {cA : Bool} {A B : Option (LSt × β)}
    (hAB : SimP Post ρ t u cA A B) (off : ∀ a b, motive false a b) (nil : ∀ b, motive true none b)
    (ret : ∀ ρ1 t1 u1 x, Q ρ1 t1 u1 → Step ρ ρ1 t t1 u u1 → Fr t t1 → Post t1 → motive true (some (t1, x)) (some (u1, x))) :
    motive cA A B := by
  cases cA with
  | false => exact off A B
  | true =>
    cases A with
    | none => exact nil B
    | some r =>
      obtain ⟨t1, x⟩ := r
      obtain ⟨u1, e, ⟨ρ1, hq1, hs1, hf1⟩, hS1⟩ := hAB t1 x rfl rfl
      subst e
      exact ret ρ1 t1 u1 x hq1 hs1 hf1 hS1

end SimP

/-! the statements of `All f` in the form the rules take -/
namespace All
variable {f : Nat} (ih : All f) (P : Prog) {ρ : IdRel} {t u : LSt} (hq : Q ρ t u) (hst : Settled t)
include ih hq hst

theorem invoke' {fn fn' : Fun} (hf : FunR ρ fn fn') (arg : Nat) :
    Sim ρ t u (cInvoke f P t fn arg) (Spec.invokeFun f P t fn arg) (Spec.invokeFun (f+1) P u fn' arg) :=
  fun t' x hc hr => ih.invoke P ρ t u fn fn' arg t' x.1 x.2 hq hst hf hc hr

theorem body' (hqt : Quiet t) (ls : List Line) :
    Sim ρ t u (cBody f P t ls) (Spec.runBody f P t ls) (Spec.runBody (f+1) P u ls) :=
  fun t' x hc hr => ih.body P ρ t u ls t' x hq hst hqt hc hr

theorem line' (hqt : Quiet t) (l : Line) :
    Sim ρ t u (cLine f P t l) (Spec.execLine f P t l) (Spec.execLine (f+1) P u l) :=
  fun t' x hc hr => ih.line P ρ t u l t' x hq hst hqt hc hr

theorem op' (hqt : Quiet t) (op : Op) :
    SimOp ρ t u (cOp f P t op) (Spec.execOp f P t op) (Spec.execOp (f+1) P u op) :=
  fun t' x hc hr => let ⟨u', e, hg⟩ := ih.op P ρ t u op t' x hq hst hqt hc hr; ⟨u', e, hg, trivial⟩

theorem emit' (fl : Flavour) {impl impl' : Option Nat} (hi : OR ρ impl impl') (href : Ref t impl) (arg : Nat) (strat : Strat) :
    Sim ρ t u (cEmit f P t fl impl arg strat) (Spec.emitSig f P t fl impl arg strat)
      (Spec.emitSig (f+1) P u fl impl' arg strat) :=
  fun t' x hc hr => ih.emit P ρ t u fl impl impl' arg strat t' x.1 x.2 hq hst hi href hc hr

variable {i i' : Nat} (hi : ρ i i') {snap snap' : List Nat} (hsn : F2 ρ snap snap')
include hi hsn

theorem turns' (arg r : Nat) :
    Sim ρ t u (cTurns f P t i snap arg r) (Spec.turns f P t i snap arg r) (Spec.turns (f+1) P u i' snap' arg r) :=
  fun t' x hc hr => ih.turns P ρ t u i i' snap snap' arg r t' x.1 x.2 hq hst hi hsn hc hr

theorem deref' (it : It) (arg : Nat) :
    Sim ρ t u (cDeref f P t i snap it arg) (Spec.deref f P t i snap it arg) (Spec.deref (f+1) P u i' snap' it arg) :=
  fun t' x hc hr => ih.deref P ρ t u i i' snap snap' it arg t' x.1 x.2 hq hst hi hsn hc hr

theorem acc' (it : It) (arg mode k r : Nat) :
    Sim ρ t u (cAcc f P t i snap it arg mode k r) (Spec.accLoop f P t i snap it arg mode k r)
      (Spec.accLoop (f+1) P u i' snap' it arg mode k r) :=
  fun t' x hc hr => ih.acc P ρ t u i i' snap snap' it arg mode k r t' x.1 x.2 hq hst hi hsn hc hr

theorem rev' (it : It) (arg r : Nat) :
    Sim ρ t u (cRev f P t i snap it arg r) (Spec.revLoop f P t i snap it arg r) (Spec.revLoop (f+1) P u i' snap' it arg r) :=
  fun t' x hc hr => ih.rev P ρ t u i i' snap snap' it arg r t' x.1 x.2 hq hst hi hsn hc hr

theorem walk' (it : It) (arg : Nat) (ops : List Char) (r : Nat) :
    Sim ρ t u (cWalk f P t i snap it arg ops r) (Spec.walkLoop f P t i snap it arg ops r)
      (Spec.walkLoop (f+1) P u i' snap' it arg ops r) :=
  fun t' x hc hr => ih.walk P ρ t u i i' snap snap' it arg ops r t' x.1 x.2 hq hst hi hsn hc hr

theorem strat' (arg : Nat) (strat : Strat) :
    Sim ρ t u (cStrat f P t i snap arg strat) (Spec.runStrat f P t i snap arg strat)
      (Spec.runStrat (f+1) P u i' snap' arg strat) :=
  fun t' x hc hr => ih.strat P ρ t u i i' snap snap' arg strat t' x.1 x.2 hq hst hi hsn hc hr

end All

/-- One dereference inside a loop over the snapshot `snap`: the loop ends there when the callee throws; otherwise it
    goes on (`K`, `K'`) from states that are related again, under an id relation that still extends `ρ`. -/
theorem SimP.deref {f : Nat} (ih : All f) {P : Prog} {ρ ρ1 : IdRel} {t u : LSt} {i i' : Nat} {snap snap' : List Nat}
    (hi : ρ i i') (hsn : F2 ρ snap snap') (hq : Q ρ1 t u) (hst : Settled t) (hs : ∀ a b, ρ a b → ρ1 a b)
    (it : It) (arg r : Nat) {cK : LSt → It → Bool} {K K' : LSt → It → Option (LSt × Outcome × Nat)}
    (hK : ∀ ρ2 t1 u1 x, Q ρ2 t1 u1 → Settled t1 → (∀ a b, ρ a b → ρ2 a b) → Sim ρ2 t1 u1 (cK t1 x) (K t1 x) (K' u1 x)) :
    Sim ρ1 t u
      (cDeref f P t i snap it arg && match Spec.deref f P t i snap it arg with | some (s, .ok, x) => cK s x | _ => true)
      (match Spec.deref f P t i snap it arg with
        | none => none | some (s, .exc, _) => some (s, .exc, r) | some (s, .ok, x) => K s x)
      (match Spec.deref (f+1) P u i' snap' it arg with
        | none => none | some (s, .exc, _) => some (s, .exc, r) | some (s, .ok, x) => K' s x) := by
  refine SimP.call (ih.deref' P hq hst (hs _ _ hi) (hsn.mono hs) it arg) (fun _ _ => .off) (fun _ => .nil)
    fun ρ2 t1 u1 x hq1 hs1 hf1 hst1 => ?_
  obtain ⟨o1, x1⟩ := x
  cases o1 with
  | exc => exact .after hs1 hf1 (.ret hq1 hst1 _)
  | ok => exact .after hs1 hf1 (hK ρ2 t1 u1 x1 hq1 hst1 fun a b h => hs1.sub _ _ (hs a b h))

theorem any_aset_congr {α : Type} (l : List (Nat × α)) (k : Nat) (v v0 : α) (p : Nat × α → Bool)
    (h0 : aget l k = some v0) (hp : p (k, v) = p (k, v0)) : (aset l k v).any p = l.any p := by
  induction l with
  | nil => simp [aget] at h0
  | cons q tl ih =>
    obtain ⟨k', v'⟩ := q
    by_cases e : k' = k
    · subst e
      simp only [aget, if_true, Option.some.injEq] at h0
      subst h0
      simp [aset, hp]
    · simp only [aget, e, if_false] at h0
      simp [aset, e, ih h0]

theorem Settled.setSig {t : LSt} (h : Settled t) {i : Nat} {g g2 : LSig} (hx : aget t.sigs i = some g)
    (hT : ∀ o, (g2.cells.any (fun c => c.slot.holdsT o) || g2.limbo.any (fun sl => sl.holdsT o))
      = (g.cells.any (fun c => c.slot.holdsT o) || g.limbo.any (fun sl => sl.holdsT o)))
    (hK : ∀ o, (g2.cells.any (fun c => c.slot.holdsK o) || g2.limbo.any (fun sl => sl.holdsK o))
      = (g.cells.any (fun c => c.slot.holdsK o) || g.limbo.any (fun sl => sl.holdsK o))) :
    Settled (Spec.setSig t i g2) := by
  refine h.congr rfl rfl rfl (fun o => ?_) (fun o => ?_)
  · unfold Spec.heldT Spec.setSig
    simp only
    rw [any_aset_congr _ _ _ _ _ hx (hT o)]
  · unfold Spec.heldK Spec.setSig
    simp only
    rw [any_aset_congr _ _ _ _ _ hx (hK o)]

theorem Settled.setS {t : LSt} (h : Settled t) {i : Nat} {v v2 : SlotVar} (hx : aget t.S i = some v)
    (hs : v2.slot = v.slot) : Settled { t with S := aset t.S i v2 } := by
  refine h.congr rfl rfl rfl (fun o => ?_) (fun o => ?_)
  · unfold Spec.heldT
    simp only
    rw [any_aset_congr _ _ _ _ _ hx (by simp [hs])]
  · unfold Spec.heldK
    simp only
    rw [any_aset_congr _ _ _ _ _ hx (by simp [hs])]

theorem Settled.fail {t : LSt} (h : Settled t) (m : String) : Settled (t.fail m) := by
  unfold LSt.fail
  cases t.err
  · exact h.congr
  · exact h

end Sigc.SpecK
