import Sigc.Lemmas.SpecKPrimLists
/-!
# SpecKPrimFun — `dropHandle`, `collect`, `specTaint`, `mkFun` on related states (`Sim0` relates two pairs of states, so the
walk through `dropHandle`, `collectStep`, `collect` is made here and is no instance of `Spec.Releases`)
-/
namespace Sigc.SpecK
open Sigc.Model Sigc.Spec

theorem Q.ownedG_any {ρ : IdRel} {t u : LSt} (h : Q ρ t u) (g : Nat) :
    u.ownedG.any (fun p => decide (p.2 = g)) = t.ownedG.any (fun p => decide (p.2 = g)) :=
  (F2.any h.ownedG _ _ (fun a b hr => by rw [hr.2])).symm

theorem dropHandle_sim {ρ : IdRel} {t u : LSt} (h : Q ρ t u) (g : Nat) :
    Sim0 ρ t u (Spec.dropHandle t g) (Spec.dropHandle u g) := by
  unfold Spec.dropHandle
  refine (h.G.get g).on (Sim0.refl h) fun {hd hd'} hh => ?_
  dsimp only
  rw [hh.fl]
  have h1 : Sim0 ρ t u (if hd.fl.isTrackable = true then Spec.invalidateTrackable t hd.trk else t)
      (if hd.fl.isTrackable = true then Spec.invalidateTrackable u hd'.trk else u) := by
    split
    · exact invalidateTrackable_sim h hh.trk
    · exact Sim0.refl h
  generalize (if hd.fl.isTrackable = true then Spec.invalidateTrackable t hd.trk else t) = t1 at h1
  generalize (if hd.fl.isTrackable = true then Spec.invalidateTrackable u hd'.trk else u) = u1 at h1
  have h2 : Q ρ { t1 with G := adel t1.G g } { u1 with G := adel u1.G g } := { h1.q with G := h1.q.G.del g }
  have h2' : Sim0 ρ t u { t1 with G := adel t1.G g } { u1 with G := adel u1.G g } :=
    ⟨h2, h1.fr.trans (Fr.of_eq rfl rfl), h1.nk, h1.np⟩
  exact hh.impl.on h2' fun him => h2'.trans (gcSig_sim h2 him)

theorem collectStep_sim {ρ : IdRel} {t u : LSt} (h : Q ρ t u) :
    (Spec.collectStep t = none ∧ Spec.collectStep u = none) ∨
    ∃ t' u', Spec.collectStep t = some t' ∧ Spec.collectStep u = some u' ∧ Sim0 ρ t u t' u' := by
  unfold Spec.collectStep
  have hT := F2.find h.ownedT (fun o => !Spec.heldT t o) (fun o => !Spec.heldT u o)
    (fun a b hr => by rw [h.heldT hr])
  have hK := F2.find h.ownedK (fun p => !Spec.heldK t p.1) (fun p => !Spec.heldK u p.1)
    (fun a b hr => by rw [h.heldK hr.1])
  have hG := F2.find h.ownedG (fun p => !Spec.heldK t p.1) (fun p => !Spec.heldK u p.1)
    (fun a b hr => by rw [h.heldK hr.1])
  match t.ownedT.find? _, u.ownedT.find? _, hT with
  | _, _, .some ho =>
    have h1 : Q ρ { t with ownedT := t.ownedT.filter (· ≠ _) } { u with ownedT := u.ownedT.filter (· ≠ _) } :=
      { h with ownedT := F2.filter_key h.pb.keyed h.ownedT id id (fun _ _ x => x) ho }
    exact Or.inr ⟨_, _, rfl, rfl, (invalidateTrackable_sim h1 ho).pre rfl rfl rfl rfl⟩
  | _, _, .none =>
    dsimp only
    match t.ownedK.find? _, u.ownedK.find? _, hK with
    | _, _, @OR.some _ _ _ (k, p) (k', p') ⟨hk, hp⟩ =>
      have h1 : Q ρ { t with ownedK := adel t.ownedK k } { u with ownedK := adel u.ownedK k' } :=
        { h with ownedK := KR.del h.pb.keyed h.ownedK hk }
      refine Or.inr ⟨_, _, rfl, rfl, ?_⟩
      cases hp with
      | none => exact ⟨h1, Fr.of_eq rfl rfl, rfl, rfl⟩
      | some hc => exact (removeCell_sim h1 hc).pre rfl rfl rfl rfl
    | _, _, .none =>
      dsimp only
      match t.ownedG.find? _, u.ownedG.find? _, hG with
      | _, _, .none => exact Or.inl ⟨rfl, rfl⟩
      | _, _, @OR.some _ _ _ (k, g) (k', g') ⟨hk, hg⟩ =>
        dsimp only at hg
        subst hg
        have h1 : Q ρ { t with ownedG := adel t.ownedG k } { u with ownedG := adel u.ownedG k' } :=
          { h with ownedG := KR.del h.pb.keyed h.ownedG hk }
        exact Or.inr ⟨_, _, rfl, rfl, (dropHandle_sim h1 g).pre rfl rfl rfl rfl⟩

theorem collectN_sim {ρ : IdRel} (n : Nat) : ∀ {t u : LSt}, Q ρ t u →
    Sim0 ρ t u (Spec.collectN n t) (Spec.collectN n u) := by
  induction n with
  | zero => intro t u h; exact Sim0.refl h
  | succ n ih =>
    intro t u h
    unfold Spec.collectN
    rcases collectStep_sim h with ⟨e1, e2⟩ | ⟨t', u', e1, e2, hs⟩
    · rw [e1, e2]; exact Sim0.refl h
    · rw [e1, e2]; exact hs.trans (ih hs.q)

theorem collect_sim {ρ : IdRel} {t u : LSt} (h : Q ρ t u) : Sim0 ρ t u (Spec.collect t) (Spec.collect u) := by
  unfold Spec.collect
  rw [← h.ownedT.length, ← F2.length h.ownedK, ← F2.length h.ownedG]
  exact collectN_sim _ h

theorem specTaint_sim {ρ : IdRel} {t u : LSt} (h : Q ρ t u) (spec : FSpec) :
    Spec.specTaint u spec = Spec.specTaint t spec := by
  cases spec <;> try rfl
  · rename_i sv
    dsimp only [Spec.specTaint]
    exact (h.S.get sv).on rfl fun hr => hr.taint
  · rename_i g
    dsimp only [Spec.specTaint]
    exact (h.G.get g).on rfl fun hr => by dsimp only; rw [hr.lvl]

/-- the results of `Spec.mkFun` on related states -/
inductive MkR (ρ : IdRel) (t u : LSt) : Except String (Fun × LSt) → Except String (Fun × LSt) → Prop
  | err (e : String) : MkR ρ t u (.error e) (.error e)
  | ok {fn fn' : Fun} {t1 u1 : LSt} (ρ' : IdRel) : FunR ρ' fn fn' → Q ρ' t1 u1 → Step ρ ρ' t t1 u u1 → Fr t t1 →
      MkR ρ t u (.ok (fn, t1)) (.ok (fn', u1))

theorem MkR.same {ρ : IdRel} {t u : LSt} (h : Q ρ t u) {fn fn' : Fun} (hf : FunR ρ fn fn') :
    MkR ρ t u (.ok (fn, t)) (.ok (fn', u)) := .ok ρ hf h (Step.refl _ _ _) (Fr.refl _)

theorem mkFun_trk {ρ : IdRel} {t u : LSt} (h : Q ρ t u) (tt : Nat) {F F' : Nat → Except String (Fun × LSt)}
    (hF : ∀ o o', ρ o o' → MkR ρ t u (F o) (F' o')) :
    MkR ρ t u (match aget t.T tt with | none => .error "dead" | some o => F o)
      (match aget u.T tt with | none => .error "dead" | some o => F' o) := by
  exact (h.T.get tt).on (.err _) fun hr => hF _ _ hr

theorem mkFun_sim {ρ : IdRel} {t u : LSt} (h : Q ρ t u) (isVoid : Bool) (spec : FSpec) :
    MkR ρ t u (Spec.mkFun t isVoid spec) (Spec.mkFun u isVoid spec) := by
  cases spec with
  | fn fid => exact .same h (.leaf fid .nil)
  | mem fid tt => exact mkFun_trk h tt fun _ _ hr => .same h (.leaf fid (F2.single hr))
  | bref fid tt => exact mkFun_trk h tt fun _ _ hr => .same h (.leaf fid (F2.single hr))
  | trk fid t1 t2 =>
    refine mkFun_trk h t1 fun _ _ hr => ?_
    cases t2 with
    | none => exact .same h (.leaf fid (F2.single hr))
    | some t2 => exact mkFun_trk h t2 fun _ _ hr2 => .same h (.leaf fid (.cons hr (F2.single hr2)))
  | nest sv =>
    dsimp only [Spec.mkFun]
    refine (h.S.get sv).on (.err _) fun hr => ?_
    dsimp only
    rw [hr.isVoid]
    split
    · exact .err _
    · have hc := hr.slot.copy
      rw [hc.blocked]
      refine hc.rep.on (.same h (.nestNone _)) fun hrr => ?_
      dsimp only
      exact hrr.fn.on (.same h (.nestNone _)) fun hf => .same h (.nestSome _ hf)
  | fwd g =>
    dsimp only [Spec.mkFun]
    refine (h.G.get g).on (.err _) fun hr => ?_
    dsimp only
    rw [hr.fl, h.ownedG_any g]
    split
    · exact .err _
    · split
      · exact .err _
      refine .ok ρ (.fwd hr.obj ?_) { h with G := AR.set h.G g ⟨hr.obj, rfl, hr.impl, hr.trk, hr.lvl, rfl⟩ }
        (Step.of_eq rfl rfl) (Fr.of_eq rfl rfl)
      split
      · exact F2.single hr.trk
      · exact .nil
  | ownT fid tt =>
    exact mkFun_trk h tt fun _ _ hr => .ok ρ (.owner fid (F2.single hr) .nil)
      { h with T := h.T.del tt, ownedT := .cons hr h.ownedT } (Step.of_eq rfl rfl) (Fr.of_eq rfl rfl)
  | ownK fid k =>
    dsimp only [Spec.mkFun]
    refine (h.K.get k).on (.err _) fun hr => ?_
    have hq := h.fresh
    have hn : ext ρ t.next u.next t.next u.next := ext_new _ _ _
    exact .ok (ext ρ t.next u.next) (.owner fid .nil (F2.single hn))
      { hq with K := hq.K.del k, ownedK := .cons ⟨hn, hr.imp (ext_sub _ _ _)⟩ hq.ownedK }
      (Step.fresh_of_eq rfl rfl) (Fr.of_eq rfl rfl)
  | ownG fid g =>
    dsimp only [Spec.mkFun]
    refine (h.G.get g).on (.err _) fun hr => ?_
    dsimp only
    rw [hr.fl, hr.everFwd, h.ownedG_any g]
    split
    · exact .err _
    · split
      · exact .err _
      · have hq := h.fresh
        have hn : ext ρ t.next u.next t.next u.next := ext_new _ _ _
        exact .ok (ext ρ t.next u.next) (.owner fid .nil (F2.single hn))
          { hq with ownedG := .cons ⟨hn, rfl⟩ hq.ownedG }
          (Step.fresh_of_eq rfl rfl) (Fr.of_eq rfl rfl)
  | bad => exact .err _

end Sigc.SpecK
