import Sigc.Lemmas.RefineKeepsPrims
import Sigc.Lemmas.InvSchema
/-!
`Keeps` for every operation without user code (`stepSimple`, move by move), for the mutual block (`all_keeps`) and for
`runTop`.  For the mutual block `Keeps k.1 ·`, seen from inside `k.2` user bodies entered since `k.1`, is a family of state
predicates (`KeepsI k`) that every primitive step preserves, so `Inv.preservedD` applies.
-/
namespace Sigc.Refine
open Sigc.Model


@[simp] theorem nx_fail (s : St) (m : String) : (s.fail m).next = s.next := (prim_fail s m).next
@[simp] theorem nx_setImpl (s : St) (i : Nat) (im : Impl) : (setImpl s i im).next = s.next := rfl
@[simp] theorem nx_setConn (s : St) (k : Nat) (p : Option Nat) : (setConn s k p).next = s.next := rfl

theorem keeps_gcOpt (s : St) (o : Option Nat) : Keeps s (gcOpt s o) := by
  cases o
  · exact Keeps.refl s
  · exact keeps_gcImpl s _

theorem keeps_connect (s : St) (im : Nat) (first : Bool) (sl : SlotB) (k : Nat) :
    Keeps s (setConn (insertCell s im first sl).1 k (some (insertCell s im first sl).2)) :=
  (keeps_insertCell s im first sl).trans (keeps_setConn _ _ _)

theorem keeps_move {s s' : St} (m : Move s s') : Keeps s s' := by
  cases m with
  | lib l => exact ((prim_lib _).lib l (.refl _)).keeps
  | newT _ => exact Keeps.of_eq rfl (Nat.le_succ _) rfl
  | delT _ => exact (keeps_invalidateTrackable _ _).after (Keeps.of_eq rfl (Nat.le_refl _) rfl)
  | setS _ => exact Keeps.of_eq rfl (Nat.le_refl _) rfl
  | made m => exact keeps_made m
  | mkS m _ _ => exact (keeps_made m).trans (Keeps.of_eq rfl (Nat.le_refl _) rfl)
  | newG _ _ _ _ => exact Keeps.of_eq rfl (Nat.le_add_right _ 2) rfl
  | ensure h => exact keeps_ensureImpl h
  | mvG _ _ => exact Keeps.of_eq rfl (Nat.le_add_right _ 2) rfl
  | asgG _ _ => exact (keeps_gcOpt _ _).after (Keeps.of_eq rfl (Nat.le_refl _) rfl)
  | masgG _ _ _ => exact (keeps_gcOpt _ _).after (Keeps.of_eq rfl (Nat.le_refl _) rfl)
  | drop _ => exact (prim_dropHandle _ _).keeps
  | conn k first _ _ => exact keeps_connect _ _ first _ k
  | connMv k first _ _ =>
    exact (keeps_connect _ _ first _ k).after (Keeps.of_eq rfl (Nat.le_refl _) rfl)
  | connfn k first m he => exact (keeps_made m).trans ((keeps_ensureImpl he).trans (keeps_connect _ _ first _ k))
  | setCK _ => exact Keeps.of_eq rfl (Nat.le_refl _) rfl

theorem keeps_built {s s' : St} (b : Built s s') : Keeps s s' := by
  induction b with
  | refl => exact Keeps.refl _
  | step m _ ih => exact (keeps_move m).trans ih

theorem stepSimple_keeps {s s' : St} {op : Op} {r : String} (h : Model.stepSimple s op = some (s', r)) :
    Keeps s s' := keeps_built (stepSimple_built h)


def InvokeK (f : Nat) : Prop := ∀ P s fn arg s' o v, invokeFun f P s fn arg = some (s', o, v) → Keeps s s'
def BodyK (f : Nat) : Prop := ∀ P s ls s' o, runBody f P s ls = some (s', o) → Keeps s s'
def LineK (f : Nat) : Prop := ∀ P s l s' o, execLine f P s l = some (s', o) → Keeps s s'
def EmitK (f : Nat) : Prop := ∀ P s fl impl arg strat s' o v,
  emitImpl f P s fl impl arg strat = some (s', o, v) → Keeps s s'
def LoopK (f : Nat) : Prop := ∀ P s i cur m arg r s' o v, emitLoop f P s i cur m arg r = some (s', o, v) → Keeps s s'
def DerefK (f : Nat) : Prop := ∀ P s i it arg s' o it', deref f P s i it arg = some (s', o, it') → Keeps s s'
def AccK (f : Nat) : Prop := ∀ P s i it m arg mode k r s' o v,
  accLoop f P s i it m arg mode k r = some (s', o, v) → Keeps s s'
def RevK (f : Nat) : Prop := ∀ P s i it first arg r s' o v,
  revLoop f P s i it first arg r = some (s', o, v) → Keeps s s'
def WalkK (f : Nat) : Prop := ∀ P s i it first m arg ops r s' o v,
  walkLoop f P s i it first m arg ops r = some (s', o, v) → Keeps s s'
def StratK (f : Nat) : Prop := ∀ P s i first m arg strat s' o v,
  runStrat f P s i first m arg strat = some (s', o, v) → Keeps s s'
def OpK (f : Nat) : Prop := ∀ P s op s' res, execOp f P s op = some (s', res) → Keeps s s'


def KeepsI (k : St × Nat) (s : St) : Prop :=
  s.depth = k.1.depth + k.2 ∧ k.1.next ≤ s.next ∧ ∀ Z, Off Z k.1 → Off Z s

theorem KeepsI.step {k : St × Nat} {s s' : St} (h : KeepsI k s) (g : Keeps s s') : KeepsI k s' :=
  ⟨g.depth.trans h.1, Nat.le_trans h.2.1 g.next, fun Z hz => g.off Z (h.2.2 Z hz)⟩

theorem keeps_callEpi (s : St) (i : Nat) : Keeps s (Inv.callEpi s i) := by
  unfold Inv.callEpi
  split
  · exact Keeps.of_eq rfl (Nat.le_refl _) rfl
  · exact keeps_fail _ _

/-- the end marker is appended unlinked -/
theorem keeps_emitPro {s : St} {i : Nat} {im : Impl} (hi : aget s.impls i = some im) :
    Keeps s (Inv.emitPro s i im) :=
  (keeps_setImpl_of (s := s.fresh.2) hi _ fun c' hc' hlk => by
    simp only [List.mem_append, List.mem_singleton] at hc'
    rcases hc' with hc' | rfl
    · exact ⟨c', hc', rfl, hlk⟩
    · simp at hlk).after (Keeps.of_eq rfl (Nat.le_succ _) rfl)

theorem keeps_dropHolder (s : St) (i : Nat) : Keeps s (Inv.dropHolder s i) := by
  unfold Inv.dropHolder
  split
  · exact Keeps.refl _
  · rename_i im3 h3; exact keeps_setImpl_of h3 _ fun c' hc' hl => ⟨c', hc', rfl, hl⟩

theorem keeps_emitEpi (s : St) (i m : Nat) : Keeps s (Inv.emitEpi s i m) := by
  unfold Inv.emitEpi
  split
  · exact keeps_fail _ _
  · refine (((Keeps.trans ?_ (keeps_unrefExec _ _)).trans (keeps_dropHolder _ _)).trans (keeps_gcImpl _ _)).trans
      (keeps_collect _)
    split
    · exact keeps_eraseCell _ _ _
    · exact keeps_fail _ _

theorem keepsI_stable : Inv.StableKD KeepsI where
  logCall _ _ _ _ h := h
  logRes _ _ _ _ h := h
  fail _ _ _ h := h.step (keeps_fail _ _)
  body k _ h := ⟨(k.1, k.2 + 1), ⟨by simp [h.1]; omega, h.2⟩, fun _ h2 => ⟨by simp [h2.1], h2.2⟩⟩
  steps _ _ _ h := h
  call k _ i _ h _ := ⟨k, h, fun s2 h2 => h2.step (keeps_callEpi s2 i)⟩
  simple _ _ _ _ _ h e := h.step (stepSimple_keeps e)
  collect _ _ h := h.step (keeps_collect _)
  emit k s i _ h hi := ⟨k, h.step (keeps_emitPro hi), fun s2 h2 => h2.step (keeps_emitEpi s2 i s.next)⟩


structure AllKeeps (f : Nat) : Prop where
  invoke : InvokeK f
  body : BodyK f
  line : LineK f
  emit : EmitK f
  loop : LoopK f
  deref : DerefK f
  acc : AccK f
  rev : RevK f
  walk : WalkK f
  strat : StratK f
  op : OpK f

theorem all_keeps (f : Nat) : AllKeeps f :=
  have p := Inv.preservedD keepsI_stable f
  have mk {s s' : St} (hi : KeepsI (s, 0) s') : Keeps s s' := ⟨hi.1, hi.2.1, hi.2.2⟩
  have r (s : St) : KeepsI (s, 0) s := ⟨rfl, Nat.le_refl _, fun _ h => h⟩
  { invoke := fun P s fn arg _ _ _ h => mk (p.1 _ P s fn arg _ (r s) h)
    body := fun P s ls _ _ h => mk (p.2.1 _ P s ls _ (r s) h)
    line := fun P s l _ _ h => mk (p.2.2.1 _ P s l _ (r s) h)
    emit := fun P s fl impl arg strat _ _ _ h => mk (p.2.2.2.1 _ P s fl impl arg strat _ (r s) h)
    loop := fun P s i cur m arg v _ _ _ h => mk (p.2.2.2.2.1 _ P s i cur m arg v _ (r s) h)
    deref := fun P s i it arg _ _ _ h => mk (p.2.2.2.2.2.1 _ P s i it arg _ (r s) h)
    acc := fun P s i it m arg mode kk v _ _ _ h => mk (p.2.2.2.2.2.2.1 _ P s i it m arg mode kk v _ (r s) h)
    rev := fun P s i it first arg v _ _ _ h => mk (p.2.2.2.2.2.2.2.1 _ P s i it first arg v _ (r s) h)
    walk := fun P s i it first m arg cs v _ _ _ h => mk (p.2.2.2.2.2.2.2.2.1 _ P s i it first m arg cs v _ (r s) h)
    strat := fun P s i first m arg st _ _ _ h => mk (p.2.2.2.2.2.2.2.2.2.1 _ P s i first m arg st _ (r s) h)
    op := fun P s op _ _ h => mk (p.2.2.2.2.2.2.2.2.2.2 _ P s op _ (r s) h) }


theorem invokeFun_keeps {f : Nat} {P : Prog} {s s' : St} {fn : Fun} {arg : Nat} {o : Outcome} {v : Nat}
    (h : invokeFun f P s fn arg = some (s', o, v)) : Keeps s s' := (all_keeps f).invoke P s fn arg s' o v h
theorem runBody_keeps {f : Nat} {P : Prog} {s s' : St} {ls : List Line} {o : Outcome}
    (h : runBody f P s ls = some (s', o)) : Keeps s s' := (all_keeps f).body P s ls s' o h
theorem execLine_keeps {f : Nat} {P : Prog} {s s' : St} {l : Line} {o : Outcome}
    (h : execLine f P s l = some (s', o)) : Keeps s s' := (all_keeps f).line P s l s' o h
theorem emitImpl_keeps {f : Nat} {P : Prog} {s s' : St} {fl : Flavour} {impl : Option Nat} {arg : Nat} {strat : Strat}
    {o : Outcome} {v : Nat} (h : emitImpl f P s fl impl arg strat = some (s', o, v)) : Keeps s s' :=
  (all_keeps f).emit P s fl impl arg strat s' o v h
theorem emitLoop_keeps {f : Nat} {P : Prog} {s s' : St} {i cur m arg r : Nat} {o : Outcome} {v : Nat}
    (h : emitLoop f P s i cur m arg r = some (s', o, v)) : Keeps s s' := (all_keeps f).loop P s i cur m arg r s' o v h
theorem deref_keeps' {f : Nat} {P : Prog} {s s' : St} {i : Nat} {it it' : IterBuf} {arg : Nat} {o : Outcome}
    (h : deref f P s i it arg = some (s', o, it')) : Keeps s s' := (all_keeps f).deref P s i it arg s' o it' h
theorem accLoop_keeps {f : Nat} {P : Prog} {s s' : St} {i : Nat} {it : IterBuf} {m arg mode k r : Nat} {o : Outcome}
    {v : Nat} (h : accLoop f P s i it m arg mode k r = some (s', o, v)) : Keeps s s' :=
  (all_keeps f).acc P s i it m arg mode k r s' o v h
theorem revLoop_keeps {f : Nat} {P : Prog} {s s' : St} {i : Nat} {it : IterBuf} {first arg r : Nat} {o : Outcome}
    {v : Nat} (h : revLoop f P s i it first arg r = some (s', o, v)) : Keeps s s' :=
  (all_keeps f).rev P s i it first arg r s' o v h
theorem walkLoop_keeps {f : Nat} {P : Prog} {s s' : St} {i : Nat} {it : IterBuf} {first m arg : Nat} {ops : List Char}
    {r : Nat} {o : Outcome} {v : Nat} (h : walkLoop f P s i it first m arg ops r = some (s', o, v)) : Keeps s s' :=
  (all_keeps f).walk P s i it first m arg ops r s' o v h
theorem runStrat_keeps {f : Nat} {P : Prog} {s s' : St} {i first m arg : Nat} {strat : Strat} {o : Outcome} {v : Nat}
    (h : runStrat f P s i first m arg strat = some (s', o, v)) : Keeps s s' :=
  (all_keeps f).strat P s i first m arg strat s' o v h
theorem execOp_keeps {f : Nat} {P : Prog} {s s' : St} {op : Op} {res : Except Unit String}
    (h : execOp f P s op = some (s', res)) : Keeps s s' := (all_keeps f).op P s op s' res h

theorem runTop_keeps {f : Nat} {P : Prog} {s s' : St} {ls : List Line} (h : Model.runTop f P s ls = some s') :
    Keeps s s' :=
  Sigc.Inv.runTop_induct (J := Keeps s) (fun _ _ _ _ k h1 => k.trans (execLine_keeps h1)) (Keeps.refl _) h

end Sigc.Refine
