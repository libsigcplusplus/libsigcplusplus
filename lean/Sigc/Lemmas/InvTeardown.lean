import Sigc.Lemmas.InvBal
import Sigc.Lemmas.InvInc
/-!
# what the harness teardown leaves behind

no step of `teardown` adds a name, and `delK`, `delC`, `delS`, `delT` and the destruction of a signal object each remove the
name they are for (`Removes`); `clear` removes none and goes through the same phase lemma with the empty map.  So a phase
ends with none of the names it walked over (`tdSeq_phase`; `foldl_forceDelG_td` for the fold that destroys the signal
objects), and after the teardown of a quiescent state all name maps are empty (`teardown_empty`); with `Bal` (every impl
is owned by a handle) also `impls`.
-/
namespace Sigc.Inv
open Sigc.Model

/-- the names alive in a state -/
structure Keys where
  K : List Nat
  C : List Nat
  S : List Nat
  G : List Nat
  T : List Nat

def keysOf (s : St) : Keys :=
  ⟨s.K.map (·.1), s.C.map (·.1), s.S.map (·.1), s.G.map (·.1), s.T.map (·.1)⟩

theorem keysOf_nullConns (s : St) (c : Nat) : keysOf (nullConns s c) = keysOf s := by
  simp only [keysOf, nullConns, keys_amap]

theorem keysOf_nullConnsList (ids : List Nat) (s : St) : keysOf (nullConnsList s ids) = keysOf s :=
  foldl_frame nullConns keysOf keysOf_nullConns ids s

/-- not `LibBlind.pred`: `keysOf` reads the names of `C`, `K`, `S`, which the primitive updates rewrite (value by value) -/
theorem Keys.prims (Q : Keys → Prop) : PrimsA (fun s => Q (keysOf s)) where
  upd _ _ _ _ _ _ _ h _ _ := h
  filter s i im p d ids _ h _ _ := by
    show Q (keysOf (nullConnsList _ _))
    rw [keysOf_nullConnsList]; exact h
  delImpl s i im _ h _ _ _ := by
    show Q (keysOf (nullConnsList _ _))
    rw [keysOf_nullConnsList]; exact h
  invalS s t _ h := by
    have : keysOf { s with S := (amap s.S
        (fun v => if v.slot.tracksObj t then { v with slot := v.slot.invalidate } else v)) } = keysOf s := by
      simp only [keysOf, keys_amap]
    rw [this]; exact h

theorem keysOf_invalidateTrackable (s : St) (t : Nat) : keysOf (invalidateTrackable s t) = keysOf s :=
  (Keys.prims (· = keysOf s)).invalidateTrackable t rfl
theorem keysOf_disconnectCell (s : St) (c : Nat) : keysOf (disconnectCell s c) = keysOf s :=
  (Keys.prims (· = keysOf s)).disconnectCell c rfl
theorem keysOf_clearImpl (s : St) (i : Nat) : keysOf (clearImpl s i) = keysOf s :=
  (Keys.prims (· = keysOf s)).clearImpl i rfl
theorem keysOf_gcImpl (s : St) (i : Nat) : keysOf (gcImpl s i) = keysOf s :=
  (Keys.prims (· = keysOf s)).gcImpl i rfl

/-- the names of `b` are among those of `a`, map by map -/
structure Keys.Sub (b a : Keys) : Prop where
  K : b.K ⊆ a.K
  C : b.C ⊆ a.C
  S : b.S ⊆ a.S
  G : b.G ⊆ a.G
  T : b.T ⊆ a.T

theorem Keys.Sub.refl (a : Keys) : a.Sub a := ⟨fun _ h => h, fun _ h => h, fun _ h => h, fun _ h => h, fun _ h => h⟩

theorem Keys.Sub.trans {a b c : Keys} (h : c.Sub b) (h' : b.Sub a) : c.Sub a :=
  ⟨fun _ x => h'.K (h.K x), fun _ x => h'.C (h.C x), fun _ x => h'.S (h.S x), fun _ x => h'.G (h.G x),
   fun _ x => h'.T (h.T x)⟩

/-- from the names `a` to the names `b` the name `k` has left the map `get` and no name has been added: what one step of
    the teardown does (`delK_keys` … `forceDelG_keys`); a sequence of such steps is `tdSeq_phase` -/
def Removes (get : Keys → List Nat) (k : Nat) (a b : Keys) : Prop := b.Sub a ∧ k ∉ get b

theorem keys_adel_removes {α : Type} (l : List (Nat × α)) (k : Nat) :
    (adel l k).map (·.1) ⊆ l.map (·.1) ∧ k ∉ (adel l k).map (·.1) := by
  rw [keys_adel]
  exact ⟨fun _ h => (List.mem_filter.1 h).1, fun h => by simpa using (List.mem_filter.1 h).2⟩

theorem delK_keys {f : Nat} {P : Prog} {s : St} {k : Nat} {r : St × Except Unit String}
    (h : execOp f P s (.delK k) = some r) : Removes (·.K) k (keysOf s) (keysOf r.1) := by
  rcases execOp_simple_of k (by simp) h with ⟨r0, hs⟩ | ⟨hs, _⟩
  · simp only [stepSimple] at hs
    split at hs
    · rename_i hn
      simp only [Option.some.injEq, Prod.mk.injEq] at hs
      rw [← hs.1]
      exact ⟨.refl _, aget_none_iff.1 hn⟩
    · simp only [Option.some.injEq, Prod.mk.injEq] at hs
      rw [← hs.1]
      have e : Removes (·.K) k (keysOf s) (keysOf { s with K := adel s.K k }) :=
        ⟨{ Keys.Sub.refl _ with K := (keys_adel_removes _ k).1 }, (keys_adel_removes _ k).2⟩
      split
      · rw [keysOf_disconnectCell]; exact e
      · exact e
  · simp [stepSimple] at hs
    split at hs <;> cases hs

theorem delC_keys {f : Nat} {P : Prog} {s : St} {k : Nat} {r : St × Except Unit String}
    (h : execOp f P s (.delC k) = some r) : Removes (·.C) k (keysOf s) (keysOf r.1) := by
  rcases execOp_simple_of k (by simp) h with ⟨r0, hs⟩ | ⟨hs, _⟩
  · simp only [stepSimple] at hs
    split at hs
    · rename_i hn
      simp only [Option.some.injEq, Prod.mk.injEq] at hs
      rw [← hs.1]
      exact ⟨.refl _, aget_none_iff.1 hn⟩
    · simp only [Option.some.injEq, Prod.mk.injEq] at hs
      rw [← hs.1]
      exact ⟨{ Keys.Sub.refl _ with C := (keys_adel_removes _ k).1 }, (keys_adel_removes _ k).2⟩
  · simp [stepSimple] at hs
    split at hs <;> cases hs

theorem delS_keys {f : Nat} {P : Prog} {s : St} {k : Nat} {r : St × Except Unit String}
    (hc : Inc (fun _ => 0) s) (h : execOp f P s (.delS k) = some r) : Removes (·.S) k (keysOf s) (keysOf r.1) := by
  rcases execOp_simple_of k (by simp) h with ⟨r0, hs⟩ | ⟨hs, _⟩
  · simp only [stepSimple] at hs
    split at hs
    · rename_i hn
      simp only [Option.some.injEq, Prod.mk.injEq] at hs
      rw [← hs.1]
      exact ⟨.refl _, aget_none_iff.1 hn⟩
    · rename_i v hv
      have : ¬ v.incall > 0 := by rw [hc.1 k v hv]; exact Nat.lt_irrefl 0
      simp only [this, if_false, Option.some.injEq, Prod.mk.injEq] at hs
      rw [← hs.1]
      exact ⟨{ Keys.Sub.refl _ with S := (keys_adel_removes _ k).1 }, (keys_adel_removes _ k).2⟩
  · simp [stepSimple] at hs
    split at hs
    · cases hs
    · split at hs <;> cases hs

theorem clear_keys {f : Nat} {P : Prog} {s : St} {g : Nat} {r : St × Except Unit String}
    (h : execOp f P s (.clear g) = some r) : keysOf r.1 = keysOf s := by
  rcases execOp_simple_of g (by simp) h with ⟨r0, hs⟩ | ⟨hs, e⟩
  · simp only [stepSimple] at hs
    split at hs
    · simp only [Option.some.injEq, Prod.mk.injEq] at hs
      rw [← hs.1]
    · simp only [Option.some.injEq, Prod.mk.injEq] at hs
      rw [← hs.1]
      split
      · exact keysOf_clearImpl _ _
      · rfl
  · rw [e]

theorem delT_keys {f : Nat} {P : Prog} {s : St} {k : Nat} {r : St × Except Unit String}
    (h : execOp f P s (.delT k) = some r) : Removes (·.T) k (keysOf s) (keysOf r.1) := by
  rcases execOp_simple_of k (by simp) h with ⟨r0, hs⟩ | ⟨hs, _⟩
  · simp only [stepSimple] at hs
    split at hs
    · rename_i hn
      simp only [Option.some.injEq, Prod.mk.injEq] at hs
      rw [← hs.1]
      exact ⟨.refl _, aget_none_iff.1 hn⟩
    · simp only [Option.some.injEq, Prod.mk.injEq] at hs
      rw [← hs.1, keysOf_invalidateTrackable]
      exact ⟨{ Keys.Sub.refl _ with T := (keys_adel_removes _ k).1 }, (keys_adel_removes _ k).2⟩
  · simp [stepSimple] at hs
    split at hs <;> cases hs

theorem forceDelG_keys (s : St) (g : Nat) : Removes (·.G) g (keysOf s) (keysOf (forceDelG s g)) := by
  unfold forceDelG
  split
  · exact ⟨.refl _, aget_none_iff.1 ‹_›⟩
  · rename_i hd _
    have h1 : keysOf (if hd.fl.isTrackable then invalidateTrackable s hd.trk else s) = keysOf s := by
      split
      · exact keysOf_invalidateTrackable _ _
      · rfl
    have h2 : Removes (·.G) g (keysOf s) (keysOf { (if hd.fl.isTrackable then invalidateTrackable s hd.trk else s) with
        G := adel (if hd.fl.isTrackable then invalidateTrackable s hd.trk else s).G g }) := by
      rw [← h1]
      exact ⟨{ Keys.Sub.refl _ with G := (keys_adel_removes _ g).1 }, (keys_adel_removes _ g).2⟩
    simp only []
    split
    · rw [keysOf_gcImpl]; exact h2
    · exact h2

/-- carried through the teardown: `Inc 0`, so that `delS` is not refused as `busy`; `Bal 0`, so that no impl outlives the
    handles -/
def TdInv (s : St) : Prop := WF s ∧ Bal (fun _ => 0) s ∧ Inc (fun _ => 0) s

theorem TdInv.reachable (f : Nat) (P : Prog) (s : St) (h : runTop f P {} P.top = some s) : TdInv s :=
  ⟨WF.reachable f P s h, Bal.reachable f P s h, Inc.reachable f P s h⟩

theorem TdInv.execOp {f : Nat} {P : Prog} {s : St} {op : Op} {r : St × Except Unit String} (h : TdInv s)
    (hr : Model.execOp f P s op = some r) : TdInv r.1 := by
  have hb := execOp_preserved WBal.stable (k := fun _ => 0) ⟨h.1, h.2.1⟩ hr
  exact ⟨hb.1, hb.2, Inc.execOp h.2.2 hr⟩

theorem TdInv.forceDelG {s : St} (g : Nat) (h : TdInv s) : TdInv (forceDelG s g) :=
  ⟨WF.forceDelG s g h.1, Bal.forceDelG _ s g h.2.1, Inc.forceDelG _ s g h.2.2⟩

/-- one phase: a sequence of operations `mk k`, each of which removes the name `k` from the map `get`, ends with none of
    these names in that map -/
theorem tdSeq_phase (f : Nat) (P : Prog) (mk : Nat → Op) (get : Keys → List Nat)
    (hget : ∀ {a b : Keys}, b.Sub a → get b ⊆ get a)
    (hk : ∀ s k r, TdInv s → execOp f P s (mk k) = some r → Removes get k (keysOf s) (keysOf r.1)) :
    ∀ (ks : List Nat) (s s' : St), TdInv s → tdSeq f P (some s) (ks.map mk) = some s' →
      TdInv s' ∧ (keysOf s').Sub (keysOf s) ∧ ∀ k ∈ ks, k ∉ get (keysOf s') := by
  intro ks
  induction ks with
  | nil =>
    intro s s' hs h
    simp only [List.map_nil, tdSeq, List.foldl_nil, Option.some.injEq] at h
    subst h
    exact ⟨hs, .refl _, fun _ h => nomatch h⟩
  | cons k ks ih =>
    intro s s' hs h
    obtain ⟨s1, r, heq, h⟩ := tdSeq_cons_some h
    obtain ⟨b1, g1⟩ := hk s k _ hs heq
    obtain ⟨h2, b2, g2⟩ := ih _ _ (hs.execOp heq) h
    refine ⟨h2, b2.trans b1, fun k' hk' hm => ?_⟩
    rcases List.mem_cons.1 hk' with rfl | hk'
    · exact g1 (hget b2 hm)
    · exact g2 k' hk' hm

theorem nil_of_removed {α β : Type} {m : List (Nat × β)} {l : List Nat} {t : List (Nat × α)} (h1 : m.map (·.1) ⊆ l)
    (h2 : l ⊆ t.map (·.1)) (hg : ∀ k ∈ sortedKeys t, k ∉ l) : m = [] :=
  List.map_eq_nil_iff.1 (List.eq_nil_iff_forall_not_mem.2 fun x hx =>
    hg x ((mem_sortedKeys _ _).2 (h2 (h1 hx))) (h1 hx))

theorem foldl_forceDelG_td (gs : List Nat) : ∀ s : St, TdInv s →
    TdInv (gs.foldl forceDelG s) ∧ (keysOf (gs.foldl forceDelG s)).Sub (keysOf s) ∧
      ∀ g ∈ gs, g ∉ (keysOf (gs.foldl forceDelG s)).G := by
  induction gs with
  | nil => intro s h; exact ⟨h, .refl _, fun _ h => nomatch h⟩
  | cons g gs ih =>
    intro s h
    obtain ⟨b1, g1⟩ := forceDelG_keys s g
    obtain ⟨h2, b2, g2⟩ := ih _ (h.forceDelG g)
    refine ⟨h2, b2.trans b1, fun k' hk' hm => ?_⟩
    rcases List.mem_cons.1 hk' with rfl | hk'
    · exact g1 (b2.G hm)
    · exact g2 k' hk' hm

theorem teardown_empty (f : Nat) (P : Prog) (s s' : St) (hs : TdInv s) (h : teardown f P s = some s') :
    TdInv s' ∧ s'.K = [] ∧ s'.C = [] ∧ s'.S = [] ∧ s'.G = [] ∧ s'.T = [] ∧ s'.impls = [] := by
  rw [teardown_eq] at h
  split at h
  · cases h
  rename_i s1 h1
  -- the two `(·.K)`: the map of `Keys` the phase empties, and its clause of `Keys.Sub`
  obtain ⟨i1, b1, g1⟩ := tdSeq_phase f P Op.delK (·.K) (·.K) (fun s k r _ hr => delK_keys hr) _ s s1 hs h1
  split at h
  · cases h
  rename_i s2 h2
  rw [tdSeq_append, tdSeq_append] at h2
  cases ha : tdSeq f P (some s1) ((sortedKeys s1.C).map Op.delC) with
  | none => rw [ha, tdSeq_none, tdSeq_none] at h2; cases h2
  | some s1a =>
  rw [ha] at h2
  obtain ⟨ia, ba, ga⟩ := tdSeq_phase f P Op.delC (·.C) (·.C) (fun s k r _ hr => delC_keys hr) _ s1 s1a i1 ha
  cases hb : tdSeq f P (some s1a) ((sortedKeys s1.S).map Op.delS) with
  | none => rw [hb, tdSeq_none] at h2; cases h2
  | some s1b =>
  rw [hb] at h2
  obtain ⟨ib, bb, gb⟩ := tdSeq_phase f P Op.delS (·.S) (·.S) (fun s k r hi hr => delS_keys hi.2.2 hr) _ s1a s1b ia hb
  obtain ⟨i2, b2, -⟩ := tdSeq_phase f P Op.clear (fun _ => []) (fun _ _ h => h)
    (fun s k r _ hr => ⟨clear_keys hr ▸ .refl _, fun h => nomatch h⟩) _ s1b s2 ib h2
  simp only [] at h
  obtain ⟨i3, b3, g3⟩ := foldl_forceDelG_td (sortedKeys s2.G) s2 i2
  obtain ⟨i4, b4, g4⟩ := tdSeq_phase f P Op.delT (·.T) (·.T) (fun s k r _ hr => delT_keys hr) _ _ s' i3 h
  -- each map: its names at the end are among those at the end of its own phase, where every name it had was removed
  have b32 := b4.trans (b3.trans b2)
  have fG : s'.G = [] := nil_of_removed b4.G b3.G g3
  refine ⟨i4, nil_of_removed (b32.trans (bb.trans ba)).K b1.K g1, nil_of_removed (b32.trans bb).C ba.C ga,
    nil_of_removed b32.S (bb.trans ba).S gb, fG, nil_of_removed (fun _ h => h) b4.T g4, ?_⟩
  -- `Bal` at index 0: an impl is pending, emitting or referenced by a handle; none of the three is left
  cases hi : s'.impls with
  | nil => rfl
  | cons p t =>
    exfalso
    obtain ⟨i, im⟩ := p
    have hget : aget s'.impls i = some im := by rw [hi]; simp [aget]
    rcases (i4.2.1.2.1 i im hget).2 with e | e | ⟨g, hd, hg, _⟩
    · cases e
    · exact Nat.lt_irrefl 0 e
    · rw [fG] at hg; simp [aget] at hg

end Sigc.Inv
