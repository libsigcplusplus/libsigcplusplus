import Sigc.Lemmas.SpecPDefs
/-!
# SpecPConn — `connected()` is not affected by changing an entry's blocking flag
-/
namespace Sigc.SpecP
open Sigc.Spec
open Sigc.Model (aget aset adel amap Prog Line Op FSpec Fun SlotB SlotVar Rep Handle Flavour Strat Outcome Event
  aget_nil aget_aset_same aget_aset_other aget_amap aget_adel_same aget_adel_other)

theorem any_map_congr (cs : List LCell) (F : LCell → LCell) (p : LCell → Bool) (h : ∀ c, p (F c) = p c) :
    (cs.map F).any p = cs.any p := by
  rw [List.any_map, funext (f := p ∘ F) h]

theorem find_map_congr (cs : List LCell) (F : LCell → LCell) (p : LCell → Bool) (h : ∀ c, p (F c) = p c) :
    (cs.map F).find? p = (cs.find? p).map F := by
  rw [List.find?_map, funext (f := p ∘ F) h]

theorem findSig_aset_map (F : LCell → LCell) (hF : ∀ c, (F c).id = c.id ∧ (F c).zombie = c.zombie) (cid j : Nat) :
    ∀ (sigs : List (Nat × LSig)) (g : LSig), aget sigs j = some g →
      findSig (aset sigs j { g with cells := g.cells.map F }) cid = findSig sigs cid := by
  intro sigs
  induction sigs with
  | nil => intro g h; simp [aget] at h
  | cons p t ih =>
    intro g h
    obtain ⟨k, x⟩ := p
    by_cases hk : k = j
    · subst hk
      simp only [aget, if_true, Option.some.injEq] at h
      subst h
      simp only [aset, if_true, findSig]
      rw [any_map_congr _ F _ (fun c => by simp [(hF c).1, (hF c).2])]
    · simp only [aget, hk, if_false] at h
      simp only [aset, hk, if_false, findSig]
      rw [ih g h]

theorem getCell_setSig_map (s : LSt) (F : LCell → LCell)
    (hF : ∀ c, (F c).id = c.id ∧ (F c).zombie = c.zombie ∧ (F c).slot.empty = c.slot.empty)
    (j : Nat) (g : LSig) (hg : aget s.sigs j = some g) (cid : Nat) :
    (getCell (setSig s j { g with cells := g.cells.map F }) cid).map (fun x => x.2.slot.empty) =
      (getCell s cid).map (fun x => x.2.slot.empty) := by
  unfold getCell
  simp only [setSig]
  rw [findSig_aset_map F (fun c => ⟨(hF c).1, (hF c).2.1⟩) cid j s.sigs g hg]
  cases hf : findSig s.sigs cid with
  | none => rfl
  | some i =>
    simp only
    by_cases hi : i = j
    · subst hi
      rw [aget_aset_same, hg]
      simp only
      rw [find_map_congr _ F _ (fun c => by simp [(hF c).1, (hF c).2.1])]
      cases g.cells.find? (fun c => c.id = cid && !c.zombie) with
      | none => rfl
      | some c => simp [(hF c).2.2]
    · rw [aget_aset_other _ _ _ _ hi]

theorem connConnected_eq (s : LSt) (p : Option Nat) :
    connConnected s p = match p with
      | none => false
      | some cid => match (getCell s cid).map (fun x => x.2.slot.empty) with
        | none => false
        | some e => !e := by
  unfold connConnected
  cases p with
  | none => rfl
  | some cid =>
    simp only
    cases getCell s cid with
    | none => rfl
    | some x => rfl

theorem connConnected_updCell_blocked (s : LSt) (cid : Nat) (b : Bool) (p : Option Nat) :
    connConnected (updCell s cid (fun c => { c with slot := { c.slot with blocked := b } })) p = connConnected s p := by
  unfold updCell
  split
  · rfl
  · split
    · rfl
    · rename_i i _ g hg
      rw [connConnected_eq, connConnected_eq]
      cases p with
      | none => rfl
      | some c' =>
        simp only
        rw [getCell_setSig_map s _ ?_ _ g hg c']
        intro c
        split
        · exact ⟨rfl, rfl, rfl⟩
        · exact ⟨rfl, rfl, rfl⟩

end Sigc.SpecP
