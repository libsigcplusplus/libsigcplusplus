import Sigc.Model
/-!
One turn of each loop of the interpreter as an equation with named parts (`callableAt`, `emitStep`, `accAdvance`;
`accLoop_unfold`, `emitLoop_unfold`, `deref_cases`, `walkLoop_nil`, the turns that pass a cell over `deref_skip` and
`emitLoop_skip`, with `callableAt_eq_some` / `callableAt_of`): what `Sigc/Lemmas/InvSchema.lean` walks through once for every state predicate, and what `Sigc/Lemmas/StepIter.lean`
and `Sigc/Props/C13.lean` state their theorems in; and `execOp` on the operations that run no user code
(`Model.execOp_simple`).
-/
namespace Sigc.StepIter
open Sigc.Model

/-- the functor a dereference / loop step would invoke at cell `cur` of impl `i` in state `s`
    (`none`: list or cell gone, no rep, `call_ = nullptr`, functor released, or blocked) -/
def callableAt (s : St) (i cur : Nat) : Option Fun :=
  match aget s.impls i with
  | none => none
  | some im =>
    match im.cells.find? (·.id = cur) with
    | none => none
    | some c =>
      match c.slot.rep with
      | some { call := true, fn := some fn } => if c.slot.blocked then none else some fn
      | _ => none

/-- the `++it` of the accumulator loops: successor in the *current* list, flag reset -/
def accAdvance (f : Nat) (P : Prog) (i m arg mode k : Nat) (s : St) (it : IterBuf) (r : Nat) :
    Option (St × Outcome × Nat) :=
  match aget s.impls i with
  | none => some (s.fail "acc: impl destroyed", .ok, r)
  | some im =>
    match succId im.cells it.pos with
    | none => some (s.fail "acc: iterator invalidated", .ok, r)
    | some nxt => accLoop f P s i { it with pos := nxt, invoked := false } m arg mode k r

theorem accLoop_unfold (f : Nat) (P : Prog) (s : St) (i : Nat) (it : IterBuf) (m arg mode k r : Nat) :
    accLoop (f+1) P s i it m arg mode k r =
      (if it.pos = m then some (s, .ok, r) else
       if mode = 3 then accAdvance f P i m arg mode k s it (r + 1) else
       match deref f P s i it arg with
       | none => none
       | some (s, .exc, _) => some (s, .exc, r)
       | some (s, .ok, it') =>
         if mode = 1 && r + it'.buf ≥ k then some (s, .ok, r + it'.buf) else
         if mode = 2 then
           match deref f P s i (if mode = 4 then it else it') arg with
           | none => none
           | some (s, .exc, _) => some (s, .exc, r + it'.buf)
           | some (s, .ok, it2) => accAdvance f P i m arg mode k s it2 (r + it'.buf + it2.buf)
         else accAdvance f P i m arg mode k s (if mode = 4 then it else it') (r + it'.buf)) := by
  rw [accLoop]
  rfl

theorem walkLoop_nil (f : Nat) (P : Prog) (s : St) (i : Nat) (it : IterBuf) (first m arg r : Nat) :
    walkLoop (f+1) P s i it first m arg [] r = some (s, .ok, r) := by
  rw [walkLoop]

/-- what the non-accumulating loop does at cell `cur`: invoke it if it is callable -/
def emitStep (f : Nat) (P : Prog) (s : St) (i cur arg r : Nat) : Option (St × Outcome × Nat) :=
  match callableAt s i cur with
  | none => some (s, .ok, r)
  | some fn => invokeFun f P s fn arg

/-- `emitStep` at a cell that is there, in the words of `emitLoop` -/
theorem emitStep_eq {s : St} {i cur : Nat} {im : Impl} {c : Cell} (hi : aget s.impls i = some im)
    (hc : im.cells.find? (·.id = cur) = some c) (f : Nat) (P : Prog) (arg r : Nat) :
    emitStep f P s i cur arg r =
      (match c.slot.rep with
       | some { call := true, fn := some fn } => if c.slot.blocked then some (s, .ok, r) else invokeFun f P s fn arg
       | _ => some (s, .ok, r)) := by
  simp only [emitStep, callableAt, hi, hc]
  cases hrep : c.slot.rep with
  | none => rfl
  | some rp =>
    obtain ⟨call, fn⟩ := rp
    cases call <;> cases fn <;> cases c.slot.blocked <;> rfl

theorem emitLoop_unfold (f : Nat) (P : Prog) (s : St) (i cur m arg r : Nat) :
    emitLoop (f+1) P s i cur m arg r =
      (if cur = m then some (s, .ok, r) else
       match aget s.impls i with
       | none => some (s.fail "loop: impl destroyed", .ok, r)
       | some im =>
         match im.cells.find? (·.id = cur) with
         | none => some (s.fail "loop: iterator invalidated", .ok, r)
         | some _ =>
           match emitStep f P s i cur arg r with
           | none => none
           | some (s, .exc, v) => some (s, .exc, v)
           | some (s, .ok, v) =>
             match aget s.impls i with
             | none => some (s.fail "loop: impl destroyed", .ok, v)
             | some im2 =>
               match succId im2.cells cur with
               | none => some (s.fail "loop: iterator invalidated", .ok, v)
               | some nxt => emitLoop f P s i nxt m arg v) := by
  rw [emitLoop]
  by_cases hcm : cur = m
  · simp [hcm]
  · simp only [hcm, if_false]
    cases hi : aget s.impls i with
    | none => rfl
    | some im =>
      cases hc : im.cells.find? (·.id = cur) with
      | none => simp [hc]
      | some c =>
        simp only [emitStep_eq hi hc, hc]
        rfl

theorem callableAt_eq_some (s : St) (i cur : Nat) (fn : Fun) (h : callableAt s i cur = some fn) :
    ∃ im c, aget s.impls i = some im ∧ im.cells.find? (·.id = cur) = some c ∧
      c.slot.rep = some { call := true, fn := some fn } ∧ c.slot.blocked = false := by
  unfold callableAt at h
  split at h
  · cases h
  · rename_i im him
    split at h
    · cases h
    · rename_i c hc
      split at h
      · rename_i fn' hrep
        split at h
        · cases h
        · rename_i hb
          simp at h; subst h
          exact ⟨im, c, him, hc, hrep, by simpa using hb⟩
      · cases h

theorem callableAt_of (s : St) (i cur : Nat) (im : Impl) (c : Cell) (fn : Fun)
    (hi : aget s.impls i = some im) (hc : im.cells.find? (·.id = cur) = some c)
    (hrep : c.slot.rep = some { call := true, fn := some fn }) (hb : c.slot.blocked = false) :
    callableAt s i cur = some fn := by
  simp [callableAt, hi, hc, hrep, hb]

theorem deref_cases (f : Nat) (P : Prog) (s : St) (i arg : Nat) (it : IterBuf) :
    deref (f+1) P s i it arg =
      (if it.invoked then
         (match aget s.impls i with
          | none => some (s.fail "deref: impl destroyed", .ok, it)
          | some im =>
            match im.cells.find? (·.id = it.pos) with
            | none => some (s.fail "deref: iterator invalidated", .ok, it)
            | some _ => some (s, .ok, it))
       else
         match aget s.impls i with
         | none => some (s.fail "deref: impl destroyed", .ok, it)
         | some im =>
           match im.cells.find? (·.id = it.pos) with
           | none => some (s.fail "deref: iterator invalidated", .ok, it)
           | some _ =>
             match callableAt s i it.pos with
             | none => some (s, .ok, it)
             | some fn =>
               match invokeFun f P s fn arg with
               | none => none
               | some (s, .exc, _) => some (s, .exc, it)
               | some (s, .ok, v) => some (s, .ok, { it with buf := v, invoked := true })) := by
  rw [deref]
  cases hi : aget s.impls i with
  | none => simp
  | some im =>
    cases hc : im.cells.find? (·.id = it.pos) with
    | none => simp [hc]
    | some c =>
      simp only [callableAt, hi, hc]
      cases hrep : c.slot.rep with
      | none => simp
      | some rp =>
        obtain ⟨call, fn⟩ := rp
        cases call <;> cases fn <;> cases c.slot.blocked <;> cases it.invoked <;> rfl

theorem deref_skip (f : Nat) (P : Prog) (s : St) (i arg : Nat) (it : IterBuf) (im : Impl) (c : Cell)
    (hi : aget s.impls i = some im) (hc : im.cells.find? (·.id = it.pos) = some c)
    (h : it.invoked = true ∨ callableAt s i it.pos = none) : deref (f+1) P s i it arg = some (s, .ok, it) := by
  rw [deref_cases]
  simp only [hi, hc]
  rcases h with h | h <;> simp [h]

/-- the plain loop passes over a cell that is not callable (empty, invalidated, an end marker, blocked) -/
theorem emitLoop_skip (f : Nat) (P : Prog) (s : St) (i cur m arg r : Nat) (im : Impl) (c : Cell)
    (hne : cur ≠ m) (hi : aget s.impls i = some im) (hc : im.cells.find? (·.id = cur) = some c)
    (hn : callableAt s i cur = none) (nxt : Nat) (hs : succId im.cells cur = some nxt) :
    emitLoop (f+1) P s i cur m arg r = emitLoop f P s i nxt m arg r := by
  rw [emitLoop_unfold]
  simp only [hne, if_false, hi, hc, emitStep, hn, hs]

end Sigc.StepIter

namespace Sigc.Model

/-- an operation other than `callS`, `emit`, `throw_` runs no user code: `execOp` answers with `modeRule` or `stepSimple` -/
theorem execOp_simple (f : Nat) (P : Prog) (s : St) (op : Op)
    (hc : ∀ i arg, op ≠ .callS i arg) (he : ∀ g a st t, op ≠ .emit g a st t) (ht : op ≠ .throw_) :
    execOp (f+1) P s op =
      (match modeRule P s op with
       | some r => some (s, .ok r)
       | none =>
         match stepSimple s op with
         | some (s, r) => some (s, .ok r)
         | none => some (s, .ok "badop")) := by
  rw [execOp]
  · rfl
  · exact hc
  · exact he
  · exact ht

end Sigc.Model
