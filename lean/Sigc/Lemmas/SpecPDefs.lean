import Sigc.Lemmas.SpecBasic
/-!
# SpecPDefs — the vocabulary in which the properties read off the specification `S` are stated

`callable`, `enter`, `snapOf`, `closeSig` (those of `Lemmas/SpecBasic` under the names the theorems of `Props/SpecProps`
use), `epi` (the whole epilogue of `emitSig` as a function of the state) with `emitSig_eq` over them, and `turnsT`: the
turns of a non-accumulated emission with the record `Inv` of each invocation, and its rule induction `turnsT_rules`.
-/
namespace Sigc.SpecP
open Sigc.Model Sigc.Spec

/-- the functor `S` invokes when entry `cid` of list `i` gets its turn: the entry must, at that moment,
    be in the list, unblocked and valid; this is `Spec.callable` -/
def callable (s : LSt) (i cid : Nat) : Option Fun :=
  match (aget s.sigs i).bind (fun g => g.cells.find? (·.id = cid)) with
  | some { slot := { blocked := false, rep := some { call := true, fn := some fn } }, .. } => some fn
  | _ => none

/-- the entry `callable` looks at -/
def entry (s : LSt) (i cid : Nat) : Option LCell :=
  (aget s.sigs i).bind (fun g => g.cells.find? (·.id = cid))

/-- the slot value `insertCell` stores: a slot without rep gets the dummy (invalid, functor-less) rep -/
def normSlot (sl : SlotB) : SlotB :=
  match sl.rep with
  | none => { sl with rep := some { call := false, fn := none } }
  | some _ => sl

/-- the snapshot of an emission: the ids of the entries present when it starts (with `k2`, an
    accumulated emission also sees the markers and zombies of the emissions in progress); this is `Spec.snapOf g k2 fl` -/
def snapOf (k2 : Bool) (fl : Flavour) (g : LSig) : List Nat :=
  (g.cells.filter (fun c => (k2 && fl.isAcc) || (!c.marker && !c.zombie))).map (·.id)

/-- the state in which the turns of an emission of list `i` run; this is `Spec.proState s i g s.k2` -/
def enter (s : LSt) (i : Nat) (g : LSig) : LSt :=
  setSig { s with next := s.next + 1 } i
    { g with active := g.active + 1,
             cells := if s.k2 then g.cells ++ [{ id := s.next, slot := {}, marker := true }] else g.cells }

/-- the list at the end of one of its emissions (`m` = the id consumed by `enter`); this is `Spec.epi g2 m` -/
def closeSig (m : Nat) (g2 : LSig) : LSig :=
  let g3 := { g2 with active := g2.active - 1, cells := g2.cells.filter (·.id ≠ m) }
  let g3 := if g3.active = 0 then { g3 with cells := g3.cells.filter (fun c => !c.zombie), limbo := [] } else g3
  if g3.active = 0 && g3.dirty then
    { g3 with dirty := false, cells := g3.cells.filter (fun c => !c.slot.empty) }
  else g3

theorem closeSig_act (m : Nat) (g2 : LSig) : (closeSig m g2).active = g2.active - 1 := by
  unfold closeSig
  simp only
  split <;> split <;> rfl

/-- the epilogue of `emitSig`: one function of the state the turns ended in — the same for a normal and
    an exceptional end -/
def epi (i m : Nat) (s : LSt) : LSt :=
  match aget s.sigs i with
  | none => s.fail "emit: list died during its emission"
  | some g2 => collect (gcSig (setSig s i (closeSig m g2)) i)

def body (f : Nat) (P : Prog) (s : LSt) (fl : Flavour) (i : Nat) (snap : List Nat) (arg : Nat) (strat : Strat) :
    Option (LSt × Outcome × Nat) :=
  if fl.isAcc then runStrat f P s i snap arg (strat.forFlavour fl) else turns f P s i snap arg 0

theorem emitSig_eq (f : Nat) (P : Prog) (s : LSt) (fl : Flavour) (i arg : Nat) (strat : Strat) (g : LSig)
    (hg : aget s.sigs i = some g) (hk : (s.k2 && !fl.isAcc && g.cells.isEmpty) = false) :
    emitSig (f+1) P s fl (some i) arg strat =
      (body f P (enter s i g) fl i (snapOf s.k2 fl g) arg strat).map
        (fun x => (epi i s.next x.1, x.2.1, x.2.2)) := by
  rw [emitSig_some f P s fl i arg strat g hg s.k2 rfl, hk, if_neg Bool.false_ne_true]
  show (match body f P (enter s i g) fl i (snapOf s.k2 fl g) arg strat with | none => none | some (s3, o, v) => _) = _
  cases body f P (enter s i g) fl i (snapOf s.k2 fl g) arg strat with
  | none => rfl
  | some x => simp only [Option.map, epi]; cases aget x.1.sigs i <;> rfl

theorem turns_cons (f : Nat) (P : Prog) (s : LSt) (i cid : Nat) (rest : List Nat) (arg r : Nat) :
    turns (f+1) P s i (cid :: rest) arg r =
      (match (match callable s i cid with
              | none => some (s, Outcome.ok, r)
              | some fn => invokeFun f P s fn arg) with
       | none => none
       | some (s, .exc, v) => some (s, .exc, v)
       | some (s, .ok, v) => turns f P s i rest arg v) :=
  Spec.turns_cons f P s i cid rest arg r

/-- one invocation made by an emission: the entry, its functor, the argument, the value returned -/
structure Inv where
  cid : Nat
  fn : Fun
  arg : Nat
  val : Nat
deriving Repr

/-- `Spec.turns` with the invocations it made, in order (`turnsT_projects`, in `Props/SpecProps`) -/
def turnsT : Nat → Prog → LSt → Nat → List Nat → Nat → Nat → Option ((LSt × Outcome × Nat) × List Inv)
  | 0, _, _, _, _, _, _ => none
  | _+1, _, s, _, [], _, r => some ((s, .ok, r), [])
  | f+1, P, s, i, cid :: rest, arg, r =>
    match callable s i cid with
    | none => turnsT f P s i rest arg r
    | some fn =>
      match invokeFun f P s fn arg with
      | none => none
      | some (s1, .exc, v) => some ((s1, .exc, v), [⟨cid, fn, arg, v⟩])
      | some (s1, .ok, v) =>
        (turnsT f P s1 i rest arg v).map (fun x => (x.1, ⟨cid, fn, arg, v⟩ :: x.2))

/-- rule induction for `turnsT`: the empty snapshot, a skipped entry, an invocation that throws, an invocation that
    returns followed by the rest — each with what the interpreter found -/
theorem turnsT_rules (P : Prog) (i arg : Nat) {Q : LSt → List Nat → Nat → (LSt × Outcome × Nat) × List Inv → Prop}
    (nil : ∀ s r, Q s [] r ((s, .ok, r), []))
    (skip : ∀ s cid rest r y, callable s i cid = none → Q s rest r y → Q s (cid :: rest) r y)
    (exc : ∀ f s cid rest r fn s1 v, callable s i cid = some fn → invokeFun f P s fn arg = some (s1, .exc, v) →
      Q s (cid :: rest) r ((s1, .exc, v), [⟨cid, fn, arg, v⟩]))
    (ok : ∀ f s cid rest r fn s1 v y, callable s i cid = some fn → invokeFun f P s fn arg = some (s1, .ok, v) →
      Q s1 rest v y → Q s (cid :: rest) r (y.1, ⟨cid, fn, arg, v⟩ :: y.2))
    (f : Nat) : ∀ (s : LSt) (snap : List Nat) (r : Nat) y, turnsT f P s i snap arg r = some y → Q s snap r y := by
  induction f with
  | zero => intro s snap r y h; simp [turnsT] at h
  | succ f ih =>
    intro s snap r y h
    cases snap with
    | nil => rw [turnsT] at h; cases h; exact nil s r
    | cons cid rest =>
      rw [turnsT] at h
      cases hc : callable s i cid with
      | none => rw [hc] at h; exact skip _ _ _ _ _ hc (ih _ _ _ _ h)
      | some fn =>
        simp only [hc] at h
        cases hi : invokeFun f P s fn arg with
        | none => simp [hi] at h
        | some z =>
          obtain ⟨s1, o, v⟩ := z
          cases o
          · simp only [hi, Option.map_eq_some_iff] at h
            obtain ⟨y', h1, rfl⟩ := h
            exact ok f _ _ _ _ _ _ _ _ hc hi (ih _ _ _ _ h1)
          · simp only [hi, Option.some.injEq] at h
            subst h
            exact exc f _ _ _ _ _ _ _ hc hi

theorem turnsT_exc_nonempty (f : Nat) : ∀ (P : Prog) (s : LSt) (i : Nat) (snap : List Nat) (arg r : Nat) s' v l,
    turnsT f P s i snap arg r = some ((s', .exc, v), l) → l ≠ [] :=
  fun P s i snap arg r _ _ _ h =>
    turnsT_rules P i arg (Q := fun _ _ _ y => y.1.2.1 = .exc → y.2 ≠ []) (fun _ _ h => nomatch h)
      (fun _ _ _ _ _ _ h => h) (fun _ _ _ _ _ _ _ _ _ _ _ => List.cons_ne_nil _ _)
      (fun _ _ _ _ _ _ _ _ _ _ _ _ _ => List.cons_ne_nil _ _) f s snap r _ h rfl

theorem invalidateTrackable_G (s : LSt) (t : Nat) : (invalidateTrackable s t).G = s.G := rfl

end Sigc.SpecP
