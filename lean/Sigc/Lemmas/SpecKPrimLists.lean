import Sigc.Lemmas.SpecKPrimCells
/-!
# SpecKPrimLists — on related states: `fail`, mapping the entries of a list (`updCell`, `blockG`), `ensureSig`,
`insertCell`, `gcSig`
-/
namespace Sigc.SpecK
open Sigc.Model Sigc.Spec
open Sigc.Emit (keys_nodup_aset keys_nodup_adel)

theorem Q.fail {ρ : IdRel} {t u : LSt} (h : Q ρ t u) (m m' : String) : Q ρ (t.fail m) (u.fail m') := by
  unfold LSt.fail
  cases t.err <;> cases u.err <;> exact { h with }

theorem fail_next (t : LSt) (m : String) : (t.fail m).next = t.next := by
  unfold LSt.fail; cases t.err <;> rfl

theorem Fr.fail (t : LSt) (m : String) : Fr t (t.fail m) := by
  unfold LSt.fail; cases t.err
  · exact Fr.of_eq rfl rfl
  · exact Fr.refl t

theorem Sim0.fail {ρ : IdRel} {t u : LSt} (h : Q ρ t u) (m m' : String) : Sim0 ρ t u (t.fail m) (u.fail m') :=
  ⟨h.fail m m', Fr.fail t m, fail_next t m, fail_next u m'⟩

/-- an entry transformer that only touches the `blocked` flag -/
structure Harmless (F : LCell → LCell) : Prop where
  id : ∀ c, (F c).id = c.id
  marker : ∀ c, (F c).marker = c.marker
  zombie : ∀ c, (F c).zombie = c.zombie
  rep : ∀ c, (F c).slot.rep = c.slot.rep

theorem Harmless.live {F : LCell → LCell} (hF : Harmless F) (c : LCell) : live (F c) = live c := by
  unfold SpecK.live; rw [hF.marker, hF.zombie]

theorem Harmless.fnOf {F : LCell → LCell} (hF : Harmless F) (c : LCell) :
    SlotB.fnOf (F c).slot = SlotB.fnOf c.slot := by
  unfold SlotB.fnOf; rw [hF.rep]

theorem Harmless.empty {F : LCell → LCell} (hF : Harmless F) (c : LCell) : (F c).slot.empty = c.slot.empty := by
  unfold SlotB.empty; rw [hF.rep]

theorem mapCells_sim {ρ : IdRel} {t u : LSt} (h : Q ρ t u) {i i' : Nat} (hi : ρ i i') {g g' : LSig}
    (hx : aget t.sigs i = some g) (hy : aget u.sigs i' = some g') (F F' : LCell → LCell) (hF : Harmless F)
    (hFF : ∀ c c', CellR ρ c c' → CellR ρ (F c) (F' c')) :
    Sim0 ρ t u (setSig t i { g with cells := g.cells.map F }) (setSig u i' { g' with cells := g'.cells.map F' }) := by
  have hg := h.sig_get hi
  rw [hx, hy] at hg
  have hv := (h.sig_inv hx).2
  cases hg with
  | some hg =>
    refine ⟨h.setSig hi ⟨?_, hg.active, hg.dirty, hg.limbo, ?_, ?_, ?_⟩
      (hv.map F rfl hF.id (fun ha c hc => by rw [hF.live]; exact hv.idle ha c hc)
        (fun c hc hl => by rw [hF.live] at hl; rw [hF.empty]; exact hv.dead c hc hl)
        (fun c hc hm => by rw [hF.marker] at hm; rw [hF.rep]; exact hv.mkslot c hc hm)),
      Fr.setSig hx rfl (mks_map _ _ hF.id hF.marker), rfl, rfl⟩
    · simp only
      rw [List.filter_map, show live ∘ F = live from funext hF.live]
      exact F2.map hg.cells _ _ hFF
    · intro c hc hl f hf
      simp only at hc
      obtain ⟨c0, hc0, e⟩ := List.mem_map.mp hc
      subst e
      rw [hF.live] at hl; rw [hF.fnOf] at hf
      exact hg.hold1 c0 hc0 hl f hf
    · intro sl hsl f' hf'
      obtain ⟨c, hc, hl, f, hf, hr⟩ := hg.hold2 sl hsl f' hf'
      exact ⟨F c, List.mem_map.mpr ⟨c, hc, rfl⟩, by rw [hF.live]; exact hl, f, by rw [hF.fnOf]; exact hf, hr⟩
    · intro c hc hm
      simp only at hc
      obtain ⟨c0, hc0, e⟩ := List.mem_map.mp hc
      subst e
      rw [hF.marker] at hm; rw [hF.id]; exact hg.nomk c0 hc0 hm

theorem updCell_sim {ρ : IdRel} {t u : LSt} (h : Q ρ t u) {cid cid' : Nat} (hc : ρ cid cid') (b : Bool) :
    Sim0 ρ t u (Spec.updCell t cid (fun c => { c with slot := { c.slot with blocked := b } }))
      (Spec.updCell u cid' (fun c => { c with slot := { c.slot with blocked := b } })) := by
  unfold Spec.updCell
  refine (findSig_sim h.pb h.sigs hc).on (Sim0.refl h) fun {i i'} hi => ?_
  dsimp only
  cases hx : aget t.sigs i with
  | none => rw [(h.sig_get hi).none_left hx]; exact Sim0.refl h
  | some g =>
    obtain ⟨g', hy, _⟩ := (h.sig_get hi).some_left hx
    rw [hy]
    simp only
    refine mapCells_sim h hi hx hy _ _ ⟨?_, ?_, ?_, ?_⟩ ?_
    · intro c; split <;> rfl
    · intro c; split <;> rfl
    · intro c; split <;> rfl
    · intro c; split <;> rfl
    · intro c c' hr
      have e := h.pb.eq_iff hr.id hc
      by_cases hcid : c.id = cid
      · rw [if_pos hcid, if_pos (e.mp hcid)]
        exact ⟨hr.id, hr.slot.setBlocked b, hr.marker, hr.zombie⟩
      · rw [if_neg hcid, if_neg (fun x => hcid (e.mpr x))]
        exact hr

theorem SigR.empty (ρ : IdRel) : SigR ρ {} {} :=
  ⟨.nil, rfl, rfl, rfl, fun c hc => by simp at hc, fun sl hsl => by simp at hsl, fun c hc => by simp at hc⟩

theorem SigInv.empty (n : Nat) : SigInv n {} :=
  ⟨fun c hc => by simp at hc, by simp, fun _ c hc => by simp at hc, fun c hc => by simp at hc,
    fun c hc => by simp at hc⟩

theorem aget_fresh {ρ : IdRel} {t u : LSt} (h : Q ρ t u) {i : Nat} (hi : t.next ≤ i) : aget t.sigs i = none := by
  cases hx : aget t.sigs i with
  | none => rfl
  | some g => have := (h.sig_inv hx).1; omega

theorem ensureSig_sim {ρ : IdRel} {t u : LSt} (h : Q ρ t u) (g : Nat) :
    (ensureSig t g = none ∧ ensureSig u g = none) ∨
    ∃ t1 i u1 i' ρ', ensureSig t g = some (t1, i) ∧ ensureSig u g = some (u1, i') ∧ Q ρ' t1 u1 ∧ ρ' i i' ∧
      Step ρ ρ' t t1 u u1 ∧ Fr t t1 := by
  unfold ensureSig
  refine (h.G.get g).on (Or.inl ⟨rfl, rfl⟩) fun hh => Or.inr ?_
  dsimp only
  refine hh.impl.on ?_ fun hi => ⟨t, _, u, _, ρ, rfl, rfl, h, hi, Step.refl _ _ _, Fr.refl _⟩
  simp only [LSt.fresh]
  have hq := h.fresh
  have hn : ext ρ t.next u.next t.next u.next := ext_new _ _ _
  refine ⟨_, _, _, _, ext ρ t.next u.next, rfl, rfl, ?_, hn, Step.fresh_of_eq rfl rfl,
    ⟨rfl, fun j => ?_, fun j => ?_⟩⟩
  · exact { hq.setSig hn (SigR.empty _) (SigInv.empty _) with
      G := AR.set hq.G g ⟨ext_sub _ _ _ _ _ hh.obj, hh.fl, .some hn, ext_sub _ _ _ _ _ hh.trk, hh.lvl, hh.everFwd⟩ }
  · simp only [act]
    by_cases e : j = t.next
    · subst e; simp [aget_fresh h (Nat.le_refl _)]
    · rw [aget_aset_other _ _ _ _ e]
  · simp only [mks]
    by_cases e : j = t.next
    · subst e; simp [aget_fresh h (Nat.le_refl _)]
    · rw [aget_aset_other _ _ _ _ e]

/-- `ensureSig_sim` as a rule (like `OR.on`): there is no signal object, or both runs go on with the list of the signal
    object, from states related under an extension of `ρ` -/
@[elab_as_elim]
theorem ensureSig_on {ρ : IdRel} {t u : LSt} (h : Q ρ t u) (g : Nat)
    {motive : Option (LSt × Nat) → Option (LSt × Nat) → Prop} (hn : motive none none)
    (hs : ∀ {t1 u1 : LSt} {im im' : Nat} {ρ1 : IdRel}, Q ρ1 t1 u1 → ρ1 im im' → Step ρ ρ1 t t1 u u1 → Fr t t1 →
      motive (some (t1, im)) (some (u1, im'))) : motive (ensureSig t g) (ensureSig u g) := by
  rcases ensureSig_sim h g with ⟨e1, e2⟩ | ⟨t1, im, u1, im', ρ1, e1, e2, h1, him, hs1, hf1⟩
  · rw [e1, e2]; exact hn
  · rw [e1, e2]; exact hs h1 him hs1 hf1

theorem mem_ins {α : Type} {first : Bool} {c x : α} {l : List α} :
    x ∈ (if first = true then c :: l else l ++ [c]) ↔ x = c ∨ x ∈ l := by
  cases first <;> simp [or_comm]

theorem SlotR.dummy {ρ : IdRel} {a b : SlotB} (h : SlotR ρ a b) :
    SlotR ρ (match a.rep with | none => { a with rep := some { call := false, fn := none } } | some _ => a)
      (match b.rep with | none => { b with rep := some { call := false, fn := none } } | some _ => b) :=
  h.elim (fun _ => ⟨rfl, .some ⟨rfl, .none⟩⟩) (fun _ _ _ hr => ⟨rfl, .some hr⟩)

theorem insertCell_sim {ρ : IdRel} {t u : LSt} (h : Q ρ t u) {i i' : Nat} (hi : ρ i i') (first : Bool)
    {sl sl' : SlotB} (hs : SlotR ρ sl sl') :
    ∃ ρ', Q ρ' (Spec.insertCell t i first sl).1 (Spec.insertCell u i' first sl').1 ∧
      ρ' (Spec.insertCell t i first sl).2 (Spec.insertCell u i' first sl').2 ∧
      Step ρ ρ' t (Spec.insertCell t i first sl).1 u (Spec.insertCell u i' first sl').1 ∧
      Fr t (Spec.insertCell t i first sl).1 := by
  unfold Spec.insertCell
  simp only [LSt.fresh]
  have hq := h.fresh
  have hn : ext ρ t.next u.next t.next u.next := ext_new _ _ _
  have hi2 : ext ρ t.next u.next i i' := ext_sub _ _ _ _ _ hi
  have hs2 := (hs.mono (ext_sub ρ t.next u.next)).dummy
  have hg := hq.sig_get hi2
  simp only at hg
  refine ⟨ext ρ t.next u.next, ?_⟩
  cases hx : aget t.sigs i with
  | none =>
    rw [hx] at hg
    generalize hy : aget u.sigs i' = y at hg
    cases hg
    simp only [hy]
    exact ⟨hq.fail _ _, hn, Step.fresh_of_eq (fail_next _ _) (fail_next _ _),
      (Fr.of_eq (t := t) (t' := { t with next := t.next + 1 }) rfl rfl).trans (Fr.fail _ _)⟩
  | some g =>
    rw [hx] at hg
    generalize hy : aget u.sigs i' = y at hg
    cases hg with
    | @some _ g' hg =>
      simp only [hy]
      have hv := (hq.sig_inv (t := { t with next := t.next + 1 }) hx).2
      have hv0 := (h.sig_inv hx).2
      have hc : CellR (ext ρ t.next u.next) { id := t.next, slot := (match sl.rep with
            | none => { sl with rep := some { call := false, fn := none } } | some _ => sl) }
          { id := u.next, slot := (match sl'.rep with
            | none => { sl' with rep := some { call := false, fn := none } } | some _ => sl') } :=
        ⟨hn, hs2, rfl, rfl⟩
      -- open: `SigR`'s `cells`, `hold1`, `hold2`, `nomk`; `SigInv`'s `lt`, `nodup`, `idle`, `dead`, `mkslot`; the frame
      refine ⟨hq.setSig hi2 ⟨?_, hg.active, hg.dirty, hg.limbo, ?_, ?_, ?_⟩ ⟨?_, ?_, ?_, ?_, ?_⟩, hn,
        Step.fresh_of_eq rfl rfl, ?_⟩
      · simp only
        cases first
        · simp only [Bool.false_eq_true, if_false, List.filter_append]
          exact hg.cells.append (by simp [live]; exact F2.single hc)
        · simp only [if_true, List.filter_cons]
          simp only [live, Bool.not_false, Bool.and_self, if_true]
          exact .cons hc hg.cells
      · intro c hc' hl f hf
        rcases mem_ins.mp hc' with rfl | hc'
        · cases hl
        · exact hg.hold1 c hc' hl f hf
      · intro sl0 hsl f' hf'
        obtain ⟨c, hc', x⟩ := hg.hold2 sl0 hsl f' hf'
        exact ⟨c, mem_ins.mpr (Or.inr hc'), x⟩
      · intro c hc' hm
        rcases mem_ins.mp hc' with rfl | hc'
        · cases hm
        · exact hg.nomk c hc' hm
      · intro c hc'
        rcases mem_ins.mp hc' with rfl | hc'
        · exact Nat.lt_succ_self _
        · exact hv.lt c hc'
      · dsimp only
        have hnot : t.next ∉ g.cells.map (·.id) := by
          intro hm
          obtain ⟨c, hc', e⟩ := List.mem_map.mp hm
          have := hv0.lt c hc'
          omega
        cases first
        · simp only [Bool.false_eq_true, if_false, List.map_append, List.map_cons, List.map_nil]
          rw [List.nodup_append]
          refine ⟨hv.nodup, by simp, ?_⟩
          intro a ha b hb
          simp at hb; subst hb
          intro e; subst e; exact hnot ha
        · simp only [if_true, List.map_cons, List.nodup_cons]
          exact ⟨hnot, hv.nodup⟩
      · intro ha c hc'
        rcases mem_ins.mp hc' with rfl | hc'
        · rfl
        · exact hv.idle ha c hc'
      · intro c hc' hl
        rcases mem_ins.mp hc' with rfl | hc'
        · cases hl
        · exact hv.dead c hc' hl
      · intro c hc' hm
        rcases mem_ins.mp hc' with rfl | hc'
        · cases hm
        · exact hv.mkslot c hc' hm
      · refine (Fr.of_eq (t := t) (t' := { t with next := t.next + 1 }) rfl rfl).trans
          (Fr.setSig (t := { t with next := t.next + 1 }) hx rfl ?_)
        dsimp only
        cases first
        · simp [List.filter_append]
        · simp [List.filter_cons]

theorem Q.any_impl {ρ : IdRel} {t u : LSt} (h : Q ρ t u) {i i' : Nat} (hi : ρ i i') :
    u.G.any (fun p => decide (p.2.impl = some i')) = t.G.any (fun p => decide (p.2.impl = some i)) :=
  (AR.any h.G _ _ (fun _ a b hr => (hr.impl.eq_some h.pb hi).symm)).symm

theorem gcSig_sim {ρ : IdRel} {t u : LSt} (h : Q ρ t u) {i i' : Nat} (hi : ρ i i') :
    Sim0 ρ t u (gcSig t i) (gcSig u i') := by
  unfold gcSig
  cases hx : aget t.sigs i with
  | none => rw [(h.sig_get hi).none_left hx]; exact Sim0.refl h
  | some g =>
    obtain ⟨g', hy, hg⟩ := (h.sig_get hi).some_left hx
    rw [hy]
    simp only
    rw [h.any_impl hi, hg.active]
    split
    · rename_i hc
      simp only [Bool.and_eq_true, decide_eq_true_eq] at hc
      have hv := (h.sig_inv hx).2
      refine ⟨{ h with sigs := KR.del h.pb.keyed h.sigs hi, keys := keys_nodup_adel h.keys _,
                       inv := fun p hp => h.inv p (mem_adel hp).1 }, ⟨rfl, fun j => ?_, fun j => ?_⟩, rfl, rfl⟩
      · simp only [act]
        by_cases e : j = i
        · subst e; simp [hx, hc.1]
        · rw [aget_adel_other _ _ _ e]
      · simp only [mks]
        by_cases e : j = i
        · subst e
          simp only [aget_adel_same, hx]
          rw [hv.no_marker hc.1]; rfl
        · rw [aget_adel_other _ _ _ e]
    · exact Sim0.refl h

end Sigc.SpecK
