import Sigc.Lemmas.SpecKPrimCells
/-!
# SpecKStepR — `StepR` and the ways an arm of `stepSimple_sim` concludes: the states are unchanged (`same`), changed without
allocation (`of0`, `upd`, `setS`, `setC`, `setK`), changed with one allocation (`fresh1`); both runs decide a guard alike
(`ite`, `ite_iff`); the rest of an arm after a piece that ended in related states (`after`)
-/
namespace Sigc.SpecK
open Sigc.Model Sigc.Spec

/-- the results of one operation without user code on related states -/
inductive StepR (ρ : IdRel) (t u : LSt) : Option (LSt × String) → Option (LSt × String) → Prop
  | ok {t' u' : LSt} (r : String) (ρ' : IdRel) : Q ρ' t' u' → Step ρ ρ' t t' u u' → Fr t t' →
      StepR ρ t u (some (t', r)) (some (u', r))
  | none : StepR ρ t u none none

theorem StepR.same {ρ : IdRel} {t u : LSt} (h : Q ρ t u) (r : String) : StepR ρ t u (some (t, r)) (some (u, r)) :=
  .ok r ρ h (Step.refl _ _ _) (Fr.refl _)

theorem StepR.of0 {ρ : IdRel} {t u t' u' : LSt} (h : Sim0 ρ t u t' u') (r : String) :
    StepR ρ t u (some (t', r)) (some (u', r)) := .ok r ρ h.q h.step h.fr

theorem StepR.upd {ρ : IdRel} {t u t' u' : LSt} (h : Q ρ t' u') (r : String) (hd : t'.depth = t.depth)
    (hs : t'.sigs = t.sigs) (hn : t'.next = t.next) (hn' : u'.next = u.next) :
    StepR ρ t u (some (t', r)) (some (u', r)) := .ok r ρ h (Step.of_eq hn hn') (Fr.of_eq hd hs)

theorem StepR.ite_iff {ρ : IdRel} {t u : LSt} {c c' : Prop} {_ : Decidable c} {_ : Decidable c'}
    {a b a' b' : Option (LSt × String)} (hc : c' ↔ c) (h1 : c → StepR ρ t u a a') (h2 : ¬ c → StepR ρ t u b b') :
    StepR ρ t u (if c then a else b) (if c' then a' else b') := by
  by_cases h : c
  · rw [if_pos h, if_pos (hc.mpr h)]; exact h1 h
  · rw [if_neg h, if_neg (fun x => h (hc.mp x))]; exact h2 h

theorem StepR.ite {ρ : IdRel} {t u : LSt} {c : Prop} {_ : Decidable c} {a b a' b' : Option (LSt × String)}
    (h1 : c → StepR ρ t u a a') (h2 : ¬ c → StepR ρ t u b b') :
    StepR ρ t u (if c then a else b) (if c then a' else b') := .ite_iff Iff.rfl h1 h2

theorem StepR.fresh1 {ρ : IdRel} {t u t' u' : LSt} (h : Q (ext ρ t.next u.next) t' u') (r : String)
    (hd : t'.depth = t.depth) (hs : t'.sigs = t.sigs) (hn : t'.next = t.next + 1) (hn' : u'.next = u.next + 1) :
    StepR ρ t u (some (t', r)) (some (u', r)) := .ok r _ h (Step.fresh_of_eq hn hn') (Fr.of_eq hd hs)

section
variable {ρ : IdRel} {t u : LSt}

theorem Q.setT (h : Q ρ t u) {T T' : List (Nat × Nat)} (hT : AR ρ T T') :
    Q ρ { t with T := T } { u with T := T' } := { h with T := hT }

theorem Q.setS (h : Q ρ t u) {S S' : List (Nat × SlotVar)} (hS : AR (VarR ρ) S S') :
    Q ρ { t with S := S } { u with S := S' } := { h with S := hS }

theorem Q.setG (h : Q ρ t u) {G G' : List (Nat × Handle)} (hG : AR (HandR ρ) G G') :
    Q ρ { t with G := G } { u with G := G' } := { h with G := hG }

theorem Q.setC (h : Q ρ t u) {C C' : List (Nat × Option Nat)} (hC : AR (OR ρ) C C') :
    Q ρ { t with C := C } { u with C := C' } := { h with C := hC }

theorem Q.setK (h : Q ρ t u) {K K' : List (Nat × Option Nat)} (hK : AR (OR ρ) K K') :
    Q ρ { t with K := K } { u with K := K' } := { h with K := hK }

theorem StepR.setS (h : Q ρ t u) (i : Nat) (r : String) {v v' : SlotVar} (hv : VarR ρ v v') :
    StepR ρ t u (some ({ t with S := aset t.S i v }, r)) (some ({ u with S := aset u.S i v' }, r)) :=
  .upd (h.setS (h.S.set i hv)) r rfl rfl rfl rfl

theorem StepR.setC (h : Q ρ t u) (i : Nat) (r : String) {p p' : Option Nat} (hp : OR ρ p p') :
    StepR ρ t u (some ({ t with C := aset t.C i p }, r)) (some ({ u with C := aset u.C i p' }, r)) :=
  .upd (h.setC (h.C.set i hp)) r rfl rfl rfl rfl

theorem StepR.setK (h : Q ρ t u) (i : Nat) (r : String) {p p' : Option Nat} (hp : OR ρ p p') :
    StepR ρ t u (some ({ t with K := aset t.K i p }, r)) (some ({ u with K := aset u.K i p' }, r)) :=
  .upd (h.setK (h.K.set i hp)) r rfl rfl rfl rfl

theorem StepR.after {ρ1 : IdRel} {t1 u1 : LSt} (hs : Step ρ ρ1 t t1 u u1) (hf : Fr t t1)
    {a b : Option (LSt × String)} (h : StepR ρ1 t1 u1 a b) : StepR ρ t u a b := by
  cases h with
  | none => exact .none
  | ok r ρ2 hq hs2 hf2 => exact .ok r ρ2 hq (hs.trans hs2) (hf.trans hf2)

end

end Sigc.SpecK
