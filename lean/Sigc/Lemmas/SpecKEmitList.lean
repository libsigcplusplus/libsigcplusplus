import Sigc.Lemmas.SpecKRun
/-!
# SpecKEmitList — what an emission does to related lists: the functor invoked at a turn, `handleByObj`, `modeRule`,
prologue and epilogue of an emission on related states
-/
namespace Sigc.SpecK
open Sigc.Model Sigc.Spec

section
variable {ρ : IdRel} {t u : LSt}

theorem find?_filter_of {α : Type} {l : List α} {p q : α → Bool} {c : α} (h : l.find? p = some c) (hq : q c = true) :
    (l.filter q).find? p = some c := by
  induction l with
  | nil => simp at h
  | cons a tl ih =>
    simp only [List.find?_cons] at h
    cases hpa : p a with
    | true =>
      rw [hpa] at h
      simp only [Option.some.injEq] at h
      subst h
      simp [List.filter_cons, hq, hpa]
    | false =>
      rw [hpa] at h
      simp only [List.filter_cons]
      split
      · simp [List.find?_cons, hpa, ih h]
      · exact ih h

theorem callable_sim (h : Q ρ t u) {i i' cid cid' : Nat} (hi : ρ i i') (hc : ρ cid cid') :
    OR (FunR ρ) (callable t i cid) (callable u i' cid') := by
  rw [callable_spec, Spec.callable_eq, Spec.callable_eq]
  cases hx : aget t.sigs i with
  | none => rw [(h.sig_get hi).none_left hx]; exact .none
  | some g =>
    obtain ⟨g', hy, hg⟩ := (h.sig_get hi).some_left hx
    rw [hy]
    have hv := (h.sig_inv hx).2
    simp only [Option.bind]
    have hpart : ∀ c', c' ∈ g'.cells → c'.id = cid' → ∃ a ∈ g.cells, live a = true ∧ a.id = cid ∧ CellR ρ a c' := by
      intro c' hc' e
      obtain ⟨a, ha, hr⟩ := hg.cells.mem_right hc'
      obtain ⟨ha, hl⟩ := List.mem_filter.mp ha
      exact ⟨a, ha, hl, h.pb.inj hr.id (by rw [e]; exact hc), hr⟩
    cases hf : g.cells.find? (fun c => decide (c.id = cid)) with
    | none =>
      cases hf' : g'.cells.find? (fun c => decide (c.id = cid')) with
      | none => exact .none
      | some c' =>
        obtain ⟨a, ha, _, e, _⟩ := hpart c' (List.mem_of_find?_eq_some hf') (by simpa using List.find?_some hf')
        have := List.find?_eq_none.mp hf a ha
        simp [e] at this
    | some c =>
      have hcm := List.mem_of_find?_eq_some hf
      have hcid : c.id = cid := by simpa using List.find?_some hf
      cases hl : live c with
      | true =>
        -- a live entry has its counterpart
        have h2 := find?_filter_of hf hl
        have h3 := F2.find hg.cells (fun c => decide (c.id = cid)) (fun c => decide (c.id = cid'))
          (fun a b hr => h.pb.dec hr.id hc)
        obtain ⟨c', hf', hr⟩ := h3.some_left h2
        rw [hf']
        exact hr.slot.callFn
      | false =>
        -- a dead entry is empty, so not callable; an entry `cid'` on the other side would be the counterpart of a
        -- live entry `cid`, which by unique ids is `c`
        simp only [Spec.callFn_empty (hv.dead c hcm hl)]
        cases hf' : g'.cells.find? (fun c => decide (c.id = cid')) with
        | none => exact .none
        | some c' =>
          obtain ⟨a, ha, hla, e, _⟩ := hpart c' (List.mem_of_find?_eq_some hf') (by simpa using List.find?_some hf')
          have := eq_of_nodup_map hv.nodup ha hcm (by rw [e, hcid])
          subst this
          rw [hl] at hla; cases hla

theorem handleByObj_sim (h : Q ρ t u) {o o' : Nat} (ho : ρ o o') :
    OR (fun x y => HandR ρ x.2 y.2) (Spec.handleByObj t o) (Spec.handleByObj u o') := by
  unfold Spec.handleByObj
  exact (F2.find h.G _ _ (fun a b hr => h.pb.dec hr.2.obj ho)).imp (fun _ _ hr => hr.2)

theorem modeRule_sim (h : Q ρ t u) (P : Prog) (op : Op) : Spec.modeRule P u op = Spec.modeRule P t op := by
  cases op <;> try rfl
  · rename_i k g sv first mv
    dsimp only [Spec.modeRule]
    rw [h.steps]
    exact (h.S.get sv).on rfl fun hv => by dsimp only; rw [hv.slot.empty]
  · dsimp only [Spec.modeRule]; rw [h.steps]

theorem prologue_sim (h : Q ρ t u) {i i' : Nat} (hi : ρ i i') {g g' : LSig} (hx : aget t.sigs i = some g)
    (hg : SigR ρ g g') :
    Q ρ (setSig { t with next := t.next + 1 } i
          { g with active := g.active + 1, cells := g.cells ++ [{ id := t.next, slot := {}, marker := true }] })
        (setSig { u with next := u.next + 1 } i' { g' with active := g'.active + 1, cells := g'.cells }) := by
  have hv := (h.sig_inv hx).2
  have hb := h.burn
  -- open: `SigR`'s `cells`, `active`, `hold1`, `hold2`, `nomk`; `SigInv`'s `lt`, `nodup`, `idle`, `dead`, `mkslot`
  refine hb.setSig hi ⟨?_, ?_, hg.dirty, hg.limbo, ?_, ?_, ?_⟩ ⟨?_, ?_, ?_, ?_, ?_⟩
  · simp only [List.filter_append]
    simpa [live] using hg.cells
  · simp only [hg.active]
  · intro c hc hl f hf
    simp only [List.mem_append, List.mem_singleton] at hc
    rcases hc with hc | hc
    · exact hg.hold1 c hc hl f hf
    · subst hc; simp [SlotB.fnOf] at hf
  · intro sl hsl f' hf'
    obtain ⟨c, hc, x⟩ := hg.hold2 sl hsl f' hf'
    exact ⟨c, List.mem_append_left _ hc, x⟩
  · intro c hc hm b hb'
    simp only [List.mem_append, List.mem_singleton] at hc
    rcases hc with hc | hc
    · exact hg.nomk c hc hm b hb'
    · subst hc
      have := (h.pb.lt hb').1
      simp at this
  · intro c hc
    simp only [List.mem_append, List.mem_singleton] at hc
    rcases hc with hc | hc
    · exact Nat.lt_succ_of_lt (hv.lt c hc)
    · subst hc; exact Nat.lt_succ_self _
  · simp only [List.map_append, List.map_cons, List.map_nil]
    rw [List.nodup_append]
    refine ⟨hv.nodup, by simp, ?_⟩
    intro a ha b hb'
    simp at hb'; subst hb'
    intro e; subst e
    obtain ⟨c, hc, e⟩ := List.mem_map.mp ha
    have := hv.lt c hc
    omega
  · intro ha; simp at ha
  · intro c hc hl
    simp only [List.mem_append, List.mem_singleton] at hc
    rcases hc with hc | hc
    · exact hv.dead c hc hl
    · subst hc; rfl
  · intro c hc hm
    simp only [List.mem_append, List.mem_singleton] at hc
    rcases hc with hc | hc
    · exact hv.mkslot c hc hm
    · subst hc; rfl

/-- `m`, `m'`: the ids the two prologues consumed.  `hm'`: the second run's is related to nothing; `hmk`: when the
    outermost emission ends, the only end marker left is `m`; `hmc`: only a marker bears `m`; `hsw`: the run is clear (K1) -/
theorem epi_sim {n : Nat} {g2 g2' : LSig} (hg : SigR ρ g2 g2') (hv : SigInv n g2) {m m' : Nat}
    (hm' : ∀ a, ¬ ρ a m') (hpos : 1 ≤ g2.active)
    (hmk : g2.active = 1 → ∀ c ∈ g2.cells, c.marker = true → c.id = m)
    (hmc : ∀ c ∈ g2.cells, c.id = m → c.marker = true) (hsw : sweepClear g2 m = true) :
    SigR ρ (epi g2 m) (epi g2' m') ∧ SigInv n (epi g2 m) ∧ (epi g2 m).active = g2.active - 1 ∧
      (((epi g2 m).cells.filter (·.marker)).map (·.id)) = ((g2.cells.filter (·.marker)).map (·.id)).filter (· ≠ m) := by
  have hA : (g2.cells.filter (·.id ≠ m)).filter live = g2.cells.filter live := by
    rw [List.filter_filter]
    apply List.filter_congr
    intro c hc
    cases hl : live c
    · simp
    · have : c.id ≠ m := by
        intro e
        have := hmc c hc e
        unfold live at hl; simp [this] at hl
      simp [this]
  have hA' : g2'.cells.filter (·.id ≠ m') = g2'.cells := by
    rw [List.filter_eq_self]
    intro c' hc'
    obtain ⟨a, _, hr⟩ := hg.cells.mem_right hc'
    have : c'.id ≠ m' := fun e => hm' a.id (by rw [← e]; exact hr.id)
    simp [this]
  have hz' : g2'.cells.filter (fun c => !c.zombie) = g2'.cells := by
    rw [List.filter_eq_self]
    intro c' hc'
    obtain ⟨a, _, hr⟩ := hg.cells.mem_right hc'
    simp [hr.zombie]
  by_cases h1 : g2.active = 1
  · -- the outermost emission of the list ends
    have h1' : g2'.active = 1 := by rw [hg.active]; exact h1
    have hB : ∀ c ∈ (g2.cells.filter (·.id ≠ m)).filter (fun c => !c.zombie), live c = true := by
      intro c hc
      obtain ⟨hc, hz⟩ := List.mem_filter.mp hc
      obtain ⟨hc, hne⟩ := List.mem_filter.mp hc
      unfold live
      cases hmm : c.marker
      · simpa using hz
      · exact absurd (hmk h1 c hc hmm) (by simpa using hne)
    have hBl : ((g2.cells.filter (·.id ≠ m)).filter (fun c => !c.zombie)).filter live = g2.cells.filter live := by
      rw [List.filter_eq_self.mpr hB]
      have e : ∀ l : List LCell, (l.filter (fun c => !c.zombie)).filter live = l.filter live := by
        intro l
        rw [List.filter_filter]
        apply List.filter_congr
        intro c _
        unfold live
        cases c.marker <;> cases c.zombie <;> rfl
      rw [← List.filter_eq_self.mpr hB, e, hA]
    -- the sweep drops nothing
    have hsw' : g2.dirty = true → ((g2.cells.filter (·.id ≠ m)).filter (fun c => !c.zombie)).filter (fun c => !c.slot.empty)
        = (g2.cells.filter (·.id ≠ m)).filter (fun c => !c.zombie) := by
      intro hd
      unfold sweepClear at hsw
      simp only [h1, Nat.sub_self, if_true, beq_self_eq_true, hd, Bool.and_self, Bool.not_true, Bool.false_or] at hsw
      exact List.filter_eq_self.mpr (fun c hc => List.all_eq_true.mp hsw c hc)
    have ek : epi g2 m = { g2 with active := 0, dirty := false, limbo := [],
                                   cells := (g2.cells.filter (·.id ≠ m)).filter (fun c => !c.zombie) } := by
      unfold epi
      simp only [h1, Nat.sub_self, if_true]
      cases hd : g2.dirty
      · simp
      · rw [if_pos (by simp), hsw' hd]
    have ep : epi g2' m' = { g2' with active := 0, cells := g2'.cells, limbo := [] } := by
      unfold epi
      simp only [h1', Nat.sub_self, if_true, hA', hz', hg.dirty]
      simp
    rw [ep, ek]
    refine ⟨⟨?_, rfl, hg.dirty, rfl, ?_, ?_, ?_⟩,
      hv.sublist (List.filter_sublist.trans List.filter_sublist) (fun _ => hB), by simp [h1], ?_⟩
    · simp only; rw [hBl]; exact hg.cells
    · intro c hc hl; simp only at hc; rw [hB c hc] at hl; cases hl
    · intro sl hsl; simp at hsl
    · intro c hc; simp only at hc
      exact hg.nomk c (List.mem_filter.mp (List.mem_filter.mp hc).1).1
    · have e1 : ((g2.cells.filter (·.id ≠ m)).filter (fun c => !c.zombie)).filter (·.marker) = [] := by
        rw [List.filter_eq_nil_iff]
        intro c hc
        have := hB c hc
        unfold live at this
        cases hmm : c.marker <;> simp_all
      have e2 : ((g2.cells.filter (·.marker)).map (·.id)).filter (· ≠ m) = [] := by
        rw [List.filter_eq_nil_iff]
        intro x hx
        obtain ⟨c, hc, e⟩ := List.mem_map.mp hx
        obtain ⟨hc, hmm⟩ := List.mem_filter.mp hc
        simp [← e, hmk h1 c hc hmm]
      simp only [e1, e2, List.map_nil]
  · -- an outer emission of the list is still running
    have hn : ¬ g2.active - 1 = 0 := by omega
    have hn' : ¬ g2'.active - 1 = 0 := by rw [hg.active]; exact hn
    have ek : epi g2 m = { g2 with active := g2.active - 1, cells := g2.cells.filter (·.id ≠ m) } := by
      unfold epi; simp [hn]
    have ep : epi g2' m' = { g2' with active := g2'.active - 1, cells := g2'.cells } := by
      unfold epi; simp only [hn', if_false, hA']; simp
    rw [ek, ep]
    refine ⟨⟨?_, ?_, hg.dirty, hg.limbo, ?_, ?_, ?_⟩, hv.sublist List.filter_sublist (fun ha => absurd ha hn), rfl, ?_⟩
    · simp only; rw [hA]; exact hg.cells
    · simp only [hg.active]
    · intro c hc hl f hf
      exact hg.hold1 c (List.mem_filter.mp hc).1 hl f hf
    · intro sl hsl f' hf'
      obtain ⟨c, hc, hl, f, hf, hr⟩ := hg.hold2 sl hsl f' hf'
      refine ⟨c, List.mem_filter.mpr ⟨hc, ?_⟩, hl, f, hf, hr⟩
      have : c.id ≠ m := by
        intro e
        have hmm := hmc c hc e
        have := hv.mkslot c hc hmm
        simp [SlotB.fnOf, this] at hf
      simp [this]
    · intro c hc; exact hg.nomk c (List.mem_filter.mp hc).1
    · simp only
      rw [List.filter_filter, List.filter_map, List.filter_filter]
      congr 1
      apply List.filter_congr
      intro c _
      simp [Bool.and_comm]

end

end Sigc.SpecK
