import Sigc.Lemmas.InvDead
/-!
`disconnectCell` and `invalidateCell` are the same cascade (`genCell F` = `Model.touchCell F`) with a different slot
update; what the cascade does to the cell lists, read off its case equation `Model.touchCell_eq`: every other cell of
every impl stays as it was (`genCell_others`), what is left of the cell itself is `touchC F` of something (`genCell_self`)
-/
namespace Sigc.Inv
open Sigc.Model
open Sigc.Emit (aget_aset aset_aset)

theorem disconnectCell_eq : disconnectCell = genCell SlotB.disconnectRep := funext fun s => funext (disconnectCell_touch s)
theorem invalidateCell_eq : invalidateCell = genCell SlotB.invalidate := funext fun s => funext (invalidateCell_touch s)

theorem touchC_ok {F : SlotB → SlotB} (hF : ∀ sl, SlotLe (F sl) sl) (cid : Nat) (c : Cell) :
    (updC cid (touchC F) c).id = c.id ∧ SlotLe (updC cid (touchC F) c).slot c.slot := by
  unfold updC
  by_cases h : c.id = cid
  · rw [if_pos h]; exact ⟨rfl, hF _⟩
  · rw [if_neg h]; exact ⟨rfl, SlotLe.refl _⟩

theorem mem_map_touchC {F : SlotB → SlotB} {cid : Nat} {cs : List Cell} {c : Cell} (hc : c ∈ cs) (he : c.id = cid) :
    touchC F c ∈ cs.map (updC cid (touchC F)) :=
  List.mem_map.2 ⟨c, hc, by simp [updC, he]⟩

theorem map_touchC_idem {F : SlotB → SlotB} (hF : ∀ sl, F (F sl) = F sl) (cid : Nat) (cs : List Cell) :
    (cs.map (updC cid (touchC F))).map (updC cid (touchC F)) = cs.map (updC cid (touchC F)) := by
  rw [List.map_map]
  apply List.map_congr_left
  intro c _
  by_cases h : c.id = cid
  · simp [updC, h, touchC, hF]
  · simp [updC, h]

/-- the impl table after the cascade found cell `cid` in impl `i`: impl `i` is rewritten, with cells that agree with the
    old ones off `cid` and that are old cells or `touchC F` of old cells -/
theorem genCell_impls (F : SlotB → SlotB) {s : St} {cid i : Nat} {c : Cell} {im : Impl}
    (hg : getCell s cid = some (i, c)) (hi : aget s.impls i = some im) :
    ∃ im', (genCell F s cid).impls = aset s.impls i im' ∧
      im'.cells.filter (·.id ≠ cid) = im.cells.filter (·.id ≠ cid) ∧
      ∀ d ∈ im'.cells, d.id = cid → ∃ d0, d = touchC F d0 := by
  have hmap : ∀ d ∈ im.cells.map (updC cid (touchC F)), d.id = cid → ∃ d0, d = touchC F d0 := by
    intro d hd hde
    obtain ⟨d0, _, rfl⟩ := List.mem_map.1 hd
    unfold updC at hde ⊢
    by_cases h0 : d0.id = cid
    · rw [if_pos h0]; exact ⟨d0, rfl⟩
    · rw [if_neg h0] at hde; exact absurd hde h0
  have hf := map_updC_filter im.cells cid (touchC F) (fun _ => rfl)
  show ∃ im', (touchCell F s cid).impls = _ ∧ _
  rw [touchCell_eq F hg hi]
  split
  · split
    · rw [eraseCell_eq hi]
      refine ⟨_, rfl, filter_idem _ _, fun d hd hde => ?_⟩
      simp only [List.mem_filter, decide_eq_true_eq] at hd
      exact absurd hde hd.2
    · exact ⟨_, rfl, hf, hmap⟩
  · exact ⟨_, rfl, hf, hmap⟩

theorem genCell_others (F : SlotB → SlotB) (s : St) (cid : Nat) (j : Nat) :
    (aget (genCell F s cid).impls j).map (fun im => im.cells.filter (fun c => decide (c.id ≠ cid))) =
    (aget s.impls j).map (fun im => im.cells.filter (fun c => decide (c.id ≠ cid))) := by
  cases hg : getCell s cid with
  | none => simp [genCell, hg]
  | some x =>
    obtain ⟨i, c⟩ := x
    obtain ⟨im, hi, _⟩ := getCell_some hg
    obtain ⟨im', e, hf, _⟩ := genCell_impls F hg hi
    rw [e, aget_aset]
    split
    · rename_i hji; subst hji; rw [hi]
      exact congrArg some hf
    · rfl

theorem genCell_other_mem {F : SlotB → SlotB} {s : St} {cid j : Nat} {jm : Impl} {d : Cell}
    (hj : aget (genCell F s cid).impls j = some jm) (hd : d ∈ jm.cells) (hne : d.id ≠ cid) :
    ∃ jm0, aget s.impls j = some jm0 ∧ d ∈ jm0.cells := by
  have := genCell_others F s cid j
  rw [hj] at this
  cases h0 : aget s.impls j with
  | none => rw [h0] at this; cases this
  | some jm0 =>
    rw [h0] at this
    simp only [Option.map_some, Option.some.injEq] at this
    have hm : d ∈ jm.cells.filter (fun c => decide (c.id ≠ cid)) :=
      List.mem_filter.2 ⟨hd, by simpa using hne⟩
    rw [this] at hm
    exact ⟨jm0, rfl, (List.mem_filter.1 hm).1⟩

theorem genCell_other_mem' {F : SlotB → SlotB} {s : St} {cid j : Nat} {jm0 : Impl} {d : Cell}
    (hj : aget s.impls j = some jm0) (hd : d ∈ jm0.cells) (hne : d.id ≠ cid) :
    ∃ jm, aget (genCell F s cid).impls j = some jm ∧ d ∈ jm.cells := by
  have := genCell_others F s cid j
  rw [hj] at this
  cases h0 : aget (genCell F s cid).impls j with
  | none => rw [h0] at this; cases this
  | some jm =>
    rw [h0] at this
    simp only [Option.map_some, Option.some.injEq] at this
    have hm : d ∈ jm0.cells.filter (fun c => decide (c.id ≠ cid)) :=
      List.mem_filter.2 ⟨hd, by simpa using hne⟩
    rw [← this] at hm
    exact ⟨jm, rfl, (List.mem_filter.1 hm).1⟩

/-- of `WFI` only uniqueness is used (of the impl keys and of cell ids across impls), whence the arbitrary bound `n` -/
theorem genCell_self {F : SlotB → SlotB} {s : St} {n : Nat} (hw : WFI s.impls n) {cid j : Nat} {jm : Impl} {d : Cell}
    (hj : aget (genCell F s cid).impls j = some jm) (hd : d ∈ jm.cells) (hde : d.id = cid) :
    ∃ d0, d = touchC F d0 := by
  cases hg : getCell s cid with
  | none =>
    simp only [genCell, hg] at hj
    exact absurd hg ((getCell_ne_none_iff hw.keys cid).2 ⟨j, jm, hj, d, hd, hde⟩)
  | some x =>
    obtain ⟨i, c⟩ := x
    obtain ⟨im, hi, _, hc, he⟩ := getCell_some hg
    obtain ⟨im', e, _, hs⟩ := genCell_impls F hg hi
    rw [e, aget_aset] at hj
    split at hj
    · cases hj; exact hs d hd hde
    · rename_i hne
      exact absurd (hw.cellU j i jm im d c hj hi hd hc (hde.trans he.symm)) hne

end Sigc.Inv
