import Sigc.Lemmas.InvTracks
/-!
# destroyed trackable objects stay destroyed

`OD o` — object `o` has been allocated and is not alive — is preserved by everything (object ids are
never reused); `OU` — distinct trackable names denote distinct objects (`u1`), different from every signal's
trackable base (`u2`) and from every owned object (`u3`) — holds in every reachable state, so that `delT` really
kills the object.  Both read only `T`, `G`, `ownedT` and `next`: `ObjInv` lists what such a predicate has to
survive, and `ObjInv.stable` goes through the operations once for both.
-/
namespace Sigc.Inv
open Sigc.Model
open Sigc.Emit (aget_aset aget_adel)

def ODI (o : Nat) (T : List (Nat × Nat)) (G : List (Nat × Handle)) (oT : List Nat) (n : Nat) : Prop :=
  o < n ∧ ¬ LiveObj T G oT o

def OD (o : Nat) (s : St) : Prop := ODI o s.T s.G s.ownedT s.next

theorem lo_aset_T_rev {T G oT} {t v o : Nat} (h : LiveObj (aset T t v) G oT o) : o = v ∨ LiveObj T G oT o := by
  rcases h with ⟨name, hn⟩ | h | h
  · rw [aget_aset] at hn
    split at hn
    · cases hn; exact Or.inl rfl
    · exact Or.inr (Or.inl ⟨name, hn⟩)
  · exact Or.inr (Or.inr (Or.inl h))
  · exact Or.inr (Or.inr (Or.inr h))

theorem lo_adel_T_rev {T G oT} {t o : Nat} (h : LiveObj (adel T t) G oT o) : LiveObj T G oT o := by
  rcases h with ⟨name, hn⟩ | h | h
  · exact Or.inl ⟨name, aget_of_adel hn⟩
  · exact Or.inr (Or.inl h)
  · exact Or.inr (Or.inr h)

theorem lo_aset_G_rev {T G oT} {g o : Nat} {hd : Handle} (h : LiveObj T (aset G g hd) oT o) :
    (hd.fl.isTrackable = true ∧ hd.trk = o) ∨ LiveObj T G oT o := by
  rcases h with h | ⟨g', h', hg', ht, he⟩ | h
  · exact Or.inr (Or.inl h)
  · rw [aget_aset] at hg'
    split at hg'
    · cases hg'; exact Or.inl ⟨ht, he⟩
    · exact Or.inr (Or.inr (Or.inl ⟨g', h', hg', ht, he⟩))
  · exact Or.inr (Or.inr (Or.inr h))

theorem lo_adel_G_rev {T G oT} {g o : Nat} (h : LiveObj T (adel G g) oT o) : LiveObj T G oT o := by
  rcases h with h | ⟨g', h', hg', ht, he⟩ | h
  · exact Or.inl h
  · exact Or.inr (Or.inl ⟨g', h', aget_of_adel hg', ht, he⟩)
  · exact Or.inr (Or.inr h)

theorem lo_aset_G_same_rev {T G oT} {g o : Nat} {h0 hd : Handle} (hg : aget G g = some h0)
    (e1 : hd.fl = h0.fl) (e2 : hd.trk = h0.trk) (h : LiveObj T (aset G g hd) oT o) : LiveObj T G oT o := by
  rcases lo_aset_G_rev h with ⟨ht, he⟩ | h
  · exact Or.inr (Or.inl ⟨g, h0, hg, e1 ▸ ht, e2 ▸ he⟩)
  · exact h

/-- `Q` survives every change the model makes to `T`, `G`, `ownedT` and `next` -/
structure ObjInv (Q : List (Nat × Nat) → List (Nat × Handle) → List Nat → Nat → Prop) : Prop where
  mono : ∀ {T G oT n n'}, Q T G oT n → n ≤ n' → Q T G oT n'
  newT : ∀ {T G oT n} (t : Nat), Q T G oT n → Q (aset T t n) G oT (n + 1)
  delT : ∀ {T G oT n} (t : Nat), Q T G oT n → Q (adel T t) G oT n
  /-- a functor takes the object of a name into a `shared_ptr` -/
  ownT : ∀ {T G oT n t o}, aget T t = some o → Q T G oT n → Q (adel T t) G (o :: oT) n
  filterO : ∀ {T G oT n} (p : Nat → Bool), Q T G oT n → Q T G (oT.filter p) n
  /-- a new signal object: fresh object id and fresh trackable base -/
  newG : ∀ {T G oT n} (g : Nat) (fl : Flavour) (im : Option Nat) (lvl : Nat), Q T G oT n →
    Q T (aset G g { obj := n, fl := fl, impl := im, trk := n + 1, lvl := lvl }) oT (n + 1 + 1)
  same : ∀ {T G oT n g} {h0 hd : Handle}, aget G g = some h0 → hd.fl = h0.fl → hd.trk = h0.trk → Q T G oT n →
    Q T (aset G g hd) oT n
  delG : ∀ {T G oT n} (g : Nat), Q T G oT n → Q T (adel G g) oT n

namespace ObjInv
variable {Q : List (Nat × Nat) → List (Nat × Handle) → List Nat → Nat → Prop}

/-- the library cascades touch neither `T`, `G`, `ownedT` nor `next` -/
theorem prims (Q : List (Nat × Nat) → List (Nat × Handle) → List Nat → Nat → Prop) :
    PrimsA (fun s => Q s.T s.G s.ownedT s.next) :=
  LibBlind.pred (π := fun s : St => (s.T, s.G, s.ownedT, s.next)) (fun _ _ _ _ _ _ => rfl)
    (fun p => Q p.1 p.2.1 p.2.2.1 p.2.2.2)

variable (q : ObjInv Q)
include q

theorem ensureImpl {s s1 : St} {g i : Nat} (h : Q s.T s.G s.ownedT s.next) (he : ensureImpl s g = some (s1, i)) :
    Q s1.T s1.G s1.ownedT s1.next := by
  obtain ⟨hd, hg, ⟨_, rfl⟩ | ⟨_, rfl, rfl⟩⟩ := ensureImpl_cases he
  · exact h
  · exact q.mono (q.same (hd := { hd with impl := some s.next }) hg rfl rfl h) (Nat.le_succ _)

theorem mkFun {s s' : St} {fn : Fun} (h : Q s.T s.G s.ownedT s.next) {τ : Int} (m : MkFun s τ fn s') :
    Q s'.T s'.G s'.ownedT s'.next := by
  cases m with
  | plain _ _ => exact h
  | @fwd g hd hg _ => exact q.same (hd := { hd with everFwd := true }) hg rfl rfl h
  | ownT _ ht => exact q.ownT ht h
  | ownK _ _ => exact q.mono h (Nat.le_succ _)
  | ownG _ _ _ _ => exact q.mono h (Nat.le_succ _)

theorem grow : Grow (fun _ => True) (fun s => Q s.T s.G s.ownedT s.next) :=
  ⟨fun _ _ h => q.mono h (Nat.le_succ _), fun _ _ _ _ h _ => h, fun _ _ _ _ _ _ _ h _ _ _ _ => q.mono h (Nat.le_succ _)⟩

theorem insert {s : St} (i : Nat) (first : Bool) (sl : SlotB) (h : Q s.T s.G s.ownedT s.next) :
    Q (insertCell s i first sl).fst.T (insertCell s i first sl).fst.G (insertCell s i first sl).fst.ownedT
      (insertCell s i first sl).fst.next :=
  q.grow.insertCell i first trivial h

theorem forceDelG (s : St) (g : Nat) (h : Q s.T s.G s.ownedT s.next) :
    Q (forceDelG s g).T (forceDelG s g).G (forceDelG s g).ownedT (forceDelG s g).next :=
  (prims Q).dropHandle g (fun _ h => q.delG g h) h

theorem move {s s' : St} (m : Move s s') (h : Q s.T s.G s.ownedT s.next) : Q s'.T s'.G s'.ownedT s'.next := by
  cases m with
  | lib l => exact (prims Q).lib l h
  | newT _ => exact q.newT _ h
  | delT _ => exact (prims Q).invalidateTrackable _ (q.delT _ h)
  | setS _ => exact h
  | made hm => exact q.mkFun h hm
  | mkS hm _ _ => exact (q.mkFun h hm :)
  | newG _ _ _ _ => exact q.newG _ _ _ _ h
  | ensure he => exact q.ensureImpl h he
  | mvG hi _ => exact q.newG _ _ _ _ (q.same hi rfl rfl h)
  | asgG hj _ => exact (prims Q).gcOpt _ (q.same hj rfl rfl h)
  | masgG hj hi hne =>
    exact (prims Q).gcOpt _
      (q.same ((aget_aset_other _ _ _ _ (Ne.symm hne)).trans hi) rfl rfl (q.same hj rfl rfl h))
  | drop _ => exact q.forceDelG _ _ h
  | conn _ _ _ _ => exact q.insert _ _ _ h
  | connMv _ _ _ _ => exact q.insert _ _ _ h
  | connfn _ _ hm he => exact q.insert _ _ _ (q.ensureImpl (q.mkFun h hm) he)
  | setCK _ => exact h

theorem stable : Stable (fun s => Q s.T s.G s.ownedT s.next) :=
  StableRel.ofPrims (prims Q) (fun _ _ _ _ _ h => h) (fun _ _ _ _ h _ => h) (fun _ _ => trivial) (fun m _ => q.move m)
    (fun _ _ h => (prims Q).collect (fun _ p h => q.filterO p h) (fun _ _ h => h)
      (dropG_of (fun _ _ h => h) q.forceDelG) h)
    (q.grow.emitPro fun _ => trivial) q.grow.dropHolder
    (fun s g _ h => q.forceDelG s g h)

end ObjInv

theorem ODI.mono {o : Nat} {T G oT} {n n' : Nat} (h : ODI o T G oT n) (hn : n ≤ n') : ODI o T G oT n' :=
  ⟨Nat.lt_of_lt_of_le h.1 hn, h.2⟩

theorem odi_succ {o : Nat} {T G oT n} (h : ODI o T G oT n) : ODI o T G oT (n+1) := h.mono (Nat.le_succ _)
theorem odi_aset_T_fresh {o : Nat} {T G oT n} {t : Nat} (h : ODI o T G oT n) : ODI o (aset T t n) G oT (n+1) := by
  refine ⟨Nat.lt_succ_of_lt h.1, fun hl => ?_⟩
  rcases lo_aset_T_rev hl with e | e
  · exact Nat.lt_irrefl _ (e ▸ h.1)
  · exact h.2 e
theorem odi_aset_T_fresh2 {o : Nat} {T G oT n} {t : Nat} (h : ODI o T G oT n) :
    ODI o (aset T t n) G oT (n+1) := odi_aset_T_fresh h

theorem OD.objInv (o : Nat) : ObjInv (ODI o) where
  mono := ODI.mono
  newT _ := odi_aset_T_fresh
  delT _ h := ⟨h.1, fun hl => h.2 (lo_adel_T_rev hl)⟩
  ownT {_ _ _ _ t _} ht h := by
    refine ⟨h.1, ?_⟩
    rintro (⟨name, hn⟩ | hl | hl)
    · exact h.2 (lo_adel_T_rev (Or.inl ⟨name, hn⟩))
    · exact h.2 (Or.inr (Or.inl hl))
    · rcases List.mem_cons.1 hl with e | e
      · subst e; exact h.2 (Or.inl ⟨t, ht⟩)
      · exact h.2 (Or.inr (Or.inr e))
  filterO _ h := ⟨h.1, fun hl => h.2 (hl.imp id (Or.imp id fun m => (List.mem_filter.1 m).1))⟩
  newG _ _ _ _ h := by
    refine ⟨Nat.lt_of_lt_of_le h.1 (Nat.le_add_right _ 2), fun hl => ?_⟩
    rcases lo_aset_G_rev hl with ⟨_, e⟩ | e
    · have := h.1; simp only at e; omega
    · exact h.2 e
  same hg e1 e2 h := ⟨h.1, fun hl => h.2 (lo_aset_G_same_rev hg e1 e2 hl)⟩
  delG _ h := ⟨h.1, fun hl => h.2 (lo_adel_G_rev hl)⟩

theorem OD.ensureImpl {o : Nat} {s s1 : St} {g i : Nat} (h : OD o s) (he : ensureImpl s g = some (s1, i)) :
    OD o s1 :=
  (OD.objInv o).ensureImpl h he

theorem OD.insert {o : Nat} {s : St} (i : Nat) (first : Bool) (sl : SlotB) (h : OD o s) :
    OD o (insertCell s i first sl).fst :=
  (OD.objInv o).insert i first sl h

theorem OD.stable (o : Nat) : Stable (OD o) := (OD.objInv o).stable

/-- a dead object is never referred to again: `TL` says tracked objects are live, `OD` says `o` is not -/
theorem noTrack_of_dead {s : St} {o : Nat} (hw : WF s) (ht : TL s) (hd : OD o s) : NoTrack o s := by
  refine ⟨?_, ?_⟩
  · intro p hp
    cases hto : p.2.slot.tracksObj o with
    | false => rfl
    | true => exact absurd (ht.1 p hp o hto) hd.2
  · intro i im c hi hc
    cases hto : c.slot.tracksObj o with
    | false => rfl
    | true => exact absurd (ht.2 (i, im) (mem_of_aget hi) c hc o hto) hd.2


structure OUI (T : List (Nat × Nat)) (G : List (Nat × Handle)) (oT : List Nat) (n : Nat) : Prop where
  u1 : ∀ a b o, aget T a = some o → aget T b = some o → a = b
  u2 : ∀ a o g hd, aget T a = some o → aget G g = some hd → hd.trk ≠ o
  u3 : ∀ a o, aget T a = some o → o ∉ oT
  ltT : ∀ a o, aget T a = some o → o < n
  ltG : ∀ g hd, aget G g = some hd → hd.trk < n
  ltO : ∀ o ∈ oT, o < n

def OU (s : St) : Prop := OUI s.T s.G s.ownedT s.next

theorem OU.init : OU {} :=
  ⟨fun a b o h => by simp [aget] at h, fun a o g hd h => by simp [aget] at h, fun a o h => by simp [aget] at h,
   fun a o h => by simp [aget] at h, fun g hd h => by simp [aget] at h, fun o h => by cases h⟩

theorem OUI.mono {T G oT} {n n' : Nat} (h : OUI T G oT n) (hn : n ≤ n') : OUI T G oT n' :=
  ⟨h.u1, h.u2, h.u3, fun a o e => Nat.lt_of_lt_of_le (h.ltT a o e) hn,
   fun g hd e => Nat.lt_of_lt_of_le (h.ltG g hd e) hn, fun o e => Nat.lt_of_lt_of_le (h.ltO o e) hn⟩

theorem oui_aset_T_fresh {T G oT n} {t : Nat} (h : OUI T G oT n) : OUI (aset T t n) G oT (n+1) := by
  refine ⟨?_, ?_, ?_, ?_, fun g hd e => Nat.lt_succ_of_lt (h.ltG g hd e), fun o e => Nat.lt_succ_of_lt (h.ltO o e)⟩
  · intro a b o ha hb
    rw [aget_aset] at ha hb
    split at ha
    · rename_i ea
      split at hb
      · rename_i eb; rw [ea, eb]
      · cases ha; exact absurd (h.ltT b _ hb) (Nat.lt_irrefl _)
    · split at hb
      · cases hb; exact absurd (h.ltT a _ ha) (Nat.lt_irrefl _)
      · exact h.u1 a b o ha hb
  · intro a o g hd ha hg
    rw [aget_aset] at ha
    split at ha
    · cases ha; exact Nat.ne_of_lt (h.ltG g hd hg)
    · exact h.u2 a o g hd ha hg
  · intro a o ha
    rw [aget_aset] at ha
    split at ha
    · cases ha; exact fun e => Nat.lt_irrefl _ (h.ltO _ e)
    · exact h.u3 a o ha
  · intro a o ha
    rw [aget_aset] at ha
    split at ha
    · cases ha; exact Nat.lt_succ_self _
    · exact Nat.lt_succ_of_lt (h.ltT a o ha)

theorem oui_adel_T {T G oT n} {t : Nat} (h : OUI T G oT n) : OUI (adel T t) G oT n :=
  ⟨fun a b o ha hb => h.u1 a b o (aget_of_adel ha) (aget_of_adel hb),
    fun a o g hd ha hg => h.u2 a o g hd (aget_of_adel ha) hg, fun a o ha => h.u3 a o (aget_of_adel ha),
    fun a o ha => h.ltT a o (aget_of_adel ha), h.ltG, h.ltO⟩

theorem oui_adel_G {T G oT n} {g : Nat} (h : OUI T G oT n) : OUI T (adel G g) oT n :=
  ⟨h.u1, fun a o g' hd ha hg => h.u2 a o g' hd ha (aget_of_adel hg), h.u3, h.ltT,
    fun g' hd hg => h.ltG g' hd (aget_of_adel hg), h.ltO⟩

theorem oui_aset_G_same {T G oT n} {g : Nat} {h0 hd : Handle} (hg : aget G g = some h0)
    (e2 : hd.trk = h0.trk) (h : OUI T G oT n) : OUI T (aset G g hd) oT n := by
  have sub : ∀ a hd', aget (aset G g hd) a = some hd' → ∃ hd'', aget G a = some hd'' ∧ hd''.trk = hd'.trk := by
    intro a hd' e; rw [aget_aset] at e; split at e
    · rename_i ea; cases e; exact ⟨h0, ea ▸ hg, e2.symm⟩
    · exact ⟨hd', e, rfl⟩
  refine ⟨h.u1, ?_, h.u3, h.ltT, ?_, h.ltO⟩
  · intro a o g' hd' ha hg'
    obtain ⟨hd'', h1, h2⟩ := sub g' hd' hg'
    rw [← h2]; exact h.u2 a o g' hd'' ha h1
  · intro g' hd' hg'
    obtain ⟨hd'', h1, h2⟩ := sub g' hd' hg'
    rw [← h2]; exact h.ltG g' hd'' h1

theorem oui_newG {T G oT n} {g : Nat} {fl : Flavour} {im : Option Nat} {lvl : Nat} (h : OUI T G oT n) :
    OUI T (aset G g { obj := n, fl := fl, impl := im, trk := n + 1, lvl := lvl }) oT (n + 1 + 1) := by
  have h' := h.mono (Nat.le_trans (Nat.le_succ n) (Nat.le_succ _))
  refine ⟨h.u1, ?_, h.u3, h'.ltT, ?_, h'.ltO⟩
  · intro a o g' hd' ha hg'
    rw [aget_aset] at hg'
    split at hg'
    · cases hg'
      have := h.ltT a o ha
      simp only; omega
    · exact h.u2 a o g' hd' ha hg'
  · intro g' hd' hg'
    rw [aget_aset] at hg'
    split at hg'
    · cases hg'; simp only; omega
    · exact h'.ltG g' hd' hg'

theorem oui_filter_oT {T G oT n} (p : Nat → Bool) (h : OUI T G oT n) : OUI T G (oT.filter p) n :=
  ⟨h.u1, h.u2, fun a o ha e => h.u3 a o ha (List.mem_filter.1 e).1, h.ltT, h.ltG,
   fun o e => h.ltO o (List.mem_filter.1 e).1⟩

theorem OU.objInv : ObjInv OUI where
  mono := OUI.mono
  newT _ := oui_aset_T_fresh
  delT _ := oui_adel_T
  ownT {T G oT n t o'} ht h := by
    have h1 : OUI (adel T t) G oT n := oui_adel_T h
    refine ⟨h1.u1, h1.u2, ?_, h1.ltT, h1.ltG, ?_⟩
    · intro a o ha hm'
      have ha' : aget T a = some o := aget_of_adel ha
      rcases List.mem_cons.1 hm' with e | e
      · subst e
        have := h.u1 a t o ha' ht
        subst this
        rw [aget_adel] at ha; simp at ha
      · exact h.u3 a o ha' e
    · intro o hm'
      rcases List.mem_cons.1 hm' with e | e
      · subst e; exact h.ltT t o ht
      · exact h.ltO o e
  filterO := oui_filter_oT
  newG _ _ _ _ := oui_newG
  same hg _ e2 := oui_aset_G_same hg e2
  delG _ := oui_adel_G

theorem OU.ensureImpl {s s1 : St} {g i : Nat} (h : OU s) (he : ensureImpl s g = some (s1, i)) : OU s1 :=
  OU.objInv.ensureImpl h he

theorem OU.insert {s : St} (i : Nat) (first : Bool) (sl : SlotB) (h : OU s) :
    OU (insertCell s i first sl).fst :=
  OU.objInv.insert i first sl h

theorem OU.reachable (f : Nat) (P : Prog) (s : St) (h : runTop f P {} P.top = some s) : OU s :=
  OU.objInv.stable.runTop OU.init f P s h

theorem dead_after_delT {s s' : St} {r : String} (hu : OU s) {t o : Nat} (ht : aget s.T t = some o)
    (h : stepSimple s (.delT t) = some (s', r)) : OD o s' := by
  simp only [stepSimple, ht, Option.some.injEq, Prod.mk.injEq] at h
  obtain ⟨rfl, _⟩ := h
  apply (ObjInv.prims (ODI o)).invalidateTrackable
  refine ⟨hu.ltT t o ht, ?_⟩
  rintro (⟨a, ha⟩ | ⟨g, hd, hg, _, he⟩ | hm)
  · rw [aget_adel] at ha
    split at ha
    · cases ha
    · rename_i hne; exact hne (hu.u1 a t o ha ht)
  · exact hu.u2 t o g hd ht hg he
  · exact hu.u3 t o ht hm

end Sigc.Inv
