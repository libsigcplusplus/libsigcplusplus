import Sigc.Lemmas.Basic
/-!
`stepSimple` is a composition of the model's primitive state changes.  `Move s s'`: one such change — a library cascade
(`LibMove`), a write to `T`, `S`, `G`, `C`/`K`, an insertion — with the provenance of what is written (a pointer is `none` or
was held by a connection, an impl id is held by a signal object of a known level, a slot value comes from a slot variable of
no higher taint, a functor from `mkFun` and forwards at most to the level its spec declares).  `Built` is the
reflexive-transitive closure; `stepSimple_builds` goes through the operations once, so that a state predicate every `Move`
preserves is preserved by `stepSimple` (`Built.preserved`): `Sigc.Emit`, `Sigc.Inv`, `StepLog`, `RefineKeeps` argue move by move.
-/
namespace Sigc.Model

/-- `gcImpl` of the impl a signal object has just let go of, if it had one -/
def gcOpt (s : St) : Option Nat → St
  | some i => gcImpl s i
  | none => s

theorem gcOpt_eq (s : St) (o : Option Nat) :
    (match o with
      | some old => gcImpl s old
      | none => s) = gcOpt s o := by
  cases o <;> rfl

/-- the impl `o` (if there is one) is the impl of some signal object of `G` -/
def Held (G : List (Nat × Handle)) (o : Option Nat) : Prop :=
  ∀ i, o = some i → ∃ g h, aget G g = some h ∧ h.impl = some i

/-- `Held`, by a signal object of level `ℓ` -/
def HeldAt (G : List (Nat × Handle)) (o : Option Nat) (ℓ : Nat) : Prop :=
  ∀ i, o = some i → ∃ g h, aget G g = some h ∧ h.impl = some i ∧ h.lvl = ℓ

theorem HeldAt.none (G : List (Nat × Handle)) (ℓ : Nat) : HeldAt G none ℓ := fun _ e => by cases e

theorem HeldAt.held {G : List (Nat × Handle)} {o : Option Nat} {ℓ : Nat} (h : HeldAt G o ℓ) : Held G o :=
  fun i e => let ⟨g, hd, hg, hi, _⟩ := h i e; ⟨g, hd, hg, hi⟩

/-- the taint an assignment leaves: the larger of the destination's and the source's -/
theorem taint_left (a b : Int) : a ≤ if a < b then b else a := by split <;> omega
theorem taint_right (a b : Int) : b ≤ if a < b then b else a := by split <;> omega

/-- `p` is null or the cell pointer of a connection or scoped connection that exists in `s` -/
def OldPtr (s : St) (p : Option Nat) : Prop :=
  p = none ∨ (∃ k, aget s.C k = some p) ∨ (∃ k, aget s.K k = some p)

/-- `incall` of the slot variable `i` (0 when there is none) -/
def incallOf (S : List (Nat × SlotVar)) (i : Nat) : Nat :=
  match aget S i with
  | some v => v.incall
  | none => 0

theorem incallOf_some {S : List (Nat × SlotVar)} {i : Nat} {v : SlotVar} (h : aget S i = some v) :
    incallOf S i = v.incall := by
  unfold incallOf; rw [h]

theorem incallOf_none {S : List (Nat × SlotVar)} {i : Nat} (h : aget S i = none) : incallOf S i = 0 := by
  unfold incallOf; rw [h]

/-- the rep of `sl` is none or that of a slot variable whose taint is at most `t` -/
def SlotFrom (s : St) (sl : SlotB) (t : Int) : Prop :=
  sl.rep = none ∨ ∃ i v, aget s.S i = some v ∧ v.taint ≤ t ∧ (sl.rep = v.slot.rep ∨ sl.rep = v.slot.disconnectRep.rep)

theorem SlotFrom.norep {s : St} {sl : SlotB} {t : Int} (h : sl.rep = none) : SlotFrom s sl t := Or.inl h

theorem SlotFrom.var {s : St} {i : Nat} {v : SlotVar} {sl : SlotB} {t : Int} (hv : aget s.S i = some v)
    (ht : v.taint ≤ t) (h : sl.rep = v.slot.rep) : SlotFrom s sl t := Or.inr ⟨i, v, hv, ht, Or.inl h⟩

theorem SlotB.copy_rep (a : SlotB) : a.copy.rep = none ∨ a.copy.rep = a.rep := by
  unfold SlotB.copy
  cases hr : a.rep with
  | none => exact Or.inl rfl
  | some r =>
    obtain ⟨c, f⟩ := r
    cases c
    · exact Or.inl rfl
    · exact Or.inr rfl

theorem SlotB.move_fst_rep (a : SlotB) : a.move.1.rep = a.rep := by
  unfold SlotB.move; cases hr : a.rep <;> rfl

theorem SlotB.move_snd_rep (a : SlotB) : a.move.2.rep = none := by
  unfold SlotB.move; cases hr : a.rep
  · exact hr
  · rfl

theorem SlotFrom.copy {s : St} {i : Nat} {v : SlotVar} {sl : SlotB} {t : Int} (hv : aget s.S i = some v)
    (ht : v.taint ≤ t) (h : sl.rep = v.slot.copy.rep) : SlotFrom s sl t := by
  rcases v.slot.copy_rep with e | e
  · exact .norep (h.trans e)
  · exact .var hv ht (h.trans e)

theorem SlotB.tracksObj_of_rep_eq {a b : SlotB} (h : a.rep = b.rep) (o : Nat) : a.tracksObj o = b.tracksObj o := by
  unfold SlotB.tracksObj; rw [h]

theorem SlotB.tracksObj_copy_le (a : SlotB) (o : Nat) (h : a.copy.tracksObj o = true) : a.tracksObj o = true := by
  rcases a.copy_rep with e | e
  · unfold SlotB.tracksObj at h; rw [e] at h; cases h
  · rw [← SlotB.tracksObj_of_rep_eq e]; exact h

/-- the functor of a `nest:` spec refers only to what the wrapped slot refers to -/
theorem nest_tracks_le (sl : SlotB) (o : Nat)
    (h : o ∈ (Fun.nest sl.copy.blocked (match sl.copy.rep with | some r => r.fn | none => none)).tracks) :
    sl.tracksObj o = true := by
  apply SlotB.tracksObj_copy_le
  unfold SlotB.tracksObj
  cases hr : sl.copy.rep with
  | none => simp [hr, Fun.tracks] at h
  | some r =>
    obtain ⟨c, f⟩ := r
    cases f with
    | none => simp [hr, Fun.tracks] at h
    | some f =>
      simp only [hr, Fun.tracks] at h
      simpa using h

/-- what `mkFun` returns, spec by spec: the functor and the state.  `plain` (`fn:`, `mem:`, `bref:`, `trk:`, `nest:`):
    the state is untouched, every object the functor refers to is named or referred to by a slot variable, and
    the functor is a user functor or (`nest:`) wraps a copy of the slot of a slot variable.  `τ` bounds what the
    functor forwards to (`specTaint`): the level of the signal object of `fwd:`, the taint of the variable of `nest:` -/
inductive MkFun (s : St) (τ : Int) : Fun → St → Prop
  | plain {fn : Fun} :
      (∀ o ∈ fn.tracks, (∃ t, aget s.T t = some o) ∨ ∃ i v, aget s.S i = some v ∧ v.slot.tracksObj o = true) →
      ((∃ fid ts, fn = .leaf fid ts) ∨
        ∃ i v, aget s.S i = some v ∧ fn = .nest v.slot.copy.blocked (v.slot.copy.rep.bind (·.fn)) ∧ v.taint ≤ τ) →
      MkFun s τ fn s
  | fwd {g : Nat} {h : Handle} : aget s.G g = some h →
      (!h.fl.isTrackable && s.ownedG.any (fun p => p.2 = g)) = false → (h.lvl : Int) ≤ τ →
      MkFun s τ (.fwd h.obj (if h.fl.isTrackable then [h.trk] else []))
        { s with G := aset s.G g { h with everFwd := true } }
  | ownT (fid : Nat) {t o : Nat} : aget s.T t = some o →
      MkFun s τ (.owner fid [o] []) { s with T := adel s.T t, ownedT := o :: s.ownedT }
  | ownK (fid : Nat) {k : Nat} {p : Option Nat} : aget s.K k = some p →
      MkFun s τ (.owner fid [] [s.next])
        { s with next := s.next + 1, K := adel s.K k, ownedK := (s.next, p) :: s.ownedK }
  | ownG (fid : Nat) {g : Nat} {h : Handle} : aget s.G g = some h → (h.everFwd && !h.fl.isTrackable) = false →
      s.ownedG.any (fun p => p.2 = g) = false →
      MkFun s τ (.owner fid [] [s.next]) { s with next := s.next + 1, ownedG := (s.next, g) :: s.ownedG }

theorem MkFun.mono {s s' : St} {fn : Fun} {t t' : Int} (m : MkFun s t fn s') (h : t ≤ t') : MkFun s t' fn s' := by
  cases m with
  | plain h1 h2 =>
    exact .plain h1 (h2.imp_right fun ⟨i, v, hv, e, ht⟩ => ⟨i, v, hv, e, Int.le_trans ht h⟩)
  | fwd hg ho hl => exact .fwd hg ho (Int.le_trans hl h)
  | ownT fid ht => exact .ownT fid ht
  | ownK fid hk => exact .ownK fid hk
  | ownG fid hg hp ho => exact .ownG fid hg hp ho

theorem MkFun.frame {s s' : St} {fn : Fun} {t : Int} (m : MkFun s t fn s') :
    s'.impls = s.impls ∧ s.next ≤ s'.next ∧ s'.S = s.S ∧ s'.C = s.C ∧ s'.err = s.err ∧ s'.depth = s.depth := by
  cases m with
  | plain _ _ => exact ⟨rfl, Nat.le_refl _, rfl, rfl, rfl, rfl⟩
  | fwd _ _ => exact ⟨rfl, Nat.le_refl _, rfl, rfl, rfl, rfl⟩
  | ownT _ _ => exact ⟨rfl, Nat.le_refl _, rfl, rfl, rfl, rfl⟩
  | ownK _ _ => exact ⟨rfl, Nat.le_succ _, rfl, rfl, rfl, rfl⟩
  | ownG _ _ _ _ => exact ⟨rfl, Nat.le_succ _, rfl, rfl, rfl, rfl⟩

theorem MkFun.G {s s' : St} {fn : Fun} {t : Int} (m : MkFun s t fn s') :
    s'.G = s.G ∨ ∃ g hd, aget s.G g = some hd ∧ s'.G = aset s.G g { hd with everFwd := true } := by
  cases m with
  | plain _ _ => exact Or.inl rfl
  | fwd hg _ => exact Or.inr ⟨_, _, hg, rfl⟩
  | ownT _ _ => exact Or.inl rfl
  | ownK _ _ => exact Or.inl rfl
  | ownG _ _ _ _ => exact Or.inl rfl

theorem MkFun.lvl {s s' : St} {fn : Fun} {t : Int} (m : MkFun s t fn s') {g : Nat} {h : Handle}
    (hg : aget s.G g = some h) : ∃ h', aget s'.G g = some h' ∧ h'.lvl = h.lvl := by
  rcases m.G with e | ⟨g', hd, hg', e⟩
  · exact ⟨h, e ▸ hg, rfl⟩
  · rw [e]
    by_cases c : g = g'
    · subst c; rw [hg] at hg'; cases hg'; exact ⟨_, aget_aset_same _ _ _, rfl⟩
    · exact ⟨h, (aget_aset_other _ _ _ _ c).trans hg, rfl⟩

/-- the cascades of the library: what `Sigc.Inv.PrimsA` speaks of -/
inductive LibMove : St → St → Prop
  | notify (s : St) (o : Nat) : LibMove s (invalidateTrackable s o)
  | disconnect (s : St) (cid : Nat) : LibMove s (disconnectCell s cid)
  | clear (s : St) (i : Nat) : LibMove s (clearImpl s i)
  | block (s : St) (p : Option Nat) (b : Bool) : LibMove s (connBlock s p b)
  | blockAll {s : St} {i : Nat} {x : Impl} (b : Bool) : aget s.impls i = some x →
      LibMove s (setImpl s i { x with cells := x.cells.map (fun c => { c with slot := { c.slot with blocked := b } }) })

/-- a new value of `S`: one or two variables are written with slot values that come from variables of `s`
    and with the `incall` the variable had, or an idle variable is removed -/
inductive SWrite (s : St) : List (Nat × SlotVar) → Prop
  | one {i : Nat} {v : SlotVar} : v.incall = incallOf s.S i → SlotFrom s v.slot v.taint → SWrite s (aset s.S i v)
  | two {i j : Nat} {v a b : SlotVar} : aget s.S i = some v → a.incall = v.incall → SlotFrom s a.slot a.taint →
      j ≠ i → b.incall = incallOf s.S j → SlotFrom s b.slot b.taint → SWrite s (aset (aset s.S i a) j b)
  | del {i : Nat} {v : SlotVar} : aget s.S i = some v → v.incall = 0 → SWrite s (adel s.S i)

/-- new values of `C` and `K`: every pointer written is null or was held before -/
inductive CKWrite (s : St) : List (Nat × Option Nat) → List (Nat × Option Nat) → Prop
  | setC (k : Nat) {p : Option Nat} : OldPtr s p → CKWrite s (aset s.C k p) s.K
  | delC (k : Nat) : CKWrite s (adel s.C k) s.K
  | setK (k : Nat) {p : Option Nat} : OldPtr s p → CKWrite s s.C (aset s.K k p)
  | setK2 (i j : Nat) {a b : Option Nat} : OldPtr s a → OldPtr s b → CKWrite s s.C (aset (aset s.K i a) j b)
  | delK (k : Nat) : CKWrite s s.C (adel s.K k)
  | rel {k : Nat} {p : Option Nat} (c : Nat) : aget s.K k = some p → CKWrite s (aset s.C c p) (aset s.K k none)

/-- the rep `mkS`, `setS` and `connfn` build around a new functor -/
def SlotB.made (fn : Fun) : SlotB := { blocked := false, rep := some { call := true, fn := some fn } }

/-- Some moves are combinations, because the invariants hold again only after the whole of it: `delT` (the name
    goes and `notify_callbacks()` removes what referred to its object), `asgG`/`masgG`/`drop` (`gcImpl` settles
    the reference that the write to `G` dropped), `conn`/`connMv`/`connfn` (the pointer stored is the id that
    `insertCell` returned; for `connMv` the variable gives its rep to the cell).  The last premises of `masgG`,
    `conn`, `connMv`, `connfn` are the comparisons of levels the operation has made (`badlevel`, `badorder`). -/
inductive Move : St → St → Prop
  | lib {s s' : St} : LibMove s s' → Move s s'
  | newT {s : St} {t : Nat} : aget s.T t = none →
      Move s { s with next := s.next + 1, T := aset s.T t s.next }
  | delT {s : St} {t o : Nat} : aget s.T t = some o → Move s (invalidateTrackable { s with T := adel s.T t } o)
  | setS {s : St} {S' : List (Nat × SlotVar)} : SWrite s S' → Move s { s with S := S' }
  | made {s s1 : St} {fn : Fun} {t : Int} : MkFun s t fn s1 → Move s s1
  | mkS {s s1 : St} {fn : Fun} {i : Nat} {v : SlotVar} :
      MkFun s v.taint fn s1 → v.incall = incallOf s.S i → v.slot = .made fn → Move s { s1 with S := aset s1.S i v }
  | newG {s : St} {g : Nat} (fl : Flavour) {impl : Option Nat} (lvl : Nat) : aget s.G g = none → HeldAt s.G impl lvl →
      Move s { s with next := s.next + 1 + 1,
                      G := aset s.G g { obj := s.next, fl := fl, impl := impl, trk := s.next + 1, lvl := lvl } }
  | ensure {s s1 : St} {g i : Nat} : ensureImpl s g = some (s1, i) → Move s s1
  | mvG {s : St} {i j : Nat} {h : Handle} : aget s.G i = some h → aget s.G j = none →
      Move s { s with next := s.next + 1 + 1,
                      G := aset (aset s.G i { h with impl := none }) j
                             { obj := s.next, fl := h.fl, impl := h.impl, trk := s.next + 1, lvl := h.lvl } }
  | asgG {s : St} {j : Nat} {d : Handle} {new : Option Nat} : aget s.G j = some d → HeldAt s.G new d.lvl →
      Move s (gcOpt { s with G := aset s.G j { d with impl := new } } d.impl)
  | masgG {s : St} {i j : Nat} {d h : Handle} : aget s.G j = some d → aget s.G i = some h → j ≠ i → d.lvl = h.lvl →
      Move s (gcOpt { s with G := aset (aset s.G j { d with impl := h.impl }) i { h with impl := none } } d.impl)
  | drop {s : St} {g : Nat} : s.ownedG.any (fun p => p.2 = g) = false →
      (∀ h, aget s.G g = some h → (h.everFwd && !h.fl.isTrackable) = false) → Move s (dropHandle s g)
  | conn {s : St} {sv im ℓ : Nat} {v : SlotVar} (k : Nat) (first : Bool) : aget s.S sv = some v →
      HeldAt s.G (some im) ℓ → v.taint < ℓ →
      Move s (setConn (insertCell s im first v.slot.copy).1 k (some (insertCell s im first v.slot.copy).2))
  | connMv {s : St} {sv im ℓ : Nat} {v : SlotVar} (k : Nat) (first : Bool) : aget s.S sv = some v →
      HeldAt s.G (some im) ℓ → v.taint < ℓ →
      Move s (setConn
        (insertCell { s with S := aset s.S sv { v with slot := v.slot.move.2 } } im first v.slot.move.1).1 k
        (some (insertCell { s with S := aset s.S sv { v with slot := v.slot.move.2 } } im first v.slot.move.1).2))
  | connfn {s s1 s2 : St} {fn : Fun} {g im : Nat} {t : Int} {h : Handle} (k : Nat) (first : Bool) :
      MkFun s t fn s1 → ensureImpl s1 g = some (s2, im) → aget s.G g = some h → t < h.lvl →
      Move s (setConn (insertCell s2 im first (.made fn)).1 k (some (insertCell s2 im first (.made fn)).2))
  | setCK {s : St} {C' K' : List (Nat × Option Nat)} : CKWrite s C' K' → Move s { s with C := C', K := K' }

/-- reached by a sequence of moves -/
inductive Built : St → St → Prop
  | refl (s : St) : Built s s
  | step {s s1 s2 : St} : Move s s1 → Built s1 s2 → Built s s2

theorem Built.one {s s' : St} (m : Move s s') : Built s s' := .step m (.refl _)

theorem Built.trans {s s1 s2 : St} (a : Built s s1) (b : Built s1 s2) : Built s s2 := by
  induction a with
  | refl => exact b
  | step m _ ih => exact .step m (ih b)

theorem Built.preserved {J I : St → Prop} (hJ : ∀ {s s'}, Move s s' → J s → J s')
    (hI : ∀ {s s'}, Move s s' → J s → I s → I s') {s s' : St} (b : Built s s') (j : J s) (i : I s) : I s' := by
  induction b with
  | refl => exact i
  | step m _ ih => exact ih (hJ m j) (hI m j i)

/-- every answer of a step from `s` is a state built from `s` -/
def Builds (s : St) (x : Option (St × String)) : Prop := ∀ s' r, x = some (s', r) → Built s s'

theorem Builds.ok {s s1 : St} {r : String} (b : Built s s1) : Builds s (some (s1, r)) :=
  fun _ _ e => by cases e; exact b

/-- the operation answered without touching the state -/
theorem Builds.same {s : St} {r : String} : Builds s (some (s, r)) := .ok (.refl s)

theorem Builds.one {s s1 : St} {r : String} (m : Move s s1) : Builds s (some (s1, r)) := .ok (.one m)

theorem Builds.ite {s : St} {c : Prop} [Decidable c] {a b : Option (St × String)} (ha : c → Builds s a)
    (hb : ¬c → Builds s b) : Builds s (if c then a else b) := by
  split
  · exact ha ‹_›
  · exact hb ‹_›

theorem OldPtr.none (s : St) : OldPtr s none := Or.inl rfl

theorem OldPtr.ofC {s : St} {k : Nat} {p : Option Nat} (h : aget s.C k = some p) : OldPtr s p :=
  Or.inr (Or.inl ⟨k, h⟩)

theorem OldPtr.ofK {s : St} {k : Nat} {p : Option Nat} (h : aget s.K k = some p) : OldPtr s p :=
  Or.inr (Or.inr ⟨k, h⟩)

theorem ensureImpl_cases {s s1 : St} {g i : Nat} (he : ensureImpl s g = some (s1, i)) :
    ∃ hd, aget s.G g = some hd ∧ ((hd.impl = some i ∧ s1 = s) ∨ (hd.impl = none ∧ i = s.next ∧
      s1 = { s with next := s.next + 1, impls := aset s.impls s.next {},
                    G := aset s.G g { hd with impl := some s.next } })) := by
  unfold ensureImpl at he
  split at he
  · cases he
  · rename_i hd hg
    split at he
    · rename_i hk; cases he; exact ⟨hd, hg, Or.inl ⟨hk, rfl⟩⟩
    · rename_i hk; cases he; exact ⟨hd, hg, Or.inr ⟨hk, rfl, rfl⟩⟩

theorem ensureImpl_spec {s s1 : St} {g i : Nat} (he : ensureImpl s g = some (s1, i)) :
    s1.S = s.S ∧ Held s1.G (some i) ∧ ∀ j, j ≠ g → aget s1.G j = aget s.G j := by
  obtain ⟨hd, hg, ⟨hk, rfl⟩ | ⟨_, rfl, rfl⟩⟩ := ensureImpl_cases he
  · exact ⟨rfl, fun _ e => ⟨g, hd, hg, hk.trans e⟩, fun _ _ => rfl⟩
  · exact ⟨rfl, fun _ e => ⟨g, _, aget_aset_same _ _ _, e⟩, fun j hj => aget_aset_other _ _ _ _ hj⟩

theorem ensureImpl_held {s s1 : St} {g i : Nat} {hd : Handle} (he : ensureImpl s g = some (s1, i))
    (hg : aget s.G g = some hd) : HeldAt s1.G (some i) hd.lvl ∧ ∀ h1, aget s1.G g = some h1 → h1.lvl = hd.lvl := by
  obtain ⟨hd', hg', ⟨hk, rfl⟩ | ⟨_, rfl, rfl⟩⟩ := ensureImpl_cases he
  · cases hg.symm.trans hg'
    exact ⟨fun _ e => ⟨g, hd, hg, hk.trans e, rfl⟩, fun h1 e => by cases hg.symm.trans e; rfl⟩
  · cases hg.symm.trans hg'
    exact ⟨fun _ e => ⟨g, _, aget_aset_same _ _ _, e, rfl⟩,
      fun h1 e => by rw [aget_aset_same] at e; cases e; rfl⟩

theorem delG_eq_dropHandle {s : St} {g : Nat} {h : Handle} (hg : aget s.G g = some h)
    (hp : (h.everFwd && !h.fl.isTrackable) = false) (ho : s.ownedG.any (fun p => p.2 = g) = false) :
    stepSimple s (.delG g) = some (dropHandle s g, "ok") := by
  simp only [stepSimple, dropHandle, hg, hp, ho]
  rfl

/-- the functor and the new state of the specs that change the state; the others leave it alone -/
def MkFunAt (s : St) (fn : Fun) (s' : St) : FSpec → Prop
  | .fwd g => ∃ h, aget s.G g = some h ∧ fn = .fwd h.obj (if h.fl.isTrackable then [h.trk] else []) ∧
      s' = { s with G := aset s.G g { h with everFwd := true } }
  | .ownT fid t => ∃ o, aget s.T t = some o ∧ fn = .owner fid [o] [] ∧
      s' = { s with T := adel s.T t, ownedT := o :: s.ownedT }
  | .ownK fid k => ∃ p, aget s.K k = some p ∧ fn = .owner fid [] [s.next] ∧
      s' = { s with next := s.next + 1, K := adel s.K k, ownedK := (s.next, p) :: s.ownedK }
  | .ownG fid g => (∃ h, aget s.G g = some h) ∧ s.ownedG.any (fun p => p.2 = g) = false ∧
      fn = .owner fid [] [s.next] ∧ s' = { s with next := s.next + 1, ownedG := (s.next, g) :: s.ownedG }
  | _ => s' = s

theorem mkFun_cases_spec {s s' : St} {v : Bool} {spec : FSpec} {fn : Fun} (h : mkFun s v spec = .ok (fn, s')) :
    MkFun s (specTaint s spec) fn s' ∧ MkFunAt s fn s' spec := by
  have fin : ∀ {x : Fun × St}, (Except.ok x : Except String (Fun × St)) = .ok (fn, s') →
      MkFun s (specTaint s spec) x.1 x.2 ∧ MkFunAt s x.1 x.2 spec → MkFun s (specTaint s spec) fn s' ∧ MkFunAt s fn s' spec := by
    intro x e m; cases e; exact m
  cases spec with
  | fn fid =>
    simp only [mkFun] at h
    exact fin h ⟨.plain (fun o ho => by cases ho) (Or.inl ⟨_, _, rfl⟩), rfl⟩
  | mem fid t | bref fid t =>
    simp only [mkFun] at h
    split at h
    · cases h
    · rename_i o ht
      refine fin h ⟨.plain (fun o' ho => ?_) (Or.inl ⟨_, _, rfl⟩), rfl⟩
      simp only [Fun.tracks, List.mem_singleton] at ho
      subst ho; exact Or.inl ⟨t, ht⟩
  | trk fid t1 t2 =>
    simp only [mkFun] at h
    split at h
    · cases h
    · rename_i o1 ht1
      split at h
      · refine fin h ⟨.plain (fun o' ho => ?_) (Or.inl ⟨_, _, rfl⟩), rfl⟩
        simp only [Fun.tracks, List.mem_singleton] at ho
        subst ho; exact Or.inl ⟨t1, ht1⟩
      · rename_i t2'
        split at h
        · cases h
        · rename_i o2 ht2
          refine fin h ⟨.plain (fun o' ho => ?_) (Or.inl ⟨_, _, rfl⟩), rfl⟩
          simp only [Fun.tracks, List.mem_cons, List.not_mem_nil, or_false] at ho
          rcases ho with rfl | rfl
          · exact Or.inl ⟨t1, ht1⟩
          · exact Or.inl ⟨t2', ht2⟩
  | nest sv =>
    simp only [mkFun] at h
    split at h
    · cases h
    · rename_i vv hv
      split at h
      · cases h
      · refine fin h ⟨.plain (fun o ho => Or.inr ⟨sv, vv, hv, nest_tracks_le _ o ho⟩)
          (Or.inr ⟨sv, vv, hv, ?_, by simp only [specTaint, hv]; exact Int.le_refl _⟩), rfl⟩
        cases vv.slot.copy.rep <;> rfl
  | fwd g =>
    simp only [mkFun] at h
    split at h
    · cases h
    · rename_i hd hg
      split at h
      · cases h
      split at h
      · cases h
      · rename_i hno
        exact fin h ⟨.fwd hg (Bool.eq_false_iff.2 hno) (by simp only [specTaint, hg]; exact Int.le_refl _), hd, hg, rfl, rfl⟩
  | ownT fid t =>
    simp only [mkFun] at h
    split at h
    · cases h
    · rename_i o ht
      exact fin h ⟨.ownT fid ht, o, ht, rfl, rfl⟩
  | ownK fid k =>
    simp only [mkFun, St.fresh] at h
    split at h
    · cases h
    · rename_i p hk
      exact fin h ⟨.ownK fid hk, p, hk, rfl, rfl⟩
  | ownG fid g =>
    simp only [mkFun, St.fresh] at h
    split at h
    · cases h
    · rename_i hd hg
      split at h
      · cases h
      rename_i hpin
      split at h
      · cases h
      · rename_i hno
        exact fin h ⟨.ownG fid hg (Bool.eq_false_iff.2 hpin) (Bool.eq_false_iff.2 hno),
          ⟨hd, hg⟩, Bool.eq_false_iff.2 hno, rfl, rfl⟩
  | bad => simp only [mkFun] at h; cases h

theorem mkFun_cases {s s' : St} {v : Bool} {spec : FSpec} {fn : Fun} (h : mkFun s v spec = .ok (fn, s')) :
    MkFun s (specTaint s spec) fn s' :=
  (mkFun_cases_spec h).1

theorem stepSimple_builds (s : St) (op : Op) : Builds s (stepSimple s op) := by
  cases op
  -- `delG` before the step is unfolded: its answer is `dropHandle`, folded (`delG_eq_dropHandle`)
  case delG i =>
    cases hi : aget s.G i with
    | none => simp only [stepSimple, hi]; exact .same
    | some hd =>
      cases hp : (hd.everFwd && !hd.fl.isTrackable) with
      | true => simp only [stepSimple, hi, hp]; exact .same
      | false =>
        cases ho : s.ownedG.any (fun p => p.2 = i) with
        | true => simp only [stepSimple, hi, hp, ho]; exact .same
        | false =>
          rw [delG_eq_dropHandle hi hp ho]
          exact .one (.drop ho (fun _ e => by rw [hi] at e; cases e; exact hp))
  all_goals simp only [stepSimple, St.fresh]
  case newT t =>
    split
    · exact .same
    · exact .one (.newT ‹_›)
  case delT t =>
    split
    · exact .same
    · exact .one (.delT ‹_›)
  case notifyT t =>
    split
    · exact .same
    · exact .one (.lib (.notify _ _))
  case cpT j i =>
    split
    · exact .same
    · split
      · exact .same
      · exact .one (.newT ‹_›)
  case mvT j i =>
    split
    · exact .same
    · split
      · exact .same
      · exact .ok (.step (.newT ‹_›) (.one (.lib (.notify _ _))))
  case asgT j i =>
    split
    · split
      · exact .same
      · exact .one (.lib (.notify _ _))
    · exact .same
  case masgT j i =>
    split
    · split
      · exact .same
      · exact .ok (.step (.lib (.notify _ _)) (.one (.lib (.notify _ _))))
    · exact .same
  case mkS i ty spec =>
    split
    · exact .same
    · refine .ite (fun _ => .same) fun _ => ?_
      split
      · exact .same
      · exact .one (.mkS (mkFun_cases ‹_›) (incallOf_none ‹_›).symm rfl)
  case mkS0 i ty =>
    split
    · exact .same
    · exact .ite (fun _ => .same) fun _ => .one (.setS (.one (incallOf_none ‹_›).symm (.norep rfl)))
  case cpS j i =>
    split
    · exact .same
    · rename_i v hi
      split
      · exact .same
      · exact .one (.setS (.one (incallOf_none ‹_›).symm (.copy hi (Int.le_refl _) rfl)))
  case mvS j i =>
    split
    · exact .same
    · rename_i v hi
      split
      · exact .same
      · rename_i hj
        exact .ite (fun _ => .same) fun _ => .one (.setS (.two hi rfl (.norep v.slot.move_snd_rep)
          (ne_of_aget hi hj) (incallOf_none hj).symm (.var hi (Int.le_refl _) v.slot.move_fst_rep)))
  case asgS j i =>
    split
    · rename_i d v hj hi
      refine .ite (fun _ => .same) fun _ => .ite (fun _ => .same) fun _ =>
        .one (.setS (.one (incallOf_some hj).symm ?_))
      split
      · exact .var hj (taint_left _ _) rfl
      · split
        · exact .norep rfl
        · exact .copy hi (taint_right _ _) rfl
    · exact .same
  case masgS j i =>
    split
    · rename_i d v hj hi
      exact .ite (fun _ => .same) fun _ => .ite (fun _ => .same) fun _ =>
        .ite (fun _ => .one (.setS (.one (incallOf_some hj).symm (.var hj (taint_left _ _) rfl)))) fun c =>
        .ite (fun _ => .one (.setS (.one (incallOf_some hj).symm (.norep rfl)))) fun _ =>
        .one (.setS (.two hi rfl (.norep rfl) (fun e => c (by rw [e]; simp)) (incallOf_some hj).symm (.var hi (taint_right _ _) rfl)))
    · exact .same
  case setS i spec =>
    split
    · exact .same
    · rename_i d hi
      refine .ite (fun _ => .same) fun _ => ?_
      split
      · exact .same
      · exact .one (.mkS ((mkFun_cases ‹_›).mono (taint_right _ _)) (incallOf_some hi).symm rfl)
  case delS i =>
    split
    · exact .same
    · exact .ite (fun _ => .same) fun c => .one (.setS (.del ‹_› (Nat.eq_zero_of_not_pos c)))
  case discS i =>
    split
    · exact .same
    · rename_i v hi
      exact .one (.setS (.one (incallOf_some hi).symm (Or.inr ⟨i, v, hi, Int.le_refl _, Or.inr rfl⟩)))
  case blockS i b =>
    split
    · exact .same
    · rename_i v hi
      exact .one (.setS (.one (incallOf_some hi).symm (.var hi (Int.le_refl _) rfl)))
  case blockedSq i | emptySq i | boolSq i => split <;> exact .same
  case newG i fl =>
    split
    · exact .same
    · split
      · exact .same
      · exact .one (.newG _ _ ‹_› (HeldAt.none _ _))
  case cpG j i =>
    split
    · exact .same
    · rename_i hi
      split
      · exact .same
      · rename_i hj
        split
        · exact .same
        · rename_i s1 im he
          obtain ⟨_, _, hoth⟩ := ensureImpl_spec he
          split
          · exact .one (.ensure he)
          · rename_i h hg1
            obtain ⟨hh, hl⟩ := ensureImpl_held he hi
            exact .ok (.step (.ensure he) (.one (.newG _ _ ((hoth j (ne_of_aget hi hj)).trans hj) (hl h hg1 ▸ hh))))
  case mvG j i =>
    split
    · exact .same
    · rename_i h0 hi
      split
      · exact .same
      · rename_i hj
        refine .ite (fun _ => ?_) fun _ => ?_
        · split
          · exact .same
          · rename_i s1 im he
            obtain ⟨_, _, hoth⟩ := ensureImpl_spec he
            exact .ok (.step (.ensure he) (.one (.newG _ _ ((hoth j (ne_of_aget hi hj)).trans hj) (ensureImpl_held he hi).1)))
        · split
          · exact .ok (.step (.mvG hi hj) (.one (.lib (.notify _ _))))
          · exact .one (.mvG hi hj)
  case asgG j i =>
    split
    · rename_i d hh hj hi
      refine .ite (fun _ => .same) fun _ => .ite (fun _ => .same) fun hl => .ite (fun _ => .same) fun hne => ?_
      split
      · exact .same
      · rename_i s1 im he
        obtain ⟨_, _, hoth⟩ := ensureImpl_spec he
        exact .ite (fun _ => .one (.ensure he)) fun _ =>
          .ok (.step (.ensure he) (.one (.asgG ((hoth j hne).trans hj) (Decidable.of_not_not hl ▸ (ensureImpl_held he hi).1))))
    · exact .same
  case masgG j i =>
    split
    · rename_i d hh hj hi
      refine .ite (fun _ => .same) fun _ => .ite (fun _ => .same) fun hl => .ite (fun _ => .same) fun _ =>
        .ite (fun _ => .ite (fun _ => .same) fun hne => ?_) fun _ => .ite (fun _ => .same) fun hne => ?_
      · split
        · exact .same
        · rename_i s1 im he
          obtain ⟨_, _, hoth⟩ := ensureImpl_spec he
          exact .ite (fun _ => .one (.ensure he)) fun _ =>
            .ok (.step (.ensure he) (.one (.asgG ((hoth j hne).trans hj) (Decidable.of_not_not hl ▸ (ensureImpl_held he hi).1))))
      · split
        · exact .ok (.step (.masgG hj hi hne (Decidable.of_not_not hl)) (.one (.lib (.notify _ _))))
        · exact .one (.masgG hj hi hne (Decidable.of_not_not hl))
    · exact .same
  case conn k g sv first mv =>
    split
    · rename_i hd v hg hv
      refine .ite (fun _ => .same) fun _ => .ite (fun _ => .same) fun ht => .ite (fun _ => .same) fun _ => ?_
      split
      · exact .same
      · rename_i s1 im he
        obtain ⟨hS, _, _⟩ := ensureImpl_spec he
        have hv1 : aget s1.S sv = some v := hS ▸ hv
        cases mv with
        | true => exact .ok (.step (.ensure he) (.one (.connMv k first hv1 (ensureImpl_held he hg).1 (Int.not_le.mp ht))))
        | false => exact .ok (.step (.ensure he) (.one (.conn k first hv1 (ensureImpl_held he hg).1 (Int.not_le.mp ht))))
    · exact .same
  case connfn k g spec first =>
    split
    · exact .same
    · split
      · exact .same
      · rename_i fn s1 hm
        refine .ite (fun _ => .one (.made (mkFun_cases hm))) fun ht => ?_
        split
        · exact .same
        · exact .one (.connfn k first (mkFun_cases hm) ‹_› ‹aget s.G g = some _› (Int.not_le.mp ht))
  case clear g =>
    split
    · exact .same
    · split
      · exact .one (.lib (.clear _ _))
      · exact .same
  case sizeq g | emptyGq g | blockedGq g =>
    split
    · exact .same
    · split <;> exact .same
  case blockG g b =>
    split
    · exact .same
    · split
      · exact .same
      · split
        · exact .same
        · exact .one (.lib (.blockAll b ‹_›))
  case newC i =>
    split
    · exact .same
    · exact .one (.setCK (.setC i (.none s)))
  case cpC j i =>
    split
    · exact .same
    · rename_i hi
      split
      · exact .same
      · exact .one (.setCK (.setC j (.ofC hi)))
  case asgC j i =>
    split
    · rename_i hi
      exact .one (.setCK (.setC j (.ofC hi)))
    · exact .same
  case delC i =>
    split
    · exact .same
    · exact .one (.setCK (.delC i))
  case disc i | discK i =>
    split
    · exact .same
    · split
      · exact .one (.lib (.disconnect _ _))
      · exact .same
  case connectedq i | emptyCq i | blockedCq i | connectedKq i | blockedKq i => split <;> exact .same
  case blockC i b | blockK i b =>
    split
    · exact .same
    · exact .one (.lib (.block _ _ _))
  case newK0 i =>
    split
    · exact .same
    · exact .one (.setCK (.setK i (.none s)))
  case newK i c =>
    split
    · exact .same
    · rename_i hc
      split
      · exact .same
      · exact .one (.setCK (.setK i (.ofC hc)))
  case asgKC i c =>
    split
    · rename_i old _ _ _
      cases old with
      | none =>
        simp only
        split
        · rename_i hc
          exact .one (.setCK (.setK i (.ofC hc)))
        · exact .same
      | some cid =>
        simp only
        split
        · rename_i hc
          exact .ok (.step (.lib (.disconnect s cid)) (.one (.setCK (.setK i (.ofC hc)))))
        · exact .one (.lib (.disconnect _ _))
    · exact .same
  case mvK j i =>
    split
    · exact .same
    · rename_i hi
      split
      · exact .same
      · exact .one (.setCK (.setK2 i j (.none s) (.ofK hi)))
  case masgK j i =>
    split
    · rename_i old _ _ _
      refine .ite (fun _ => .same) fun _ => ?_
      cases old with
      | none =>
        simp only
        split
        · rename_i hi
          exact .one (.setCK (.setK2 i j (.none _) (.ofK hi)))
        · exact .same
      | some cid =>
        simp only
        split
        · rename_i hi
          exact .ok (.step (.lib (.disconnect s cid)) (.one (.setCK (.setK2 i j (.none _) (.ofK hi)))))
        · exact .one (.lib (.disconnect _ _))
    · exact .same
  case swapK i j =>
    split
    · rename_i hi hj
      exact .one (.setCK (.setK2 i j (.ofK hj) (.ofK hi)))
    · exact .same
  case relK c k =>
    split
    · exact .same
    · rename_i hk
      exact .one (.setCK (.rel c hk))
  case delK i =>
    split
    · exact .same
    · split
      · exact .ok (.step (.setCK (.delK i)) (.one (.lib (.disconnect _ _))))
      · exact .one (.setCK (.delK i))
  case liveq fid | mark | allocsq | bad => exact .same
  case callS i arg | emit g arg strat try_ | throw_ => exact fun _ _ e => nomatch e

theorem stepSimple_built {s s' : St} {op : Op} {r : String} (h : stepSimple s op = some (s', r)) : Built s s' :=
  stepSimple_builds s op s' r h

theorem stepSimple_preserved {J I : St → Prop} (hJ : ∀ {s s'}, Move s s' → J s → J s')
    (hI : ∀ {s s'}, Move s s' → J s → I s → I s') {s s' : St} {op : Op} {r : String}
    (h : stepSimple s op = some (s', r)) (j : J s) (i : I s) : I s' :=
  (stepSimple_built h).preserved hJ hI j i

theorem stepSimple_preserved' {I : St → Prop} (hI : ∀ {s s'}, Move s s' → I s → I s') {s s' : St} {op : Op}
    {r : String} (h : stepSimple s op = some (s', r)) (i : I s) : I s' :=
  stepSimple_preserved (J := fun _ => True) (fun _ _ => trivial) (fun m _ => hI m) h trivial i

end Sigc.Model
