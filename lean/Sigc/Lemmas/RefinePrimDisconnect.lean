import Sigc.Lemmas.RefineRemove
import Sigc.Lemmas.RefineOpsTables
import Sigc.Lemmas.RefineErr
/-!
The primitives by which entries leave a list: `disconnectCell` vs `removeCell`, `connection::disconnect()`, `invalidateTrackable` on both
sides; `signal_impl::clear()`, the fold of `disconnect()` over the cells (`Emit.clearImpl_eq_fold`), vs the specification's
`remove (fun _ => true)`.
-/
namespace Sigc.Refine
open Sigc.Model
local macro "leaf" h:ident hR:term : tactic =>
  `(tactic| (cases $h:ident; exact ⟨_, _, rfl, $hR, .refl _⟩))


theorem LSt_sigs_self (t : Spec.LSt) : ({ t with sigs := t.sigs } : Spec.LSt) = t := by cases t; rfl

theorem contains_single (cid x : Nat) : [cid].contains x = decide (x = cid) := by
  by_cases e : x = cid <;> simp [e]

theorem cell_unique {off : Nat → Nat} {s : St} (hs : Emit.InvX off s) {p p' : Nat × Impl} (hp : p ∈ s.impls)
    (hp' : p' ∈ s.impls) {c c' : Cell} (hc : c ∈ p.2.cells) (hc' : c' ∈ p'.2.cells) (e : c.id = c'.id) : c = c' := by
  obtain ⟨i, im⟩ := p
  obtain ⟨i', im'⟩ := p'
  have ha := Emit.aget_of_mem_nodup hs.keys hp
  have ha' := Emit.aget_of_mem_nodup hs.keys hp'
  simp only at hc hc' ⊢
  by_cases hne : i = i'
  · subst hne
    rw [ha'] at ha
    cases ha
    have hn := (hs.ok i im ha').nodup
    obtain ⟨c0, hf⟩ := Emit.find_of_mem_ids (List.mem_map.mpr ⟨c, hc, rfl⟩)
    have h1 := Emit.find_unique hn hf hc rfl
    have h2 := Emit.find_unique hn hf hc' e.symm
    rw [h1, h2]
  · exact absurd (List.mem_map.mpr ⟨c', hc', e.symm⟩) (hs.disj i i' im im' ha ha' hne c.id (List.mem_map.mpr ⟨c, hc, rfl⟩))

theorem R.quiet {s : St} {t : Spec.LSt} (hR : R s t) (hs : Emit.Inv s) {p : Nat × Spec.LSig} (hp : p ∈ t.sigs) :
    p.2.active = 0 → ∀ c ∈ p.2.cells, c.zombie = false ∧ c.marker = false := by
  obtain ⟨im, hi, hr⟩ := hR.impl_of_sig (hR.mem_sig hs hp)
  exact hr.quiet (hs.ok _ im hi)

/-- `Spec.removeCell` looks for the one list that has a live entry `cid`; removing `cid` from every list is the same because
    ids are unique — known of the specification's lists only through `R` and the model's invariant -/
theorem removeCell_eq {s : St} {t : Spec.LSt} (hs : Emit.Inv s) (hR : R s t) (cid : Nat) :
    Spec.removeCell t cid
      = { t with sigs := amap t.sigs (fun g => g.remove true true false (fun c => [cid].contains c.id)) } := by
  rcases lookup hs hR cid with ⟨_, hf, hno⟩ | ⟨i, c, im, g, d, _, hi, hgi, hr, hcm, hcid, hd, hcd, hother, hlive, hdead⟩
  · have : amap t.sigs (fun g => g.remove true true false (fun c => [cid].contains c.id)) = t.sigs := by
      apply amap_id
      intro p hp
      apply remove_noop _ _ _ (hR.quiet hs hp)
      intro c hc _ _
      simp only [contains_single, decide_eq_false_iff_not]
      intro e; exact hno ⟨p, hp, c, hc, e⟩
    rw [this]
    show Spec.removeCell t cid = t
    simp [Spec.removeCell, hf]
  · have hoth : ∀ p ∈ t.sigs, p.1 ≠ i →
        p.2.remove true true false (fun c => [cid].contains c.id) = p.2 := by
      intro p hp hne
      apply remove_noop _ _ _ (hR.quiet hs hp)
      intro c' hc' _ _
      simp only [contains_single, decide_eq_false_iff_not]
      intro e
      have := (hother p hp c' hc' e).1
      rw [this] at hne; exact hne rfl
    have hset := amap_eq_aset (f := fun g => g.remove true true false (fun c => [cid].contains c.id)) (hR.keys_nodup hs) hgi hoth
    cases hz : d.zombie with
    | false =>
      obtain ⟨hfs, _⟩ := hlive hz
      rw [hset]
      simp only [Spec.removeCell, hfs, hgi, hR.k1, hR.k2, Spec.setSig]
      have hfe : (fun (x : Spec.LCell) => decide (x.id = cid)) = (fun c => [cid].contains c.id) := by
        funext c'; simp only [contains_single]
      rw [hfe]
    | true =>
      have hfs := hdead hz
      have hg : g.remove true true false (fun c => [cid].contains c.id) = g := by
        apply remove_noop _ _ _ (hR.quiet hs (Emit.aget_some_mem hgi))
        intro c' hc' hz' _
        simp only [contains_single, decide_eq_false_iff_not]
        intro e
        have := (hother (i, g) (Emit.aget_some_mem hgi) c' hc' e).2
        rw [this, hz] at hz'; contradiction
      have : amap t.sigs (fun g => g.remove true true false (fun c => [cid].contains c.id)) = t.sigs := by
        apply amap_id
        intro p hp
        by_cases e : p.1 = i
        · have := hR.mem_sig hs hp
          rw [e, hgi] at this; cases this; exact hg
        · exact hoth p hp e
      rw [this]
      show Spec.removeCell t cid = t
      simp [Spec.removeCell, hfs]

/-- `slot_rep::disconnect()` of a cell vs the entry leaving its list -/
theorem R_disconnect {s : St} {t : Spec.LSt} (hs : Emit.Inv s) (hR : R s t) (cid : Nat) :
    R (disconnectCell s cid) (Spec.removeCell t cid) := by
  rw [removeCell_eq hs hR]
  have := touch_sim (hf := SlotB.disconnectRep) (dr := false) (fun _ => by simp) Emit.weakens_disconnectRep
    disconnectRep_idem (fun _ h => disconnectRep_none h) hs hR [cid]
    (fun _ _ c _ _ _ => sameHold_disconnectRep c.slot)
  simpa [Model.disconnectCell_touch] using this

@[simp] theorem removeCell_C (t : Spec.LSt) (cid : Nat) : (Spec.removeCell t cid).C = t.C :=
  congrArg (·.C) (Spec.removeCell_only_sigs t cid)

@[simp] theorem removeCell_K (t : Spec.LSt) (cid : Nat) : (Spec.removeCell t cid).K = t.K :=
  congrArg (·.K) (Spec.removeCell_only_sigs t cid)

@[simp] theorem removeCell_next (t : Spec.LSt) (cid : Nat) : (Spec.removeCell t cid).next = t.next :=
  congrArg (·.next) (Spec.removeCell_only_sigs t cid)

/-- the specification's `connection::disconnect()` (the local `disconnect` of `Spec.stepSimple`) -/
def sdisc (t : Spec.LSt) (p : Option Nat) : Spec.LSt :=
  match p with
  | some cid => Spec.removeCell t cid
  | none => t

/-- the model's `connection::disconnect()` -/
def mdisc (s : St) (p : Option Nat) : St :=
  match p with
  | some cid => disconnectCell s cid
  | none => s

@[simp] theorem sdisc_C (t : Spec.LSt) (p : Option Nat) : (sdisc t p).C = t.C := by
  cases p <;> simp [sdisc]

@[simp] theorem sdisc_K (t : Spec.LSt) (p : Option Nat) : (sdisc t p).K = t.K := by
  cases p <;> simp [sdisc]

@[simp] theorem sdisc_next (t : Spec.LSt) (p : Option Nat) : (sdisc t p).next = t.next := by
  cases p <;> simp [sdisc]

theorem sdisc_err (t : Spec.LSt) (p : Option Nat) : (sdisc t p).err = t.err := by
  cases p
  · rfl
  · exact SErr.removeCell_err t _

theorem gone_findSig {sigs : List (Nat × Spec.LSig)} {n cid : Nat} (h : Gone sigs n cid) : Spec.findSig sigs cid = none := by
  cases hf : Spec.findSig sigs cid with
  | none => rfl
  | some i =>
    obtain ⟨g, hg, c, hc, e, _⟩ := findSig_some hf
    exact absurd e (h.2 (i, g) hg c hc)

/-- `connection::disconnect()` through related pointers -/
theorem R_disc {s : St} {t : Spec.LSt} (hs : Emit.Inv s) (hR : R s t) {pm ps : Option Nat}
    (hp : PtrR t.sigs t.next pm ps) : R (mdisc s pm) (sdisc t ps) := by
  rcases hp with e | ⟨e, cid, e2, hgone⟩
  · subst e
    cases pm with
    | none => exact hR
    | some cid => exact R_disconnect hs hR cid
  · subst e; subst e2
    have : sdisc t (some cid) = t := by
      simp [sdisc, Spec.removeCell, gone_findSig hgone]
    rw [this]; exact hR

/-- `trackable::notify_callbacks()` on both sides.  The model folds `invalidateCell` over the *ids* of the cells that track `o`,
    the specification removes by the *predicate* "tracks `o`"; the two agree because a cell id names one cell (`cell_unique`) -/
theorem R_invalidateTrackable {s : St} {t : Spec.LSt} (hs : Emit.Inv s) (hR : R s t) (o : Nat) :
    R (Model.invalidateTrackable s o) (Spec.invalidateTrackable t o) := by
  cases t with
  | mk tT tS tG tC tK tsigs tOT tOK tOG tn td tst ttr terr k1 k2 =>
  have hk1 : k1 = true := hR.k1
  have hk2 : k2 = true := hR.k2
  have hS : tS = s.S := hR.S
  subst hk1; subst hk2; subst hS
  unfold Model.invalidateTrackable Spec.invalidateTrackable
  simp only
  generalize hf : (fun (v : SlotVar) => if v.slot.tracksObj o then { v with slot := v.slot.invalidate } else v) = f
  have hs0 : Emit.Inv { s with S := amap s.S f } := by subst hf; exact (Emit.good_invalidateVars hs o).inv
  have hR0 := hR.updS (amap s.S f)
  generalize hW : (List.foldr (fun (p : Nat × Impl) acc =>
      ((p.2.cells.filter (fun c => c.slot.tracksObj o)).map (·.id)) ++ acc) [] s.impls) = W
  have hmemW : ∀ k, k ∈ W ↔ ∃ p ∈ s.impls, ∃ c ∈ p.2.cells, c.slot.tracksObj o = true ∧ c.id = k := by
    intro k; rw [← hW]; exact Emit.mem_victims s.impls o k
  have hfun : invalidateCell = Emit.touchCell SlotB.invalidate := by funext a b; rfl
  rw [hfun]
  have hsim := touch_sim (hf := SlotB.invalidate) (dr := true) (fun _ => by simp) Emit.weakens_invalidate
    invalidate_idem (fun _ h => invalidate_none h) hs0 hR0 W (by
      intro p hp c hc hin _
      obtain ⟨p', hp', c', hc', htr, e⟩ := (hmemW c.id).mp hin
      have := cell_unique hs hp' hp hc' hc e
      subst this
      exact sameHold_invalidate_of_tracks htr)
  have heq : amap tsigs (fun g => g.remove true true true (fun c => W.contains c.id))
      = amap tsigs (fun g => g.remove true true true (fun c => c.slot.tracksObj o)) := by
    apply amap_congr
    intro p hp
    obtain ⟨im, hi, hr⟩ := hR.impl_of_sig (hR.mem_sig hs hp)
    apply remove_congr _ _ _ (hr.quiet (hs.ok _ im hi))
    intro d hd hz _
    obtain ⟨c, hc, hcd⟩ := hr.cells.mem_right hd
    rw [hcd.slot hz, hcd.id]
    cases htr : c.slot.tracksObj o with
    | true =>
      simp only [List.contains_eq_mem, decide_eq_true_eq]
      exact (hmemW c.id).mpr ⟨(p.1, im), Emit.aget_some_mem hi, c, hc, htr, rfl⟩
    | false =>
      simp only [List.contains_eq_mem, decide_eq_false_iff_not]
      intro hin
      obtain ⟨p', hp', c', hc', htr', e⟩ := (hmemW c.id).mp hin
      have := cell_unique hs hp' (Emit.aget_some_mem hi) hc' hc e
      subst this
      rw [htr] at htr'; contradiction
  rw [← heq]
  exact hsim


theorem amap_aset {α : Type} (l : List (Nat × α)) (i : Nat) (a : α) (f : α → α) :
    amap (aset l i a) f = aset (amap l f) i (f a) := by
  induction l with
  | nil => simp [aset, amap]
  | cons p t ih =>
    obtain ⟨k, v⟩ := p
    by_cases e : k = i
    · simp [aset, amap, e]
    · simp only [aset, e, if_false, amap, List.map_cons] at ih ⊢
      rw [ih]

/-- `signal_impl::clear()` vs every entry leaving the list -/
theorem R_clear {s : St} {t : Spec.LSt} (hs : Emit.Inv s) (hR : R s t) {i : Nat} {im : Impl} (hi : aget s.impls i = some im)
    {x : Spec.LSig} (hx : aget t.sigs i = some x) :
    R (clearImpl s i) (Spec.setSig t i (x.remove true true false (fun _ => true))) := by
  rw [Emit.clearImpl_eq_fold hs hi]
  obtain ⟨x', hx', hr⟩ := hR.sig_of_impl hi
  rw [hx] at hx'; cases hx'
  have hsim := touch_sim (hf := SlotB.disconnectRep) (dr := false) (fun _ => by simp) Emit.weakens_disconnectRep
    disconnectRep_idem (fun _ h => disconnectRep_none h) hs hR (Emit.cids im)
    (fun _ _ c _ _ _ => sameHold_disconnectRep c.slot)
  have heq : amap t.sigs (fun g => g.remove true true false (fun c => (Emit.cids im).contains c.id))
      = aset t.sigs i (x.remove true true false (fun _ => true)) := by
    have hoth : ∀ p ∈ t.sigs, p.1 ≠ i →
        p.2.remove true true false (fun c => (Emit.cids im).contains c.id) = p.2 := by
      intro p hp hne
      apply remove_noop _ _ _ (hR.quiet hs hp)
      intro c' hc' _ _
      simp only [List.contains_eq_mem, decide_eq_false_iff_not]
      intro hin
      obtain ⟨jm, hj, hjr⟩ := hR.impl_of_sig (hR.mem_sig hs hp)
      have : c'.id ∈ Emit.cids jm := by rw [← hjr.ids]; exact List.mem_map.mpr ⟨c', hc', rfl⟩
      exact hs.disj p.1 i jm im hj hi hne c'.id this hin
    rw [amap_eq_aset (f := fun g => g.remove true true false (fun c => (Emit.cids im).contains c.id)) (hR.keys_nodup hs) hx hoth]
    congr 1
    apply remove_congr _ _ _ (hR.quiet hs (Emit.aget_some_mem hx))
    intro c' hc' _ _
    simp only [List.contains_eq_mem, decide_eq_true_eq]
    rw [← hr.ids]; exact List.mem_map.mpr ⟨c', hc', rfl⟩
  unfold Spec.setSig
  rw [← heq]
  exact hsim

end Sigc.Refine
