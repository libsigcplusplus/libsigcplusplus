import Sigc.Lemmas.EmitTrack
/-!
The cascades of the model that take cells out of their lists, in closed form.  `nullSt E` is `nullConnsList` as one `amap`
over the three tables of connection ids; `touchImpl hf W` is what touching the cells `W` (`disconnectCell`, `invalidateCell`
= `touchCell hf`) makes of one impl.  `touch_fold`: folding `touchCell hf` over `W` is `touchImpl hf W` on every impl, with the
connections to the erased cells nulled — to *some* of `W`: which cells are erased at once depends on `exec` of their impl;
`fold_erase` is the case where the set is known: a list that is not emitting loses exactly `W`.
`clearImpl_eq_fold`: `signal_impl::clear()` is the fold of `disconnect()` over the cells (raising `exec_count_` around the
loop only batches the sweep), so `clear()` is a good step because `disconnect()` is (`good_clearImpl`); `clearImpl_closed`
serves that equation only.

The four definitions carry the namespace of the refinement (`Sigc.Refine`), whose simulation of these cascades is stated
with them; their lemmas are `Sigc.Emit`'s.
-/
namespace Sigc.Refine
open Sigc.Model

/-- `nullConnsList` in closed form (`nullConnsList_eq`): every pointer into `E` becomes `none` -/
def nullE (E : List Nat) (p : Option Nat) : Option Nat :=
  match p with
  | some cid => if cid ∈ E then none else some cid
  | none => none

def nullSt (E : List Nat) (s : St) : St :=
  { s with C := amap s.C (nullE E), K := amap s.K (nullE E), ownedK := amap s.ownedK (nullE E) }

@[simp] theorem nullSt_impls (E : List Nat) (s : St) : (nullSt E s).impls = s.impls := rfl
@[simp] theorem nullSt_S (E : List Nat) (s : St) : (nullSt E s).S = s.S := rfl
@[simp] theorem nullSt_G (E : List Nat) (s : St) : (nullSt E s).G = s.G := rfl
@[simp] theorem nullSt_T (E : List Nat) (s : St) : (nullSt E s).T = s.T := rfl
@[simp] theorem nullSt_next (E : List Nat) (s : St) : (nullSt E s).next = s.next := rfl

theorem nullSt_setImpls (E : List Nat) (s : St) (l : List (Nat × Impl)) :
    nullSt E { s with impls := l } = { nullSt E s with impls := l } := rfl

def touchC (hf : SlotB → SlotB) (W : List Nat) (c : Cell) : Cell :=
  if W.contains c.id then { c with slot := hf c.slot, linked := false } else c

/-- not emitting: the cells are erased; emitting: weakened, unlinked, and the sweep is requested -/
def touchImpl (hf : SlotB → SlotB) (W : List Nat) (im : Impl) : Impl :=
  if im.exec = 0 then { im with cells := im.cells.filter (fun c => !W.contains c.id) }
  else { im with cells := im.cells.map (touchC hf W),
                 deferred := im.deferred || im.cells.any (fun c => W.contains c.id && c.linked) }

theorem touchImpl_exec (hf : SlotB → SlotB) (W : List Nat) (im : Impl) : (touchImpl hf W im).exec = im.exec := by
  unfold touchImpl; split <;> rfl

end Sigc.Refine

namespace Sigc.Emit
open Sigc.Model Sigc.Refine

@[simp] theorem nullE_nil (p : Option Nat) : nullE [] p = p := by
  cases p <;> simp [nullE]

theorem nullE_append (E1 E2 : List Nat) (p : Option Nat) : nullE E2 (nullE E1 p) = nullE (E1 ++ E2) p := by
  cases p with
  | none => rfl
  | some c =>
    simp only [nullE, List.mem_append]
    by_cases h1 : c ∈ E1
    · simp [h1]
    · by_cases h2 : c ∈ E2 <;> simp [h1, h2]

theorem nullSt_nil (s : St) : nullSt [] s = s := by
  unfold nullSt
  have : ∀ (l : List (Nat × Option Nat)), amap l (nullE []) = l := fun l => amap_id (fun p _ => nullE_nil _)
  simp [this]

theorem nullSt_nullSt (E1 E2 : List Nat) (s : St) : nullSt E2 (nullSt E1 s) = nullSt (E1 ++ E2) s := by
  unfold nullSt
  simp only [amap_amap, nullE_append]

theorem nullConns_eq (s : St) (cid : Nat) : nullConns s cid = nullSt [cid] s := by
  unfold nullConns nullSt
  have : (fun (p : Option Nat) => if p = some cid then none else p) = nullE [cid] := by
    funext p
    cases p with
    | none => simp [nullE]
    | some c =>
      by_cases e : c = cid <;> simp [nullE, e]
  simp only [this]

theorem nullConnsList_eq (s : St) (cs : List Nat) : nullConnsList s cs = nullSt cs s := by
  unfold nullConnsList
  induction cs generalizing s with
  | nil => simp [nullSt_nil]
  | cons c t ih =>
    simp only [List.foldl_cons]
    rw [ih, nullConns_eq, nullSt_nullSt]; rfl

theorem touchC_id (hf : SlotB → SlotB) (W : List Nat) (c : Cell) : (Refine.touchC hf W c).id = c.id := by
  unfold Refine.touchC; split <;> rfl

theorem touchImpl_holders (hf : SlotB → SlotB) (W : List Nat) (im : Impl) : (touchImpl hf W im).holders = im.holders := by
  unfold touchImpl; split <;> rfl

theorem touchImpl_ids_sub (hf : SlotB → SlotB) (W : List Nat) (im : Impl) :
    ∀ k ∈ cids (touchImpl hf W im), k ∈ cids im ∧ (im.exec = 0 → k ∉ W) := by
  intro k hk
  unfold touchImpl at hk
  split at hk
  · rename_i hx
    obtain ⟨c, hc, rfl⟩ := List.mem_map.mp hk
    obtain ⟨hc1, hc2⟩ := List.mem_filter.mp hc
    refine ⟨List.mem_map.mpr ⟨c, hc1, rfl⟩, fun _ => ?_⟩
    simpa using hc2
  · rename_i hx
    obtain ⟨c, hc, rfl⟩ := List.mem_map.mp hk
    obtain ⟨c0, hc0, rfl⟩ := List.mem_map.mp hc
    exact ⟨List.mem_map.mpr ⟨c0, hc0, (touchC_id _ _ _).symm⟩, fun e => absurd e hx⟩

theorem touchImpl_noop (hf : SlotB → SlotB) (W : List Nat) (im : Impl) (h : ∀ k ∈ cids im, k ∉ W) :
    touchImpl hf W im = im := by
  have hc : ∀ c ∈ im.cells, c.id ∉ W := by
    intro c hc
    exact h c.id (List.mem_map.mpr ⟨c, hc, rfl⟩)
  unfold touchImpl
  split
  · have : im.cells.filter (fun c => !W.contains c.id) = im.cells := by
      rw [List.filter_eq_self]; intro c hcm; simp [hc c hcm]
    rw [this]
  · have h1 : im.cells.map (Refine.touchC hf W) = im.cells := by
      conv => rhs; rw [← List.map_id im.cells]
      apply List.map_congr_left
      intro c hcm; simp [Refine.touchC, hc c hcm]
    have h2 : im.cells.any (fun c => W.contains c.id && c.linked) = false := by
      rw [List.any_eq_false]; intro c hcm; simp [hc c hcm]
    rw [h1, h2]; simp

theorem amap_touch_own {off : Nat → Nat} {s : St} (hs : InvX off s) {i : Nat} {im : Impl} (hi : aget s.impls i = some im)
    (hf : SlotB → SlotB) (W : List Nat) (hW : ∀ k ∈ W, k ∈ cids im) :
    amap s.impls (touchImpl hf W) = aset s.impls i (touchImpl hf W im) := by
  apply amap_eq_aset hs.keys hi
  intro p hp hne
  apply touchImpl_noop
  intro k hk hkW
  exact hs.disj p.1 i p.2 im (aget_of_mem_nodup hs.keys (show (p.1, p.2) ∈ s.impls from hp)) hi hne k hk (hW k hkW)

theorem touchImpl_comp (hf : SlotB → SlotB) (hidem : ∀ sl, hf (hf sl) = hf sl) (k : Nat) (W : List Nat) (im : Impl) :
    touchImpl hf W (touchImpl hf [k] im) = touchImpl hf (k :: W) im := by
  unfold touchImpl
  by_cases hx : im.exec = 0
  · simp only [hx, if_true]
    congr 1
    rw [List.filter_filter]
    apply List.filter_congr
    intro c _
    by_cases e : c.id = k <;> simp [e]
  · simp only [hx, if_false]
    have hcell : ∀ c, Refine.touchC hf W (Refine.touchC hf [k] c) = Refine.touchC hf (k :: W) c := by
      intro c
      unfold Refine.touchC
      by_cases e : c.id = k
      · by_cases e2 : k ∈ W
        · simp [e, e2, hidem]
        · simp [e, e2]
      · have e' : ¬ (k = c.id) := fun h => e h.symm
        by_cases e2 : c.id ∈ W <;> simp [e, e2]
    have hmap : (im.cells.map (Refine.touchC hf [k])).map (Refine.touchC hf W) = im.cells.map (Refine.touchC hf (k :: W)) := by
      rw [List.map_map]; apply List.map_congr_left; intro c _; exact hcell c
    have hany : (im.deferred || im.cells.any (fun c => [k].contains c.id && c.linked)
          || (im.cells.map (Refine.touchC hf [k])).any (fun c => W.contains c.id && c.linked))
        = (im.deferred || im.cells.any (fun c => (k :: W).contains c.id && c.linked)) := by
      rw [Bool.or_assoc]; congr 1
      rw [List.any_map]
      generalize im.cells = cs
      induction cs with
      | nil => rfl
      | cons c t ih =>
        simp only [List.any_cons, Function.comp]
        rw [← ih]
        have : ([k].contains c.id && c.linked || (W.contains (Refine.touchC hf [k] c).id && (Refine.touchC hf [k] c).linked))
            = ((k :: W).contains c.id && c.linked) := by
          unfold Refine.touchC
          by_cases e : c.id = k
          · simp [e]
          · have e' : ¬ (k = c.id) := fun h => e h.symm
            simp [e]
        rw [← this]
        cases ([k].contains c.id && c.linked) <;> cases (W.contains (Refine.touchC hf [k] c).id && (Refine.touchC hf [k] c).linked) <;>
          cases (t.any fun c => [k].contains c.id && c.linked) <;> rfl
    simp only [hmap, hany]

theorem touch_one {off : Nat → Nat} {hf : SlotB → SlotB} (k : Nat) {s : St} (h : InvX off s) :
    ∃ E, (∀ cid ∈ E, cid = k ∧ (∃ p ∈ s.impls, cid ∈ cids p.2) ∧
        ∀ p ∈ amap s.impls (touchImpl hf [k]), cid ∉ cids p.2) ∧
      touchCell hf s k = nullSt E { s with impls := amap s.impls (touchImpl hf [k]) } := by
  cases hg : getCell s k with
  | none =>
    refine ⟨[], by simp, ?_⟩
    have : amap s.impls (touchImpl hf [k]) = s.impls := by
      apply amap_id
      intro p hp
      apply touchImpl_noop
      intro j hj hjk
      simp at hjk; subst hjk
      obtain ⟨c, hc⟩ := getCell_of_mem h (aget_of_mem_nodup h.keys (show (p.1, p.2) ∈ s.impls from hp)) hj
      rw [hg] at hc; contradiction
    simp only [touchCell, hg]
    rw [this, nullSt_nil]
  | some pr =>
    obtain ⟨i, c⟩ := pr
    obtain ⟨im, hi, hfind⟩ := getCell_some hg
    obtain ⟨hcm, hck⟩ := find_mem hfind
    have hok := h.ok i im hi
    have hkin : k ∈ cids im := List.mem_map.mpr ⟨c, hcm, hck⟩
    have hmapeq : im.cells.map (updC k (Model.touchC hf)) = im.cells.map (Refine.touchC hf [k]) :=
      List.map_congr_left fun c0 _ => by
        unfold updC Model.touchC Refine.touchC
        by_cases e : c0.id = k <;> simp [e]
    -- the three cases of `touchCell_eq`, each an instance of `touchImpl hf [k]` on impl `i`
    have hset := amap_touch_own h hi hf [k] (fun j hj => by simp at hj; subst hj; exact hkin)
    rw [touchCell_eq hf hg hi]
    cases hlk : c.linked with
    | false =>
      rw [if_neg Bool.false_ne_true]
      have hx : im.exec ≠ 0 := by
        intro hx
        have hm := hok.no_markers hx c hcm
        have := hok.d (hok.q1 hx) c hcm hm
        rw [hlk] at this; contradiction
      refine ⟨[], by simp, ?_⟩
      rw [nullSt_nil, hset]
      have hany : im.cells.any (fun c => [k].contains c.id && c.linked) = false := by
        rw [List.any_eq_false]
        intro c0 hc0
        by_cases e : c0.id = k
        · have := find_unique hok.nodup hfind hc0 e
          subst this; simp [hlk]
        · simp [e]
      simp only [touchImpl, hx, if_false, hany, Bool.or_false, hmapeq]
      rfl
    | true =>
      rw [if_pos rfl]
      by_cases hx : im.exec = 0
      · rw [if_pos hx, eraseCell_eq hi, nullConns_eq]
        refine ⟨[k], ?_, ?_⟩
        · intro cid hcid
          simp at hcid; subst hcid
          refine ⟨rfl, ⟨(i, im), aget_some_mem hi, hkin⟩, ?_⟩
          intro p hp hin
          unfold Model.amap at hp
          obtain ⟨q, hq, rfl⟩ := List.mem_map.mp hp
          simp only at hin
          by_cases e : q.1 = i
          · have hq' := aget_of_mem_nodup h.keys (show (q.1, q.2) ∈ s.impls from hq)
            rw [e, hi] at hq'; cases hq'
            have := (touchImpl_ids_sub hf [cid] q.2 cid hin).2 hx
            simp at this
          · exact h.disj q.1 i q.2 im (aget_of_mem_nodup h.keys (show (q.1, q.2) ∈ s.impls from hq)) hi e cid
              (touchImpl_ids_sub hf [cid] q.2 cid hin).1 hkin
        · rw [hset]
          have : (fun (c : Cell) => decide (c.id ≠ k)) = (fun c => !([k].contains c.id)) := by
            funext c0; by_cases e : c0.id = k <;> simp [e]
          simp only [touchImpl, hx, if_true, this]
          rfl
      · rw [if_neg hx]
        refine ⟨[], by simp, ?_⟩
        rw [nullSt_nil, hset]
        have hany : im.cells.any (fun c => [k].contains c.id && c.linked) = true := by
          rw [List.any_eq_true]
          exact ⟨c, hcm, by simp [hck, hlk]⟩
        simp only [touchImpl, hx, if_false, hany, Bool.or_true, hmapeq]
        rfl

/-- `E` = the ids whose cells were erased -/
theorem touch_fold {off : Nat → Nat} {hf : SlotB → SlotB} (hw : Weakens hf) (hidem : ∀ sl, hf (hf sl) = hf sl)
    (W : List Nat) {s : St} (h : InvX off s) :
    ∃ E, (∀ cid ∈ E, cid ∈ W ∧ (∃ p ∈ s.impls, cid ∈ cids p.2) ∧
        ∀ p ∈ amap s.impls (touchImpl hf W), cid ∉ cids p.2) ∧
      W.foldl (touchCell hf) s = nullSt E { s with impls := amap s.impls (touchImpl hf W) } := by
  induction W generalizing s with
  | nil =>
    refine ⟨[], by simp, ?_⟩
    have : amap s.impls (touchImpl hf []) = s.impls :=
      amap_id (fun p _ => touchImpl_noop hf [] p.2 (fun _ _ => by simp))
    simp [this, nullSt_nil]
  | cons k W ih =>
    simp only [List.foldl_cons]
    obtain ⟨E1, hE1, h1⟩ := touch_one (hf := hf) k h
    have hinv1 : InvX off (touchCell hf s k) := (Good.touchCell hw h k).inv
    obtain ⟨E2, hE2, h2⟩ := ih hinv1
    have himpls1 : (touchCell hf s k).impls = amap s.impls (touchImpl hf [k]) := by rw [h1]; rfl
    have hcomp : amap (touchCell hf s k).impls (touchImpl hf W) = amap s.impls (touchImpl hf (k :: W)) := by
      rw [himpls1, amap_amap]
      exact amap_congr (fun p _ => touchImpl_comp hf hidem k W p.2)
    refine ⟨E1 ++ E2, ?_, ?_⟩
    · intro cid hcid
      rcases List.mem_append.mp hcid with hc | hc
      · obtain ⟨e, hwas, hgone⟩ := hE1 cid hc
        refine ⟨by simp [e], hwas, ?_⟩
        intro p hp hin
        rw [← hcomp, himpls1] at hp
        unfold Model.amap at hp
        obtain ⟨q, hq, rfl⟩ := List.mem_map.mp hp
        exact hgone q hq (touchImpl_ids_sub hf W q.2 cid hin).1
      · obtain ⟨e, ⟨p1, hp1, hin1⟩, hgone⟩ := hE2 cid hc
        refine ⟨List.mem_cons_of_mem _ e, ?_, ?_⟩
        · rw [himpls1] at hp1
          unfold Model.amap at hp1
          obtain ⟨q, hq, rfl⟩ := List.mem_map.mp hp1
          exact ⟨q, hq, (touchImpl_ids_sub hf [k] q.2 cid hin1).1⟩
        · rw [← hcomp]; exact hgone
    · rw [h2, hcomp, h1]
      unfold nullSt
      simp only [amap_amap, nullE_append]

theorem touchC_map_ids (hf : SlotB → SlotB) (W : List Nat) (cs : List Cell) :
    (cs.map (Refine.touchC hf W)).map (·.id) = cs.map (·.id) := by
  rw [List.map_map]; apply List.map_congr_left; intro c _; exact touchC_id hf W c

theorem clearImpl_closed {s : St} (h : Inv s) {i : Nat} {im : Impl} (hi : aget s.impls i = some im) :
    clearImpl s i = nullSt (if im.exec = 0 then cids im else [])
      { s with impls := amap s.impls (touchImpl SlotB.disconnectRep (cids im)) } := by
  have hok := h.ok i im hi
  rw [amap_touch_own h hi _ _ (fun _ hk => hk)]
  unfold clearImpl
  rw [hi]
  simp only
  have hWdef : im.cells.map (·.id) = cids im := rfl
  rw [hWdef]
  -- the loop runs in `s1` with `exec + 1`: there the invariant holds with offset 1 at `i` (what the index `off` of `InvX`
  -- is for), so `touch_fold` applies, and since `i` is emitting in `s1` it erases nothing (`hE1nil`)
  let off1 : Nat → Nat := fun j => if j = i then 1 else 0
  have e1 : off1 i = 1 := by simp [off1]
  have eo : ∀ j, j ≠ i → off1 j = 0 := by intro j hj; simp [off1, hj]
  generalize hs1 : setImpl s i { im with exec := im.exec + 1 } = s1
  have hi1 : aget s1.impls i = some { im with exec := im.exec + 1 } := by subst hs1; simp
  have h1 : InvX off1 s1 := by
    subst hs1
    apply h.setImpl' hi (off' := off1)
    · rw [e1]
      exact ⟨hok.nodup, by have := hok.eh; simp at this ⊢; omega, by have := hok.mkr; simp [markers] at this ⊢; omega,
             fun e => by simp at e, hok.l, hok.d⟩
    · intro j hj; exact eo j hj
    · intro k hk; exact Or.inl hk
    · intro c hc; exact h.fwdC i im hi c hc
  obtain ⟨E1, hE1, hfold⟩ := touch_fold weakens_disconnectRep disconnectRep_idem (cids im) h1
  have hown := amap_touch_own h1 hi1 SlotB.disconnectRep (cids im) (fun _ hk => hk)
  -- the impl is emitting (exec + 1): cells are mapped
  generalize him2 : (Impl.mk (im.cells.map (Refine.touchC SlotB.disconnectRep (cids im))) (im.exec + 1)
      (im.deferred || im.cells.any (fun c => (cids im).contains c.id && c.linked)) im.holders) = im2
  have htouch1 : touchImpl SlotB.disconnectRep (cids im) { im with exec := im.exec + 1 } = im2 := by
    subst him2; simp [touchImpl]
  have hE1nil : E1 = [] := by
    rw [List.eq_nil_iff_forall_not_mem]
    intro cid hc
    obtain ⟨hw, _, her⟩ := hE1 cid hc
    apply her (i, im2)
    · rw [hown, htouch1]
      have : aget (aset s1.impls i im2) i = some im2 := by simp
      exact aget_some_mem this
    · subst him2
      simp only [cids, touchC_map_ids]
      exact hw
  have hs2 : List.foldl disconnectCell s1 (cids im) = setImpl s i im2 := by
    rw [show disconnectCell = touchCell SlotB.disconnectRep from rfl, hfold, hE1nil, nullSt_nil, hown, htouch1]
    subst hs1
    simp [setImpl, aset_aset]
  rw [hs2]
  have hi2 : aget (setImpl s i im2).impls i = some im2 := by simp
  rw [hi2]
  simp only
  have hx2 : im2.exec = im.exec + 1 := by subst him2; rfl
  have hids2 : im2.cells.map (·.id) = cids im := by
    subst him2; simp only [touchC_map_ids]; rfl
  rw [hids2]
  by_cases hd : im.exec > 0
  · have hx : ¬ im.exec = 0 := by omega
    simp only [hd, if_true, hx, if_false]
    rw [unrefExec_eq hi2]
    have : ¬ ((im2.exec - 1 = 0 && im2.deferred) = true) := by simp; intro e; omega
    rw [if_neg this, setImpl_setImpl, nullSt_nil]
    subst him2
    simp [touchImpl, hx, setImpl, cids]
  · have hx0 : im.exec = 0 := by omega
    have hdf : im.deferred = false := hok.q1 hx0
    rw [if_neg hd, if_pos hx0]
    rw [nullConnsList_eq, setImpl_setImpl]
    generalize hX : ({ im2 with deferred := im.deferred, cells := [] } : Impl) = X
    have hi3 : aget (nullSt (cids im) (setImpl s i X)).impls i = some X := by simp
    rw [unrefExec_eq hi3]
    have : ¬ ((X.exec - 1 = 0 && X.deferred) = true) := by subst hX; simp [hdf]
    rw [if_neg this]
    have hfil' : im.cells.filter (fun c => !decide (c.id ∈ cids im)) = [] := by
      rw [List.filter_eq_nil_iff]
      intro c hc
      have : c.id ∈ cids im := List.mem_map.mpr ⟨c, hc, rfl⟩
      simp [this]
    subst hX; subst him2
    simp [touchImpl, hx0, setImpl, hfil', nullSt, aset_aset]

/-- disconnecting cells of an impl that is not emitting erases them -/
theorem fold_erase : ∀ (W : List Nat) {s : St} {i : Nat} {im : Impl}, Inv s → aget s.impls i = some im → im.exec = 0 →
    W.Nodup → (∀ k ∈ W, k ∈ cids im) →
    W.foldl disconnectCell s
      = nullSt W { s with impls := aset s.impls i { im with cells := im.cells.filter (fun c => !W.contains c.id) } }
  | [], s, i, im, _, hi, _, _, _ => by
    have : im.cells.filter (fun c => !([] : List Nat).contains c.id) = im.cells := List.filter_eq_self.2 fun _ _ => by simp
    rw [this, nullSt_nil, List.foldl_nil, Model.aset_self hi]
  | k :: W, s, i, im, h, hi, hx, hnd, hW => by
    obtain ⟨c, hg⟩ := getCell_of_mem h hi (hW k (by simp))
    obtain ⟨im', hi', hfind⟩ := getCell_some hg
    rw [hi] at hi'; cases hi'
    have hcm := (find_mem hfind).1
    have hok := h.ok i im hi
    -- not emitting: the cell is linked, so it is erased at once
    have hl : c.linked = true := hok.d (hok.q1 hx) c hcm (hok.no_markers hx c hcm)
    have e1 : disconnectCell s k = nullSt [k] (setImpl s i { im with cells := im.cells.filter (·.id ≠ k) }) := by
      rw [disconnectCell_touch, touchCell_eq _ hg hi, if_pos hl, if_pos hx, eraseCell_eq hi, nullConns_eq]
    have h1 : Inv (nullSt [k] (setImpl s i { im with cells := im.cells.filter (·.id ≠ k) })) :=
      e1 ▸ (Good.disconnectCell h k).inv
    obtain ⟨hkW, hndW⟩ := List.nodup_cons.mp hnd
    have ih := fold_erase W h1 (i := i) (im := { im with cells := im.cells.filter (·.id ≠ k) })
      (by simp) hx hndW (fun k' hk' => by
        obtain ⟨c', hc', e⟩ := List.mem_map.mp (hW k' (List.mem_cons_of_mem _ hk'))
        exact List.mem_map.mpr ⟨c', List.mem_filter.mpr ⟨hc', by simp [e]; rintro rfl; exact hkW hk'⟩, e⟩)
    have hf : (im.cells.filter (·.id ≠ k)).filter (fun c => !W.contains c.id)
        = im.cells.filter (fun c => !(k :: W).contains c.id) := by
      rw [List.filter_filter]
      apply List.filter_congr
      intro c _
      by_cases e : c.id = k <;> simp [e]
    rw [List.foldl_cons, e1, ih]
    simp only [nullSt, setImpl, amap_amap, nullE_append, aset_aset, hf, List.singleton_append]

/-- `signal_impl::clear()` disconnects every cell: raising `exec_count_` around the loop only batches the sweep -/
theorem clearImpl_eq_fold {s : St} (h : Inv s) {i : Nat} {im : Impl} (hi : aget s.impls i = some im) :
    clearImpl s i = (cids im).foldl disconnectCell s := by
  rw [clearImpl_closed h hi, amap_touch_own h hi _ _ (fun _ hk => hk)]
  by_cases hx : im.exec = 0
  · rw [if_pos hx, fold_erase (cids im) h hi hx (h.ok i im hi).nodup (fun _ hk => hk)]
    simp only [touchImpl, hx, if_true]
  · -- emitting: no cell is erased, on either side
    rw [if_neg hx, nullSt_nil]
    obtain ⟨E, hE, hfold⟩ := touch_fold weakens_disconnectRep disconnectRep_idem (cids im) h
    rw [show disconnectCell = touchCell SlotB.disconnectRep from rfl, hfold, amap_touch_own h hi _ _ (fun _ hk => hk)]
    have : E = [] := by
      rw [List.eq_nil_iff_forall_not_mem]
      intro cid hc
      obtain ⟨hw, _, her⟩ := hE cid hc
      apply her (i, touchImpl SlotB.disconnectRep (cids im) im)
      · rw [amap_touch_own h hi _ _ (fun _ hk => hk)]
        exact aget_some_mem (by simp)
      · simp only [touchImpl, hx, if_false, cids, touchC_map_ids]
        exact hw
    rw [this, nullSt_nil]

theorem good_clearImpl {s : St} (h : Inv s) (i : Nat) : Good (fun _ => 0) s (clearImpl s i) := by
  cases hi : aget s.impls i with
  | none => unfold clearImpl; rw [hi]; exact Good.refl h
  | some im =>
    rw [clearImpl_eq_fold h hi]
    exact Good.foldl disconnectCell (fun s c hh => Good.disconnectCell hh c) h _

end Sigc.Emit
