import Sigc.Lemmas.InvCell
import Sigc.Lemmas.InvSlots
/-!
# `TL`: every tracked object is alive

every trackable object id a functor (of a user slot variable or of a cell, nested functors included)
refers to is the object of a live trackable name, the `trackable` base of a live `trackable_signal`
handle, or an object owned by a functor — the library never keeps a registration in a destroyed
object, because `invalidateTrackable` removes *every* rep that refers to the dying object.
-/
namespace Sigc.Inv
open Sigc.Model
open Sigc.Emit (aget_aset aget_adel aget_of_mem_nodup)

def LiveObj (T : List (Nat × Nat)) (G : List (Nat × Handle)) (oT : List Nat) (o : Nat) : Prop :=
  (∃ name, aget T name = some o) ∨ (∃ g h, aget G g = some h ∧ h.fl.isTrackable = true ∧ h.trk = o) ∨ o ∈ oT

def SlotTracks (L : Nat → Prop) (sl : SlotB) : Prop := ∀ o, sl.tracksObj o = true → L o

/-- `SlotsAll (SlotTracks L)` written out; the `SlotsAll` lemmas (`Lemmas/InvSlots`) apply to it by unfolding -/
def TrackedIn (L : Nat → Prop) (S : List (Nat × SlotVar)) (impls : List (Nat × Impl)) : Prop :=
  (∀ p ∈ S, SlotTracks L p.2.slot) ∧ (∀ p ∈ impls, ∀ c ∈ p.2.cells, SlotTracks L c.slot)

def TLI (T : List (Nat × Nat)) (G : List (Nat × Handle)) (oT : List Nat) (S : List (Nat × SlotVar))
    (impls : List (Nat × Impl)) : Prop := TrackedIn (LiveObj T G oT) S impls

def TL (s : St) : Prop := TLI s.T s.G s.ownedT s.S s.impls

theorem TL.init : TL {} := by
  refine ⟨?_, ?_⟩ <;> intro p hp <;> cases hp

theorem SlotTracks.mono {L L' : Nat → Prop} {sl : SlotB} (h : SlotTracks L sl) (hm : ∀ o, L o → L' o) :
    SlotTracks L' sl := fun o ho => hm o (h o ho)

theorem tracksObj_norep {a : SlotB} (h : a.rep = none) (o : Nat) : a.tracksObj o = false := by
  unfold SlotB.tracksObj; rw [h]

theorem tracksObj_nofn {a : SlotB} {c : Bool} (h : a.rep = some { call := c, fn := none }) (o : Nat) :
    a.tracksObj o = false := by
  unfold SlotB.tracksObj; rw [h]

theorem tracksObj_disconnectRep (a : SlotB) (o : Nat) : a.disconnectRep.tracksObj o = a.tracksObj o := by
  unfold SlotB.disconnectRep SlotB.tracksObj
  cases h : a.rep with
  | none => simp [h]
  | some r =>
    obtain ⟨c, f⟩ := r
    cases f <;> simp

theorem SlotLe.tracks {a b : SlotB} (h : SlotLe a b) (o : Nat) (ha : a.tracksObj o = true) : b.tracksObj o = true := by
  rcases h with e | e | e
  · rw [← SlotB.tracksObj_of_rep_eq e]; exact ha
  · rw [SlotB.tracksObj_of_rep_eq e, tracksObj_disconnectRep] at ha; exact ha
  · rw [SlotB.tracksObj_of_rep_eq e, tracksObj_invalidate] at ha; cases ha

theorem SlotTracks.le {L : Nat → Prop} {a b : SlotB} (hb : SlotTracks L b) (h : SlotLe a b) : SlotTracks L a :=
  fun o ho => hb o (h.tracks o ho)


theorem SlotTracks.norep {L : Nat → Prop} {a : SlotB} (h : a.rep = none) : SlotTracks L a :=
  fun o ho => by rw [tracksObj_norep h] at ho; cases ho

theorem SlotTracks.copy {L : Nat → Prop} {a : SlotB} (h : SlotTracks L a) : SlotTracks L a.copy :=
  fun o ho => h o (SlotB.tracksObj_copy_le a o ho)

theorem SlotTracks.new {L : Nat → Prop} {b : Bool} {fn : Fun} (h : ∀ o ∈ fn.tracks, L o) :
    SlotTracks L { blocked := b, rep := some { call := true, fn := some fn } } := by
  intro o ho
  simp only [SlotB.tracksObj, List.contains_eq_mem, decide_eq_true_eq] at ho
  exact h o ho

theorem slotTracks_pred (L : Nat → Prop) : SlotPred (SlotTracks L) :=
  ⟨fun hle hb => hb.le hle, SlotTracks.norep,
    fun _ o ho => by rw [tracksObj_nofn (c := false) rfl] at ho; exact Bool.noConfusion ho, SlotTracks.copy⟩

@[simp] theorem nullConns_ownedT (s : St) (cid : Nat) : (nullConns s cid).ownedT = s.ownedT := rfl

theorem TrackedIn.prims (L : Nat → Prop) : PrimsA (fun s => TrackedIn L s.S s.impls) :=
  SlotsAll.prims (slotTracks_pred L)

/-- no rep of the state refers to object `o` -/
def NoTrack (o : Nat) (s : St) : Prop :=
  (∀ p ∈ s.S, p.2.slot.tracksObj o = false) ∧
  (∀ i im c, aget s.impls i = some im → c ∈ im.cells → c.slot.tracksObj o = false)

def CellTracks (o : Nat) (s : St) (cid : Nat) : Prop :=
  ∃ i im c, aget s.impls i = some im ∧ c ∈ im.cells ∧ c.id = cid ∧ c.slot.tracksObj o = true

/-- the list of cells `invalidateTrackable` walks over -/
def victims (impls : List (Nat × Impl)) (o : Nat) : List Nat :=
  impls.foldr (fun p acc => ((p.2.cells.filter (fun c => c.slot.tracksObj o)).map (·.id)) ++ acc) []

theorem mem_victims {impls : List (Nat × Impl)} {o i : Nat} {im : Impl} {c : Cell} (hm : (i, im) ∈ impls)
    (hc : c ∈ im.cells) (ht : c.slot.tracksObj o = true) : c.id ∈ victims impls o := by
  induction impls with
  | nil => cases hm
  | cons p t ih =>
    simp only [victims, List.foldr_cons, List.mem_append]
    cases hm with
    | head => exact Or.inl (List.mem_map.2 ⟨c, List.mem_filter.2 ⟨hc, ht⟩, rfl⟩)
    | tail _ hm => exact Or.inr (ih hm)

theorem invalidateTrackable_eq (s : St) (o : Nat) :
    invalidateTrackable s o =
      (victims s.impls o).foldl invalidateCell
        { s with S := amap s.S (fun v => if v.slot.tracksObj o then { v with slot := v.slot.invalidate } else v) } :=
  rfl

theorem cellTracks_invalidateCell {s : St} {n : Nat} (hw : WFI s.impls n) {o cid cid' : Nat}
    (h : CellTracks o (invalidateCell s cid) cid') : CellTracks o s cid' ∧ cid' ≠ cid := by
  obtain ⟨j, jm, d, hj, hd, hde, ht⟩ := h
  rw [invalidateCell_eq] at hj
  by_cases e : d.id = cid
  · obtain ⟨d0, rfl⟩ := genCell_self hw hj hd e
    rw [show (touchC SlotB.invalidate d0).slot.tracksObj o = false from tracksObj_invalidate _ _] at ht; cases ht
  · obtain ⟨jm0, hj0, hd0⟩ := genCell_other_mem hj hd e
    exact ⟨⟨j, jm0, d, hj0, hd0, hde, ht⟩, hde ▸ e⟩

theorem cellTracks_foldl {o n : Nat} (vs : List Nat) : ∀ {s : St}, WFI s.impls n → ∀ {cid' : Nat},
    CellTracks o (vs.foldl invalidateCell s) cid' → CellTracks o s cid' ∧ cid' ∉ vs := by
  induction vs with
  | nil => intro s _ cid' h; exact ⟨h, by simp⟩
  | cons v vs ih =>
    intro s hw cid' h
    simp only [List.foldl_cons] at h
    obtain ⟨h1, h2⟩ := ih ((WFI.prims n).invalidateCell v hw) h
    obtain ⟨h3, h4⟩ := cellTracks_invalidateCell hw h1
    exact ⟨h3, by simp only [List.mem_cons, not_or]; exact ⟨h4, h2⟩⟩

theorem invalidateTrackable_frame (s : St) (o : Nat) :
    (invalidateTrackable s o).T = s.T ∧ (invalidateTrackable s o).G = s.G ∧
    (invalidateTrackable s o).ownedT = s.ownedT ∧ (invalidateTrackable s o).next = s.next ∧
    (invalidateTrackable s o).S =
      amap s.S (fun v => if v.slot.tracksObj o then { v with slot := v.slot.invalidate } else v) := by
  have e := (LibBlind.prims (π := fun s : St => (s.T, s.G, s.ownedT, s.next)) (fun _ _ _ _ _ _ => rfl) _).invalidateTrackable
    (s := s) o rfl
  simp only [Prod.mk.injEq] at e
  exact ⟨e.1, e.2.1, e.2.2.1, e.2.2.2, foldl_invalidateCell_S _ _⟩

/-- `notify_callbacks()` of `o` leaves no rep that refers to `o`: a cell that still tracks `o` after the fold tracked it
    before and is no victim (`cellTracks_foldl`), but the victims are all such cells.  Of `WFI` only unique ids are used. -/
theorem invalidateTrackable_notrack {s : St} {n : Nat} (hw : WFI s.impls n) (o : Nat) :
    NoTrack o (invalidateTrackable s o) := by
  refine ⟨?_, ?_⟩
  · intro q hq
    rw [(invalidateTrackable_frame s o).2.2.2.2] at hq
    obtain ⟨p, _, rfl⟩ := mem_amap hq
    simp only
    split
    · exact tracksObj_invalidate _ _
    · rename_i hn; simpa using hn
  · intro i im c hi hc
    cases ht : c.slot.tracksObj o with
    | false => rfl
    | true =>
      exfalso
      rw [invalidateTrackable_eq] at hi
      have hw0 : WFI ({ s with S := (amap s.S
          (fun v => if v.slot.tracksObj o then { v with slot := v.slot.invalidate } else v)) } : St).impls n := hw
      obtain ⟨⟨j, jm, d, hj, hd, hde, hdt⟩, hnot⟩ := cellTracks_foldl _ hw0 ⟨i, im, c, hi, hc, rfl, ht⟩
      exact hnot (hde ▸ mem_victims (mem_of_aget hj) hd hdt)

/-- the cells with id `cid` (if any are left) are invalidated and unlinked -/
def Gone (cid : Nat) (s : St) : Prop :=
  ∀ j jm d, aget s.impls j = some jm → d ∈ jm.cells → d.id = cid →
    d.linked = false ∧ d.slot.empty = true ∧ d.slot.liveAll = 0 ∧ ∀ o, d.slot.tracksObj o = false

theorem liveAll_invalidate (sl : SlotB) : sl.invalidate.liveAll = 0 := by
  simp only [SlotB.invalidate, SlotB.liveAll]
  cases h : sl.rep <;> simp [h]

theorem gone_invalidateCell_self {s : St} (hw : WF s) (cid : Nat) : Gone cid (invalidateCell s cid) := by
  intro j jm d hj hd hde
  rw [invalidateCell_eq] at hj
  obtain ⟨d0, rfl⟩ := genCell_self hw hj hd hde
  exact ⟨rfl, invalidate_empty _, liveAll_invalidate _, fun o => tracksObj_invalidate _ _⟩

theorem gone_invalidateCell {s : St} (hw : WF s) {cid : Nat} (cid' : Nat) (h : Gone cid s) :
    Gone cid (invalidateCell s cid') := by
  by_cases e : cid' = cid
  · subst e; exact gone_invalidateCell_self hw _
  · intro j jm d hj hd hde
    rw [invalidateCell_eq] at hj
    obtain ⟨jm0, hj0, hd0⟩ := genCell_other_mem hj hd (by rw [hde]; exact fun x => e x.symm)
    exact h j jm0 d hj0 hd0 hde

theorem gone_foldl {cid : Nat} (vs : List Nat) : ∀ {s : St}, WF s → (cid ∈ vs ∨ Gone cid s) →
    Gone cid (vs.foldl invalidateCell s) := by
  induction vs with
  | nil =>
    intro s _ h
    rcases h with h | h
    · cases h
    · exact h
  | cons v vs ih =>
    intro s hw h
    simp only [List.foldl_cons]
    apply ih (WF.prims.invalidateCell v hw)
    rcases h with h | h
    · cases h with
      | head => exact Or.inr (gone_invalidateCell_self hw _)
      | tail _ h => exact Or.inl h
    · exact Or.inr (gone_invalidateCell hw v h)

theorem invalidateTrackable_gone {s : St} (hw : WF s) {o i : Nat} {im : Impl} {c : Cell}
    (hi : aget s.impls i = some im) (hc : c ∈ im.cells) (ht : c.slot.tracksObj o = true) :
    Gone c.id (invalidateTrackable s o) := by
  rw [invalidateTrackable_eq]
  exact gone_foldl _ (s := { s with S := _ }) hw (Or.inl (mem_victims (mem_of_aget hi) hc ht))

theorem not_connected_of_gone {s : St} {cid : Nat} (h : Gone cid s) : connConnected s (some cid) = false := by
  unfold connConnected
  simp only []
  split
  · rfl
  · rename_i i c hg
    obtain ⟨im, hi, _, hc, he⟩ := getCell_some hg
    simp [(h i im c hi hc he).2.1]

theorem TL.prims : PrimsA TL where
  upd s i im g e d _ h hi hg := (TrackedIn.prims (LiveObj s.T s.G s.ownedT)).upd s i im g e d trivial h hi hg
  filter s i im p d ids _ h hi hp := by
    show TrackedIn (LiveObj (nullConnsList _ _).T (nullConnsList _ _).G (nullConnsList _ _).ownedT) _ _
    simp only [nullConnsList_T, nullConnsList_G, nullConnsList_ownedT]
    exact (TrackedIn.prims (LiveObj s.T s.G s.ownedT)).filter s i im p d ids trivial h hi hp
  delImpl s i im _ h hi hh hg := by
    show TrackedIn (LiveObj (nullConnsList _ _).T (nullConnsList _ _).G (nullConnsList _ _).ownedT) _ _
    simp only [nullConnsList_T, nullConnsList_G, nullConnsList_ownedT]
    exact (TrackedIn.prims (LiveObj s.T s.G s.ownedT)).delImpl s i im trivial h hi hh hg
  invalS s t _ h := (TrackedIn.prims (LiveObj s.T s.G s.ownedT)).invalS s t trivial h

/-- after `notify_callbacks()` of `o` the tracked objects are the old ones except `o` -/
theorem trackedIn_kill {s : St} (hw : WF s) {L : Nat → Prop} (h : TrackedIn L s.S s.impls) (o : Nat) :
    TrackedIn (fun o' => L o' ∧ o' ≠ o) (invalidateTrackable s o).S (invalidateTrackable s o).impls := by
  have h1 : TrackedIn L (invalidateTrackable s o).S (invalidateTrackable s o).impls :=
    (TrackedIn.prims L).invalidateTrackable o h
  have h2 := invalidateTrackable_notrack hw o
  have hw' : WF (invalidateTrackable s o) := WF.prims.invalidateTrackable o hw
  refine ⟨?_, ?_⟩
  · intro p hp o' ho'
    refine ⟨h1.1 p hp o' ho', ?_⟩
    intro e; subst e
    rw [h2.1 p hp] at ho'; cases ho'
  · intro p hp c hc o' ho'
    refine ⟨h1.2 p hp c hc o' ho', ?_⟩
    intro e; subst e
    rw [h2.2 p.1 p.2 c (aget_of_mem_nodup hw'.keys hp) hc] at ho'; cases ho'

theorem liveObj_adel_T {T : List (Nat × Nat)} {G : List (Nat × Handle)} {oT : List Nat} {t o o' : Nat}
    (ht : aget T t = some o) (h : LiveObj T G oT o') (hne : o' ≠ o) : LiveObj (adel T t) G oT o' := by
  rcases h with ⟨name, hn⟩ | h | h
  · left
    refine ⟨name, ?_⟩
    rw [aget_adel]
    split
    · rename_i e; subst e; rw [ht] at hn; cases hn; exact absurd rfl hne
    · exact hn
  · exact Or.inr (Or.inl h)
  · exact Or.inr (Or.inr h)

theorem liveObj_adel_G {T : List (Nat × Nat)} {G : List (Nat × Handle)} {oT : List Nat} {g o' : Nat} {hd : Handle}
    (hg : aget G g = some hd) (h : LiveObj T G oT o') (hne : hd.fl.isTrackable = true → o' ≠ hd.trk) :
    LiveObj T (adel G g) oT o' := by
  rcases h with h | ⟨g', h', hg', ht, he⟩ | h
  · exact Or.inl h
  · right; left
    refine ⟨g', h', ?_, ht, he⟩
    rw [aget_adel]
    split
    · rename_i e; subst e; rw [hg] at hg'; cases hg'; exact absurd he.symm (hne ht)
    · exact hg'
  · exact Or.inr (Or.inr h)

theorem liveObj_aset_T {T : List (Nat × Nat)} {G : List (Nat × Handle)} {oT : List Nat} {t o o' : Nat}
    (ht : aget T t = none) (h : LiveObj T G oT o') : LiveObj (aset T t o) G oT o' := by
  rcases h with ⟨name, hn⟩ | h | h
  · left
    refine ⟨name, ?_⟩
    rw [aget_aset]
    split
    · rename_i e; subst e; rw [ht] at hn; cases hn
    · exact hn
  · exact Or.inr (Or.inl h)
  · exact Or.inr (Or.inr h)

abbrev GLe : List (Nat × Handle) → List (Nat × Handle) → Prop := GExt (fun h => (h.fl, h.trk))

theorem liveObj_gle {T : List (Nat × Nat)} {G G' : List (Nat × Handle)} {oT : List Nat} (h : GLe G G') {o : Nat}
    (ho : LiveObj T G oT o) : LiveObj T G' oT o := by
  rcases ho with a | ⟨g, hd, hg, ht, he⟩ | a
  · exact Or.inl a
  · obtain ⟨h', hg', e⟩ := h g hd hg
    obtain ⟨e1, e2⟩ := Prod.mk.inj e
    exact Or.inr (Or.inl ⟨g, h', hg', e1 ▸ ht, e2.trans he⟩)
  · exact Or.inr (Or.inr a)

theorem TLI.monoL {T T' : List (Nat × Nat)} {G G' : List (Nat × Handle)} {oT oT' : List Nat}
    {S : List (Nat × SlotVar)} {impls : List (Nat × Impl)} (h : TLI T G oT S impls)
    (hm : ∀ o, LiveObj T G oT o → LiveObj T' G' oT' o) : TLI T' G' oT' S impls := SlotsAll.mono h fun _ hs => hs.mono hm

theorem TL.mkFun {s s' : St} {fn : Fun} (h : TL s) {τ : Int} (m : MkFun s τ fn s') :
    TL s' ∧ ∀ o ∈ fn.tracks, LiveObj s'.T s'.G s'.ownedT o := by
  cases m with
  | plain ht =>
    refine ⟨h, fun o ho => ?_⟩
    rcases ht o ho with e | ⟨i, v, hv, e⟩
    · exact Or.inl e
    · exact SlotsAll.getS h hv o e
  | @fwd g hd hg _ =>
    have hmono : ∀ o, LiveObj s.T s.G s.ownedT o →
        LiveObj s.T (aset s.G g { hd with everFwd := true }) s.ownedT o :=
      fun o ho => liveObj_gle (GExt.aset_same (hd := { hd with everFwd := true }) hg rfl) ho
    refine ⟨TLI.monoL h hmono, fun o ho => ?_⟩
    simp only [Fun.tracks] at ho
    split at ho
    · rename_i htr
      simp only [List.mem_singleton] at ho
      subst ho
      exact Or.inr (Or.inl ⟨g, _, aget_aset_same _ _ _, htr, rfl⟩)
    · cases ho
  | @ownT _ t o ht =>
    refine ⟨TLI.monoL h ?_, fun o ho => by cases ho⟩
    intro o' ho'
    by_cases e : o' = o
    · subst e; exact Or.inr (Or.inr List.mem_cons_self)
    · rcases liveObj_adel_T ht ho' e with a | a | a
      · exact Or.inl a
      · exact Or.inr (Or.inl a)
      · exact Or.inr (Or.inr (List.mem_cons_of_mem _ a))
  | ownK _ _ => exact ⟨h, fun o ho => by cases ho⟩
  | ownG _ _ _ _ => exact ⟨h, fun o ho => by cases ho⟩

theorem TL.ensureImpl {s s1 : St} {g i : Nat} (h : TL s) (he : ensureImpl s g = some (s1, i)) : TL s1 := by
  obtain ⟨hd, hg, ⟨_, rfl⟩ | ⟨_, rfl, rfl⟩⟩ := ensureImpl_cases he
  · exact h
  · refine SlotsAll.asetI (TLI.monoL h ?_) _ (fun c hc => by cases hc)
    intro o ho
    exact liveObj_gle (GExt.setImpl (fun _ _ => rfl) hg _) ho

theorem TL.insertCell {s : St} (i : Nat) (first : Bool) {sl : SlotB}
    (hs : SlotTracks (LiveObj s.T s.G s.ownedT) sl) (h : TL s) : TL (insertCell s i first sl).fst := by
  obtain ⟨_, _, _, e4, _, e6, e7, _⟩ := insertCell_frame s i first sl
  show TrackedIn (LiveObj _ _ _) _ _
  rw [e4, e6, e7]
  exact SlotsAll.insertCell (slotTracks_pred _) i first hs h

/-- the cell that joins tracks nothing (the end marker; a cell with a functor goes through `TL.insertCell`) -/
theorem TL.grow : Grow (fun c => ∀ o, c.slot.tracksObj o = false) TL where
  next _ _ h := h
  holders s i im n h hi := SlotsAll.grow.holders s i im n h hi
  add s i im c cs e n h hi h0 ha hp :=
    SlotsAll.grow.add s i im c cs e n h hi h0 (fun o ho => Bool.noConfusion ((ha o).symm.trans ho)) hp

theorem tli_gcImpl {s : St} {i : Nat} (h : TLI s.T s.G s.ownedT s.S s.impls) :
    TLI (gcImpl s i).T (gcImpl s i).G (gcImpl s i).ownedT (gcImpl s i).S (gcImpl s i).impls := TL.prims.gcImpl i h
theorem tli_insertCell {s : St} {i : Nat} {first : Bool} {sl : SlotB}
    (hs : SlotTracks (LiveObj s.T s.G s.ownedT) sl) (h : TLI s.T s.G s.ownedT s.S s.impls) :
    TLI (insertCell s i first sl).fst.T (insertCell s i first sl).fst.G (insertCell s i first sl).fst.ownedT
      (insertCell s i first sl).fst.S (insertCell s i first sl).fst.impls := TL.insertCell i first hs h

theorem st_copy {L : Nat → Prop} {sl : SlotB} (h : SlotTracks L sl) : SlotTracks L sl.copy := h.copy
theorem st_move_fst {L : Nat → Prop} {sl : SlotB} (h : SlotTracks L sl) : SlotTracks L sl.move.1 :=
  h.le (Or.inl sl.move_fst_rep)
theorem st_move_snd {L : Nat → Prop} (sl : SlotB) : SlotTracks L sl.move.2 := SlotTracks.norep sl.move_snd_rep
theorem st_new {L : Nat → Prop} {b : Bool} {fn : Fun} (h : ∀ o ∈ fn.tracks, L o) :
    SlotTracks L { blocked := b, rep := some { call := true, fn := some fn } } := SlotTracks.new h

theorem TLI.sWrite {s : St} {S' : List (Nat × SlotVar)} (w : SWrite s S') (h : TL s) :
    TLI s.T s.G s.ownedT S' s.impls := SlotsAll.sWrite (slotTracks_pred _) w h

theorem TLI.gle {T : List (Nat × Nat)} {G G' : List (Nat × Handle)} {oT : List Nat}
    {S : List (Nat × SlotVar)} {impls : List (Nat × Impl)} (h : TLI T G oT S impls) (hg : GLe G G') :
    TLI T G' oT S impls := h.monoL (fun _ ho => liveObj_gle hg ho)

theorem TL.delT {s : St} {t o : Nat} (hW : WF s) (hI : TL s) (ht : aget s.T t = some o) :
    TL (invalidateTrackable { s with T := adel s.T t } o) := by
  obtain ⟨f1, f2, f3, _, _⟩ := invalidateTrackable_frame { s with T := adel s.T t } o
  show TLI _ _ _ _ _
  rw [f1, f2, f3]
  have hk := trackedIn_kill (s := { s with T := adel s.T t }) hW (L := LiveObj s.T s.G s.ownedT) hI o
  exact SlotsAll.mono hk fun _ hs => hs.mono (fun o' ho => liveObj_adel_T ht ho.1 ho.2)

theorem TL.connfn {s s1 s2 : St} {fn : Fun} {g im : Nat} (first : Bool) (hI : TL s)
    {τ : Int} (hm : MkFun s τ fn s1) (he : Model.ensureImpl s1 g = some (s2, im)) :
    TL (Model.insertCell s2 im first (SlotB.made fn)).1 := by
  have hM := TL.mkFun hI hm
  obtain ⟨fT, _, fO, _, hle⟩ := ensureImpl_frame he
  refine TL.insertCell _ _ (SlotTracks.new ?_) (TL.ensureImpl hM.1 he)
  intro o ho
  rw [fT, fO]
  exact liveObj_gle (hle _ fun _ _ => rfl) (hM.2 o ho)

/-- not `TL.prims.dropHandle`: taking a trackable signal object out of `G` alone breaks `TL`; it is kept together with the
    `notify` before it (`trackedIn_kill`) -/
theorem TL.forceDelG (s : St) (g : Nat) (hW : WF s) (hI : TL s) : TL (forceDelG s g) := by
  unfold Inv.forceDelG
  split
  · exact hI
  · rename_i hd hi
    cases htr : hd.fl.isTrackable with
    | false =>
      simp only [Bool.false_eq_true, if_false]
      have h3 : TLI s.T (adel s.G g) s.ownedT s.S s.impls :=
        hI.monoL (fun o ho => liveObj_adel_G hi ho (fun e => by rw [htr] at e; cases e))
      split
      · exact TL.prims.gcImpl _ h3
      · exact h3
    | true =>
      simp only [if_true]
      obtain ⟨f1, f2, f3, _, _⟩ := invalidateTrackable_frame s hd.trk
      have h3 : TLI (invalidateTrackable s hd.trk).T (adel (invalidateTrackable s hd.trk).G g)
          (invalidateTrackable s hd.trk).ownedT (invalidateTrackable s hd.trk).S
          (invalidateTrackable s hd.trk).impls := by
        rw [f1, f2, f3]
        exact SlotsAll.mono (trackedIn_kill hW hI hd.trk) fun _ hs => hs.mono (fun o ho => liveObj_adel_G hi ho.1 (fun _ => ho.2))
      split
      · exact TL.prims.gcImpl _ h3
      · exact h3

theorem TL.move {s s' : St} (m : Move s s') (hW : WF s) (h : TL s) : TL s' := by
  cases m with
  | lib l => exact TL.prims.lib l h
  | newT ht => exact h.monoL (fun _ ho => liveObj_aset_T ht ho)
  | delT ht => exact TL.delT hW h ht
  | setS w => exact (TLI.sWrite w h :)
  | made hm => exact (TL.mkFun h hm).1
  | mkS hm _ hv =>
    have hM := TL.mkFun h hm
    exact SlotsAll.asetS hM.1 _ (by rw [hv]; exact SlotTracks.new hM.2)
  | newG _ _ hg _ => exact TLI.gle h (GExt.aset_fresh _ hg)
  | ensure he => exact TL.ensureImpl h he
  | mvG hi hj =>
    exact TLI.gle h (GExt.trans (GExt.setImpl (fun _ _ => rfl) hi none)
      (GExt.aset_fresh _ ((aget_aset_other _ _ _ _ (ne_of_aget hi hj)).trans hj)))
  | asgG hj _ => exact TL.prims.gcOpt _ (TLI.gle h (GExt.setImpl (fun _ _ => rfl) hj _))
  | masgG hj hi hne =>
    exact TL.prims.gcOpt _ (TLI.gle h (GExt.trans (GExt.setImpl (fun _ _ => rfl) hj _)
      (GExt.setImpl (fun _ _ => rfl) ((aget_aset_other _ _ _ _ (Ne.symm hne)).trans hi) none)))
  | drop _ => exact TL.forceDelG _ _ hW h
  | conn _ _ hv _ => exact TL.insertCell _ _ (SlotsAll.getS h hv).copy h
  | connMv _ _ hv _ =>
    exact TL.insertCell _ _ (st_move_fst (SlotsAll.getS h hv)) (SlotsAll.asetS h _ (st_move_snd _))
  | connfn _ first hm he => exact TL.connfn first h hm he
  | setCK _ => exact h


/-- not by `TL.prims.collectStep`: dropping `o` from `ownedT` alone breaks `TL`; it is kept only together with the
    `notify_callbacks()` that follows (`trackedIn_kill`) -/
theorem TL.collectStep (s s' : St) (hW : WF s) (hI : TL s) (h : collectStep s = some s') : TL s' := by
  unfold Model.collectStep at h
  split at h
  · rename_i o _
    simp only [Option.some.injEq] at h; subst h
    obtain ⟨f1, f2, f3, _, _⟩ := invalidateTrackable_frame { s with ownedT := s.ownedT.filter (· ≠ o) } o
    show TLI _ _ _ _ _
    rw [f1, f2, f3]
    have hk := trackedIn_kill (s := { s with ownedT := s.ownedT.filter (· ≠ o) }) hW
      (L := LiveObj s.T s.G s.ownedT) hI o
    refine SlotsAll.mono hk fun _ hs => hs.mono ?_
    rintro o' ⟨a | a | a, hne⟩
    · exact Or.inl a
    · exact Or.inr (Or.inl a)
    · exact Or.inr (Or.inr (List.mem_filter.2 ⟨a, by simpa using hne⟩))
  · split at h
    · simp only [Option.some.injEq] at h; subst h
      split
      · exact TL.prims.disconnectCell _ hI
      · exact hI
    · split at h
      · rename_i k g _
        simp only [Option.some.injEq] at h; subst h
        exact TL.forceDelG { s with ownedG := s.ownedG.filter (fun q => q.1 ≠ k) } g hW hI
      · cases h

theorem WF.collectStep (s s' : St) (hW : WF s) (h : collectStep s = some s') : WF s' :=
  WF.prims.collectStep (fun _ _ h => h) (fun _ _ h => h) (dropG_of (fun _ _ h => h) WF.forceDelG) hW h

theorem TL.collect (s : St) (hW : WF s) (hI : TL s) : TL (collect s) :=
  (collect_preserved (I := fun s => WF s ∧ TL s)
    (fun a b h hc => ⟨WF.collectStep a b h.1 hc, TL.collectStep a b h.1 h.2 hc⟩) s ⟨hW, hI⟩).2

theorem TL.stable : StableRel WF TL :=
  StableRel.ofPrims TL.prims (fun _ _ _ _ _ h => h)
    (fun s i v n h hv => by
      have hs : SlotTracks (LiveObj s.T s.G s.ownedT) v.slot := SlotsAll.getS h hv
      exact SlotsAll.asetS h i (v := { v with incall := n }) hs)
    WF.move (fun m j => TL.move m j) TL.collect (TL.grow.emitPro fun _ _ => rfl) TL.grow.dropHolder
    TL.forceDelG

/-- `TL` with the `WF` it is kept relative to (`TL.stable`); what C02 concludes -/
def WTL (s : St) : Prop := WF s ∧ TL s

theorem WTL.stable : Stable WTL := StableRel.and WF.stable TL.stable

theorem WTL.reachable (f : Nat) (P : Prog) (s : St) (h : runTop f P {} P.top = some s) : WTL s :=
  WTL.stable.runTop ⟨WF.init, TL.init⟩ f P s h

end Sigc.Inv
