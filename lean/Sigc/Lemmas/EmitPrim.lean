import Sigc.Lemmas.EmitCells
/-! the primitive state transformers of `Sigc.Model` on cells and impls are good steps: `nullConns`, `eraseCell`,
`notifyParent`, `disconnectCell`, `invalidateCell`, `connBlock`, `insertCell` (`clearImpl`: `good_clearImpl` in
`Sigc/Lemmas/EmitTouchFold.lean`; `sweep` and `unrefExec` are none on their own: `epiImpl_ok` in `Sigc/Lemmas/EmitEpi.lean`).  The equations of `Sigc/Lemmas/Frames.lean` that the family uses
are restated in its namespace -/
namespace Sigc.Emit
open Sigc.Model

/-! `InvX` and `Frame` do not read `C`, `K`, `ownedK`, the fields `nullConns` writes -/

@[simp] theorem nullConns_impls (s : St) (c : Nat) : (nullConns s c).impls = s.impls := rfl
@[simp] theorem nullConns_G (s : St) (c : Nat) : (nullConns s c).G = s.G := rfl
@[simp] theorem nullConns_S (s : St) (c : Nat) : (nullConns s c).S = s.S := rfl
@[simp] theorem nullConns_err (s : St) (c : Nat) : (nullConns s c).err = s.err := rfl
@[simp] theorem nullConns_next (s : St) (c : Nat) : (nullConns s c).next = s.next := rfl
@[simp] theorem nullConns_T (s : St) (c : Nat) : (nullConns s c).T = s.T := rfl

theorem nullConnsList_core (s : St) (cs : List Nat) :
    (nullConnsList s cs).impls = s.impls ∧ (nullConnsList s cs).G = s.G ∧ (nullConnsList s cs).S = s.S ∧
    (nullConnsList s cs).err = s.err ∧ (nullConnsList s cs).next = s.next :=
  ⟨nullConnsList_impls cs s, nullConnsList_G cs s, nullConnsList_S cs s,
   nullConnsList_err cs s, nullConnsList_next cs s⟩

@[simp] theorem nullConns_ownedG (s : St) (c : Nat) : (nullConns s c).ownedG = s.ownedG := rfl

theorem nullConnsList_ownedG (s : St) (cs : List Nat) : (nullConnsList s cs).ownedG = s.ownedG :=
  Model.nullConnsList_ownedG cs s

theorem Good.nullConnsList {off} {s s1 : St} (h : Good off s s1) (cs : List Nat) :
    Good off s (nullConnsList s1 cs) := by
  obtain ⟨a, b, c, d, e⟩ := nullConnsList_core s1 cs
  exact h.congr a b c d (by omega) (nullConnsList_ownedG _ _)

theorem Good.nullConns {off} {s s1 : St} (h : Good off s s1) (c : Nat) :
    Good off s (nullConns s1 c) :=
  h.congr rfl rfl rfl rfl (Nat.le_refl _)

theorem setImpl_setImpl (s : St) (i : Nat) (a b : Impl) : setImpl (setImpl s i a) i b = setImpl s i b :=
  Model.setImpl_setImpl s i a b

theorem updCell_eq {s : St} {i : Nat} {im : Impl} (hi : aget s.impls i = some im) (cid : Nat) (f : Cell → Cell) :
    updCell s i cid f = setImpl s i { im with cells := im.cells.map (updC cid f) } :=
  Model.updCell_eq hi cid f

theorem eraseCell_eq {s : St} {i : Nat} {im : Impl} (hi : aget s.impls i = some im) (cid : Nat) :
    eraseCell s i cid = nullConns (setImpl s i { im with cells := im.cells.filter (·.id ≠ cid) }) cid :=
  Model.eraseCell_eq hi cid

theorem notifyParent_eq {s : St} {i : Nat} {im : Impl} (hi : aget s.impls i = some im) (cid : Nat) :
    notifyParent s i cid = if im.exec = 0 then eraseCell s i cid else setImpl s i { im with deferred := true } :=
  Model.notifyParent_eq hi cid

theorem getCell_some {s : St} {cid i : Nat} {c : Cell} (h : getCell s cid = some (i, c)) :
    ∃ im, aget s.impls i = some im ∧ im.cells.find? (·.id = cid) = some c :=
  let ⟨_, im, hi, hf, _⟩ := getCell_eq_some h
  ⟨im, hi, hf⟩

theorem invalidateCell_eq (s : St) (cid : Nat) : invalidateCell s cid = touchCell SlotB.invalidate s cid :=
  invalidateCell_touch s cid

theorem sweep_eq {s : St} {i : Nat} {im : Impl} (hi : aget s.impls i = some im) :
    sweep s i = nullConnsList (setImpl s i { im with deferred := false, cells := im.cells.filter (fun c => !c.slot.empty) })
      ((im.cells.filter (·.slot.empty)).map (·.id)) :=
  Model.sweep_eq hi

theorem unrefExec_eq {s : St} {i : Nat} {im : Impl} (hi : aget s.impls i = some im) :
    unrefExec s i = if (im.exec - 1 = 0 && im.deferred) = true
      then sweep (setImpl s i { im with exec := im.exec - 1 }) i
      else setImpl s i { im with exec := im.exec - 1 } :=
  Model.unrefExec_eq hi

theorem Good.mapCells {off} {s : St} (h : InvX off s) {i : Nat} {im : Impl} (hi : aget s.impls i = some im)
    (g : Cell → Cell) (dfr : Bool) (hid : ∀ c, (g c).id = c.id)
    (hn : ∀ c, (g c).slot.rep.isNone = c.slot.rep.isNone)
    (hl : ∀ c ∈ im.cells, (g c).linked = false → (g c).slot.empty = true)
    (hd : dfr = false → im.deferred = false ∧ ∀ c ∈ im.cells, c.linked = true → (g c).linked = true)
    (hq : im.exec = 0 → dfr = false) (hf : ∀ c ∈ im.cells, SlotOK s.G (g c).slot) :
    Good off s (Model.setImpl s i { im with cells := im.cells.map g, deferred := dfr }) := by
  apply Good.setImpl h hi ((h.ok i im hi).map g dfr hid hn hl hd hq)
  · intro k hk; left; simpa [cids, cids_map _ _ hid] using hk
  · intro c hc
    obtain ⟨c0, hc0, rfl⟩ := List.mem_map.mp hc
    exact hf c0 hc0
  · rfl
  · intro _; exact ⟨[], [], by simp [skel_map im _ hid hn]⟩

theorem Good.eraseCell {off} {s : St} (h : InvX off s) {i : Nat} {im : Impl}
    (hi : aget s.impls i = some im) (hx : im.exec = 0) (cid : Nat) :
    Good off s (eraseCell s i cid) := by
  rw [eraseCell_eq hi]
  apply Good.nullConns
  have hok := h.ok i im hi
  apply Good.setImpl h hi
  · apply hok.filter
    intro c hc hn
    have := hok.no_markers hx c hc
    rw [this] at hn; contradiction
  · intro k hk
    obtain ⟨c, hc, rfl⟩ := List.mem_map.mp hk
    exact Or.inl (List.mem_map.mpr ⟨c, (List.mem_filter.mp hc).1, rfl⟩)
  · intro c hc; exact h.fwdC i im hi c (List.mem_filter.mp hc).1
  · rfl
  · intro hp; omega

theorem Good.notifyParent {off} {s : St} (h : InvX off s) (i cid : Nat) : Good off s (notifyParent s i cid) := by
  cases hi : aget s.impls i with
  | none => simp [Sigc.Model.notifyParent, hi]; exact Good.refl h
  | some im =>
    rw [notifyParent_eq hi]
    split
    · rename_i hx; exact Good.eraseCell h hi hx cid
    · rename_i hx
      have hok := h.ok i im hi
      apply Good.setImpl h hi (im' := { im with deferred := true })
        ⟨hok.nodup, hok.eh, hok.mkr, fun e => absurd e hx, hok.l, fun e => by simp at e⟩
      · intro k hk; exact Or.inl hk
      · intro c hc; exact h.fwdC i im hi c hc
      · rfl
      · intro _; exact ⟨[], [], by simp [skel]⟩

/-- what `touchCell` needs from the slot transformer -/
structure Weakens (hf : SlotB → SlotB) : Prop where
  isNone : ∀ sl, (hf sl).rep.isNone = sl.rep.isNone
  empty : ∀ sl, (hf sl).empty = true
  ok : ∀ G sl, SlotOK G sl → SlotOK G (hf sl)

theorem weakens_disconnectRep : Weakens SlotB.disconnectRep :=
  ⟨disconnectRep_isNone, disconnectRep_empty, fun _ _ h => h.disconnectRep⟩
theorem weakens_invalidate : Weakens SlotB.invalidate :=
  ⟨invalidate_isNone, invalidate_empty, fun _ _ h => h.invalidate⟩

theorem Good.touchCell {off} {hf : SlotB → SlotB} (hw : Weakens hf) {s : St} (h : InvX off s) (cid : Nat) :
    Good off s (touchCell hf s cid) := by
  cases hg : getCell s cid with
  | none => simp only [Sigc.Emit.touchCell, hg]; exact Good.refl h
  | some p =>
    obtain ⟨i, c⟩ := p
    obtain ⟨im, hi, hfind⟩ := getCell_some hg
    have hok := h.ok i im hi
    -- the weakened cell list, with `deferred` kept (the cell was not linked) or raised (impl emitting)
    have key : ∀ dfr : Bool, (dfr = false → im.deferred = false ∧ c.linked = false) → (im.exec = 0 → dfr = false) →
        Good off s (Model.setImpl s i { im with cells := im.cells.map (updC cid (touchC hf)), deferred := dfr }) := by
      intro dfr hd hq
      refine Good.mapCells h hi _ dfr (fun c => ?_) (fun c => ?_) (fun c hc => ?_) (fun e => ⟨(hd e).1, fun c0 hc0 hl0 => ?_⟩)
        hq (fun c hc => ?_) <;> unfold updC <;> split
      · rfl
      · rfl
      · exact hw.isNone _
      · rfl
      · intro _; exact hw.empty _
      · exact hok.l c hc
      · rename_i e
        have := find_unique hok.nodup hfind hc0 e
        subst this; rw [(hd ‹_›).2] at hl0; contradiction
      · exact hl0
      · exact hw.ok _ _ (h.fwdC i im hi c hc)
      · exact h.fwdC i im hi c hc
    rw [touchCell_eq hf hg hi]
    split
    · rename_i hlk
      split
      · rename_i hx; exact Good.eraseCell h hi hx cid
      · rename_i hx; exact key true (fun e => by contradiction) (fun e => absurd e hx)
    · rename_i hlk
      exact key im.deferred (fun e => ⟨e, by simpa using hlk⟩) hok.q1

theorem Good.disconnectCell {off} {s : St} (h : InvX off s) (cid : Nat) : Good off s (disconnectCell s cid) := by
  rw [disconnectCell_touch]; exact Good.touchCell weakens_disconnectRep h cid

theorem Good.invalidateCell {off} {s : St} (h : InvX off s) (cid : Nat) : Good off s (invalidateCell s cid) := by
  rw [invalidateCell_eq]; exact Good.touchCell weakens_invalidate h cid

theorem Good.foldl {off} (g : St → Nat → St) (hg : ∀ s c, InvX off s → Good off s (g s c))
    {s : St} (h : InvX off s) (cs : List Nat) : Good off s (cs.foldl g s) := by
  induction cs generalizing s with
  | nil => exact Good.refl h
  | cons c t ih =>
    simp only [List.foldl_cons]
    exact (hg s c h).trans (ih (hg s c h).inv)

/-- `connection::block` -/
theorem Good.connBlock {off} {s : St} (h : InvX off s) (p : Option Nat) (b : Bool) : Good off s (connBlock s p b) := by
  unfold Sigc.Model.connBlock
  cases p with
  | none => exact Good.refl h
  | some cid =>
    simp only
    cases hg : getCell s cid with
    | none => exact Good.refl h
    | some q =>
      obtain ⟨i, c⟩ := q
      obtain ⟨im, hi, _⟩ := getCell_some hg
      have hok := h.ok i im hi
      simp only
      rw [updCell_eq hi]
      refine Good.mapCells h hi _ im.deferred (fun c => ?_) (fun c => ?_) (fun c hc => ?_)
        (fun e => ⟨e, fun c _ hl => ?_⟩) hok.q1 (fun c hc => ?_) <;> unfold updC <;> split
      · rfl
      · rfl
      · rfl
      · rfl
      · intro hl; simpa [SlotB.empty] using hok.l c hc hl
      · exact hok.l c hc
      · exact hl
      · exact hl
      · exact (h.fwdC i im hi c hc).setBlocked b
      · exact h.fwdC i im hi c hc

/-- `signal_base::block` -/
theorem Good.blockAll {off} {s : St} (h : InvX off s) {i : Nat} {x : Impl} (hx : aget s.impls i = some x) (b : Bool) :
    Good off s (Model.setImpl s i
      { x with cells := x.cells.map (fun c => { c with slot := { c.slot with blocked := b } }) }) :=
  Good.mapCells h hx _ x.deferred (fun _ => rfl) (fun _ => rfl)
    (fun c hc hl => by simpa [SlotB.empty] using (h.ok i x hx).l c hc hl) (fun e => ⟨e, fun _ _ hl => hl⟩)
    (h.ok i x hx).q1 (fun c hc => (h.fwdC i x hx c hc).setBlocked b)

/-- for `Inv` only: `off ≠ 0` is inside `clearImpl`, which inserts nothing -/
theorem insertCell_good {s : St} (h : Inv s) {i : Nat} (hi : (aget s.impls i).isSome = true) (first : Bool)
    (sl : SlotB) (hsl : SlotOK s.G sl) :
    Good (fun _ => 0) s (insertCell s i first sl).1 ∧ (insertCell s i first sl).1.G = s.G ∧
    (insertCell s i first sl).1.S = s.S ∧ (insertCell s i first sl).1.T = s.T ∧
    (insertCell s i first sl).1.C = s.C ∧ (insertCell s i first sl).1.K = s.K := by
  cases hi' : aget s.impls i with
  | none => rw [hi'] at hi; contradiction
  | some im =>
    rw [insertCell_some hi']
    refine ⟨?_, rfl, rfl, rfl, rfl, rfl⟩
    have h1 : Good (fun _ => 0) s { s with next := s.next + 1 } :=
      Good.of_core h rfl rfl rfl rfl (by simp)
    refine h1.trans ?_
    have hfresh : ∀ j jm, aget s.impls j = some jm → s.next ∉ cids jm := by
      intro j jm hj hk; have := (h.lt j jm hj).2 _ hk; omega
    generalize hc : ({ id := s.next, slot := normSlot sl, linked := true } : Cell) = c
    have hcid : c.id = s.next := by subst hc; rfl
    have hcl : c.linked = true := by subst hc; rfl
    have hcr : c.slot.rep.isNone = false := by
      subst hc; simp only [normSlot]; cases hr : sl.rep <;> simp [hr]
    have hcs : SlotOK s.G c.slot := by
      subst hc; simp only [normSlot]; cases hr : sl.rep with
      | none => intro r fn h1 h2; simp at h1; subst h1; simp at h2
      | some r0 => exact hsl
    apply Good.setImpl h1.inv (i := i) (im := im) hi'
    · apply (h.ok i im hi').insert c first _ hcr hcl
      rw [hcid]; exact hfresh i im hi'
    · intro k hk
      simp only [cids] at hk
      split at hk
      · simp at hk; rcases hk with e | e
        · right; subst e; rw [hcid]; exact ⟨by simp, hfresh⟩
        · left; simp [cids]; exact e
      · simp at hk; rcases hk with e | e
        · left; simp [cids]; exact e
        · right; subst e; rw [hcid]; exact ⟨by simp, hfresh⟩
    · intro x hx
      split at hx
      · simp at hx; rcases hx with e | e
        · subst e; exact hcs
        · exact h.fwdC i im hi' x e
      · simp at hx; rcases hx with e | e
        · exact h.fwdC i im hi' x e
        · subst e; exact hcs
    · rfl
    · intro _
      simp only [skel]
      split
      · exact ⟨[(c.id, c.slot.rep.isNone)], [], by simp⟩
      · exact ⟨[], [(c.id, c.slot.rep.isNone)], by simp⟩

/-- bracketing: raise `exec` of impl `i`, run a `Frame` step, restore -/
theorem Frame.bracket {s s1 s2 s3 : St} {i : Nat} {im : Impl}
    (hi : aget s.impls i = some im)
    (h01n : s.next ≤ s1.next) (h01o : ∀ j, j ≠ i → aget s1.impls j = aget s.impls j)
    (h01v : ∀ j, incallOf s1 j = incallOf s j)
    (h12 : Frame s1 s2)
    (h23n : s2.next ≤ s3.next) (h23o : ∀ j, j ≠ i → aget s3.impls j = aget s2.impls j)
    (h23v : ∀ j, incallOf s3 j = incallOf s2 j)
    (hx : execOf s3 i = im.exec)
    (hk : 0 < im.exec → ∃ im3, aget s3.impls i = some im3 ∧ ∃ pre post, skel im3 = pre ++ skel im ++ post) :
    Frame s s3 := by
  refine ⟨by have := h12.next; omega, ?_, ?_, fun j => by rw [h23v, h12.vars, h01v]⟩
  · intro j
    by_cases e : j = i
    · subst e; rw [hx, execOf_pos hi]
    · have a : execOf s3 j = execOf s2 j := by simp [execOf, h23o j e]
      have b : execOf s1 j = execOf s j := by simp [execOf, h01o j e]
      rw [a, h12.exec, b]
  · intro j jm hj hp
    by_cases e : j = i
    · subst e; rw [hi] at hj; cases hj; exact hk hp
    · have : aget s1.impls j = some jm := by rw [h01o j e]; exact hj
      obtain ⟨jm2, hj2, pq⟩ := h12.keep j jm this hp
      exact ⟨jm2, by rw [h23o j e]; exact hj2, pq⟩

end Sigc.Emit
