import Sigc.Model
import Sigc.Lemmas.Basic
/-! the lemmas that the cell and impl primitives of `Sigc.Model` own: what each does once the impl is looked up
(`updCell_eq`, `eraseCell_eq`, `notifyParent_eq`, `sweep_eq`, `unrefExec_eq`, `insertCell_eq`, `getCell_eq_some`), the common
shape `touchCell` of `disconnectCell` and `invalidateCell`, the components `setImpl` and `nullConns` leave untouched by
definition (for the cascades see `Sigc/Lemmas/Blind.lean`), and two facts on lists of cells with distinct ids -/
namespace Sigc.Model

@[simp] theorem setImpl_S (s : St) (i : Nat) (im : Impl) : (setImpl s i im).S = s.S := rfl
@[simp] theorem setImpl_T (s : St) (i : Nat) (im : Impl) : (setImpl s i im).T = s.T := rfl
@[simp] theorem setImpl_G (s : St) (i : Nat) (im : Impl) : (setImpl s i im).G = s.G := rfl
@[simp] theorem setImpl_C (s : St) (i : Nat) (im : Impl) : (setImpl s i im).C = s.C := rfl
@[simp] theorem setImpl_K (s : St) (i : Nat) (im : Impl) : (setImpl s i im).K = s.K := rfl
@[simp] theorem setImpl_impls (s : St) (i : Nat) (im : Impl) : (setImpl s i im).impls = aset s.impls i im := rfl

@[simp] theorem nullConns_S (s : St) (c : Nat) : (nullConns s c).S = s.S := rfl
@[simp] theorem nullConns_T (s : St) (c : Nat) : (nullConns s c).T = s.T := rfl
@[simp] theorem nullConns_G (s : St) (c : Nat) : (nullConns s c).G = s.G := rfl
@[simp] theorem nullConns_impls (s : St) (c : Nat) : (nullConns s c).impls = s.impls := rfl

/-! `nullConnsList` writes `C`, `K`, `ownedK` only -/

@[simp] theorem nullConnsList_S (cs : List Nat) (s : St) : (nullConnsList s cs).S = s.S :=
  foldl_frame nullConns (·.S) (fun _ _ => rfl) cs s

@[simp] theorem nullConnsList_G (cs : List Nat) (s : St) : (nullConnsList s cs).G = s.G :=
  foldl_frame nullConns (·.G) (fun _ _ => rfl) cs s

@[simp] theorem nullConnsList_impls (cs : List Nat) (s : St) : (nullConnsList s cs).impls = s.impls :=
  foldl_frame nullConns (·.impls) (fun _ _ => rfl) cs s

@[simp] theorem nullConnsList_T (cs : List Nat) (s : St) : (nullConnsList s cs).T = s.T :=
  foldl_frame nullConns (·.T) (fun _ _ => rfl) cs s

@[simp] theorem nullConnsList_next (cs : List Nat) (s : St) : (nullConnsList s cs).next = s.next :=
  foldl_frame nullConns (·.next) (fun _ _ => rfl) cs s

@[simp] theorem nullConnsList_err (cs : List Nat) (s : St) : (nullConnsList s cs).err = s.err :=
  foldl_frame nullConns (·.err) (fun _ _ => rfl) cs s

@[simp] theorem nullConnsList_ownedT (cs : List Nat) (s : St) : (nullConnsList s cs).ownedT = s.ownedT :=
  foldl_frame nullConns (·.ownedT) (fun _ _ => rfl) cs s

@[simp] theorem nullConnsList_ownedG (cs : List Nat) (s : St) : (nullConnsList s cs).ownedG = s.ownedG :=
  foldl_frame nullConns (·.ownedG) (fun _ _ => rfl) cs s

theorem filter_ne_self_of_not_mem (cs : List Cell) (m : Nat) (h : m ∉ cs.map (·.id)) :
    cs.filter (·.id ≠ m) = cs := by
  rw [List.filter_eq_self]
  intro c hc
  simp
  intro e; exact h (List.mem_map.mpr ⟨c, hc, e⟩)

theorem countP_filter_ne (cs : List Cell) (hn : (cs.map (·.id)).Nodup) (c : Cell) (hc : c ∈ cs)
    (p : Cell → Bool) :
    cs.countP p = (cs.filter (·.id ≠ c.id)).countP p + (if p c then 1 else 0) := by
  induction cs with
  | nil => simp at hc
  | cons x t ih =>
    simp only [List.map_cons, List.nodup_cons] at hn
    by_cases hx : x.id = c.id
    · have hxc : x = c := by
        rcases List.mem_cons.mp hc with e | e
        · exact e.symm
        · exfalso; apply hn.1; rw [hx]; exact List.mem_map.mpr ⟨c, e, rfl⟩
      subst hxc
      have : t.filter (fun y => !decide (y.id = x.id)) = t := by
        have := filter_ne_self_of_not_mem t x.id hn.1
        simpa using this
      simp [List.filter, List.countP_cons, this]
    · have hct : c ∈ t := by
        rcases List.mem_cons.mp hc with e | e
        · exact absurd (by rw [e]) hx
        · exact e
      have := ih hn.2 hct
      simp only [List.filter, hx, ne_eq, not_false_eq_true, decide_true, List.countP_cons, this]
      omega

theorem setImpl_setImpl (s : St) (i : Nat) (a b : Impl) : setImpl (setImpl s i a) i b = setImpl s i b := by
  simp [setImpl, Emit.aset_aset]

/-- the cell-wise update used by `updCell` -/
def updC (cid : Nat) (f : Cell → Cell) (c : Cell) : Cell := if c.id = cid then f c else c

theorem updCell_eq {s : St} {i : Nat} {im : Impl} (hi : aget s.impls i = some im) (cid : Nat) (f : Cell → Cell) :
    updCell s i cid f = setImpl s i { im with cells := im.cells.map (updC cid f) } := by
  simp only [updCell, hi]; rfl

theorem updCell_next (s : St) (i cid : Nat) (f : Cell → Cell) : (updCell s i cid f).next = s.next := by
  unfold updCell; split <;> rfl

theorem eraseCell_eq {s : St} {i : Nat} {im : Impl} (hi : aget s.impls i = some im) (cid : Nat) :
    eraseCell s i cid = nullConns (setImpl s i { im with cells := im.cells.filter (·.id ≠ cid) }) cid := by
  simp [eraseCell, hi]

theorem notifyParent_eq {s : St} {i : Nat} {im : Impl} (hi : aget s.impls i = some im) (cid : Nat) :
    notifyParent s i cid = if im.exec = 0 then eraseCell s i cid else setImpl s i { im with deferred := true } := by
  simp [notifyParent, hi]

theorem sweep_eq {s : St} {i : Nat} {im : Impl} (hi : aget s.impls i = some im) :
    sweep s i = nullConnsList (setImpl s i { im with deferred := false, cells := im.cells.filter (fun c => !c.slot.empty) })
      ((im.cells.filter (·.slot.empty)).map (·.id)) := by
  simp [sweep, hi]

theorem unrefExec_eq {s : St} {i : Nat} {im : Impl} (hi : aget s.impls i = some im) :
    unrefExec s i = if (im.exec - 1 = 0 && im.deferred) = true
      then sweep (setImpl s i { im with exec := im.exec - 1 }) i
      else setImpl s i { im with exec := im.exec - 1 } := by
  simp [unrefExec, hi]

/-- `set_parent` gives a slot without representation the dummy one -/
def normSlot (sl : SlotB) : SlotB :=
  match sl.rep with
  | none => { sl with rep := some { call := false, fn := none } }
  | some _ => sl

theorem insertCell_eq (s : St) (i : Nat) (first : Bool) (sl : SlotB) :
    insertCell s i first sl =
      match aget s.impls i with
      | none => (({ s with next := s.next + 1 } : St).fail "insert: no impl", s.next)
      | some im => (setImpl { s with next := s.next + 1 } i
          { im with cells := if first then ({ id := s.next, slot := normSlot sl, linked := true } : Cell) :: im.cells
                             else im.cells ++ [({ id := s.next, slot := normSlot sl, linked := true } : Cell)] }, s.next) := by
  cases hr : sl.rep <;> cases hi : aget s.impls i <;> simp [insertCell, St.fresh, normSlot, hr, hi]

theorem insertCell_next (s : St) (i : Nat) (first : Bool) (sl : SlotB) : (insertCell s i first sl).1.next = s.next + 1 := by
  rw [insertCell_eq]; split
  · unfold St.fail; split <;> rfl
  · rfl

theorem insertCell_some {s : St} {i : Nat} {im : Impl} (hi : aget s.impls i = some im) (first : Bool) (sl : SlotB) :
    insertCell s i first sl =
      (setImpl { s with next := s.next + 1 } i
        { im with cells := if first then ({ id := s.next, slot := normSlot sl, linked := true } : Cell) :: im.cells
                           else im.cells ++ [({ id := s.next, slot := normSlot sl, linked := true } : Cell)] }, s.next) := by
  rw [insertCell_eq, hi]

theorem getCell_eq_some {s : St} {cid i : Nat} {c : Cell} (h : getCell s cid = some (i, c)) :
    findCellImpl s.impls cid = some i ∧
    ∃ im, aget s.impls i = some im ∧ im.cells.find? (·.id = cid) = some c ∧ c ∈ im.cells ∧ c.id = cid := by
  unfold getCell at h
  split at h
  · cases h
  · rename_i j hj
    split at h
    · cases h
    · rename_i im him
      cases hf : im.cells.find? (·.id = cid) with
      | none => simp [hf] at h
      | some c' =>
        simp only [hf, Option.map_some, Option.some.injEq, Prod.mk.injEq] at h
        obtain ⟨rfl, rfl⟩ := h
        exact ⟨hj, im, him, hf, List.mem_of_find?_eq_some hf, by simpa using List.find?_some hf⟩

/-- the common shape of `disconnectCell` and `invalidateCell` -/
def touchCell (hf : SlotB → SlotB) (s : St) (cid : Nat) : St :=
  match getCell s cid with
  | none => s
  | some (i, c) =>
    let s := updCell s i cid (fun c => { c with slot := hf c.slot, linked := false })
    if c.linked then notifyParent s i cid else s

theorem disconnectCell_touch (s : St) (cid : Nat) : disconnectCell s cid = touchCell SlotB.disconnectRep s cid := rfl
theorem invalidateCell_touch (s : St) (cid : Nat) : invalidateCell s cid = touchCell SlotB.invalidate s cid := rfl

/-- what `touchCell hf` makes of the cell it finds -/
def touchC (hf : SlotB → SlotB) (c : Cell) : Cell := { c with slot := hf c.slot, linked := false }

theorem map_updC_filter (cs : List Cell) (cid : Nat) (f : Cell → Cell) (hid : ∀ c, (f c).id = c.id) :
    (cs.map (updC cid f)).filter (·.id ≠ cid) = cs.filter (·.id ≠ cid) := by
  induction cs with
  | nil => rfl
  | cons c t ih =>
    by_cases h : c.id = cid
    · simp [updC, h, hid, List.filter] at ih ⊢; exact ih
    · simp [updC, h, List.filter] at ih ⊢; exact ih

/-- the cell found is weakened and unlinked; if it was linked, it is erased at once (impl not emitting) or left for the sweep -/
theorem touchCell_eq (hf : SlotB → SlotB) {s : St} {cid i : Nat} {c : Cell} {im : Impl}
    (hg : getCell s cid = some (i, c)) (hi : aget s.impls i = some im) :
    touchCell hf s cid =
      if c.linked = true then
        if im.exec = 0 then eraseCell s i cid
        else setImpl s i { im with cells := im.cells.map (updC cid (touchC hf)), deferred := true }
      else setImpl s i { im with cells := im.cells.map (updC cid (touchC hf)) } := by
  have hi1 : ∀ im1, aget (setImpl s i im1).impls i = some im1 := fun _ => aget_aset_same _ _ _
  simp only [touchCell, hg]
  rw [updCell_eq hi]
  cases c.linked with
  | false => rfl
  | true =>
    simp only [if_true]
    rw [notifyParent_eq (hi1 _)]
    by_cases hx : im.exec = 0
    · rw [if_pos hx, if_pos hx, eraseCell_eq (hi1 _), setImpl_setImpl, eraseCell_eq hi]
      simp only
      rw [map_updC_filter im.cells cid (fun c => { c with slot := hf c.slot, linked := false }) (fun _ => rfl)]
    · rw [if_neg hx, if_neg hx, setImpl_setImpl]; rfl

/-! ## an invalidated slot value (`slot_base::notify`: the rep stays, `call_` is cleared, the functor released) -/

theorem tracksObj_invalidate (sl : SlotB) (o : Nat) : sl.invalidate.tracksObj o = false := by
  unfold SlotB.invalidate
  cases h : sl.rep <;> simp [SlotB.tracksObj, h]

theorem invalidate_empty (sl : SlotB) : sl.invalidate.empty = true := by
  unfold SlotB.invalidate
  cases h : sl.rep <;> simp [SlotB.empty, h]

theorem disconnectRep_empty (sl : SlotB) : sl.disconnectRep.empty = true := by
  unfold SlotB.disconnectRep; cases hr : sl.rep <;> simp [SlotB.empty, hr]

theorem disconnectRep_idem (sl : SlotB) : sl.disconnectRep.disconnectRep = sl.disconnectRep := by
  unfold SlotB.disconnectRep
  cases h : sl.rep <;> simp [h]

end Sigc.Model
