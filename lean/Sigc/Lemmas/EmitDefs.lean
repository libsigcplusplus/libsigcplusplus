import Sigc.Model
import Sigc.Lemmas.Basic
/-! the invariant `Inv` of the states between two steps of the interpreter, and the relation `Frame`: what any
code, user code included, may do to the impls that are emitting -/
namespace Sigc.Emit
open Sigc.Model

def cids (im : Impl) : List Nat := im.cells.map (·.id)

/-- the skeleton of an impl: cell id and "is an end marker" (`rep = none`), in list order.  `Frame.keep` is stated over it and
    not over `cids`: the emission that comes back must find its marker still a marker (`marker_found`) -/
def skel (im : Impl) : List (Nat × Bool) := im.cells.map (fun c => (c.id, c.slot.rep.isNone))

def markers (im : Impl) : Nat := im.cells.countP (fun c => c.slot.rep.isNone)

def execOf (s : St) (i : Nat) : Nat :=
  match aget s.impls i with
  | some im => im.exec
  | none => 0

def incallOf (s : St) (i : Nat) : Nat :=
  match aget s.S i with
  | some v => v.incall
  | none => 0

theorem cids_eq_skel (im : Impl) : cids im = (skel im).map (·.1) := by
  simp [cids, skel, List.map_map, Function.comp_def]

/-- the signal object a functor finally forwards to (a functor value is a chain of `nest`s) -/
def funTarget : Fun → Option (Nat × List Nat)
  | .leaf _ _ => none
  | .fwd o ts => some (o, ts)
  | .nest _ none => none
  | .nest _ (some f) => funTarget f
  | .owner _ _ _ => none

/-- a forwarder refers to a live signal object which is either pinned (`everFwd`, non-trackable) or
    tracked by the functor (trackable flavours) -/
def FunOK (G : List (Nat × Handle)) (fn : Fun) : Prop :=
  ∀ o ts, funTarget fn = some (o, ts) →
    ∃ g h, aget G g = some h ∧ h.obj = o ∧
      (if h.fl.isTrackable then h.trk ∈ ts else h.everFwd = true)

def SlotOK (G : List (Nat × Handle)) (sl : SlotB) : Prop :=
  ∀ r fn, sl.rep = some r → r.fn = some fn → FunOK G fn

/-- a signal object that is owned by a functor family (`ownG:`) is never pinned: if a forwarder was ever
    made of it, it is of a trackable flavour (so the forwarders track it and die with it) -/
def OwnOK (O : List (Nat × Nat)) (G : List (Nat × Handle)) : Prop :=
  ∀ p ∈ O, ∀ h, aget G p.2 = some h → h.everFwd = true → h.fl.isTrackable = true

/-- per-impl well-formedness; `k` is the number of `clear()`s in progress on it (0 at every operation boundary, 1 inside
    `clearImpl`).  `exec_count_` counts the emissions in progress, each of which holds a `signal_impl_holder` and has put its
    end marker (the placeholder of `temp_slot_list`) into the list, and the `clear()`s, which have neither. -/
structure ImplOK (k : Nat) (im : Impl) : Prop where
  nodup : (cids im).Nodup
  /-- `exec_count_` against the holders: one `signal_impl_holder` per emission -/
  eh : im.exec = im.holders + k
  /-- `exec_count_` against the markers: one end marker per emission -/
  mkr : markers im + k = im.exec
  /-- quiescent: the last one to leave sweeps, so nobody inside means no sweep pending -/
  q1 : im.exec = 0 → im.deferred = false
  /-- a cell whose rep has lost its parent record (unlinked) is disconnected (empty) -/
  l : ∀ c ∈ im.cells, c.linked = false → c.slot.empty = true
  /-- an unlinked cell other than a marker waits for the sweep: there is one only while `deferred` is set -/
  d : im.deferred = false → ∀ c ∈ im.cells, c.slot.rep.isNone = false → c.linked = true

/-- `off i` is the number of `clear()`s in progress on impl `i` (see `ImplOK`): the invariant as it holds inside
    `clearImpl`, which raises `exec_count_` of its impl for the time of the loop -/
structure InvX (off : Nat → Nat) (s : St) : Prop where
  /-- `keys`, `lt`, `disj` (with `ok.nodup`) are `Sigc.Inv.WF` spelt with `cids` (`InvX.wf`, back with `InvX.of_wf`) -/
  keys : (s.impls.map (·.1)).Nodup
  lt : ∀ i im, aget s.impls i = some im → i < s.next ∧ ∀ k ∈ cids im, k < s.next
  ok : ∀ i im, aget s.impls i = some im → ImplOK (off i) im
  disj : ∀ i j im jm, aget s.impls i = some im → aget s.impls j = some jm → i ≠ j →
            ∀ k ∈ cids im, k ∉ cids jm
  /-- `Sigc.Inv.HOK` spelt with `isSome` (`InvX.hok`) -/
  himpl : ∀ p ∈ s.G, ∀ i, p.2.impl = some i → (aget s.impls i).isSome = true
  /-- what a slot variable or a cell forwards to is a live signal object -/
  fwdS : ∀ i v, aget s.S i = some v → SlotOK s.G v.slot
  fwdC : ∀ i im, aget s.impls i = some im → ∀ c ∈ im.cells, SlotOK s.G c.slot
  noerr : s.err = none
  own : OwnOK s.ownedG s.G

abbrev Inv (s : St) : Prop := InvX (fun _ => 0) s

/-- what a piece of code may do: emission counters are restored, an impl that is emitting keeps its
    cell sequence as a contiguous block (nothing of it is erased), slot variables that are being
    called survive -/
structure Frame (s s' : St) : Prop where
  next : s.next ≤ s'.next
  exec : ∀ i, execOf s' i = execOf s i
  keep : ∀ i im, aget s.impls i = some im → 0 < im.exec →
    ∃ im', aget s'.impls i = some im' ∧ ∃ pre post, skel im' = pre ++ skel im ++ post
  vars : ∀ i, incallOf s' i = incallOf s i

theorem Frame.refl (s : St) : Frame s s :=
  ⟨Nat.le_refl _, fun _ => rfl, fun _ im h _ => ⟨im, h, [], [], by simp⟩, fun _ => rfl⟩

theorem execOf_pos {s : St} {i : Nat} {im : Impl} (h : aget s.impls i = some im) : execOf s i = im.exec := by
  simp [execOf, h]

theorem Frame.trans {a b c : St} (h1 : Frame a b) (h2 : Frame b c) : Frame a c := by
  refine ⟨Nat.le_trans h1.next h2.next, fun i => (h2.exec i).trans (h1.exec i), ?_,
          fun i => (h2.vars i).trans (h1.vars i)⟩
  intro i im hi hx
  obtain ⟨im1, hi1, p1, q1, k1⟩ := h1.keep i im hi hx
  have hx1 : 0 < im1.exec := by
    have := h1.exec i
    rw [execOf_pos hi1, execOf_pos hi] at this
    omega
  obtain ⟨im2, hi2, p2, q2, k2⟩ := h2.keep i im1 hi1 hx1
  refine ⟨im2, hi2, p2 ++ p1, q1 ++ q2, ?_⟩
  rw [k2, k1]; simp

/-- `Frame` only reads `next`, `impls` and the `incall`s of `S` -/
theorem Frame.of_impls {s s' : St} (hn : s.next ≤ s'.next) (hi : s'.impls = s.impls)
    (hv : ∀ i, incallOf s' i = incallOf s i) : Frame s s' :=
  ⟨hn, fun i => by simp [execOf, hi], fun i im h _ => ⟨im, hi ▸ h, [], [], by simp⟩, hv⟩

theorem Frame.of_eq {s s' : St} (hn : s.next ≤ s'.next) (hi : s'.impls = s.impls) (hS : s'.S = s.S) :
    Frame s s' :=
  .of_impls hn hi fun i => by simp [incallOf, hS]

end Sigc.Emit
