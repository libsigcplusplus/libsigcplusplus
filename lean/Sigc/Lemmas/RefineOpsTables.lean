import Sigc.Lemmas.RefineBasic
import Sigc.Lemmas.StepSlotsSpec
/-!
The operations without user code that leave the signals' lists alone: `mkFun`/`specTaint` agree on related states
(`mkFun_sim`); `StepSim` for the operations on trackables, slot variables, `newG`, connections and scoped connections.
-/
namespace Sigc.Refine
open Sigc.Model

theorem R.updT {s : St} {t : Spec.LSt} (hR : R s t) (x : List (Nat × Nat)) : R { s with T := x } { t with T := x } :=
  { hR with T := rfl }

theorem R.updS {s : St} {t : Spec.LSt} (hR : R s t) (x : List (Nat × SlotVar)) : R { s with S := x } { t with S := x } :=
  { hR with S := rfl }

theorem R.updG {s : St} {t : Spec.LSt} (hR : R s t) (x : List (Nat × Handle)) : R { s with G := x } { t with G := x } :=
  { hR with G := rfl }

theorem R.updOwnedT {s : St} {t : Spec.LSt} (hR : R s t) (x : List Nat) :
    R { s with ownedT := x } { t with ownedT := x } :=
  { hR with ownedT := rfl }

theorem R.updC {s : St} {t : Spec.LSt} (hR : R s t) {x y : List (Nat × Option Nat)}
    (h : AR (PtrR t.sigs t.next) x y) : R { s with C := x } { t with C := y } :=
  { hR with C := h }

theorem R.updK {s : St} {t : Spec.LSt} (hR : R s t) {x y : List (Nat × Option Nat)}
    (h : AR (PtrR t.sigs t.next) x y) : R { s with K := x } { t with K := y } :=
  { hR with K := h }

theorem R.updOwnedK {s : St} {t : Spec.LSt} (hR : R s t) {x y : List (Nat × Option Nat)}
    (h : AR (PtrR t.sigs t.next) x y) : R { s with ownedK := x } { t with ownedK := y } :=
  { hR with ownedK := h }

theorem R.updOwnedG {s : St} {t : Spec.LSt} (hR : R s t) (x : List (Nat × Nat)) :
    R { s with ownedG := x } { t with ownedG := x } :=
  { hR with ownedG := rfl }

theorem R.fresh {s : St} {t : Spec.LSt} (hR : R s t) :
    R { s with next := s.next + 1 } { t with next := t.next + 1 } :=
  { hR with
    C := ptrs_next (Nat.le_succ _) hR.C, K := ptrs_next (Nat.le_succ _) hR.K,
    ownedK := ptrs_next (Nat.le_succ _) hR.ownedK, next := by simp [hR.next] }

theorem R.fresh' {s : St} {t : Spec.LSt} (hR : R s t) :
    R { s with next := s.next + 1 } { t with next := s.next + 1 } := by
  have := hR.fresh
  rw [hR.next] at this
  exact this

theorem specTaint_sim {s : St} {t : Spec.LSt} (hR : R s t) (spec : FSpec) :
    Spec.specTaint t spec = Model.specTaint s spec := by
  cases spec with
  | nest sv => simp only [Spec.specTaint, Model.specTaint, hR.S]; cases aget s.S sv <;> rfl
  | fwd g => simp only [Spec.specTaint, Model.specTaint, hR.G]; cases aget s.G g <;> rfl
  | _ => rfl

def FunSim (t : Spec.LSt) : Except String (Fun × St) → Except String (Fun × Spec.LSt) → Prop
  | .ok (fn, s'), .ok (fn', t') => fn' = fn ∧ R s' t' ∧ t'.err = t.err
  | .error e, .error e' => e' = e
  | _, _ => False

theorem FunSim.error {t : Spec.LSt} (e : String) : FunSim t (.error e) (.error e) := rfl

theorem FunSim.ok {t t' : Spec.LSt} {s' : St} {fn : Fun} (hR : R s' t') (he : t'.err = t.err) :
    FunSim t (.ok (fn, s')) (.ok (fn, t')) := ⟨rfl, hR, he⟩

theorem mkFun_sim {s : St} {t : Spec.LSt} (hR : R s t) (v : Bool) (spec : FSpec) :
    FunSim t (Model.mkFun s v spec) (Spec.mkFun t v spec) := by
  cases spec with
  | fn fid => exact .ok hR rfl
  | mem fid t0 | bref fid t0 =>
    dsimp only [Model.mkFun, Spec.mkFun]
    rw [hR.T]
    cases aget s.T t0 with
    | none => exact .error _
    | some o => exact .ok hR rfl
  | trk fid t1 t2 =>
    dsimp only [Model.mkFun, Spec.mkFun]
    rw [hR.T]
    cases aget s.T t1 with
    | none => exact .error _
    | some o1 =>
      cases t2 with
      | none => exact .ok hR rfl
      | some t2 =>
        dsimp only
        cases aget s.T t2 with
        | none => exact .error _
        | some o2 => exact .ok hR rfl
  | nest sv =>
    dsimp only [Model.mkFun, Spec.mkFun]
    rw [hR.S]
    cases aget s.S sv with
    | none => exact .error _
    | some v0 => exact sim_ite (fun _ => .error _) (fun _ => .ok hR rfl)
  | fwd g =>
    dsimp only [Model.mkFun, Spec.mkFun]
    rw [hR.G]
    cases aget s.G g with
    | none => exact .error _
    | some h =>
      exact sim_ite (fun _ => .error _) (fun _ => sim_ite (fun _ => .error _) (fun _ => .ok (hR.updG _) rfl)
        (by rw [hR.ownedG]))
  | ownT fid t0 =>
    dsimp only [Model.mkFun, Spec.mkFun]
    rw [hR.T, hR.ownedT]
    cases aget s.T t0 with
    | none => exact .error _
    | some o => exact .ok ((hR.updT _).updOwnedT _) rfl
  | ownK fid k =>
    dsimp only [Model.mkFun, Spec.mkFun, St.fresh, Spec.LSt.fresh]
    rw [hR.next]
    exact (hR.K.getOR k).on (.error _) fun hr => .ok ((hR.fresh'.updK (hR.fresh'.K.del k)).updOwnedK
      (hR.fresh'.ownedK.cons s.next (hr.mono (by rw [hR.next]; exact Nat.le_succ _) (SigsLe.refl _ _)))) rfl
  | ownG fid g =>
    dsimp only [Model.mkFun, Spec.mkFun]
    rw [hR.G]
    cases aget s.G g with
    | none => exact .error _
    | some h =>
      simp only [St.fresh, Spec.LSt.fresh, hR.next, hR.ownedG]
      exact sim_ite (fun _ => .error _) (fun _ => sim_ite (fun _ => .error _) (fun _ => .ok (hR.fresh'.updOwnedG _) rfl))
  | bad => exact .error _

theorem mkFun_sim_err {s : St} {t : Spec.LSt} (hR : R s t) (v : Bool) (spec : FSpec) {e : String}
    (h : Model.mkFun s v spec = .error e) : Spec.mkFun t v spec = .error e := by
  have hf := mkFun_sim hR v spec
  rw [h] at hf
  cases hm : Spec.mkFun t v spec with
  | error e' => rw [hm] at hf; rw [show e' = e from hf]
  | ok p => rw [hm] at hf; exact hf.elim

theorem mkFun_sim_ok {s : St} {t : Spec.LSt} (hR : R s t) (v : Bool) (spec : FSpec) {fn : Fun} {s' : St}
    (h : Model.mkFun s v spec = .ok (fn, s')) :
    ∃ t', Spec.mkFun t v spec = .ok (fn, t') ∧ R s' t' ∧ t'.err = t.err := by
  have hf := mkFun_sim hR v spec
  rw [h] at hf
  cases hm : Spec.mkFun t v spec with
  | error e' => rw [hm] at hf; exact hf.elim
  | ok p =>
    rw [hm] at hf
    obtain ⟨rfl, hR', he⟩ := hf
    exact ⟨p.2, rfl, hR', he⟩

local macro "leaf" h:ident hR:term : tactic =>
  `(tactic| (cases $h:ident; exact ⟨_, _, rfl, $hR, .refl _⟩))

theorem step_newT (k : Nat) : StepSim (.newT k) := by
  intro s t hs hR hq
  dsimp only [Model.stepSimple, Spec.stepSimple]
  rw [hR.T]
  cases aget s.T k with
  | some o => exact .same hR _
  | none =>
    simp only [St.fresh, Spec.LSt.fresh, hR.next, hR.T]
    exact .ok (hR.fresh'.updT _) rfl

theorem step_cpT (j i : Nat) : StepSim (.cpT j i) := by
  intro s t hs hR hq
  dsimp only [Model.stepSimple, Spec.stepSimple]
  rw [hR.T]
  cases aget s.T i with
  | none => exact .same hR _
  | some oi =>
    cases aget s.T j with
    | some oj => exact .same hR _
    | none =>
      simp only [St.fresh, Spec.LSt.fresh, hR.next, hR.T]
      exact .ok (hR.fresh'.updT _) rfl

/-! the operations on slot variables: `R` (with the error mark) survives a common write to `S` and `mkFun`, so
    `StepSlots.slotOp_sim` applies -/

theorem slotRel (t0 : Spec.LSt) :
    StepSlots.SlotRel (fun s t => R s t ∧ t.err = t0.err) (fun s t => R s t ∧ t.err = t0.err) where
  S h := h.1.S
  weak h := h
  updS h x := ⟨h.1.updS x, h.2⟩
  taint h := specTaint_sim h.1
  made {s t} h b spec := by
    have hm := mkFun_sim h.1 b spec
    rcases h1 : Model.mkFun s b spec with e1 | ⟨f1, s1⟩ <;> rcases h2 : Spec.mkFun t b spec with e2 | ⟨f2, t1⟩ <;>
      rw [h1, h2] at hm
    · exact hm
    · exact hm
    · exact hm
    · exact ⟨hm.1, hm.2.1, hm.2.2.trans h.2⟩

theorem AnsSim.ofQ {t : Spec.LSt} {x : Option (St × String)} {y : Option (Spec.LSt × String)}
    (h : StepSlots.AnsQ (fun s t' => R s t' ∧ t'.err = t.err) x y) : AnsSim t x y := by
  rcases x with _ | ⟨s', r⟩ <;> rcases y with _ | ⟨t', r'⟩
  · trivial
  · exact h
  · exact h
  · exact ⟨h.1.1, h.1.2, Or.inl h.2⟩

theorem step_slotOp (op : Op) (ws : List Nat) (hw : StepSlots.slotWrites op = some ws) : StepSim op :=
  fun _ t _ hR _ => .ofQ (StepSlots.slotOp_sim (slotRel t) ⟨hR, rfl⟩ op ws hw)

theorem step_boolSq (i : Nat) : StepSim (.boolSq i) := by
  intro s t hs hR hq
  dsimp only [Model.stepSimple, Spec.stepSimple]
  rw [hR.S]
  cases aget s.S i <;> exact .same hR _

theorem step_newG (i : Nat) (fl : Option Flavour) : StepSim (.newG i fl) := by
  intro s t hs hR hq
  dsimp only [Model.stepSimple, Spec.stepSimple]
  rw [hR.G]
  cases fl with
  | none => exact .same hR _
  | some fl =>
    cases aget s.G i with
    | some g => exact .same hR _
    | none =>
      simp only [St.fresh, Spec.LSt.fresh, hR.next, hR.G]
      exact .ok (hR.fresh'.fresh'.updG _) rfl

theorem step_mark : StepSim .mark := fun _ _ _ hR _ => .same hR _

theorem step_bad : StepSim .bad := fun _ _ _ hR _ => .same hR _

theorem step_allocsq : StepSim .allocsq := fun _ _ _ hR _ => .res hR rfl (Or.inr rfl)

/-- the operations on one entry of a table of connection ids (the connections `C`, the scoped connections `K`)
    answer "dead" where there is none, and otherwise act on related ids.  The `match` is the one the arms of
    `stepSimple` are written with, so that an arm is an instance of the statement as it stands -/
theorem sim_ptr {s : St} {t : Spec.LSt} (hR : R s t) {A B : List (Nat × Option Nat)} (hAB : AR (PtrR t.sigs t.next) A B)
    (k : Nat) {f : Option Nat → Option (St × String)} {g : Option Nat → Option (Spec.LSt × String)}
    (hfg : ∀ {a b}, PtrR t.sigs t.next a b → AnsSim t (f a) (g b)) :
    AnsSim t (match aget A k with | none => some (s, "dead") | some p => f p)
      (match aget B k with | none => some (t, "dead") | some p => g p) :=
  (hAB.getOR k).on (.same hR _) hfg

theorem step_newC (i : Nat) : StepSim (.newC i) := by
  intro s t hs hR hq
  dsimp only [Model.stepSimple, Spec.stepSimple, Model.setConn]
  exact (hR.C.getOR i).on (.ok (hR.updC (hR.C.set i (PtrR.rfl' none))) rfl) fun _ => .same hR _

theorem step_cpC (j i : Nat) : StepSim (.cpC j i) :=
  fun _ _ _ hR _ => sim_ptr hR hR.C i fun hr => (hR.C.getOR j).on (.ok (hR.updC (hR.C.set j hr)) rfl) fun _ => .same hR _

theorem step_asgC (j i : Nat) : StepSim (.asgC j i) := by
  intro s t hs hR hq
  dsimp only [Model.stepSimple, Spec.stepSimple, Model.setConn]
  exact (hR.C.getOR j).on (.same hR _) fun _ => (hR.C.getOR i).on (.same hR _) fun hr => .ok (hR.updC (hR.C.set j hr)) rfl

theorem step_delC (i : Nat) : StepSim (.delC i) :=
  fun _ _ _ hR _ => sim_ptr hR hR.C i fun _ => .ok (hR.updC (hR.C.del i)) rfl

theorem step_newK0 (i : Nat) : StepSim (.newK0 i) := by
  intro s t hs hR hq
  dsimp only [Model.stepSimple, Spec.stepSimple]
  exact (hR.K.getOR i).on (.ok (hR.updK (hR.K.set i (PtrR.rfl' none))) rfl) fun _ => .same hR _

theorem step_newK (i c : Nat) : StepSim (.newK i c) :=
  fun _ _ _ hR _ => sim_ptr hR hR.C c fun hr => (hR.K.getOR i).on (.ok (hR.updK (hR.K.set i hr)) rfl) fun _ => .same hR _

theorem step_mvK (j i : Nat) : StepSim (.mvK j i) :=
  fun _ _ _ hR _ => sim_ptr hR hR.K i fun hr =>
    (hR.K.getOR j).on (.ok (hR.updK ((hR.K.set i (PtrR.rfl' none)).set j hr)) rfl) fun _ => .same hR _

theorem step_swapK (i j : Nat) : StepSim (.swapK i j) := by
  intro s t hs hR hq
  dsimp only [Model.stepSimple, Spec.stepSimple]
  exact (hR.K.getOR i).on (.same hR _) fun hr => (hR.K.getOR j).on (.same hR _) fun hr' =>
    .ok (hR.updK ((hR.K.set i hr').set j hr)) rfl

theorem step_relK (c k : Nat) : StepSim (.relK c k) :=
  fun _ _ _ hR _ => sim_ptr hR hR.K k fun hr => .ok ((hR.updK (hR.K.set k (PtrR.rfl' none))).updC (hR.C.set c hr)) rfl

end Sigc.Refine
