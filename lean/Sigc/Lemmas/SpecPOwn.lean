import Sigc.Lemmas.SpecPDefs
/-!
# SpecPOwn — objects owned by functors in `S`: `dropHandle`, `collectStep`, `collect`

`collect` only ever *releases*: the owned lists shrink, no signal object appears, no functor copy holding an owner id
appears (`Shrink`).  That it runs until every remaining owned object is held is `Spec.collectStep_collect`.
-/
namespace Sigc.SpecP
open Sigc.Spec
-- not all of `Sigc.Model`: it has transformers of the same names as `Sigc.Spec` (`updCell`, `insertCell`, …), which
-- `unfold`, `rw` could not tell apart
open Sigc.Model (aget aset adel amap Prog Line Op FSpec Fun SlotB SlotVar Rep Handle Flavour Strat Outcome Event
  aget_nil aget_aset_same aget_aset_other aget_amap aget_adel_same aget_adel_other)

theorem gcSig_frame (s : LSt) (i : Nat) :
    (gcSig s i).G = s.G ∧ (gcSig s i).S = s.S ∧ (gcSig s i).ownedT = s.ownedT ∧
    (gcSig s i).ownedK = s.ownedK ∧ (gcSig s i).ownedG = s.ownedG := by
  rw [gcSig_only_sigs s i]; exact ⟨rfl, rfl, rfl, rfl, rfl⟩

theorem dropHandle_owned (s : LSt) (g : Nat) :
    (dropHandle s g).ownedT = s.ownedT ∧ (dropHandle s g).ownedK = s.ownedK ∧ (dropHandle s g).ownedG = s.ownedG := by
  rw [dropHandle_fields s g]; exact ⟨rfl, rfl, rfl⟩

theorem dropHandle_keeps_list (s : LSt) (g im : Nat) (p : Nat × Handle) (x : LSig) (hp : p ∈ s.G) (hne : p.1 ≠ g)
    (hi : p.2.impl = some im) (hx : aget s.sigs im = some x) :
    ∃ x', aget (dropHandle s g).sigs im = some x' ∧ x'.active = x.active ∧
      ((∀ h, aget s.G g = some h → h.fl.isTrackable = false) → x' = x) := by
  cases hg : aget s.G g with
  | none => rw [dropHandle_dead s g hg]; exact ⟨x, hx, rfl, fun _ => rfl⟩
  | some h =>
    rw [dropHandle_eq s g h hg]
    have key : ∀ (s1 : LSt) (x1 : LSig), s1.G = s.G → aget s1.sigs im = some x1 →
        aget (match h.impl with
              | some i => gcSig { s1 with G := adel s1.G g } i
              | none => { s1 with G := adel s1.G g }).sigs im = some x1 := by
      intro s1 x1 e1 e2
      cases hh : h.impl with
      | none => exact e2
      | some i =>
        dsimp only
        by_cases hii : im = i
        · subst hii
          rw [gcSig_eq { s1 with G := adel s1.G g } _ x1 e2, if_neg]
          · exact e2
          · refine fun hc => hc.2 p ?_ hi
            simp only [adel, List.mem_filter, decide_eq_true_eq, e1]
            exact ⟨hp, hne⟩
        · rw [gcSig_sigs_other _ _ _ hii]; exact e2
    cases ht : h.fl.isTrackable with
    | false =>
      simp only [Bool.false_eq_true, if_false]
      exact ⟨x, key s x rfl hx, rfl, fun _ => rfl⟩
    | true =>
      simp only [if_true]
      refine ⟨x.remove s.k1 s.k2 true (fun c => c.slot.tracksObj h.trk), key _ _ rfl ?_, rfl, ?_⟩
      · simp only [invalidateTrackable, aget_amap, hx, Option.map_some]
      · intro hall
        rw [hall h rfl] at ht
        cases ht

/-! ## functor copies holding an owned object: only ever fewer -/

/-- some functor copy kept by list `g` (in an entry, or in a slot disconnected during an emission) holds `k` -/
def sigHoldsK (g : LSig) (k : Nat) : Bool :=
  g.cells.any (fun c => c.slot.holdsK k) || g.limbo.any (fun sl => sl.holdsK k)

theorem heldK_eq (s : LSt) (k : Nat) :
    heldK s k = (s.S.any (fun p => p.2.slot.holdsK k) || s.sigs.any (fun p => sigHoldsK p.2 k)) := rfl

theorem holdsK_invalidate (sl : SlotB) (k : Nat) : sl.invalidate.holdsK k = false := by
  obtain ⟨b, rep⟩ := sl
  cases rep <;> rfl

theorem holdsK_disconnectRep (sl : SlotB) (k : Nat) : sl.disconnectRep.holdsK k = sl.holdsK k := by
  obtain ⟨b, rep⟩ := sl
  cases rep with
  | none => rfl
  | some r =>
    obtain ⟨call, fn⟩ := r
    cases fn <;> rfl

theorem remove_sigHoldsK (g : LSig) (k1 k2 d : Bool) (p : LCell → Bool) (k : Nat)
    (h : sigHoldsK (g.remove k1 k2 d p) k = true) : sigHoldsK g k = true := by
  simp only [sigHoldsK, Bool.or_eq_true, List.any_eq_true] at h ⊢
  unfold LSig.remove at h
  simp only at h
  rcases h with ⟨c, hc, hk⟩ | ⟨sl, hsl, hk⟩
  · split at hc
    · obtain ⟨c0, hc0, rfl⟩ := List.mem_map.1 hc
      split at hk
      · cases d
        · simp only [Bool.false_eq_true, if_false, holdsK_disconnectRep] at hk
          exact Or.inl ⟨c0, hc0, hk⟩
        · simp [holdsK_invalidate] at hk
      · exact Or.inl ⟨c0, hc0, hk⟩
    · exact Or.inl ⟨c, (List.mem_filter.1 hc).1, hk⟩
  · split at hsl
    · rcases List.mem_append.1 hsl with hsl | hsl
      · exact Or.inr ⟨sl, hsl, hk⟩
      · obtain ⟨c0, hc0, rfl⟩ := List.mem_map.1 hsl
        exact Or.inl ⟨c0, (List.mem_filter.1 hc0).1, hk⟩
    · exact Or.inr ⟨sl, hsl, hk⟩

structure Shrink (s s' : LSt) : Prop where
  held : ∀ k, heldK s' k = true → heldK s k = true
  G : ∀ g, aget s.G g = none → aget s'.G g = none
  oT : s'.ownedT.Sublist s.ownedT
  oK : s'.ownedK.Sublist s.ownedK
  oG : s'.ownedG.Sublist s.ownedG

theorem Shrink.refl (s : LSt) : Shrink s s :=
  ⟨fun _ h => h, fun _ h => h, List.Sublist.refl _, List.Sublist.refl _, List.Sublist.refl _⟩

theorem Shrink.trans {s s' s'' : LSt} (h1 : Shrink s s') (h2 : Shrink s' s'') : Shrink s s'' :=
  ⟨fun k h => h1.held k (h2.held k h), fun g h => h2.G g (h1.G g h), h2.oT.trans h1.oT, h2.oK.trans h1.oK,
   h2.oG.trans h1.oG⟩

theorem shrink_frame {s s' : LSt} (hS : s'.S = s.S) (hs : s'.sigs = s.sigs) (hG : ∀ g, aget s.G g = none → aget s'.G g = none)
    (oT : s'.ownedT.Sublist s.ownedT) (oK : s'.ownedK.Sublist s.ownedK) (oG : s'.ownedG.Sublist s.ownedG) :
    Shrink s s' :=
  ⟨fun k h => by rw [heldK_eq] at h ⊢; rw [hS, hs] at h; exact h, hG, oT, oK, oG⟩

theorem shrink_invalidate (s : LSt) (t : Nat) : Shrink s (invalidateTrackable s t) := by
  refine ⟨?_, fun _ h => h, List.Sublist.refl _, List.Sublist.refl _, List.Sublist.refl _⟩
  intro k h
  rw [heldK_eq] at h ⊢
  simp only [invalidateTrackable, amap, Bool.or_eq_true, List.any_eq_true, List.mem_map] at h ⊢
  rcases h with ⟨p, ⟨p0, hp0, rfl⟩, hk⟩ | ⟨p, ⟨p0, hp0, rfl⟩, hk⟩
  · simp only at hk
    split at hk
    · simp [holdsK_invalidate] at hk
    · exact Or.inl ⟨p0, hp0, hk⟩
  · exact Or.inr ⟨p0, hp0, remove_sigHoldsK _ _ _ _ _ _ hk⟩

theorem shrink_setSig (s : LSt) (i : Nat) (g g' : LSig) (hg : aget s.sigs i = some g)
    (hh : ∀ k, sigHoldsK g' k = true → sigHoldsK g k = true) : Shrink s (setSig s i g') := by
  refine ⟨?_, fun _ h => h, List.Sublist.refl _, List.Sublist.refl _, List.Sublist.refl _⟩
  intro k h
  rw [heldK_eq] at h ⊢
  simp only [setSig, Bool.or_eq_true, List.any_eq_true] at h ⊢
  rcases h with h | ⟨p, hp, hk⟩
  · exact Or.inl h
  · rcases Emit.mem_aset hp with hp | rfl
    · exact Or.inr ⟨p, hp, hk⟩
    · exact Or.inr ⟨(i, g), Emit.aget_some_mem hg, hh k hk⟩

theorem shrink_releases : Releases Shrink where
  refl := Shrink.refl
  trans := Shrink.trans
  remove _ _ hg := shrink_setSig _ _ _ _ hg (fun _ h => remove_sigHoldsK _ _ _ _ _ _ h)
  invalidate := shrink_invalidate
  delSig _ _ := by
    refine ⟨?_, fun _ h => h, List.Sublist.refl _, List.Sublist.refl _, List.Sublist.refl _⟩
    intro k h
    rw [heldK_eq] at h ⊢
    simp only [adel, Bool.or_eq_true, List.any_eq_true, List.mem_filter] at h ⊢
    rcases h with h | ⟨p, hp, hk⟩
    · exact Or.inl h
    · exact Or.inr ⟨p, hp.1, hk⟩
  delG _ _ := shrink_frame rfl rfl (fun g' hg' => by rw [Emit.aget_adel, hg', ite_self]) (.refl _) (.refl _) (.refl _)
  ownedT _ _ := shrink_frame rfl rfl (fun _ h => h) List.filter_sublist (.refl _) (.refl _)
  ownedK _ _ := shrink_frame rfl rfl (fun _ h => h) (.refl _) List.filter_sublist (.refl _)
  ownedG _ _ := shrink_frame rfl rfl (fun _ h => h) (.refl _) (.refl _) List.filter_sublist

theorem collectN_drops (k g : Nat) (n : Nat) : ∀ s, ownMeasure s ≤ n → (s.ownedG.map (·.1)).Nodup →
    (k, g) ∈ s.ownedG → heldK s k = false →
    aget (collectN n s).G g = none ∧ ∀ g', (k, g') ∉ (collectN n s).ownedG := by
  induction n with
  | zero =>
    intro s h _ hm _
    simp only [ownMeasure] at h
    have hG : s.ownedG = [] := List.eq_nil_of_length_eq_zero (by omega)
    rw [hG] at hm; cases hm
  | succ n ih =>
    intro s h hnd hm hh
    unfold collectN
    cases hs : collectStep s with
    | none =>
      have := ((collectStep_none_iff s).1 hs).2.2 _ hm
      rw [hh] at this; cases this
    | some s' =>
      dsimp only
      have hlt := collectStep_measure s s' hs
      have hsh := shrink_releases.collectStep hs
      by_cases hm' : (k, g) ∈ s'.ownedG
      · refine ih s' (by omega) ((hsh.oG.map _).nodup hnd) hm' ?_
        cases e : heldK s' k with
        | false => rfl
        | true => rw [hsh.held k e] at hh; cases hh
      · -- `(k, g)` is no longer owned: this step was the one that released it
        have hsh2 := shrink_releases.collectN n s'
        suffices hdone : aget s'.G g = none ∧ ∀ g', (k, g') ∉ s'.ownedG from
          ⟨hsh2.G g hdone.1, fun g' hc => hdone.2 g' (hsh2.oG.subset hc)⟩
        rcases collectStep_cases s s' hs with ⟨o, _, rfl⟩ | ⟨k1, p, _, _, rfl⟩ | ⟨k1, g1, _, _, hG, rfl⟩
        · exact absurd hm hm'
        · cases p with
          | none => exact absurd hm hm'
          | some cid => dsimp only at hm'; rw [removeCell_only_sigs] at hm'; exact absurd hm hm'
        · rw [(dropHandle_owned _ _).2.2] at hm'
          simp only [List.mem_filter, decide_eq_true_eq, not_and, Decidable.not_not] at hm'
          cases hm' hm
          -- owner ids are distinct: the entry found is `(k, g)`
          cases Option.some.inj ((Emit.aget_of_mem_nodup hnd (List.mem_of_find?_eq_some hG)).symm.trans
            (Emit.aget_of_mem_nodup hnd hm))
          refine ⟨(dropHandle_G _ _ _).trans (aget_adel_same _ _), fun g' => ?_⟩
          rw [(dropHandle_owned _ _).2.2]
          simp [List.mem_filter]

theorem insertCell_frame (s : LSt) (i : Nat) (first : Bool) (sl : SlotB) :
    (insertCell s i first sl).1.G = s.G ∧ (insertCell s i first sl).1.ownedG = s.ownedG ∧
    (insertCell s i first sl).2 = s.next := by
  unfold insertCell
  simp only [LSt.fresh]
  split
  · simp only [LSt.fail]
    split <;> exact ⟨rfl, rfl, trivial⟩
  · exact ⟨rfl, rfl, rfl⟩

end Sigc.SpecP
