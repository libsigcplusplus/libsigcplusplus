import Sigc.Lemmas.InvTracks
/-!
# `Bal`: no `signal_impl` is orphaned

`holders` of every impl equals the number `h i` of emissions currently running on it (a ghost index that
the emission prologue increments and the epilogue decrements), and every impl is referenced by a live
signal object or by a running emission.  At top level `h = 0`: every impl is owned by a handle.
-/
namespace Sigc.Inv
open Sigc.Model
open Sigc.Emit (aget_aset aget_adel keys_nodup_aset keys_nodup_adel aget_of_mem_nodup)

def Ref (G : List (Nat × Handle)) (i : Nat) : Prop := ∃ g hd, aget G g = some hd ∧ hd.impl = some i

/-- `Bal` with a pending impl `x`.  Its clauses, addressed as `.1`, `.2.1`, `.2.2`: the names of `G` are unique; every impl `i`
    has `holders = h i` and is pending (`some i = x`: its reference was just dropped and `gcImpl` is about to examine it),
    emitting (`h i > 0`) or referenced by a handle; `h` vanishes from `next` on. -/
def BalW (h : Nat → Nat) (x : Option Nat) (impls : List (Nat × Impl)) (G : List (Nat × Handle)) (next : Nat) :
    Prop :=
  (G.map (·.1)).Nodup ∧
  (∀ i im, aget impls i = some im → im.holders = h i ∧ (some i = x ∨ h i > 0 ∨ Ref G i)) ∧
  (∀ i, next ≤ i → h i = 0)

def Bal (h : Nat → Nat) (s : St) : Prop := BalW h none s.impls s.G s.next

theorem Bal.init : Bal (fun _ => 0) {} :=
  ⟨List.nodup_nil, fun i im hi => by simp [aget] at hi, fun _ _ => rfl⟩

theorem BalW.weaken {h : Nat → Nat} {x : Option Nat} {impls : List (Nat × Impl)} {G : List (Nat × Handle)}
    {n : Nat} (hb : BalW h none impls G n) : BalW h x impls G n :=
  ⟨hb.1, fun i im hi => ⟨(hb.2.1 i im hi).1, by
      rcases (hb.2.1 i im hi).2 with e | e
      · cases e
      · exact Or.inr e⟩, hb.2.2⟩

theorem BalW.mono_next {h : Nat → Nat} {x : Option Nat} {impls : List (Nat × Impl)} {G : List (Nat × Handle)}
    {n n' : Nat} (hb : BalW h x impls G n) (hn : n ≤ n') : BalW h x impls G n' :=
  ⟨hb.1, hb.2.1, fun i hi => hb.2.2 i (Nat.le_trans hn hi)⟩

theorem BalW.aset_same {h : Nat → Nat} {x : Option Nat} {impls : List (Nat × Impl)} {G : List (Nat × Handle)}
    {n : Nat} (hb : BalW h x impls G n) {i : Nat} {im im' : Impl} (hi : aget impls i = some im)
    (hh : im'.holders = im.holders) : BalW h x (aset impls i im') G n := by
  refine ⟨hb.1, ?_, hb.2.2⟩
  intro j jm hj
  rw [aget_aset] at hj
  split at hj
  · rename_i e; subst e; cases hj
    exact ⟨hh.trans (hb.2.1 j im hi).1, (hb.2.1 j im hi).2⟩
  · exact hb.2.1 j jm hj

theorem BalW.adel {h : Nat → Nat} {x : Option Nat} {impls : List (Nat × Impl)} {G : List (Nat × Handle)}
    {n : Nat} (hb : BalW h x impls G n) (i : Nat) : BalW h x (Model.adel impls i) G n := by
  refine ⟨hb.1, ?_, hb.2.2⟩
  intro j jm hj
  rw [aget_adel] at hj
  split at hj
  · cases hj
  · exact hb.2.1 j jm hj

theorem BalW.setG {h : Nat → Nat} {impls : List (Nat × Impl)} {G G' : List (Nat × Handle)} {n : Nat}
    (hb : BalW h none impls G n) (y : Option Nat) (hk : (G'.map (·.1)).Nodup)
    (hr : ∀ i, Ref G i → some i = y ∨ Ref G' i) : BalW h y impls G' n := by
  refine ⟨hk, ?_, hb.2.2⟩
  intro j jm hj
  refine ⟨(hb.2.1 j jm hj).1, ?_⟩
  rcases (hb.2.1 j jm hj).2 with e | e | e
  · cases e
  · exact Or.inr (Or.inl e)
  · rcases hr j e with a | a
    · exact Or.inl a
    · exact Or.inr (Or.inr a)

theorem BalW.prims (h : Nat → Nat) (x : Option Nat) : PrimsA (fun s => BalW h x s.impls s.G s.next) where
  upd s i im g e d _ hb hi _ := hb.aset_same hi rfl
  filter s i im p d ids _ hb hi _ := by
    show BalW h x (nullConnsList _ _).impls (nullConnsList _ _).G (nullConnsList _ _).next
    simp only [nullConnsList_impls, nullConnsList_G, nullConnsList_next]
    exact hb.aset_same hi rfl
  delImpl s i im _ hb _ _ _ := by
    show BalW h x (nullConnsList _ _).impls (nullConnsList _ _).G (nullConnsList _ _).next
    simp only [nullConnsList_impls, nullConnsList_G, nullConnsList_next]
    exact hb.adel i
  invalS s t _ hb := hb

theorem BalW.gcImpl {h : Nat → Nat} {s : St} {i : Nat} (hb : BalW h (some i) s.impls s.G s.next) :
    Bal h (gcImpl s i) := by
  unfold Model.gcImpl
  split
  · rename_i hn
    refine ⟨hb.1, ?_, hb.2.2⟩
    intro j jm hj
    refine ⟨(hb.2.1 j jm hj).1, ?_⟩
    rcases (hb.2.1 j jm hj).2 with e | e
    · have e' : j = i := Option.some.inj e
      rw [e', hn] at hj; cases hj
    · exact Or.inr e
  · rename_i im hi
    split
    · show BalW h none (nullConnsList _ _).impls (nullConnsList _ _).G (nullConnsList _ _).next
      simp only [nullConnsList_impls, nullConnsList_G, nullConnsList_next]
      refine ⟨hb.1, ?_, hb.2.2⟩
      intro j jm hj
      rw [aget_adel] at hj
      split at hj
      · cases hj
      · rename_i hne
        refine ⟨(hb.2.1 j jm hj).1, ?_⟩
        rcases (hb.2.1 j jm hj).2 with e | e
        · exact absurd (Option.some.inj e) hne
        · exact Or.inr e
    · rename_i hc
      refine ⟨hb.1, ?_, hb.2.2⟩
      intro j jm hj
      refine ⟨(hb.2.1 j jm hj).1, ?_⟩
      rcases (hb.2.1 j jm hj).2 with e | e
      · have e' : j = i := Option.some.inj e
        rw [e', hi] at hj
        rw [e']
        cases hj
        simp only [Bool.and_eq_true, decide_eq_true_eq, Bool.not_eq_true', not_and, Bool.not_eq_false] at hc
        by_cases h0 : im.holders = 0
        · have := hc h0
          obtain ⟨p, hp, he⟩ := List.any_eq_true.1 this
          exact Or.inr (Or.inr ⟨p.1, p.2, aget_of_mem_nodup hb.1 hp, by simpa using he⟩)
        · right; left
          rw [← (hb.2.1 i im hi).1]; omega
      · exact Or.inr e

theorem ref_step_aset {G : List (Nat × Handle)} {g : Nat} {hd' : Handle} (old : Option Nat)
    (hold : ∀ hd, aget G g = some hd → hd.impl = old ∨ hd.impl = hd'.impl) :
    ∀ i, Ref G i → some i = old ∨ Ref (aset G g hd') i := by
  rintro i ⟨g0, hd0, hg0, hi0⟩
  by_cases e : g0 = g
  · subst e
    rcases hold hd0 hg0 with a | a
    · left; rw [← a, hi0]
    · right; exact ⟨g0, hd', by simp, a ▸ hi0⟩
  · right; exact ⟨g0, hd0, by rw [aget_aset_other _ _ _ _ e]; exact hg0, hi0⟩

theorem ref_step_adel {G : List (Nat × Handle)} {g : Nat} (old : Option Nat)
    (hold : ∀ hd, aget G g = some hd → hd.impl = old) :
    ∀ i, Ref G i → some i = old ∨ Ref (adel G g) i := by
  rintro i ⟨g0, hd0, hg0, hi0⟩
  by_cases e : g0 = g
  · subst e; left; rw [← hold hd0 hg0, hi0]
  · right; exact ⟨g0, hd0, by rw [aget_adel_other _ _ _ e]; exact hg0, hi0⟩

theorem Bal.fail {h : Nat → Nat} {s : St} (m : String) (hb : Bal h s) : Bal h (s.fail m) := by
  unfold St.fail; split <;> exact hb

theorem Bal.ensureImpl {h : Nat → Nat} {s s1 : St} {g i : Nat} (hb : Bal h s)
    (he : ensureImpl s g = some (s1, i)) : Bal h s1 := by
  obtain ⟨hd, hg, ⟨_, rfl⟩ | ⟨hnone, rfl, rfl⟩⟩ := ensureImpl_cases he
  · exact hb
  · have h1 : BalW h none s.impls (aset s.G g { hd with impl := some s.next }) s.next :=
      BalW.setG hb none (keys_nodup_aset hb.1 _ _)
        (ref_step_aset none (fun hd0 e => by rw [hg] at e; cases e; exact Or.inl hnone))
    refine ⟨h1.1, ?_, fun j hj => hb.2.2 j (Nat.le_of_succ_le hj)⟩
    intro j jm hj
    simp only at hj
    rw [aget_aset] at hj
    split at hj
    · rename_i e; subst e; cases hj
      exact ⟨(hb.2.2 _ (Nat.le_refl _)).symm, Or.inr (Or.inr ⟨g, _, aget_aset_same _ _ _, rfl⟩)⟩
    · exact h1.2.1 j jm hj

theorem Bal.mkFun {h : Nat → Nat} {s s' : St} {fn : Fun} (hb : Bal h s) {τ : Int} (m : MkFun s τ fn s') : Bal h s' := by
  obtain ⟨h1, h2, _⟩ := m.frame
  unfold Bal
  rw [h1]
  rcases m.G with e | ⟨g, hd, hg, e⟩
  · rw [e]; exact hb.mono_next h2
  · rw [e]
    refine (BalW.setG hb none (keys_nodup_aset hb.1 _ _) ?_).mono_next h2
    exact ref_step_aset none (fun hd0 e0 => by rw [hg] at e0; cases e0; exact Or.inr rfl)

theorem Bal.insert {h : Nat → Nat} {s : St} (i : Nat) (first : Bool) (sl : SlotB) (hb : Bal h s) :
    Bal h (insertCell s i first sl).fst := by
  unfold Model.insertCell
  simp only [St.fresh]
  split
  · exact Bal.fail _ (hb.mono_next (Nat.le_succ _))
  · rename_i im hi
    show BalW h none (aset s.impls i _) s.G (s.next + 1)
    refine (BalW.aset_same hb hi ?_).mono_next (Nat.le_succ _)
    rfl

theorem Bal.emitPro {h : Nat → Nat} {s : St} {i : Nat} {im : Impl} (hw : WF s) (hb : Bal h s)
    (hi : aget s.impls i = some im) : Bal (bump h i) (emitPro s i im) := by
  refine ⟨hb.1, ?_, ?_⟩
  · intro j jm hj
    simp only [Inv.emitPro, St.fresh, setImpl_impls] at hj
    rw [aget_aset] at hj
    split at hj
    · rename_i e; subst e; cases hj
      refine ⟨?_, Or.inr (Or.inl ?_)⟩
      · simp [bump, (hb.2.1 j im hi).1]
      · simp [bump]
    · rename_i hne
      refine ⟨by simp [bump, hne, (hb.2.1 j jm hj).1], ?_⟩
      rcases (hb.2.1 j jm hj).2 with e | e | e
      · cases e
      · exact Or.inr (Or.inl (by simpa [bump, hne] using e))
      · exact Or.inr (Or.inr e)
  · intro j hj
    have hlt := hw.keyLt i im hi
    have hne : j ≠ i := by
      simp only [Inv.emitPro, St.fresh, setImpl_next] at hj
      omega
    simp only [bump, hne, if_false]
    exact hb.2.2 j (by simp only [Inv.emitPro, St.fresh, setImpl_next] at hj; omega)

/-- the holder is released: the reference drop on `i` is pending -/
theorem Bal.dropHolder {h : Nat → Nat} {s : St} {i : Nat} (hb : Bal (bump h i) s) :
    BalW h (some i) (dropHolder s i).impls (dropHolder s i).G (dropHolder s i).next := by
  have h3 : ∀ j, s.next ≤ j → h j = 0 := by
    intro j hj
    have := hb.2.2 j hj
    by_cases e : j = i
    · simp [bump, e] at this
    · simpa [bump, e] using this
  have hother : ∀ j jm, j ≠ i → aget s.impls j = some jm →
      jm.holders = h j ∧ (some j = some i ∨ h j > 0 ∨ Ref s.G j) := by
    intro j jm hne hj
    have := hb.2.1 j jm hj
    simp only [bump, hne, if_false] at this
    refine ⟨this.1, ?_⟩
    rcases this.2 with e | e
    · cases e
    · exact Or.inr e
  unfold Inv.dropHolder
  split
  · rename_i hn
    refine ⟨hb.1, ?_, h3⟩
    intro j jm hj
    by_cases e : j = i
    · rw [e, hn] at hj; cases hj
    · exact hother j jm e hj
  · rename_i im hi
    refine ⟨hb.1, ?_, h3⟩
    intro j jm hj
    simp only [setImpl_impls] at hj
    rw [aget_aset] at hj
    split at hj
    · rename_i e; subst e; cases hj
      have := (hb.2.1 j im hi).1
      simp only [bump, if_true] at this
      exact ⟨by simp only; omega, Or.inl rfl⟩
    · rename_i e
      exact hother j jm e hj

/-- if the impl is gone at the end of the emission nothing is pending -/
theorem Bal.unbump_none {h : Nat → Nat} {s : St} {i : Nat} (hb : Bal (bump h i) s)
    (hn : aget s.impls i = none) : Bal h s := by
  have := BalW.gcImpl (Bal.dropHolder hb)
  have e : Inv.dropHolder s i = s := by simp [Inv.dropHolder, hn]
  have e2 : gcImpl s i = s := by simp [Model.gcImpl, hn]
  rw [e, e2] at this
  exact this


theorem balw_gcImpl {h : Nat → Nat} {s : St} {i : Nat} (hb : BalW h none s.impls s.G s.next) :
    BalW h none (gcImpl s i).impls (gcImpl s i).G (gcImpl s i).next := (BalW.prims h none).gcImpl i hb

theorem balw_newG {h : Nat → Nat} {impls G n} {g : Nat} {hd : Handle} (hg : aget G g = none)
    (hb : BalW h none impls G n) : BalW h none impls (aset G g hd) n :=
  BalW.setG hb none (keys_nodup_aset hb.1 _ _)
    (ref_step_aset none (fun hd0 e => by rw [hg] at e; cases e))


theorem BalW.gcOpt {h : Nat → Nat} {s : St} {o : Option Nat} (hb : BalW h o s.impls s.G s.next) :
    Bal h (gcOpt s o) := by
  cases o with
  | none => exact hb
  | some i => exact BalW.gcImpl hb

/-- a signal object gets another impl: the reference to its old one is pending -/
theorem BalW.setImpl {h : Nat → Nat} {s : St} {j : Nat} {d : Handle} (new : Option Nat) (hb : Bal h s)
    (hj : aget s.G j = some d) : BalW h d.impl s.impls (aset s.G j { d with impl := new }) s.next :=
  BalW.setG hb d.impl (keys_nodup_aset hb.1 _ _)
    (ref_step_aset d.impl (fun hd0 e => by rw [hj] at e; cases e; exact Or.inl rfl))

theorem BalW.mvG {h : Nat → Nat} {s : St} {i j : Nat} {hd : Handle} (o t lvl : Nat) (fl : Flavour) (hb : Bal h s)
    (hi : aget s.G i = some hd) (hj : aget s.G j = none) :
    BalW h none s.impls (aset (aset s.G i { hd with impl := none }) j
      { obj := o, fl := fl, impl := hd.impl, trk := t, lvl := lvl }) s.next := by
  refine BalW.setG hb none (keys_nodup_aset (keys_nodup_aset hb.1 _ _) _ _) ?_
  rintro x ⟨g0, hd0, hg0, hx⟩
  right
  by_cases e : g0 = i
  · subst e
    rw [hi] at hg0; cases hg0
    exact ⟨j, _, aget_aset_same _ _ _, hx⟩
  · have e2 : g0 ≠ j := by intro e2; subst e2; rw [hj] at hg0; cases hg0
    exact ⟨g0, hd0, by rw [aget_aset_other _ _ _ _ e2, aget_aset_other _ _ _ _ e]; exact hg0, hx⟩

/-- the impl of `i` moves to `j`, whose old impl is pending -/
theorem BalW.masgG {h : Nat → Nat} {s : St} {i j : Nat} {d hh : Handle} (hb : Bal h s) (hj : aget s.G j = some d)
    (hi : aget s.G i = some hh) (hne : j ≠ i) :
    BalW h d.impl s.impls (aset (aset s.G j { d with impl := hh.impl }) i { hh with impl := none }) s.next := by
  refine BalW.setG hb d.impl (keys_nodup_aset (keys_nodup_aset hb.1 _ _) _ _) ?_
  rintro x ⟨g0, hd0, hg0, hx⟩
  by_cases e : g0 = j
  · subst e
    rw [hj] at hg0; cases hg0
    exact Or.inl hx.symm
  · right
    by_cases e2 : g0 = i
    · subst e2
      rw [hi] at hg0; cases hg0
      exact ⟨j, { d with impl := hh.impl }, by rw [aget_aset_other _ _ _ _ hne]; exact aget_aset_same _ _ _, hx⟩
    · exact ⟨g0, hd0, by rw [aget_aset_other _ _ _ _ e2, aget_aset_other _ _ _ _ e]; exact hg0, hx⟩

theorem Bal.forceDelG (h0 : Nat → Nat) (s : St) (g : Nat) (hI : Bal h0 s) : Bal h0 (forceDelG s g) := by
  unfold Inv.forceDelG
  split
  · exact hI
  · rename_i hd hi
    have key : ∀ s1 : St, Bal h0 s1 → s1.G = s.G → BalW h0 hd.impl s1.impls (adel s1.G g) s1.next := by
      intro s1 h1 hG
      exact BalW.setG h1 hd.impl (keys_nodup_adel h1.1 _)
          (ref_step_adel hd.impl (fun hd0 e => by rw [hG, hi] at e; cases e; rfl))
    simp only [gcOpt_eq]
    refine BalW.gcOpt ?_
    split
    · exact key (invalidateTrackable s hd.trk) ((BalW.prims h0 none).invalidateTrackable hd.trk hI)
        (invalidateTrackable_frame s hd.trk).2.1
    · exact key s hI rfl

theorem Bal.move {h0 : Nat → Nat} {s s' : St} (m : Move s s') (hI : Bal h0 s) : Bal h0 s' := by
  have two : s.next ≤ s.next + 1 + 1 := Nat.le_add_right _ 2
  cases m with
  | lib l => exact (BalW.prims h0 none).lib l hI
  | newT _ => exact hI.mono_next (Nat.le_succ _)
  | delT _ => exact (BalW.prims h0 none).invalidateTrackable _ hI
  | setS _ => exact hI
  | made hm => exact Bal.mkFun hI hm
  | mkS hm _ _ => exact (Bal.mkFun hI hm :)
  | newG _ _ hg _ => exact (balw_newG hg hI).mono_next two
  | ensure he => exact Bal.ensureImpl hI he
  | mvG hi hj => exact (BalW.mvG _ _ _ _ hI hi hj).mono_next two
  | asgG hj _ => exact BalW.gcOpt (BalW.setImpl _ hI hj)
  | masgG hj hi hne => exact BalW.gcOpt (BalW.masgG hI hj hi hne)
  | drop _ => exact Bal.forceDelG h0 _ _ hI
  | conn _ _ _ _ => exact Bal.insert _ _ _ hI
  | connMv _ _ _ _ => exact Bal.insert _ _ _ hI
  | connfn _ _ hm he => exact Bal.insert _ _ _ (Bal.ensureImpl (Bal.mkFun hI hm) he)
  | setCK _ => exact hI


theorem Bal.collect {h : Nat → Nat} (s : St) (hb : Bal h s) : Bal h (collect s) :=
  (BalW.prims h none).collect' (fun _ _ _ _ x => x) (Bal.forceDelG h) hb

theorem Bal.emitEpi {h : Nat → Nat} {s : St} {i : Nat} (m : Nat) (hb : Bal (bump h i) s) :
    Bal h (emitEpi s i m) := by
  unfold Inv.emitEpi
  split
  · rename_i hn
    exact Bal.fail _ (Bal.unbump_none hb hn)
  · apply Bal.collect
    apply BalW.gcImpl
    apply Bal.dropHolder
    apply (BalW.prims (bump h i) none).unrefExec
    split
    · exact (BalW.prims (bump h i) none).eraseCell _ _ hb
    · exact Bal.fail _ hb

/-- `Bal` is a stable family relative to `WF`: the emission prologue moves from index `h` to `bump h i`, the
    epilogue returns to `h` -/
theorem Bal.stable : StableKRel WF Bal where
  log _ _ _ _ h := h
  fail _ s m _ h := Bal.fail m h
  depth _ _ _ _ h := h
  steps _ _ _ _ h := h
  call k s i v _ h _ := ⟨k, h, fun s2 _ h2 => by
    unfold callEpi
    split
    · exact h2
    · exact Bal.fail _ h2⟩
  simple _ _ _ _ _ _ h hs := stepSimple_preserved' Bal.move hs h
  collect _ s _ h := Bal.collect s h
  emit k s i im hw h hi := ⟨bump k i, Bal.emitPro hw h hi, fun _ _ h2 => Bal.emitEpi _ h2⟩
  forceDel k s g _ h := Bal.forceDelG k s g h

theorem WBal.stable : StableK (fun k s => WF s ∧ Bal k s) := StableKRel.and WF.stable Bal.stable

/-- at top level no emission is running: `holders = 0` everywhere and every impl is owned by a handle -/
theorem Bal.reachable (f : Nat) (P : Prog) (s : St) (h : runTop f P {} P.top = some s) :
    Bal (fun _ => 0) s :=
  (runTop_preserved WBal.stable f (fun _ => 0) P _ _ _ ⟨WF.init, Bal.init⟩ h).2

theorem Bal.teardown (f : Nat) (P : Prog) (s s' : St) (hw : WF s) (hb : Bal (fun _ => 0) s)
    (h : Model.teardown f P s = some s') : Bal (fun _ => 0) s' :=
  (teardown_preserved WBal.stable f (fun _ => 0) P _ _ ⟨hw, hb⟩ h).2

end Sigc.Inv
