import Sigc.Lemmas.EmitDefs
import Sigc.Lemmas.InvHandle
/-! `ImplOK` under changes of the cell list; `Good`, the notion in which the family states its lemmas, with its combinators;
`InvX`, `Frame` and `Good` under `setImpl` and under changes outside the *core* of the state, which is what they read:
`impls`, `G`, `S`, `err`, `next`, `ownedG`.  The clauses of `InvX` about ids and about the impls of handles are `Inv.WF` and
`Inv.HOK` (`InvX.wf`, `InvX.hok`, `InvX.of_wf`): where a table is written, they are taken from there -/
namespace Sigc.Emit
open Sigc.Model

theorem SlotOK.disconnectRep {G} {sl : SlotB} (h : SlotOK G sl) : SlotOK G sl.disconnectRep := by
  unfold SlotB.disconnectRep
  cases hr : sl.rep with
  | none => simpa [hr] using h
  | some r0 =>
    intro r fn h1 h2
    simp at h1; subst h1
    exact h r0 fn hr h2

theorem SlotOK.invalidate {G} {sl : SlotB} (h : SlotOK G sl) : SlotOK G sl.invalidate := by
  unfold SlotB.invalidate
  cases hr : sl.rep with
  | none => simpa [hr] using h
  | some r0 =>
    intro r fn h1 h2
    simp at h1; subst h1
    simp at h2

theorem SlotOK.setBlocked {G} {sl : SlotB} (h : SlotOK G sl) (b : Bool) : SlotOK G { sl with blocked := b } := by
  intro r fn h1 h2; exact h r fn h1 h2

theorem SlotOK.none {G} (b : Bool) : SlotOK G { blocked := b, rep := none } := by
  intro r fn h1; simp at h1

theorem SlotOK.copy {G} {sl : SlotB} (h : SlotOK G sl) : SlotOK G sl.copy := by
  unfold SlotB.copy
  cases hr : sl.rep with
  | none => exact SlotOK.none _
  | some r0 =>
    simp only
    split
    · intro r fn h1 h2
      simp at h1; subst h1
      exact h r0 fn hr h2
    · exact SlotOK.none _

theorem SlotOK.move1 {G} {sl : SlotB} (h : SlotOK G sl) : SlotOK G sl.move.1 := by
  unfold SlotB.move
  cases hr : sl.rep with
  | none => exact SlotOK.none _
  | some r0 =>
    intro r fn h1 h2
    simp at h1; subst h1
    exact h r0 fn hr h2

theorem SlotOK.move2 {G} {sl : SlotB} (h : SlotOK G sl) : SlotOK G sl.move.2 := by
  unfold SlotB.move
  cases hr : sl.rep with
  | none => simpa [hr] using h
  | some r0 => exact SlotOK.none _

theorem disconnectRep_isNone (sl : SlotB) : sl.disconnectRep.rep.isNone = sl.rep.isNone := by
  unfold SlotB.disconnectRep; cases hr : sl.rep <;> simp [hr]

theorem invalidate_isNone (sl : SlotB) : sl.invalidate.rep.isNone = sl.rep.isNone := by
  unfold SlotB.invalidate; cases hr : sl.rep <;> simp [hr]

theorem disconnectRep_empty (sl : SlotB) : sl.disconnectRep.empty = true := Model.disconnectRep_empty sl

theorem invalidate_empty (sl : SlotB) : sl.invalidate.empty = true := Model.invalidate_empty sl

theorem empty_of_isNone {sl : SlotB} (h : sl.rep.isNone = true) : sl.empty = true := by
  unfold SlotB.empty; cases hr : sl.rep <;> simp_all

theorem find_mem {cs : List Cell} {k : Nat} {c : Cell} (hf : cs.find? (·.id = k) = some c) : c ∈ cs ∧ c.id = k := by
  have h1 := List.mem_of_find?_eq_some hf
  have h2 := List.find?_some hf
  exact ⟨h1, by simpa using h2⟩

theorem find_unique {cs : List Cell} (hn : (cs.map (·.id)).Nodup) {k : Nat} {c c0 : Cell}
    (hf : cs.find? (·.id = k) = some c) (h0 : c0 ∈ cs) (hk : c0.id = k) : c0 = c :=
  eq_of_nodup_map hn h0 (find_mem hf).1 (hk.trans (find_mem hf).2.symm)

theorem find_of_mem_ids {cs : List Cell} {k : Nat} (h : k ∈ cs.map (·.id)) : ∃ c, cs.find? (·.id = k) = some c :=
  let ⟨_, hc, he⟩ := List.mem_map.mp h
  Inv.find?_id_some hc he

theorem any_of_mem_ids {cs : List Cell} {k : Nat} (h : k ∈ cs.map (·.id)) : cs.any (·.id = k) = true := by
  obtain ⟨c, hc, rfl⟩ := List.mem_map.mp h
  rw [List.any_eq_true]; exact ⟨c, hc, by simp⟩

theorem mem_ids_of_any {cs : List Cell} {k : Nat} (h : cs.any (·.id = k) = true) : k ∈ cs.map (·.id) := by
  rw [List.any_eq_true] at h
  obtain ⟨c, hc, he⟩ := h
  exact List.mem_map.mpr ⟨c, hc, by simpa using he⟩

export Sigc.Model (updC touchC touchCell)

theorem map_updC_filter (cs : List Cell) (cid : Nat) (f : Cell → Cell) (hid : ∀ c, (f c).id = c.id) :
    (cs.map (updC cid f)).filter (·.id ≠ cid) = cs.filter (·.id ≠ cid) :=
  Model.map_updC_filter cs cid f hid

theorem mem_skel {im : Impl} {m : Nat} {b : Bool} (h : (m, b) ∈ skel im) :
    ∃ c ∈ im.cells, c.id = m ∧ c.slot.rep.isNone = b := by
  simp only [skel, List.mem_map] at h
  obtain ⟨c, hc, he⟩ := h
  simp at he
  exact ⟨c, hc, he.1, he.2⟩

theorem skel_map (im : Impl) (g : Cell → Cell) (hid : ∀ c, (g c).id = c.id)
    (hn : ∀ c, (g c).slot.rep.isNone = c.slot.rep.isNone) (dfr : Bool) :
    skel { im with cells := im.cells.map g, deferred := dfr } = skel im := by
  simp [skel, List.map_map, Function.comp_def, hid, hn]

theorem cids_map (cs : List Cell) (g : Cell → Cell) (hid : ∀ c, (g c).id = c.id) :
    (cs.map g).map (·.id) = cs.map (·.id) := by
  simp [List.map_map, Function.comp_def, hid]

theorem ImplOK.map {k : Nat} {im : Impl} (h : ImplOK k im) (g : Cell → Cell) (dfr : Bool)
    (hid : ∀ c, (g c).id = c.id) (hn : ∀ c, (g c).slot.rep.isNone = c.slot.rep.isNone)
    (hl : ∀ c ∈ im.cells, (g c).linked = false → (g c).slot.empty = true)
    (hd : dfr = false → im.deferred = false ∧ ∀ c ∈ im.cells, c.linked = true → (g c).linked = true)
    (hq : im.exec = 0 → dfr = false) :
    ImplOK k { im with cells := im.cells.map g, deferred := dfr } := by
  refine ⟨?_, h.eh, ?_, hq, ?_, ?_⟩
  · simpa [cids, cids_map _ g hid] using h.nodup
  · have : markers { im with cells := im.cells.map g, deferred := dfr } = markers im := by
      simp [markers, List.countP_map, Function.comp_def, hn]
    rw [this]; exact h.mkr
  · intro c hc hlk
    simp at hc
    obtain ⟨c0, hc0, rfl⟩ := hc
    exact hl c0 hc0 hlk
  · intro hdf c hc hnone
    simp at hc hdf
    obtain ⟨c0, hc0, rfl⟩ := hc
    obtain ⟨h1, h2⟩ := hd hdf
    rw [hn] at hnone
    exact h2 c0 hc0 (h.d h1 c0 hc0 hnone)

theorem ImplOK.filter {k : Nat} {im : Impl} (h : ImplOK k im) (p : Cell → Bool)
    (hm : ∀ c ∈ im.cells, c.slot.rep.isNone = true → p c = true) :
    ImplOK k { im with cells := im.cells.filter p } := by
  refine ⟨?_, h.eh, ?_, h.q1, ?_, ?_⟩
  · exact List.Nodup.sublist ((List.filter_sublist).map _) h.nodup
  · have : markers { im with cells := im.cells.filter p } = markers im := by
      simp only [markers, List.countP_filter]
      apply List.countP_congr
      intro c hc
      simp
      intro hc2; exact hm c hc (by simp [hc2])
    rw [this]; exact h.mkr
  · intro c hc; exact h.l c (List.mem_filter.mp hc).1
  · intro hd c hc; exact h.d hd c (List.mem_filter.mp hc).1

theorem ImplOK.no_markers {k : Nat} {im : Impl} (h : ImplOK k im) (hx : im.exec = 0) :
    ∀ c ∈ im.cells, c.slot.rep.isNone = false := by
  have := h.mkr
  rw [hx] at this
  have this : markers im = 0 := by omega
  simp [markers, List.countP_eq_zero] at this
  intro c hc
  have := this c hc
  cases hr : c.slot.rep <;> simp_all

theorem ImplOK.sweep {im : Impl} (h : ImplOK 0 im) (hx : im.exec = 0) :
    ImplOK 0 { im with deferred := false, cells := im.cells.filter (fun c => !c.slot.empty) } := by
  have hf := h.filter (fun c => !c.slot.empty) fun c hc hn => by
    rw [h.no_markers hx c hc] at hn; contradiction
  rw [h.q1 hx] at hf
  exact hf

theorem ImplOK.insert {k : Nat} {im : Impl} (h : ImplOK k im) (c : Cell) (first : Bool)
    (hid : c.id ∉ cids im) (hr : c.slot.rep.isNone = false) (hl : c.linked = true) :
    ImplOK k { im with cells := if first then c :: im.cells else im.cells ++ [c] } := by
  have hmem : ∀ x, x ∈ (if first then c :: im.cells else im.cells ++ [c]) → x = c ∨ x ∈ im.cells := by
    intro x hx; split at hx
    · simpa using hx
    · simp at hx; exact hx.symm
  refine ⟨?_, h.eh, ?_, h.q1, ?_, ?_⟩
  · simp only [cids] at hid ⊢
    split
    · simp only [List.map_cons, List.nodup_cons]; exact ⟨hid, h.nodup⟩
    · simp only [List.map_append, List.map_cons, List.map_nil]
      rw [List.nodup_append]
      refine ⟨h.nodup, by simp, ?_⟩
      intro a ha b hb; simp at hb; subst hb; intro e; subst e; exact hid ha
  · have : markers { im with cells := if first then c :: im.cells else im.cells ++ [c] } = markers im := by
      simp only [markers]
      split <;> simp [List.countP_cons, List.countP_append, hr]
    rw [this]; exact h.mkr
  · intro x hx hlx
    rcases hmem x hx with e | e
    · subst e; rw [hl] at hlx; contradiction
    · exact h.l x e hlx
  · intro hd x hx hnx
    rcases hmem x hx with e | e
    · subst e; exact hl
    · exact h.d hd x e hnx

theorem OwnOK.sub {O O' : List (Nat × Nat)} {G : List (Nat × Handle)} (h : OwnOK O G)
    (hs : ∀ p ∈ O', p ∈ O) : OwnOK O' G :=
  fun p hp => h p (hs p hp)

theorem OwnOK.filter {O : List (Nat × Nat)} {G : List (Nat × Handle)} (h : OwnOK O G) (f : Nat × Nat → Bool) :
    OwnOK (O.filter f) G :=
  h.sub (fun _ hp => (List.mem_filter.mp hp).1)

theorem InvX.wf {off} {s : St} (h : InvX off s) : Inv.WF s where
  keys := h.keys
  cellN i im hi := (h.ok i im hi).nodup
  cellU i j im jm c d hi hj hc hd e := by
    by_cases hij : i = j
    · exact hij
    · exact absurd (e ▸ List.mem_map.mpr ⟨d, hd, rfl⟩ : c.id ∈ cids jm)
        (h.disj i j im jm hi hj hij c.id (List.mem_map.mpr ⟨c, hc, rfl⟩))
  keyLt i im hi := (h.lt i im hi).1
  idLt i im c hi hc := (h.lt i im hi).2 c.id (List.mem_map.mpr ⟨c, hc, rfl⟩)

theorem InvX.hok {off} {s : St} (h : InvX off s) : Inv.HOK s :=
  fun p hp i hi => Option.isSome_iff_exists.mp (h.himpl p hp i hi)

/-- `Inv.HOKI` in the spelling of `InvX.himpl` -/
theorem _root_.Sigc.Inv.HOKI.isSome {impls : List (Nat × Impl)} {G : List (Nat × Handle)} (k : Inv.HOKI impls G) :
    ∀ p ∈ G, ∀ i, p.2.impl = some i → (aget impls i).isSome = true :=
  fun p hp i hi => Option.isSome_iff_exists.mpr (k p hp i hi)

/-- the converse of `InvX.wf` and `InvX.hok`: what is left to show once the tables are known to be well formed -/
theorem InvX.of_wf {off} {s : St} (w : Inv.WF s) (k : Inv.HOK s)
    (ok : ∀ i im, aget s.impls i = some im → ImplOK (off i) im)
    (fwdS : ∀ i v, aget s.S i = some v → SlotOK s.G v.slot)
    (fwdC : ∀ i im, aget s.impls i = some im → ∀ c ∈ im.cells, SlotOK s.G c.slot)
    (noerr : s.err = none) (own : OwnOK s.ownedG s.G) : InvX off s where
  keys := w.keys
  lt i im hi := ⟨w.keyLt i im hi, fun k hk => by
    obtain ⟨c, hc, rfl⟩ := List.mem_map.mp hk; exact w.idLt i im c hi hc⟩
  ok := ok
  disj i j im jm hi hj hij k hk hk' := by
    obtain ⟨c, hc, rfl⟩ := List.mem_map.mp hk
    obtain ⟨d, hd, e⟩ := List.mem_map.mp hk'
    exact hij (w.cellU i j im jm c d hi hj hc hd e.symm)
  himpl := k.isSome
  fwdS := fwdS
  fwdC := fwdC
  noerr := noerr
  own := own

theorem InvX.congrSub {off} {s s' : St} (h : InvX off s) (hi : s'.impls = s.impls) (hG : s'.G = s.G)
    (hS : s'.S = s.S) (he : s'.err = s.err) (hn : s.next ≤ s'.next)
    (hO : ∀ p ∈ s'.ownedG, p ∈ s.ownedG) : InvX off s' := by
  refine ⟨by rw [hi]; exact h.keys, ?_, by rw [hi]; exact h.ok, by rw [hi]; exact h.disj,
          by rw [hi, hG]; exact h.himpl, by rw [hS, hG]; exact h.fwdS, by rw [hi, hG]; exact h.fwdC,
          by rw [he]; exact h.noerr, by rw [hG]; exact h.own.sub hO⟩
  intro i im hh
  rw [hi] at hh
  obtain ⟨h1, h2⟩ := h.lt i im hh
  exact ⟨by omega, fun k hk => by have := h2 k hk; omega⟩

theorem InvX.congr {off} {s s' : St} (h : InvX off s) (hi : s'.impls = s.impls) (hG : s'.G = s.G)
    (hS : s'.S = s.S) (he : s'.err = s.err) (hn : s.next ≤ s'.next)
    (hO : s'.ownedG = s.ownedG := by first | rfl | assumption) : InvX off s' :=
  h.congrSub hi hG hS he hn fun _ hp => hO ▸ hp

theorem InvX.writeS {off} {s : St} (h : InvX off s) {S' : List (Nat × SlotVar)}
    (hv : ∀ j w, aget S' j = some w → SlotOK s.G w.slot) : InvX off { s with S := S' } :=
  ⟨h.keys, h.lt, h.ok, h.disj, h.himpl, hv, h.fwdC, h.noerr, h.own⟩

/-- a step from `s` to `s'` is *good*: the invariant holds again (`off`: see `InvX`) and it is a `Frame` step -/
structure Good (off : Nat → Nat) (s s' : St) : Prop where
  inv : InvX off s'
  frame : Frame s s'

theorem Good.refl {off} {s : St} (h : InvX off s) : Good off s s := ⟨h, Frame.refl s⟩

theorem Good.trans {off} {a b c : St} (h1 : Good off a b) (h2 : Good off b c) : Good off a c :=
  ⟨h2.inv, h1.frame.trans h2.frame⟩

theorem Good.congrSub {off} {s s1 s2 : St} (h : Good off s s1) (hi : s2.impls = s1.impls) (hG : s2.G = s1.G)
    (hS : s2.S = s1.S) (he : s2.err = s1.err) (hn : s1.next ≤ s2.next)
    (hO : ∀ p ∈ s2.ownedG, p ∈ s1.ownedG) : Good off s s2 :=
  ⟨h.inv.congrSub hi hG hS he hn hO, h.frame.trans (Frame.of_eq hn hi hS)⟩

theorem Good.congr {off} {s s1 s2 : St} (h : Good off s s1) (hi : s2.impls = s1.impls) (hG : s2.G = s1.G)
    (hS : s2.S = s1.S) (he : s2.err = s1.err) (hn : s1.next ≤ s2.next)
    (hO : s2.ownedG = s1.ownedG := by first | rfl | assumption) : Good off s s2 :=
  h.congrSub hi hG hS he hn fun _ hp => hO ▸ hp

theorem Good.of_core {off} {s s' : St} (h : InvX off s) (hi : s'.impls = s.impls) (hG : s'.G = s.G)
    (hS : s'.S = s.S) (he : s'.err = s.err) (hn : s.next ≤ s'.next)
    (hO : s'.ownedG = s.ownedG := by first | rfl | assumption) : Good off s s' :=
  (Good.refl h).congr hi hG hS he hn hO

abbrev Good0 := Good (fun _ => 0)

theorem Good.andThen {off} {a b c : St} (h1 : Good off a b) (f : InvX off b → Good off b c) : Good off a c :=
  h1.trans (f h1.inv)

theorem Good.of_some {off} {β : Type} {s x s' : St} {a b : β} (hs : some (x, a) = some (s', b)) (g : Good off s x) :
    Good off s s' := by
  cases hs; exact g

/-- an `if` whose first branch ends the step in `x`; a guard that refuses (`x = s`) is the usual case -/
theorem Good.of_ite {off} {β : Type} {s x s' : St} {c : Prop} [Decidable c] {a b : β} {e : Option (St × β)}
    (hs : (if c then some (x, a) else e) = some (s', b)) (g : Good off s x)
    (k : ¬ c → e = some (s', b) → Good off s s') : Good off s s' :=
  ite_eq_elim hs (fun _ hs => .of_some hs g) k

/-- first a change outside the core (`T`, `C`, `K`, the trace, a larger `next`; found by `rfl`), then `f` -/
theorem Good.of_core_then {off} {s s0 s1 : St} (h : InvX off s) (f : InvX off s0 → Good off s0 s1)
    (hi : s0.impls = s.impls := by rfl) (hG : s0.G = s.G := by rfl) (hS : s0.S = s.S := by rfl)
    (he : s0.err = s.err := by rfl) (hO : s0.ownedG = s.ownedG := by rfl) (hn : s.next ≤ s0.next := by first | exact Nat.le_refl _ | simp) :
    Good off s s1 :=
  (Good.of_core h hi hG hS he hn hO).andThen f

theorem aget_setImpl (s : St) (i j : Nat) (im : Impl) :
    aget (setImpl s i im).impls j = if j = i then some im else aget s.impls j := by
  simp [setImpl, aget_aset]

theorem execOf_setImpl (s : St) (i j : Nat) (im : Impl) :
    execOf (setImpl s i im) j = if j = i then im.exec else execOf s j := by
  unfold execOf; rw [aget_setImpl]; by_cases e : j = i <;> simp [e]

theorem Frame.setImpl {s : St} {i : Nat} {im im' : Impl} (hi : aget s.impls i = some im)
    (hx : im'.exec = im.exec)
    (hk : 0 < im.exec → ∃ pre post, skel im' = pre ++ skel im ++ post) :
    Frame s (setImpl s i im') := by
  refine ⟨Nat.le_refl _, ?_, ?_, fun j => rfl⟩
  · intro j
    rw [execOf_setImpl]
    split
    · rename_i e; subst e; rw [execOf_pos hi, hx]
    · rfl
  · intro j jm hj hpos
    rw [aget_setImpl]
    by_cases e : j = i
    · subst e
      rw [hi] at hj; cases hj
      simp only [if_true]
      exact ⟨im', rfl, hk hpos⟩
    · simp only [e, if_false]
      exact ⟨jm, hj, [], [], by simp⟩

/-- `off` may change at `i` (entering and leaving `clearImpl`); the cell ids of `im'` are old ones of `i` or used nowhere -/
theorem InvX.setImpl' {off off' : Nat → Nat} {s : St} (h : InvX off s) {i : Nat} {im im' : Impl}
    (hi : aget s.impls i = some im) (hok : ImplOK (off' i) im') (hoff : ∀ j, j ≠ i → off' j = off j)
    (hids : ∀ k ∈ cids im', k ∈ cids im ∨
        (k < s.next ∧ ∀ j jm, aget s.impls j = some jm → k ∉ cids jm))
    (hf : ∀ c ∈ im'.cells, SlotOK s.G c.slot) : InvX off' (setImpl s i im') := by
  refine .of_wf (h.wf.aset hi hok.nodup (fun c' hc' => ?_) (fun c' hc' => ?_) (Nat.le_refl _))
    (h.hok.aset_impls i im') (fun j jm hj => ?_) h.fwdS (fun j jm hj c hc => ?_) h.noerr h.own
  · rcases hids c'.id (List.mem_map_of_mem hc') with h1 | h1
    · exact .inl (List.mem_map.mp h1)
    · exact .inr fun j jm d hj hd e => h1.2 j jm hj (e ▸ List.mem_map_of_mem hd)
  · rcases hids c'.id (List.mem_map_of_mem hc') with h1 | h1
    · exact (h.lt i im hi).2 _ h1
    · exact h1.1
  · rw [aget_setImpl] at hj
    split at hj
    · rename_i e; subst e; cases hj; exact hok
    · rename_i e; rw [hoff j e]; exact h.ok j jm hj
  · rw [aget_setImpl] at hj
    split at hj
    · cases hj; exact hf c hc
    · exact h.fwdC j jm hj c hc

theorem InvX.setImpl {off} {s : St} (h : InvX off s) {i : Nat} {im im' : Impl}
    (hi : aget s.impls i = some im) (hok : ImplOK (off i) im')
    (hids : ∀ k ∈ cids im', k ∈ cids im ∨
        (k < s.next ∧ ∀ j jm, aget s.impls j = some jm → k ∉ cids jm))
    (hf : ∀ c ∈ im'.cells, SlotOK s.G c.slot) : InvX off (setImpl s i im') :=
  h.setImpl' hi hok (fun _ _ => rfl) hids hf

theorem Good.setImpl {off} {s : St} (h : InvX off s) {i : Nat} {im im' : Impl}
    (hi : aget s.impls i = some im) (hok : ImplOK (off i) im')
    (hids : ∀ k ∈ cids im', k ∈ cids im ∨
        (k < s.next ∧ ∀ j jm, aget s.impls j = some jm → k ∉ cids jm))
    (hf : ∀ c ∈ im'.cells, SlotOK s.G c.slot)
    (hx : im'.exec = im.exec)
    (hk : 0 < im.exec → ∃ pre post, skel im' = pre ++ skel im ++ post) :
    Good off s (Sigc.Model.setImpl s i im') :=
  ⟨h.setImpl hi hok hids hf, Frame.setImpl hi hx hk⟩

end Sigc.Emit
