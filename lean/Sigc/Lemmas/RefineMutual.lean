import Sigc.Lemmas.RefineSimCalls
import Sigc.Lemmas.RefineSimIter
import Sigc.Lemmas.RefineSimEmit
/-!
All functions of the mutual block are simulated (induction on the model's fuel), and the top-level runner.
-/
namespace Sigc.Refine
open Sigc.Model

structure AllSimE (f : Nat) : Prop where
  invoke : InvokeE f
  body : BodyE f
  line : LineE f
  emit : EmitE f
  loop : LoopE f
  deref : DerefE f
  acc : AccE f
  rev : RevE f
  walk : WalkE f
  strat : StratE f
  op : OpE f

theorem all_simE : ∀ f, AllSimE f := by
  intro f
  induction f with
  | zero =>
    refine ⟨?_, ?_, ?_, ?_, ?_, ?_, ?_, ?_, ?_, ?_, ?_⟩
    · intro e P s t fn arg s' o v _ _ _ h; simp [Model.invokeFun] at h
    · intro e P s t ls s' o _ _ _ h; simp [Model.runBody] at h
    · intro e P s t l s' o _ _ _ h; simp [Model.execLine] at h
    · intro e P s t fl impl arg strat s' o v _ _ _ h; simp [Model.emitImpl] at h
    · intro e P s t i cur m arg r B Z done todo tl s' o v _ _ _ _ _ _ h; simp [Model.emitLoop] at h
    · intro e P s t i itm its arg snap m B s' o itm' _ _ _ _ _ _ h; simp [Model.deref] at h
    · intro e P s t i itm its m arg mode k r snap B s' o v _ _ _ _ _ h; simp [Model.accLoop] at h
    · intro e P s t i itm its first m arg r snap B s' o v _ _ _ _ _ _ h; simp [Model.revLoop] at h
    · intro e P s t i itm its first m arg ops r snap B s' o v _ _ _ _ _ _ h; simp [Model.walkLoop] at h
    · intro e P s t i first m arg strat snap B s' o v _ _ _ _ _ h; simp [Model.runStrat] at h
    · intro e P s t op s' res _ _ _ h; simp [Model.execOp] at h
  | succ f ih =>
    exact ⟨invoke_simE f ih.body ih.invoke ih.emit, body_simE f ih.line ih.body, line_simE f ih.op,
      emit_simE f ih.strat ih.loop, loop_simE f ih.invoke ih.loop, deref_simE f ih.invoke,
      acc_simE f ih.deref ih.acc, rev_simE f ih.deref ih.rev, walk_simE f ih.deref ih.walk,
      strat_simE f ih.acc ih.rev ih.walk, op_simE f ih.invoke ih.emit⟩

theorem runTop_simE (f : Nat) (P : Prog) (ls : List Line) : ∀ (e : Option String) (s : St) (t : Spec.LSt) (s' : St),
    Emit.Inv s → RE e s t → Quiet s →
    Model.runTop f P s ls = some s' → ∃ t', Spec.runTop f P t ls = some t' ∧ RE e s' t' := by
  induction ls with
  | nil =>
    intro e s t s' _ hR _ h
    simp [Model.runTop] at h; subst h
    exact ⟨t, by simp [Spec.runTop], hR⟩
  | cons l ls ih =>
    intro e s t s' hs hR hq h
    simp only [Model.runTop] at h
    split at h
    · contradiction
    · rename_i s1 o1 h1
      obtain ⟨t1, ht1, hR1⟩ := (all_simE f).line e P s t l s1 o1 hs hR hq h1 f (Nat.le_refl _)
      have g1 := (Emit.all_ok f).line P s l s1 o1 hs h1
      have hq1 : Quiet s1 := hq.step g1.frame (execLine_keeps h1).depth
      obtain ⟨t', ht', hR'⟩ := ih e s1 t1 s' g1.inv hR1 hq1 h
      refine ⟨t', ?_, hR'⟩
      simp only [Spec.runTop, ht1]
      exact ht'

/-- the statements without the error flag (`RE t.err s t` is `R s t`), with `DerefS'` for `DerefS`; proved for no fuel: the
    proved structure is `AllSimE` -/
structure AllSim (f : Nat) : Prop where
  invoke : InvokeS f
  body : BodyS f
  line : LineS f
  emit : EmitS f
  loop : LoopS f
  deref : DerefS' f
  acc : AccS f
  rev : RevS f
  walk : WalkS f
  strat : StratS f
  op : OpS f

end Sigc.Refine
