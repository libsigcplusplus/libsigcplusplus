import Sigc.Lemmas.InvAssoc
import Sigc.Lemmas.InvPrims
import Sigc.Lemmas.Blind
/-!
# `WF`: the basic well-formedness invariant (identities)

impl keys are unique, cell ids are unique inside a list and across lists, and every key and id is
below the allocator `next`.  Holds in every reachable state (`WF.stable`, `WF.init`).
Here and in the other `Inv*` files `XI` is the predicate on the tables it reads and `X s` the same on the state (otherwise
named: `SlotsAll`/`Slots`, `BalW`/`Bal`, `CI`/`AC`).
-/
namespace Sigc.Inv
open Sigc.Model
open Sigc.Emit (aget_aset aget_adel keys_nodup_aset keys_nodup_adel)

structure WFI (impls : List (Nat × Impl)) (next : Nat) : Prop where
  keys : (impls.map (·.1)).Nodup
  cellN : ∀ i im, aget impls i = some im → (im.cells.map (·.id)).Nodup
  cellU : ∀ i j im jm c d, aget impls i = some im → aget impls j = some jm →
    c ∈ im.cells → d ∈ jm.cells → c.id = d.id → i = j
  keyLt : ∀ i im, aget impls i = some im → i < next
  idLt : ∀ i im c, aget impls i = some im → c ∈ im.cells → c.id < next

def WF (s : St) : Prop := WFI s.impls s.next

theorem WF.init : WF {} := by
  refine ⟨by simp, ?_, ?_, ?_, ?_⟩ <;> intros <;> simp_all [aget]

theorem WFI.mono {impls : List (Nat × Impl)} {n n' : Nat} (h : WFI impls n) (hn : n ≤ n') : WFI impls n' :=
  ⟨h.keys, h.cellN, h.cellU, fun i im hi => Nat.lt_of_lt_of_le (h.keyLt i im hi) hn,
   fun i im c hi hc => Nat.lt_of_lt_of_le (h.idLt i im c hi hc) hn⟩

/-- `hold`: every id of the new cell list is an old id of the same impl or used nowhere (a fresh id is: `idLt`) -/
theorem WFI.aset {impls : List (Nat × Impl)} {n n' : Nat} (h : WFI impls n) {i : Nat} {im im' : Impl}
    (hi : aget impls i = some im) (hN : (im'.cells.map (·.id)).Nodup)
    (hold : ∀ c' ∈ im'.cells, (∃ c ∈ im.cells, c.id = c'.id) ∨
      ∀ j jm d, aget impls j = some jm → d ∈ jm.cells → d.id ≠ c'.id)
    (hlt : ∀ c' ∈ im'.cells, c'.id < n') (hn : n ≤ n') : WFI (aset impls i im') n' := by
  refine ⟨keys_nodup_aset h.keys _ _, ?_, ?_, ?_, ?_⟩
  · intro j jm hj
    rw [aget_aset] at hj
    split at hj
    · cases hj; exact hN
    · exact h.cellN j jm hj
  · intro a b am bm c d ha hb hc hd he
    rw [aget_aset] at ha hb
    by_cases hai : a = i <;> by_cases hbi : b = i
    · rw [hai, hbi]
    · simp only [hai, if_true, Option.some.injEq] at ha
      simp only [hbi, if_false] at hb
      subst ha
      rcases hold c hc with ⟨c0, hc0, e0⟩ | hfr
      · rw [hai]; exact h.cellU i b im bm c0 d hi hb hc0 hd (e0.trans he)
      · exact absurd he.symm (hfr b bm d hb hd)
    · simp only [hbi, if_true, Option.some.injEq] at hb
      simp only [hai, if_false] at ha
      subst hb
      rcases hold d hd with ⟨d0, hd0, e0⟩ | hfr
      · rw [hbi]; exact h.cellU a i am im c d0 ha hi hc hd0 (he.trans e0.symm)
      · exact absurd he (hfr a am c ha hc)
    · simp only [hai, if_false] at ha
      simp only [hbi, if_false] at hb
      exact h.cellU a b am bm c d ha hb hc hd he
  · intro j jm hj
    rw [aget_aset] at hj
    split at hj
    · rename_i e; rw [e]; exact Nat.lt_of_lt_of_le (h.keyLt i im hi) hn
    · exact Nat.lt_of_lt_of_le (h.keyLt j jm hj) hn
  · intro j jm c hj hc
    rw [aget_aset] at hj
    split at hj
    · cases hj; exact hlt c hc
    · exact Nat.lt_of_lt_of_le (h.idLt j jm c hj hc) hn

theorem WFI.aset_sub {impls : List (Nat × Impl)} {n : Nat} (h : WFI impls n) {i : Nat} {im im' : Impl}
    (hi : aget impls i = some im) (hsub : (im'.cells.map (·.id)).Sublist (im.cells.map (·.id))) :
    WFI (Model.aset impls i im') n := by
  have hmem : ∀ c' ∈ im'.cells, ∃ c ∈ im.cells, c.id = c'.id := by
    intro c' hc'
    have : c'.id ∈ im.cells.map (·.id) := hsub.subset (List.mem_map.2 ⟨c', hc', rfl⟩)
    obtain ⟨c, hc, e⟩ := List.mem_map.1 this
    exact ⟨c, hc, e⟩
  refine h.aset hi (List.Nodup.sublist hsub (h.cellN i im hi)) (fun c' hc' => Or.inl (hmem c' hc')) ?_
    (Nat.le_refl _)
  intro c' hc'
  obtain ⟨c, hc, e⟩ := hmem c' hc'
  rw [← e]; exact h.idLt i im c hi hc

theorem WFI.aset_new {impls : List (Nat × Impl)} {n n' : Nat} (h : WFI impls n) {i : Nat} {im' : Impl}
    (hc : im'.cells = []) (hin : i < n') (hn : n ≤ n') : WFI (Model.aset impls i im') n' := by
  refine ⟨keys_nodup_aset h.keys _ _, ?_, ?_, ?_, ?_⟩
  · intro j jm hj
    rw [aget_aset] at hj
    split at hj
    · cases hj; simp [hc]
    · exact h.cellN j jm hj
  · intro a b am bm c d ha hb hca hdb he
    rw [aget_aset] at ha hb
    split at ha
    · cases ha; rw [hc] at hca; cases hca
    · split at hb
      · cases hb; rw [hc] at hdb; cases hdb
      · exact h.cellU a b am bm c d ha hb hca hdb he
  · intro j jm hj
    rw [aget_aset] at hj
    split at hj
    · rename_i e; rw [e]; exact hin
    · exact Nat.lt_of_lt_of_le (h.keyLt j jm hj) hn
  · intro j jm c hj hcj
    rw [aget_aset] at hj
    split at hj
    · cases hj; rw [hc] at hcj; cases hcj
    · exact Nat.lt_of_lt_of_le (h.idLt j jm c hj hcj) hn

theorem WFI.adel {impls : List (Nat × Impl)} {n : Nat} (h : WFI impls n) (i : Nat) :
    WFI (Model.adel impls i) n := by
  refine ⟨keys_nodup_adel h.keys _, ?_, ?_, ?_, ?_⟩
  · intro j jm hj
    rw [aget_adel] at hj
    split at hj
    · cases hj
    · exact h.cellN j jm hj
  · intro a b am bm c d ha hb hca hdb he
    rw [aget_adel] at ha hb
    split at ha
    · cases ha
    · split at hb
      · cases hb
      · exact h.cellU a b am bm c d ha hb hca hdb he
  · intro j jm hj
    rw [aget_adel] at hj
    split at hj
    · cases hj
    · exact h.keyLt j jm hj
  · intro j jm c hj hcj
    rw [aget_adel] at hj
    split at hj
    · cases hj
    · exact h.idLt j jm c hj hcj

@[simp] theorem nullConns_impls (s : St) (cid : Nat) : (nullConns s cid).impls = s.impls := rfl
@[simp] theorem nullConns_next (s : St) (cid : Nat) : (nullConns s cid).next = s.next := rfl
@[simp] theorem nullConns_G (s : St) (cid : Nat) : (nullConns s cid).G = s.G := rfl
@[simp] theorem nullConns_S (s : St) (cid : Nat) : (nullConns s cid).S = s.S := rfl
@[simp] theorem nullConns_T (s : St) (cid : Nat) : (nullConns s cid).T = s.T := rfl

@[simp] theorem setImpl_impls (s : St) (i : Nat) (im : Impl) : (setImpl s i im).impls = aset s.impls i im := rfl
@[simp] theorem setImpl_next (s : St) (i : Nat) (im : Impl) : (setImpl s i im).next = s.next := rfl

/-- the bound plays no role under the primitive updates: they allocate nothing -/
theorem WFI.prims (n : Nat) : PrimsA (fun s => WFI s.impls n) where
  upd s i im g e d _ h hi hg := by
    apply WFI.aset_sub h hi
    simp only [List.map_map]
    have : (fun c => c.id) ∘ g = (fun c => c.id) := by funext c; exact (hg c).1
    rw [this]
    exact List.Sublist.refl _
  filter s i im p d ids _ h hi _ := by
    show WFI (nullConnsList _ _).impls n
    rw [nullConnsList_impls]
    exact WFI.aset_sub h hi (List.Sublist.map _ List.filter_sublist)
  delImpl s i im _ h _ _ _ := by
    show WFI (nullConnsList _ _).impls n
    rw [nullConnsList_impls]
    exact WFI.adel h i
  invalS s t _ h := h

theorem WF.prims : PrimsA WF where
  upd s i im g e d _ h hi hg := (WFI.prims s.next).upd s i im g e d trivial h hi hg
  filter s i im p d ids _ h hi hp := by
    show WFI _ (nullConnsList _ _).next
    rw [nullConnsList_next]
    exact (WFI.prims s.next).filter s i im p d ids trivial h hi hp
  delImpl s i im _ h hi hh hg := by
    show WFI _ (nullConnsList _ _).next
    rw [nullConnsList_next]
    exact (WFI.prims s.next).delImpl s i im trivial h hi hh hg
  invalS s t _ h := h

/-- `WF` reads `impls` and `next` only -/
theorem WF.lit {X : St} {t : List (Nat × Nat)} {sv : List (Nat × SlotVar)} {g : List (Nat × Handle)}
    {c k : List (Nat × Option Nat)} {d st : Nat} {tr : List Event} {e : Option String} (h : WF X) :
    WF { T := t, S := sv, G := g, C := c, K := k, impls := X.impls, next := X.next, depth := d, steps := st,
         trace := tr, err := e } := h

theorem WF.fresh {s : St} (h : WF s) : WF s.fresh.snd := WFI.mono h (Nat.le_succ _)

theorem WF.setConn {s : St} (k : Nat) (p : Option Nat) (h : WF s) : WF (setConn s k p) := h

theorem WF.mkFun {s s' : St} {fn : Fun} {t : Int} (h : WF s) (m : MkFun s t fn s') : WF s' := by
  obtain ⟨h1, h2, _⟩ := m.frame
  unfold WF; rw [h1]; exact WFI.mono h h2

theorem WF.ensureImpl {s s1 : St} {g i : Nat} (h : WF s) (he : ensureImpl s g = some (s1, i)) : WF s1 := by
  obtain ⟨_, _, ⟨_, rfl⟩ | ⟨_, rfl, rfl⟩⟩ := ensureImpl_cases he
  · exact h
  · exact WFI.aset_new h rfl (Nat.lt_succ_self _) (Nat.le_succ _)

/-- `ensureImpl` writes `impls`, `next` and the `impl` field of one handle -/
theorem ensureImpl_frame {s s1 : St} {g i : Nat} (he : Model.ensureImpl s g = some (s1, i)) :
    s1.T = s.T ∧ s1.S = s.S ∧ s1.ownedT = s.ownedT ∧ s1.ownedG = s.ownedG ∧
    ∀ {α : Type} (π : Handle → α), (∀ h new, π { h with impl := new } = π h) → GExt π s.G s1.G := by
  obtain ⟨hd, hg, ⟨_, rfl⟩ | ⟨_, rfl, rfl⟩⟩ := ensureImpl_cases he
  · exact ⟨rfl, rfl, rfl, rfl, fun π _ => GExt.refl π _⟩
  · exact ⟨rfl, rfl, rfl, rfl, fun π hπ => GExt.setImpl hπ hg _⟩

/-- one fresh cell joins the cells of an existing impl, at either end -/
theorem WFI.aset_insert {impls : List (Nat × Impl)} {n : Nat} (h : WFI impls n) {i : Nat} {im im' : Impl}
    (hi : aget impls i = some im) {c0 : Cell} (hc : im'.cells.Perm (c0 :: im.cells)) (h0 : c0.id = n) :
    WFI (Model.aset impls i im') (n + 1) := by
  refine WFI.aset (n := n) h hi ?_ ?_ ?_ (Nat.le_succ _)
  · rw [(hc.map _).nodup_iff, List.map_cons, List.nodup_cons]
    refine ⟨fun hm => ?_, h.cellN i im hi⟩
    obtain ⟨c, hc, e⟩ := List.mem_map.1 hm
    have := h.idLt i im c hi hc
    rw [e, h0] at this
    exact Nat.lt_irrefl n this
  · intro c' hc'
    rcases List.mem_cons.1 (hc.mem_iff.1 hc') with rfl | ht
    · refine Or.inr fun j jm d hj hd e => ?_
      have := h.idLt j jm d hj hd
      rw [e, h0] at this
      exact Nat.lt_irrefl n this
    · exact Or.inl ⟨c', ht, rfl⟩
  · intro c' hc'
    rcases List.mem_cons.1 (hc.mem_iff.1 hc') with rfl | ht
    · rw [h0]; exact Nat.lt_succ_self _
    · exact Nat.lt_succ_of_lt (h.idLt i im c' hi ht)

theorem WF.grow : Grow (fun _ => True) WF where
  next _ _ h := WFI.mono h (Nat.le_succ _)
  holders _ _ _ _ h hi := WFI.aset_sub h hi (List.Sublist.refl _)
  add _ _ _ _ _ _ _ h hi h0 _ hp := WFI.aset_insert h hi hp h0

theorem WF.insertCell {s : St} (i : Nat) (first : Bool) (sl : SlotB) (h : WF s) :
    WF (insertCell s i first sl).fst := WF.grow.insertCell i first trivial h

theorem WF.forceDelG (s : St) (g : Nat) (hI : WF s) : WF (forceDelG s g) :=
  WF.prims.dropHandle g (fun _ h => h) hI

theorem WF.move {s s' : St} (m : Move s s') (h : WF s) : WF s' := by
  -- `newG`, `mvG` draw two ids: the object and its trackable base
  have two : s.next ≤ s.next + 1 + 1 := Nat.le_add_right _ 2
  cases m with
  | lib l => exact WF.prims.lib l h
  | newT _ => exact WFI.mono h (Nat.le_succ _)
  | delT _ => exact WF.prims.invalidateTrackable _ h
  | setS _ => exact h
  | made hm => exact WF.mkFun h hm
  -- the state after `mkS` differs from `mkFun`'s in `S` only, which `WF` does not read
  | mkS hm _ _ => exact (WF.mkFun h hm :)
  | newG _ _ _ _ => exact WFI.mono h two
  | ensure he => exact WF.ensureImpl h he
  | mvG _ _ => exact WFI.mono h two
  | asgG _ _ => exact WF.prims.gcOpt _ h
  | masgG _ _ _ => exact WF.prims.gcOpt _ h
  | drop _ => exact WF.forceDelG _ _ h
  | conn _ _ _ _ => exact WF.insertCell _ _ _ h
  | connMv _ _ _ _ => exact WF.insertCell _ _ _ h
  | connfn _ _ hm he => exact WF.insertCell _ _ _ (WF.ensureImpl (WF.mkFun h hm) he)
  | setCK _ => exact h

theorem WF.collect (s : St) (hI : WF s) : WF (collect s) :=
  WF.prims.collect' (fun _ _ _ _ h => h) WF.forceDelG hI

theorem WF.stable : Stable WF :=
  StableRel.ofPrims WF.prims (fun _ _ _ _ _ h => h) (fun _ _ _ _ h _ => h) (fun _ _ => trivial) (fun m _ => WF.move m) (fun s _ h => WF.collect s h)
    (WF.grow.emitPro fun _ => trivial) WF.grow.dropHolder (fun s g _ h => WF.forceDelG s g h)

theorem WF.reachable (f : Nat) (P : Prog) (s : St) (h : runTop f P {} P.top = some s) : WF s :=
  WF.stable.runTop WF.init f P s h

end Sigc.Inv
