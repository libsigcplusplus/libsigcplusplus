import Sigc.Lemmas.RelLists
import Sigc.Lemmas.SpecBasic
/-!
# SpecKBasic — partial bijections of ids (`PB`), live entries, related functor and slot values
-/
namespace Sigc.SpecK
open Sigc.Model Sigc.Spec

theorem PB.keyed {ρ : IdRel} {n n' : Nat} (h : PB ρ n n') : Keyed ρ := fun _ _ _ _ h1 h2 =>
  ⟨fun e => by subst e; exact h.fn h1 h2, fun e => by subst e; exact h.inj h1 h2⟩

theorem PB.eq_iff {ρ : IdRel} {n n' : Nat} (h : PB ρ n n') {a a' b b' : Nat} (h1 : ρ a b) (h2 : ρ a' b') :
    a = a' ↔ b = b' := h.keyed _ _ _ _ h1 h2

theorem PB.dec {ρ : IdRel} {n n' : Nat} (h : PB ρ n n') {a a' b b' : Nat} (h1 : ρ a b) (h2 : ρ a' b') :
    decide (a = a') = decide (b = b') := h.keyed.dec h1 h2

theorem PB.ext {ρ : IdRel} {n n' : Nat} (h : PB ρ n n') : PB (ext ρ n n') (n+1) (n'+1) := by
  refine ⟨?_, ?_, ?_⟩
  · intro a b b' h1 h2
    rcases h1 with h1 | ⟨rfl, rfl⟩ <;> rcases h2 with h2 | ⟨e, rfl⟩
    · exact h.fn h1 h2
    · have := (h.lt h1).1; omega
    · have := (h.lt h2).1; omega
    · rfl
  · intro a a' b h1 h2
    rcases h1 with h1 | ⟨rfl, rfl⟩ <;> rcases h2 with h2 | ⟨rfl, e⟩
    · exact h.inj h1 h2
    · have := (h.lt h1).2; omega
    · have := (h.lt h2).2; omega
    · rfl
  · intro a b h1
    rcases h1 with h1 | ⟨rfl, rfl⟩
    · have := h.lt h1; omega
    · omega

theorem PB.mono {ρ : IdRel} {n n' m m' : Nat} (h : PB ρ n n') (h1 : n ≤ m) (h2 : n' ≤ m') : PB ρ m m' :=
  ⟨h.fn, h.inj, fun hab => by have := h.lt hab; omega⟩

theorem ext_sub (ρ : IdRel) (a b : Nat) : ∀ x y, ρ x y → ext ρ a b x y := fun _ _ h => Or.inl h

theorem ext_new (ρ : IdRel) (a b : Nat) : ext ρ a b a b := Or.inr ⟨rfl, rfl⟩

theorem F2.contains {ρ : IdRel} {n n' : Nat} (hp : PB ρ n n') {l m : List Nat} (h : F2 ρ l m) {a b : Nat}
    (hab : ρ a b) : l.contains a = m.contains b := by
  rw [List.contains_eq_any_beq, List.contains_eq_any_beq]
  exact h.any _ _ fun x y hxy => by rw [Bool.eq_iff_iff, beq_iff_eq, beq_iff_eq]; exact hp.eq_iff hab hxy

theorem OR.eq_some {ρ : IdRel} {n n' : Nat} (hp : PB ρ n n') {a b : Option Nat} (h : OR ρ a b) {i i' : Nat}
    (hi : ρ i i') : decide (b = Option.some i') = decide (a = Option.some i) := by
  cases h with
  | none => simp
  | some hx =>
    have := hp.eq_iff hx hi
    rw [Bool.eq_iff_iff, decide_eq_true_iff, decide_eq_true_iff]
    simp only [Option.some.injEq]
    exact this.symm

theorem live_iff {c : LCell} : live c = true ↔ c.marker = false ∧ c.zombie = false := by
  unfold live; cases c.marker <;> cases c.zombie <;> simp

theorem marker_of_dead {c : LCell} (hl : live c = false) (hz : c.zombie = false) : c.marker = true := by
  unfold live at hl; rw [hz] at hl; cases hm : c.marker <;> simp_all

section vals
variable {ρ ρ' : IdRel}

theorem FunR.mono {f f' : Fun} (h : FunR ρ f f') (hs : ∀ a b, ρ a b → ρ' a b) : FunR ρ' f f' := by
  induction h with
  | leaf fid h => exact .leaf fid (h.mono hs)
  | fwd h1 h2 => exact .fwd (hs _ _ h1) (h2.mono hs)
  | nestNone b => exact .nestNone b
  | nestSome b _ ih => exact .nestSome b ih
  | owner fid h1 h2 => exact .owner fid (h1.mono hs) (h2.mono hs)

theorem RepR.mono {r r' : Rep} (h : RepR ρ r r') (hs : ∀ a b, ρ a b → ρ' a b) : RepR ρ' r r' :=
  ⟨h.call, h.fn.imp (fun _ _ x => x.mono hs)⟩

theorem SlotR.mono {a b : SlotB} (h : SlotR ρ a b) (hs : ∀ a b, ρ a b → ρ' a b) : SlotR ρ' a b :=
  ⟨h.blocked, h.rep.imp (fun _ _ x => x.mono hs)⟩

theorem VarR.mono {a b : SlotVar} (h : VarR ρ a b) (hs : ∀ a b, ρ a b → ρ' a b) : VarR ρ' a b :=
  ⟨h.isVoid, h.slot.mono hs, h.incall, h.taint⟩

theorem HandR.mono {a b : Handle} (h : HandR ρ a b) (hs : ∀ a b, ρ a b → ρ' a b) : HandR ρ' a b :=
  ⟨hs _ _ h.obj, h.fl, h.impl.imp hs, hs _ _ h.trk, h.lvl, h.everFwd⟩

theorem CellR.mono {a b : LCell} (h : CellR ρ a b) (hs : ∀ a b, ρ a b → ρ' a b) : CellR ρ' a b :=
  ⟨hs _ _ h.id, h.slot.mono hs, h.marker, h.zombie⟩

theorem FunR.tracks {f f' : Fun} (h : FunR ρ f f') : F2 ρ f.tracks f'.tracks := by
  induction h with
  | leaf fid h => exact h
  | fwd _ h2 => exact h2
  | nestNone b => exact .nil
  | nestSome b _ ih => exact ih
  | owner fid _ _ => exact .nil

theorem FunR.ownsT {f f' : Fun} (h : FunR ρ f f') : F2 ρ f.ownsT f'.ownsT := by
  induction h with
  | leaf fid h => exact .nil
  | fwd _ h2 => exact .nil
  | nestNone b => exact .nil
  | nestSome b _ ih => exact ih
  | owner fid h1 _ => exact h1

theorem FunR.ownsK {f f' : Fun} (h : FunR ρ f f') : F2 ρ f.ownsK f'.ownsK := by
  induction h with
  | leaf fid h => exact .nil
  | fwd _ h2 => exact .nil
  | nestNone b => exact .nil
  | nestSome b _ ih => exact ih
  | owner fid _ h2 => exact h2

theorem FunR.count {f f' : Fun} (h : FunR ρ f f') (fid : Nat) : f'.count fid = f.count fid := by
  induction h with
  | leaf fid h => rfl
  | fwd _ h2 => rfl
  | nestNone b => rfl
  | nestSome b _ ih => exact ih
  | owner fid _ h2 => rfl

theorem FunR.countAll {f f' : Fun} (h : FunR ρ f f') : f'.countAll = f.countAll := by
  induction h with
  | leaf fid h => rfl
  | fwd _ h2 => rfl
  | nestNone b => rfl
  | nestSome b _ ih => exact ih
  | owner fid _ h2 => rfl

@[elab_as_elim]
theorem SlotR.elim {motive : SlotB → SlotB → Prop} {a b : SlotB} (h : SlotR ρ a b)
    (none : ∀ bl, motive { blocked := bl, rep := none } { blocked := bl, rep := none })
    (some : ∀ bl {r r'}, RepR ρ r r' → motive { blocked := bl, rep := some r } { blocked := bl, rep := some r' }) :
    motive a b := by
  obtain ⟨ba, ra⟩ := a
  obtain ⟨bb, rb⟩ := b
  obtain ⟨hb, hr⟩ := h
  dsimp only at hb hr
  subst hb
  cases hr with
  | none => exact none _
  | some hr => exact some _ hr

theorem SlotR.empty {a b : SlotB} (h : SlotR ρ a b) : b.empty = a.empty :=
  h.elim (fun _ => rfl) (fun _ _ _ hr => by simp only [SlotB.empty, hr.call])

theorem SlotR.copy {a b : SlotB} (h : SlotR ρ a b) : SlotR ρ a.copy b.copy :=
  h.elim (fun _ => ⟨rfl, .none⟩) (fun bl r r' hr => by
    simp only [SlotB.copy, hr.call]
    cases r.call with
    | true => exact ⟨rfl, .some ⟨rfl, hr.fn⟩⟩
    | false => exact ⟨rfl, .none⟩)

theorem SlotR.move1 {a b : SlotB} (h : SlotR ρ a b) : SlotR ρ a.move.1 b.move.1 :=
  h.elim (fun _ => ⟨rfl, .none⟩) (fun _ _ _ hr => ⟨rfl, .some hr⟩)

theorem SlotR.move2 {a b : SlotB} (h : SlotR ρ a b) : SlotR ρ a.move.2 b.move.2 :=
  h.elim (fun _ => ⟨rfl, .none⟩) (fun _ _ _ _ => ⟨rfl, .none⟩)

theorem SlotR.disconnectRep {a b : SlotB} (h : SlotR ρ a b) : SlotR ρ a.disconnectRep b.disconnectRep :=
  h.elim (fun _ => ⟨rfl, .none⟩) (fun _ _ _ hr => ⟨rfl, .some ⟨rfl, hr.fn⟩⟩)

theorem SlotR.invalidate {a b : SlotB} (h : SlotR ρ a b) : SlotR ρ a.invalidate b.invalidate :=
  h.elim (fun _ => ⟨rfl, .none⟩) (fun _ _ _ _ => ⟨rfl, .some ⟨rfl, .none⟩⟩)

theorem SlotR.setBlocked {a b : SlotB} (h : SlotR ρ a b) (x : Bool) :
    SlotR ρ { a with blocked := x } { b with blocked := x } := ⟨rfl, h.rep⟩

theorem SlotR.fnOf {a b : SlotB} (h : SlotR ρ a b) : OR (FunR ρ) (SlotB.fnOf a) (SlotB.fnOf b) :=
  h.elim (fun _ => .none) (fun _ _ _ hr => hr.fn)

theorem ofFn_eq {γ : Type} (s : SlotB) (d : γ) (F : Fun → γ) :
    (match s.rep with | some { fn := some f, .. } => F f | _ => d) = match SlotB.fnOf s with | some f => F f | none => d := by
  unfold SlotB.fnOf
  cases s.rep with
  | none => rfl
  | some r => obtain ⟨c, fn⟩ := r; cases fn <;> rfl

theorem SlotR.ofFn {γ : Type} {a b : SlotB} (h : SlotR ρ a b) (d : γ) (F F' : Fun → γ)
    (hF : ∀ {f f'}, FunR ρ f f' → F' f' = F f) :
    (match b.rep with | some { fn := some f, .. } => F' f | _ => d)
      = match a.rep with | some { fn := some f, .. } => F f | _ => d := by
  rw [ofFn_eq, ofFn_eq]
  exact h.fnOf.on rfl hF

variable {n n' : Nat}

theorem SlotR.tracksObj (hp : PB ρ n n') {a b : SlotB} (h : SlotR ρ a b) {o o' : Nat} (ho : ρ o o') :
    b.tracksObj o' = a.tracksObj o := h.ofFn _ _ _ fun hf => (F2.contains hp hf.tracks ho).symm

theorem SlotR.holdsT (hp : PB ρ n n') {a b : SlotB} (h : SlotR ρ a b) {o o' : Nat} (ho : ρ o o') :
    b.holdsT o' = a.holdsT o := h.ofFn _ _ _ fun hf => (F2.contains hp hf.ownsT ho).symm

theorem SlotR.holdsK (hp : PB ρ n n') {a b : SlotB} (h : SlotR ρ a b) {o o' : Nat} (ho : ρ o o') :
    b.holdsK o' = a.holdsK o := h.ofFn _ _ _ fun hf => (F2.contains hp hf.ownsK ho).symm

theorem SlotR.live {a b : SlotB} (h : SlotR ρ a b) (fid : Nat) : b.live fid = a.live fid :=
  h.ofFn _ _ _ fun hf => hf.count fid

theorem SlotR.liveAll {a b : SlotB} (h : SlotR ρ a b) : b.liveAll = a.liveAll :=
  h.ofFn _ _ _ fun hf => hf.countAll

theorem SlotR.callFn {a b : SlotB} (h : SlotR ρ a b) : OR (FunR ρ) (Spec.callFn a) (Spec.callFn b) :=
  h.elim (fun bl => by cases bl <;> exact .none) (fun bl r r' hr => by
    obtain ⟨c, fn⟩ := r
    obtain ⟨c', fn'⟩ := r'
    obtain ⟨hc, hf⟩ := hr
    dsimp only at hc hf
    subst hc
    cases bl <;> cases c' <;> cases hf <;> first | exact .none | (rename_i x; exact .some x))

end vals

end Sigc.SpecK
