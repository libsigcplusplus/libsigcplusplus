import Sigc.Lemmas.SpecPEx
/-!
# SpecPOps — `connfn` of a plain function on a signal object that has a list, in the words of the examples (`exSlot`)

`conv => lhs; whnf` evaluates `stepSimple s op` as far as the operation `op` decides.
-/
namespace Sigc.SpecP
open Sigc.Spec
open Sigc.Model (aget aset adel amap FSpec Fun SlotB Handle)

theorem stepSimple_connfn_fn (s : LSt) (k g fid : Nat) (first : Bool) (h : Handle) (im : Nat)
    (hg : aget s.G g = some h) (hi : h.impl = some im) :
    Spec.stepSimple s (.connfn k g (.fn fid) first) =
      some ({ (insertCell s im first (exSlot fid)).1 with
                C := aset (insertCell s im first (exSlot fid)).1.C k (some (insertCell s im first (exSlot fid)).2) }, "ok") := by
  -- a plain function has taint −1, below every level
  have hlvl : ¬ ((-1 : Int) ≥ (h.lvl : Int)) := by omega
  conv => lhs; whnf
  simp only [hg, mkFun_fn, Spec.specTaint, hlvl, if_false, ensureSig, hi]
  rfl

end Sigc.SpecP
