import Sigc.Lemmas.InvSlots
/-!
# `Inc`: `incall` counts the running direct invocations of a slot variable

ghost index `c i` = number of `callS i` frames in progress; at top level `c = 0`, so no slot variable is
`busy` at a quiescent point.
-/
namespace Sigc.Inv
open Sigc.Model
open Sigc.Emit (aget_aset aget_adel)

def IncI (c : Nat → Nat) (S : List (Nat × SlotVar)) : Prop :=
  (∀ i v, aget S i = some v → v.incall = c i) ∧ (∀ i, aget S i = none → c i = 0)

def Inc (c : Nat → Nat) (s : St) : Prop := IncI c s.S

theorem Inc.init : Inc (fun _ => 0) {} := ⟨fun i v h => by simp [aget] at h, fun _ _ => rfl⟩

theorem IncI.aset {c : Nat → Nat} {S : List (Nat × SlotVar)} (h : IncI c S) {i : Nat} {v' : SlotVar}
    (hv : v'.incall = c i) : IncI c (Model.aset S i v') := by
  refine ⟨?_, ?_⟩
  · intro j v hj
    rw [aget_aset] at hj
    split at hj
    · rename_i e; subst e; cases hj; exact hv
    · exact h.1 j v hj
  · intro j hj
    rw [aget_aset] at hj
    split at hj
    · cases hj
    · exact h.2 j hj

theorem IncI.aset_of {c : Nat → Nat} {S : List (Nat × SlotVar)} (h : IncI c S) {i : Nat} {v v' : SlotVar}
    (hi : aget S i = some v) (hv : v'.incall = v.incall) : IncI c (Model.aset S i v') :=
  h.aset (hv.trans (h.1 i v hi))


theorem IncI.aset_new {c : Nat → Nat} {S : List (Nat × SlotVar)} (h : IncI c S) {i : Nat} {v' : SlotVar}
    (hi : aget S i = none) (hv : v'.incall = 0) : IncI c (Model.aset S i v') :=
  h.aset (hv.trans (h.2 i hi).symm)

theorem IncI.adel {c : Nat → Nat} {S : List (Nat × SlotVar)} (h : IncI c S) {i : Nat} (hc : c i = 0) :
    IncI c (Model.adel S i) := by
  refine ⟨?_, ?_⟩
  · exact fun j v hj => h.1 j v (aget_of_adel hj)
  · intro j hj
    rw [aget_adel] at hj
    split at hj
    · rename_i e; rw [e]; exact hc
    · exact h.2 j hj

theorem IncI.amap {c : Nat → Nat} {S : List (Nat × SlotVar)} (h : IncI c S) (f : SlotVar → SlotVar)
    (hf : ∀ v, (f v).incall = v.incall) : IncI c (Model.amap S f) := by
  refine ⟨?_, ?_⟩
  · intro j v hj
    rw [aget_amap] at hj
    cases hg : aget S j with
    | none => rw [hg] at hj; cases hj
    | some v0 =>
      rw [hg] at hj
      simp only [Option.map_some, Option.some.injEq] at hj
      subst hj
      exact (hf v0).trans (h.1 j v0 hg)
  · intro j hj
    rw [aget_amap] at hj
    cases hg : aget S j with
    | none => exact h.2 j hg
    | some v0 => rw [hg] at hj; cases hj

theorem Inc.prims (c : Nat → Nat) : PrimsA (Inc c) where
  upd _ _ _ _ _ _ _ h _ _ := h
  filter s i im p d ids _ h _ _ := by
    show IncI c (nullConnsList _ _).S
    rw [nullConnsList_S]; exact h
  delImpl s i im _ h _ _ _ := by
    show IncI c (nullConnsList _ _).S
    rw [nullConnsList_S]; exact h
  invalS s t _ h := by
    exact IncI.amap (S := s.S) h
      (fun v => if v.slot.tracksObj t then { v with slot := v.slot.invalidate } else v)
      (fun v => by
        show (if v.slot.tracksObj t then { v with slot := v.slot.invalidate } else v).incall = v.incall
        split <;> rfl)

theorem Inc.fail {c : Nat → Nat} {s : St} (m : String) (h : Inc c s) : Inc c (s.fail m) := by
  unfold St.fail; split <;> exact h

theorem IncI.aset_of_incallOf {c : Nat → Nat} {S : List (Nat × SlotVar)} (h : IncI c S) {i : Nat} {v : SlotVar}
    (hv : v.incall = incallOf S i) : IncI c (Model.aset S i v) := by
  cases hi : aget S i with
  | none => exact h.aset_new hi (hv.trans (incallOf_none hi))
  | some v0 => exact h.aset_of hi (hv.trans (incallOf_some hi))

theorem IncI.sWrite {c : Nat → Nat} {s : St} {S' : List (Nat × SlotVar)} (w : SWrite s S') (h : IncI c s.S) :
    IncI c S' := by
  cases w with
  | one hv _ => exact h.aset_of_incallOf hv
  | two hi ha _ hne hb _ =>
    refine (h.aset_of hi ha).aset_of_incallOf (hb.trans ?_)
    unfold incallOf
    rw [aget_aset_other _ _ _ _ hne]
  | del hi hv => exact h.adel ((h.1 _ _ hi).symm.trans hv)

theorem Inc.grow (c : Nat → Nat) : Grow (fun _ => True) (Inc c) :=
  ⟨fun _ _ h => h, fun _ _ _ _ h _ => h, fun _ _ _ _ _ _ _ h _ _ _ _ => h⟩

theorem Inc.insertCell {c : Nat → Nat} {s : St} (i : Nat) (first : Bool) (sl : SlotB) (h : Inc c s) :
    Inc c (insertCell s i first sl).fst := (Inc.grow c).insertCell i first trivial h

theorem Inc.ensureImpl {c : Nat → Nat} {s s1 : St} {g i : Nat} (h : Inc c s) (he : ensureImpl s g = some (s1, i)) :
    Inc c s1 := by
  unfold Inc; rw [(ensureImpl_spec he).1]; exact h

theorem Inc.mkFun {c : Nat → Nat} {s s' : St} {fn : Fun} (h : Inc c s) {τ : Int} (m : MkFun s τ fn s') : Inc c s' := by
  unfold Inc; rw [m.frame.2.2.1]; exact h

theorem Inc.forceDelG (c : Nat → Nat) (s : St) (g : Nat) (h : Inc c s) : Inc c (forceDelG s g) :=
  (Inc.prims c).dropHandle g (fun _ h => h) h

theorem Inc.move {c : Nat → Nat} {s s' : St} (m : Move s s') (h : Inc c s) : Inc c s' := by
  cases m with
  | lib l => exact (Inc.prims c).lib l h
  | newT _ => exact h
  | delT _ => exact (Inc.prims c).invalidateTrackable _ h
  | setS w => exact IncI.sWrite w h
  | made hm => exact Inc.mkFun h hm
  | mkS hm hv _ =>
    have h1 := Inc.mkFun h hm
    exact IncI.aset_of_incallOf h1 (by rw [hm.frame.2.2.1]; exact hv)
  | newG _ _ _ _ => exact h
  | ensure he => exact Inc.ensureImpl h he
  | mvG _ _ => exact h
  | asgG _ _ => exact (Inc.prims c).gcOpt _ h
  | masgG _ _ _ => exact (Inc.prims c).gcOpt _ h
  | drop _ => exact Inc.forceDelG c _ _ h
  | conn _ _ _ _ => exact Inc.insertCell _ _ _ h
  | connMv _ _ hv _ => exact Inc.insertCell _ _ _ (IncI.aset_of h hv rfl)
  | connfn _ _ hm he => exact Inc.insertCell _ _ _ (Inc.ensureImpl (Inc.mkFun h hm) he)
  | setCK _ => exact h


theorem Inc.collect {c : Nat → Nat} (s : St) (h : Inc c s) : Inc c (collect s) :=
  (Inc.prims c).collect' (fun _ _ _ _ x => x) (Inc.forceDelG c) h

theorem Inc.emitEpi {c : Nat → Nat} (s : St) (i m : Nat) (h : Inc c s) : Inc c (emitEpi s i m) := by
  unfold Inv.emitEpi
  split
  · exact Inc.fail _ h
  · apply Inc.collect
    apply (Inc.prims c).gcImpl
    apply (Inc.grow c).dropHolder
    apply (Inc.prims c).unrefExec
    split
    · exact (Inc.prims c).eraseCell _ _ h
    · exact Inc.fail _ h

theorem Inc.callPro {c : Nat → Nat} {s : St} {i : Nat} {v : SlotVar} (h : Inc c s) (hv : aget s.S i = some v) :
    Inc (bump c i) (callPro s i v) := by
  refine ⟨?_, ?_⟩
  · intro j w hj
    simp only [Inv.callPro] at hj
    rw [aget_aset] at hj
    split at hj
    · rename_i e; subst e; cases hj
      simp [bump, h.1 j v hv]
    · rename_i e
      simp [bump, e, h.1 j w hj]
  · intro j hj
    simp only [Inv.callPro] at hj
    rw [aget_aset] at hj
    split at hj
    · cases hj
    · rename_i e
      simp [bump, e, h.2 j hj]

theorem Inc.callEpi {c : Nat → Nat} {s : St} {i : Nat} (h : Inc (bump c i) s) : Inc c (callEpi s i) := by
  unfold Inv.callEpi
  split
  · rename_i v2 hv2
    have h2 := h.1 i v2 hv2
    simp only [bump, if_true] at h2
    refine ⟨?_, ?_⟩
    · intro j w hj
      simp only at hj
      rw [aget_aset] at hj
      split at hj
      · rename_i e; subst e; cases hj
        simp only; omega
      · rename_i e
        have := h.1 j w hj
        simpa [bump, e] using this
    · intro j hj
      simp only at hj
      rw [aget_aset] at hj
      split at hj
      · cases hj
      · rename_i e
        have := h.2 j hj
        simpa [bump, e] using this
  · rename_i hn
    have := h.2 i hn
    simp [bump] at this

/-- `callS i` moves from index `c` to `bump c i` and back -/
theorem Inc.stable : StableK Inc where
  log _ _ _ h := h
  fail _ s m h := Inc.fail m h
  depth _ _ _ h := h
  steps _ _ _ h := h
  call k s i v h hv := ⟨bump k i, Inc.callPro h hv, fun _ h2 => Inc.callEpi h2⟩
  simple _ _ _ _ _ h hs := stepSimple_preserved' Inc.move hs h
  collect _ s h := Inc.collect s h
  emit k s i im h hi := ⟨k, (Inc.grow k).emitPro (fun _ => trivial) s i im h hi, fun s2 h2 => Inc.emitEpi s2 i _ h2⟩
  forceDel k s g h := Inc.forceDelG k s g h

theorem Inc.reachable (f : Nat) (P : Prog) (s : St) (h : runTop f P {} P.top = some s) :
    Inc (fun _ => 0) s :=
  runTop_preserved Inc.stable f (fun _ => 0) P _ _ _ Inc.init h

theorem Inc.execOp {c : Nat → Nat} {f : Nat} {P : Prog} {s : St} {op : Op} {r : St × Except Unit String}
    (h : Inc c s) (hr : Model.execOp f P s op = some r) : Inc c r.1 :=
  execOp_preserved Inc.stable (k := c) h hr

end Sigc.Inv
