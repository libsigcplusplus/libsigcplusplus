import Sigc.Lemmas.EmitEpi
import Sigc.Lemmas.StepUnfold
/-! the mutual block (`invokeFun`, `runBody`, `execLine`, `emitImpl`, `emitLoop`, `deref`, `accLoop`, `revLoop`,
`walkLoop`, `runStrat`, `execOp`) preserves `Inv` and every function of it is a `Frame` step, by induction on fuel.
In the hypotheses `InBlk s i (B0 ++ [(m, true)])` the cell `m` is the end marker of the emission. -/
namespace Sigc.Emit
open Sigc.Model

/-! The statements of the induction, one per function of the mutual block: from `Inv`, a `Good0` step.  `InvokeOK` asks for
`FunOK` of the functor (the signal object of a forwarder is there, `handleByObj_some`) and `EmitOK` that the impl exists:
otherwise the call ends in `fail`, and `Inv` has `noerr`.  The loops ask that the position lies in the block; `DerefOK` gives
it back as well, because the accumulator loops go on from the iterator that `deref` returns. -/

def InvokeOK (f : Nat) : Prop := ∀ P s fn arg s' o v, Inv s → FunOK s.G fn →
  invokeFun f P s fn arg = some (s', o, v) → Good0 s s'
def BodyOK (f : Nat) : Prop := ∀ P s ls s' o, Inv s → runBody f P s ls = some (s', o) → Good0 s s'
def LineOK (f : Nat) : Prop := ∀ P s l s' o, Inv s → execLine f P s l = some (s', o) → Good0 s s'
def EmitOK (f : Nat) : Prop := ∀ P s fl impl arg strat s' o v, Inv s →
  (∀ i, impl = some i → (aget s.impls i).isSome = true) →
  emitImpl f P s fl impl arg strat = some (s', o, v) → Good0 s s'
def LoopOK (f : Nat) : Prop := ∀ P s i cur m arg r B0 s' o v, Inv s → InBlk s i (B0 ++ [(m, true)]) →
  cur ∈ (B0 ++ [(m, true)]).map (·.1) → emitLoop f P s i cur m arg r = some (s', o, v) → Good0 s s'
def DerefOK (f : Nat) : Prop := ∀ P s i it arg B s' o it', Inv s → InBlk s i B → it.pos ∈ B.map (·.1) →
  deref f P s i it arg = some (s', o, it') → Good0 s s' ∧ it'.pos = it.pos
def AccOK (f : Nat) : Prop := ∀ P s i it m arg mode k r B0 s' o v, Inv s → InBlk s i (B0 ++ [(m, true)]) →
  it.pos ∈ (B0 ++ [(m, true)]).map (·.1) → accLoop f P s i it m arg mode k r = some (s', o, v) → Good0 s s'
def RevOK (f : Nat) : Prop := ∀ P s i it first arg r B rest s' o v, Inv s → InBlk s i B →
  B.map (·.1) = first :: rest → it.pos ∈ B.map (·.1) →
  revLoop f P s i it first arg r = some (s', o, v) → Good0 s s'
def WalkOK (f : Nat) : Prop := ∀ P s i it first m arg ops r B0 rest s' o v, Inv s →
  InBlk s i (B0 ++ [(m, true)]) → (B0 ++ [(m, true)]).map (·.1) = first :: rest →
  it.pos ∈ (B0 ++ [(m, true)]).map (·.1) →
  walkLoop f P s i it first m arg ops r = some (s', o, v) → Good0 s s'
def StratOK (f : Nat) : Prop := ∀ P s i first m arg strat B0 rest s' o v, Inv s →
  InBlk s i (B0 ++ [(m, true)]) → (B0 ++ [(m, true)]).map (·.1) = first :: rest →
  runStrat f P s i first m arg strat = some (s', o, v) → Good0 s s'
def OpOK (f : Nat) : Prop := ∀ P s op s' res, Inv s → execOp f P s op = some (s', res) → Good0 s s'

theorem handleByObj_some {s : St} {fn : Fun} (h : FunOK s.G fn) {o : Nat} {ts : List Nat}
    (ht : funTarget fn = some (o, ts)) : ∃ g hd, handleByObj s o = some (g, hd) ∧ (g, hd) ∈ s.G := by
  obtain ⟨g, hd, hg, ho, _⟩ := h o ts ht
  unfold handleByObj
  cases hf : s.G.find? (fun p => p.2.obj = o) with
  | none =>
    rw [List.find?_eq_none] at hf
    exact absurd (by simp [ho]) (hf (g, hd) (aget_some_mem hg))
  | some p => exact ⟨p.1, p.2, rfl, List.mem_of_find?_eq_some hf⟩

theorem invoke_ok (f : Nat) (hb : BodyOK f) (hi : InvokeOK f) (he : EmitOK f) : InvokeOK (f+1) := by
  intro P s fn arg s' o v hs hfn h
  have leafCase : ∀ fid, (match aget P.bodies fid with
      | none => some (s.log (.call s.depth fid arg), Outcome.ok, resultOf fid arg)
      | some body =>
        match runBody f P { (s.log (.call s.depth fid arg)) with depth := (s.log (.call s.depth fid arg)).depth + 1 } body with
        | none => none
        | some (s, o) => some ({ s with depth := s.depth - 1 }, o, resultOf fid arg)) = some (s', o, v) → Good0 s s' := by
    intro fid h
    split at h
    · exact .of_some h (.of_core hs rfl rfl rfl rfl (Nat.le_refl _))
    · split at h
      · contradiction
      · rename_i s2 o2 hr
        have g1 : Good0 s { (s.log (.call s.depth fid arg)) with depth := (s.log (.call s.depth fid arg)).depth + 1 } :=
          Good.of_core hs rfl rfl rfl rfl (Nat.le_refl _)
        exact .of_some h ((g1.trans (hb P _ _ _ _ g1.inv hr)).congr rfl rfl rfl rfl (Nat.le_refl _))
  cases fn with
  | leaf fid ts => rw [invokeFun.eq_def] at h; exact leafCase fid h
  | owner fid a b => rw [invokeFun.eq_def] at h; exact leafCase fid h
  | nest blocked inner =>
    rw [invokeFun.eq_def] at h
    simp only at h
    cases inner with
    | none => exact .of_some h (.refl hs)
    | some g => exact .of_ite h (.refl hs) fun _ h => hi P s g arg s' o v hs (fun o ts ht => hfn o ts ht) h
  | fwd ob ts =>
    rw [invokeFun.eq_def] at h
    simp only at h
    obtain ⟨g, hd, hh, hmem⟩ := handleByObj_some hfn (o := ob) (ts := ts) rfl
    rw [hh] at h
    simp only at h
    exact he P s hd.fl hd.impl arg .sum s' o v hs (fun i hi => hs.himpl (g, hd) hmem i hi) h

theorem body_ok (f : Nat) (hl : LineOK f) (hb : BodyOK f) : BodyOK (f+1) := by
  intro P s ls s' o hs h
  cases ls with
  | nil => rw [runBody] at h; exact .of_some h (.refl hs)
  | cons l ls =>
    rw [runBody] at h
    split at h
    · contradiction
    · rename_i s1 h1
      exact .of_some h (hl P s l _ _ hs h1)
    · rename_i s1 h1
      have g1 := hl P s l _ _ hs h1
      exact g1.trans (hb P s1 ls s' o g1.inv h)

theorem line_ok (f : Nat) (ho : OpOK f) : LineOK (f+1) := by
  intro P s l s' o hs h
  rw [execLine] at h
  have g0 : Good0 s { s with steps := s.steps + 1 } := Good.of_core hs rfl rfl rfl rfl (Nat.le_refl _)
  split at h
  · contradiction
  · rename_i s1 _ h1
    exact .of_some h ((g0.trans (ho P _ _ _ _ g0.inv h1)).andThen fun h1 => .of_core_then h1 fun h => good_collect h)
  · rename_i s1 r h1
    exact .of_some h ((g0.trans (ho P _ _ _ _ g0.inv h1)).andThen fun h1 => .of_core_then h1 fun h => good_collect h)


/-- the invocation of one cell (`if (!empty() && !blocked()) call`) -/
theorem cell_step_ok (f : Nat) (hi : InvokeOK f) {P : Prog} {s : St} (hs : Inv s) (i cur arg r : Nat) {s1 : St}
    {o : Outcome} {v : Nat} (h : StepIter.emitStep f P s i cur arg r = some (s1, o, v)) : Good0 s s1 := by
  unfold StepIter.emitStep at h
  split at h
  · exact .of_some h (.refl hs)
  · rename_i fn hcall
    exact hi P s fn arg s1 o v hs (hs.callable_ok hcall) h

theorem loop_ok (f : Nat) (hi : InvokeOK f) (hl : LoopOK f) : LoopOK (f+1) := by
  intro P s i cur m arg r B0 s' o v hs hb hcur h
  rw [StepIter.emitLoop_unfold] at h
  refine .of_ite h (.refl hs) fun hcm h => ?_
  obtain ⟨im, c, him, hfind⟩ := hb.find hcur
  rw [him] at h
  simp only [hfind] at h
  split at h
  · contradiction
  · rename_i s1 v1 hstep
    exact .of_some h (cell_step_ok f hi hs i cur arg r hstep)
  · rename_i s1 v1 hstep
    have g1 := cell_step_ok f hi hs i cur arg r hstep
    have hb1 := hb.frame g1.frame
    obtain ⟨im2, nxt, him2, hsucc, hnxt⟩ := hb1.succ g1.inv hcur hcm
    rw [him2] at h
    simp only [hsucc] at h
    exact g1.trans (hl P s1 i nxt m arg v1 B0 s' o v g1.inv hb1 hnxt h)


theorem deref_ok (f : Nat) (hi : InvokeOK f) : DerefOK (f+1) := by
  intro P s i it arg B s' o it' hs hb hpos h
  rw [deref] at h
  obtain ⟨im, c, him, hfind⟩ := hb.find hpos
  rw [him] at h
  simp only [hfind] at h
  split at h
  · rename_i fn hrep
    refine ite_eq_elim h (fun _ h => ?_) fun _ h => ?_
    · cases h; exact ⟨Good.refl hs, rfl⟩
    · have hfn := hs.fwdC i im him c (find_mem hfind).1 _ fn hrep rfl
      split at h
      · contradiction
      · rename_i hinv; cases h; exact ⟨hi P s fn arg _ _ _ hs hfn hinv, rfl⟩
      · rename_i hinv; cases h; exact ⟨hi P s fn arg _ _ _ hs hfn hinv, rfl⟩
  · cases h; exact ⟨Good.refl hs, rfl⟩

/-- one dereference inside the block `B` of an emission, as the accumulator loops use it: an exception ends
    the loop; otherwise it goes on (`K`) from a state reached by a `Good` step, in which `B` is still the block -/
theorem deref_turn {f : Nat} (hd : DerefOK f) {P : Prog} {s : St} (hs : Inv s) {i : Nat} {B : List (Nat × Bool)}
    (hb : InBlk s i B) {it : IterBuf} (hpos : it.pos ∈ B.map (·.1)) {arg r : Nat}
    {K : St → IterBuf → Option (St × Outcome × Nat)} {s' : St} {o : Outcome} {v : Nat}
    (h : (match deref f P s i it arg with
          | none => none
          | some (s, .exc, _) => some (s, .exc, r)
          | some (s, .ok, it') => K s it') = some (s', o, v))
    (k : ∀ s1 it1, Inv s1 → InBlk s1 i B → it1.pos = it.pos → K s1 it1 = some (s', o, v) → Good0 s1 s') :
    Good0 s s' := by
  split at h
  · contradiction
  · rename_i hder
    exact .of_some h (hd P s i it arg _ _ _ _ hs hb hpos hder).1
  · rename_i s1 it1 hder
    obtain ⟨g1, hp1⟩ := hd P s i it arg _ _ _ _ hs hb hpos hder
    exact g1.trans (k s1 it1 g1.inv (hb.frame g1.frame) hp1 h)

/-- `++it` inside the block -/
theorem advance_ok (f : Nat) (ha : AccOK f) {P : Prog} {s : St} (hs : Inv s) {i m : Nat} {B0 : List (Nat × Bool)}
    (hb : InBlk s i (B0 ++ [(m, true)])) {it : IterBuf} (hpos : it.pos ∈ (B0 ++ [(m, true)]).map (·.1))
    (hpm : it.pos ≠ m) (arg mode k r : Nat) {s' : St} {o : Outcome} {v : Nat}
    (h : StepIter.accAdvance f P i m arg mode k s it r = some (s', o, v)) : Good0 s s' := by
  obtain ⟨im, nxt, him, hsucc, hnxt⟩ := hb.succ hs hpos hpm
  simp only [StepIter.accAdvance, him, hsucc] at h
  exact ha P s i _ m arg mode k r B0 s' o v hs hb hnxt h

theorem acc_ok (f : Nat) (hd : DerefOK f) (ha : AccOK f) : AccOK (f+1) := by
  intro P s i it m arg mode k r B0 s' o v hs hb hpos h
  rw [StepIter.accLoop_unfold] at h
  refine .of_ite h (.refl hs) fun hpm h => ?_
  refine ite_eq_elim h (fun _ h => advance_ok f ha hs hb hpos hpm arg mode k _ h) fun _ h => ?_
  refine deref_turn hd hs hb hpos h fun s1 it1 hs1 hb1 hp1 h => ?_
  refine .of_ite h (.refl hs1) fun _ h => ?_
  have hposX : (if mode = 4 then it else it1).pos = it.pos := by split <;> simp [hp1]
  refine ite_eq_elim h (fun _ h => ?_) fun _ h => ?_
  · refine deref_turn hd hs1 hb1 (by rw [hposX]; exact hpos) h fun s2 it2 hs2 hb2 hp2 h => ?_
    exact advance_ok f ha hs2 hb2 (by rw [hp2, hposX]; exact hpos) (by rw [hp2, hposX]; exact hpm) arg mode k _ h
  · exact advance_ok f ha hs1 hb1 (by rw [hposX]; exact hpos) (by rw [hposX]; exact hpm) arg mode k _ h

theorem rev_ok (f : Nat) (hd : DerefOK f) (hr : RevOK f) : RevOK (f+1) := by
  intro P s i it first arg r B rest s' o v hs hb hB hpos h
  rw [revLoop] at h
  refine .of_ite h (.refl hs) fun hpf h => ?_
  obtain ⟨im, prv, him, hpred, hprv⟩ := hb.pred hs hB hpos hpf
  rw [him] at h
  simp only [hpred] at h
  refine deref_turn hd hs hb hprv h fun s1 it1 hs1 hb1 hp1 h => ?_
  exact hr P s1 i it1 first arg _ B rest s' o v hs1 hb1 hB (by rw [hp1]; exact hprv) h

theorem walk_ok (f : Nat) (hd : DerefOK f) (hw : WalkOK f) : WalkOK (f+1) := by
  intro P s i it first m arg ops r B0 rest s' o v hs hb hB hpos h
  cases ops with
  | nil => rw [walkLoop] at h; exact .of_some h (.refl hs)
  | cons c cs =>
    rw [walkLoop] at h
    have skip : walkLoop f P s i it first m arg cs r = some (s', o, v) → Good0 s s' :=
      hw P s i it first m arg cs r B0 rest s' o v hs hb hB hpos
    refine ite_eq_elim h (fun _ h => ?_) fun _ h => ite_eq_elim h (fun _ h => ?_) fun _ h =>
      ite_eq_elim h (fun _ h => ?_) fun _ h => ite_eq_elim h (fun _ h => ?_) fun _ h => skip h
    · -- the four characters of the walk script, in the order of `Model.walkLoop`: 'd'
      refine ite_eq_elim h (fun _ h => skip h) fun _ h => ?_
      refine deref_turn hd hs hb hpos h fun s1 it1 hs1 hb1 hp1 h => ?_
      exact hw P s1 i it1 first m arg cs _ B0 rest s' o v hs1 hb1 hB (by rw [hp1]; exact hpos) h
    · -- 'c'
      refine ite_eq_elim h (fun _ h => skip h) fun _ h => ?_
      refine deref_turn hd hs hb hpos h fun s1 it1 hs1 hb1 hp1 h => ?_
      exact hw P s1 i it first m arg cs _ B0 rest s' o v hs1 hb1 hB hpos h
    · -- 'i'
      refine ite_eq_elim h (fun _ h => skip h) fun hpm h => ?_
      obtain ⟨im, nxt, him, hsucc, hnxt⟩ := hb.succ hs hpos hpm
      rw [him] at h
      simp only [hsucc] at h
      exact hw P s i _ first m arg cs r B0 rest s' o v hs hb hB hnxt h
    · -- 'x'
      refine ite_eq_elim h (fun _ h => skip h) fun hpf h => ?_
      obtain ⟨im, prv, him, hpred, hprv⟩ := hb.pred hs hB hpos hpf
      rw [him] at h
      simp only [hpred] at h
      exact hw P s i _ first m arg cs r B0 rest s' o v hs hb hB hprv h

theorem strat_ok (f : Nat) (ha : AccOK f) (hr : RevOK f) (hw : WalkOK f) : StratOK (f+1) := by
  intro P s i first m arg strat B0 rest s' o v hs hb hB h
  have hfirst : first ∈ (B0 ++ [(m, true)]).map (·.1) := by rw [hB]; simp
  have hm : m ∈ (B0 ++ [(m, true)]).map (·.1) := by simp
  -- the numbers are the modes of `Model.accLoop`
  cases strat <;> rw [runStrat] at h
  case sum => exact ha P s i _ m arg 0 0 0 B0 s' o v hs hb hfirst h
  case stop k => exact ha P s i _ m arg 1 k 0 B0 s' o v hs hb hfirst h
  case twice => exact ha P s i _ m arg 2 0 0 B0 s' o v hs hb hfirst h
  case never => exact ha P s i _ m arg 3 0 0 B0 s' o v hs hb hfirst h
  case postinc => exact ha P s i _ m arg 4 0 0 B0 s' o v hs hb hfirst h
  case rev => exact hr P s i _ first arg 0 _ rest s' o v hs hb hB hm h
  case walk ops => exact hw P s i _ first m arg ops 0 B0 rest s' o v hs hb hB hfirst h

theorem op_ok (f : Nat) (hi : InvokeOK f) (he : EmitOK f) : OpOK (f+1) := by
  intro P s op s' res hs h
  rw [execOp.eq_def] at h
  simp only at h
  split at h
  · -- callS
    rename_i i arg
    split at h
    · exact .of_some h (.refl hs)
    · rename_i v hv
      refine .of_ite h (.refl hs) fun _ h => .of_ite h (.refl hs) fun _ h => ?_
      split at h
      · rename_i fn hrep
        refine .of_ite h (.refl hs) fun _ h => ?_
        have hsl := hs.fwdS i v hv
        have h0 : Inv { s with S := aset s.S i { v with incall := v.incall + 1 } } := hs.setS i _ hsl
        split at h
        · contradiction
        · rename_i s1 o r hinv
          have g1 := hi P _ fn arg s1 o r h0 (hsl _ fn hrep rfl) hinv
          have hpos : incallOf s1 i = v.incall + 1 := by
            rw [g1.frame.vars i, incallOf_aset]; simp
          cases hv2 : aget s1.S i with
          | none => rw [incallOf_of_none hv2] at hpos; omega
          | some v2 =>
            rw [hv2] at h
            simp only at h
            have hfin : Good0 s { s1 with S := aset s1.S i { v2 with incall := v2.incall - 1 } } :=
              ⟨g1.inv.setS i _ (g1.inv.fwdS i v2 hv2), Frame.bracketS hv g1.frame hv2⟩
            split at h
            · exact .of_some h hfin
            · exact .of_some h hfin
      · exact .of_some h (.refl hs)
  · -- emit
    rename_i g arg strat try_
    split at h
    · exact .of_some h (.refl hs)
    · rename_i hd hg
      refine .of_ite h (.refl hs) fun _ h => .of_ite h (.refl hs) fun _ h => ?_
      have hh : ∀ k, hd.impl = some k → (aget s.impls k).isSome = true :=
        fun k hk => hs.himpl (g, hd) (aget_some_mem hg) k hk
      split at h
      · contradiction
      · rename_i s1 v1 hem
        have g1 := he P s hd.fl hd.impl arg strat s1 _ v1 hs hh hem
        exact ite_eq_elim h (fun _ h => .of_some h g1) fun _ h => .of_some h g1
      · rename_i s1 v1 hem
        exact .of_some h (he P s hd.fl hd.impl arg strat s1 _ v1 hs hh hem)
  · exact .of_some h (.refl hs)
  · split at h
    · -- the mode rule refuses the operation: the state is unchanged
      exact .of_some h (.refl hs)
    · split at h
      · rename_i hst
        exact .of_some h (stepSimple_good hs hst)
      · exact .of_some h (.refl hs)

theorem emit_ok (f : Nat) (hst : StratOK f) (hl : LoopOK f) : EmitOK (f+1) := by
  intro P s fl impl arg strat s' o v hs himpl h
  cases impl with
  | none => rw [emitImpl] at h; exact .of_some h (.refl hs)
  | some i =>
    rw [emitImpl_succ] at h
    cases hi : aget s.impls i with
    | none => have := himpl i rfl; rw [hi] at this; contradiction
    | some im =>
      rw [hi] at h
      simp only at h
      refine .of_ite h (.refl hs) fun _ h => ?_
      obtain ⟨h1, hb1⟩ := emitStart_inv hs hi
      obtain ⟨rest, hB⟩ := emitFirst_cons s im
      split at h
      · contradiction
      · rename_i s2 o2 v2 hr
        refine .of_some h (good_emission hs hi ?_)
        refine ite_eq_elim hr (fun _ hr => ?_) fun _ hr => ?_
        · exact hst P _ i (emitFirst s im) s.next arg (strat.forFlavour fl) (skel im) _ s2 o2 v2 h1 hb1 hB hr
        · exact hl P _ i (emitFirst s im) s.next arg 0 (skel im) s2 o2 v2 h1 hb1
            (by rw [hB]; exact List.mem_cons_self) hr

structure AllOK (f : Nat) : Prop where
  invoke : InvokeOK f
  body : BodyOK f
  line : LineOK f
  emit : EmitOK f
  loop : LoopOK f
  deref : DerefOK f
  acc : AccOK f
  rev : RevOK f
  walk : WalkOK f
  strat : StratOK f
  op : OpOK f

theorem all_ok : ∀ f, AllOK f := by
  intro f
  induction f with
  | zero =>
    refine ⟨?_, ?_, ?_, ?_, ?_, ?_, ?_, ?_, ?_, ?_, ?_⟩
    · intro P s fn arg s' o v _ _ h; simp [invokeFun] at h
    · intro P s ls s' o _ h; simp [runBody] at h
    · intro P s l s' o _ h; simp [execLine] at h
    · intro P s fl impl arg strat s' o v _ _ h; simp [emitImpl] at h
    · intro P s i cur m arg r B0 s' o v _ _ _ h; simp [emitLoop] at h
    · intro P s i it arg B s' o it' _ _ _ h; simp [deref] at h
    · intro P s i it m arg mode k r B0 s' o v _ _ _ h; simp [accLoop] at h
    · intro P s i it first arg r B rest s' o v _ _ _ _ h; simp [revLoop] at h
    · intro P s i it first m arg ops r B0 rest s' o v _ _ _ _ h; simp [walkLoop] at h
    · intro P s i first m arg strat B0 rest s' o v _ _ _ h; simp [runStrat] at h
    · intro P s op s' res _ h; simp [execOp] at h
  | succ f ih =>
    exact ⟨invoke_ok f ih.body ih.invoke ih.emit, body_ok f ih.line ih.body, line_ok f ih.op,
           emit_ok f ih.strat ih.loop, loop_ok f ih.invoke ih.loop, deref_ok f ih.invoke,
           acc_ok f ih.deref ih.acc, rev_ok f ih.deref ih.rev, walk_ok f ih.deref ih.walk,
           strat_ok f ih.acc ih.rev ih.walk, op_ok f ih.invoke ih.emit⟩

theorem inv_init : Inv ({} : St) := by
  refine ⟨by simp, ?_, ?_, ?_, ?_, ?_, ?_, rfl, fun p hp => by simp at hp⟩
  · intro i im h; simp [aget] at h
  · intro i im h; simp [aget] at h
  · intro i j im jm h; simp [aget] at h
  · intro p hp; simp at hp
  · intro i v h; simp [aget] at h
  · intro i im h; simp [aget] at h

theorem runTop_good (f : Nat) (P : Prog) (s : St) (ls : List Line) (s' : St) (hs : Inv s)
    (h : runTop f P s ls = some s') : Good0 s s' :=
  Sigc.Inv.runTop_induct (J := Good0 s) (fun _ l s1 o g h1 => g.trans ((all_ok f).line P _ l s1 o g.inv h1)) (Good.refl hs) h

theorem good_reachable (f : Nat) (P : Prog) (ls : List Line) (s : St) (h : runTop f P {} ls = some s) : Good0 {} s :=
  runTop_good f P {} ls s inv_init h

theorem emit_good (f : Nat) (P : Prog) {s : St} (hs : Inv s) {g : Nat} {h : Handle} (hg : aget s.G g = some h)
    {arg : Nat} {strat : Strat} {s' : St} {o : Outcome} {v : Nat}
    (he : emitImpl f P s h.fl h.impl arg strat = some (s', o, v)) : Good0 s s' :=
  (all_ok f).emit P s h.fl h.impl arg strat s' o v hs (fun i hi => hs.himpl (g, h) (aget_some_mem hg) i hi) he

/-- a state reached from the initial one by `Good` steps is quiescent and clean: no impl is emitting, none waits
    for a sweep or has a holder or an end marker, and every cell is still linked -/
theorem quiescent_of_good {s : St} (g : Good0 {} s) {i : Nat} {im : Impl} (hi : aget s.impls i = some im) :
    im.exec = 0 ∧ im.deferred = false ∧ im.holders = 0 ∧
    ∀ c ∈ im.cells, c.slot.rep.isSome = true ∧ c.linked = true := by
  have hx : im.exec = 0 := by
    have := g.frame.exec i
    rw [execOf_pos hi] at this
    exact this
  have hok := g.inv.ok i im hi
  have hd := hok.q1 hx
  refine ⟨hx, hd, by have := hok.eh; omega, fun c hc => ?_⟩
  have hn := hok.no_markers hx c hc
  refine ⟨?_, hok.d hd c hc hn⟩
  cases hr : c.slot.rep <;> simp_all

end Sigc.Emit
