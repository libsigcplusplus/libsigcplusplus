import Sigc.Model
import Sigc.Lemmas.Basic
import Sigc.Lemmas.Built
import Sigc.Lemmas.Blind
/-!
The call log (`trace`) and the nesting depth: no library operation touches them.  For the cascades this is one fact
(`libBlind_td`: the pair is a `LibBlind` projection) and its instances `X_td`, each a conjunction.  `stepSimple` (every
operation that runs no user code) leaves both unchanged because every `Move` (`Lemmas/Built`) does: `move_td`.
-/
namespace Sigc.StepIter
open Sigc.Model

/-- `trace` and `depth` are read by no library cascade and written by none: none of the fields the primitive
    updates write (`Inv.Prims`) is among them -/
theorem libBlind_td : LibBlind (fun s => (s.trace, s.depth)) := fun _ _ _ _ _ _ => rfl
theorem ownBlind_td : OwnBlind (fun s => (s.trace, s.depth)) := fun _ _ _ _ => rfl

@[simp] theorem fail_trace (s : St) (m : String) : (s.fail m).trace = s.trace := by
  unfold St.fail; split <;> rfl
@[simp] theorem fail_depth (s : St) (m : String) : (s.fail m).depth = s.depth := by
  unfold St.fail; split <;> rfl
@[simp] theorem fail_impls (s : St) (m : String) : (s.fail m).impls = s.impls := by
  unfold St.fail; split <;> rfl

@[simp] theorem setImpl_trace (s : St) (i : Nat) (im : Impl) : (setImpl s i im).trace = s.trace := rfl
@[simp] theorem setImpl_depth (s : St) (i : Nat) (im : Impl) : (setImpl s i im).depth = s.depth := rfl
@[simp] theorem nullConns_trace (s : St) (c : Nat) : (nullConns s c).trace = s.trace := rfl
@[simp] theorem nullConns_depth (s : St) (c : Nat) : (nullConns s c).depth = s.depth := rfl
@[simp] theorem setConn_trace (s : St) (k : Nat) (p : Option Nat) : (setConn s k p).trace = s.trace := rfl
@[simp] theorem setConn_depth (s : St) (k : Nat) (p : Option Nat) : (setConn s k p).depth = s.depth := rfl

theorem invalidateCell_td (s : St) (c : Nat) : (invalidateCell s c).trace = s.trace ∧ (invalidateCell s c).depth = s.depth :=
  Prod.mk.inj ((libBlind_td.prims _).invalidateCell c rfl)
@[simp] theorem invalidateCell_trace (s : St) (c : Nat) : (invalidateCell s c).trace = s.trace := (invalidateCell_td s c).1
@[simp] theorem invalidateCell_depth (s : St) (c : Nat) : (invalidateCell s c).depth = s.depth := (invalidateCell_td s c).2

@[simp] theorem eraseCell_td (s : St) (i c : Nat) : (eraseCell s i c).trace = s.trace ∧ (eraseCell s i c).depth = s.depth :=
  Prod.mk.inj ((libBlind_td.prims _).eraseCell i c rfl)
@[simp] theorem unrefExec_td (s : St) (i : Nat) : (unrefExec s i).trace = s.trace ∧ (unrefExec s i).depth = s.depth :=
  Prod.mk.inj ((libBlind_td.prims _).unrefExec i rfl)
@[simp] theorem gcImpl_td (s : St) (i : Nat) : (gcImpl s i).trace = s.trace ∧ (gcImpl s i).depth = s.depth :=
  Prod.mk.inj ((libBlind_td.prims _).gcImpl i rfl)

theorem ensureImpl_td (s s' : St) (g i : Nat) (h : ensureImpl s g = some (s', i)) :
    s'.trace = s.trace ∧ s'.depth = s.depth := by
  obtain ⟨_, _, ⟨_, rfl⟩ | ⟨_, _, rfl⟩⟩ := Model.ensureImpl_cases h <;> exact ⟨rfl, rfl⟩

@[simp] theorem insertCell_td (s : St) (i : Nat) (first : Bool) (sl : SlotB) :
    (insertCell s i first sl).1.trace = s.trace ∧ (insertCell s i first sl).1.depth = s.depth := by
  unfold insertCell
  simp only [St.fresh]
  split <;> simp
@[simp] theorem insertCell_depth (s : St) (i : Nat) (first : Bool) (sl : SlotB) :
    (insertCell s i first sl).1.depth = s.depth := (insertCell_td s i first sl).2

theorem collect_td (s : St) : (collect s).trace = s.trace ∧ (collect s).depth = s.depth :=
  Prod.mk.inj (libBlind_td.collect ownBlind_td s)
@[simp] theorem collect_trace (s : St) : (collect s).trace = s.trace := (collect_td s).1
@[simp] theorem collect_depth (s : St) : (collect s).depth = s.depth := (collect_td s).2

theorem gcOpt_td (s : St) (o : Option Nat) : (gcOpt s o).trace = s.trace ∧ (gcOpt s o).depth = s.depth :=
  Prod.mk.inj ((libBlind_td.prims _).gcOpt o rfl)

theorem mkFun_td {s s' : St} {fn : Fun} {τ : Int} (m : MkFun s τ fn s') : s'.trace = s.trace ∧ s'.depth = s.depth := by
  cases m <;> exact ⟨rfl, rfl⟩

theorem move_td {s s' : St} (m : Move s s') : s'.trace = s.trace ∧ s'.depth = s.depth := by
  cases m with
  | lib l => exact Prod.mk.inj ((libBlind_td.prims _).lib l rfl)
  | made h => exact mkFun_td h
  | mkS h _ _ => exact ⟨(mkFun_td h).1, (mkFun_td h).2⟩
  | ensure h => exact ensureImpl_td _ _ _ _ h
  | asgG _ _ => exact gcOpt_td _ _
  | masgG _ _ _ => exact gcOpt_td _ _
  | connfn _ _ hm he =>
    simp [(mkFun_td hm).1, (mkFun_td hm).2, (ensureImpl_td _ _ _ _ he).1, (ensureImpl_td _ _ _ _ he).2]
  | delT _ => exact Prod.mk.inj ((libBlind_td.prims _).invalidateTrackable _ rfl)
  | drop _ _ => exact Prod.mk.inj (libBlind_td.dropHandle ownBlind_td _ _)
  | _ => first | exact ⟨rfl, rfl⟩ | simp

theorem stepSimple_td (s s' : St) (op : Op) (r : String) (h : stepSimple s op = some (s', r)) :
    s'.trace = s.trace ∧ s'.depth = s.depth :=
  stepSimple_preserved' (I := fun x => x.trace = s.trace ∧ x.depth = s.depth)
    (fun m i => ⟨(move_td m).1.trans i.1, (move_td m).2.trans i.2⟩) h ⟨rfl, rfl⟩

end Sigc.StepIter
