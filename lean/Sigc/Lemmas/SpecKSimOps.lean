import Sigc.Lemmas.SpecKSimDefs
import Sigc.Lemmas.SpecKOpsVars
import Sigc.Lemmas.SpecKOpsSignals
/-!
# SpecKSimOps — `stepSimple_sim` over all operations, and the steps of the mutual induction for `invokeFun`, `runBody`,
`execLine`, `execOp`

An arm of `stepSimple_sim` stands in place when at most one of its branches changes the state, in one step from the start
states: look-ups and guards, then one conclusion about `h` itself (those of `SpecKStepR`, `newHandle`, or `of0` of one
`<primitive>_sim`; for `delT`, `delK` after the entry has left its table: `Sim0.pre`).  An operation has a lemma `step_<op>`
(`SpecKOpsVars`, `SpecKOpsSignals`) when it changes the state in several steps, the later ones from related states other
than the start, or in several branches (`masgS`).
-/
namespace Sigc.SpecK
open Sigc.Model Sigc.Spec
open Sigc.Emit (aget_some_mem)

theorem stepSimple_sim {ρ : IdRel} {t u : LSt} (h : Q ρ t u) (hq : Quiet t) (op : Op) :
    StepR ρ t u (Spec.stepSimple t op) (Spec.stepSimple u op) := by
  cases op with
  | newT tt =>
    dsimp only [Spec.stepSimple]
    exact (h.T.get tt).on (.fresh1 (h.fresh.setT (h.fresh.T.set tt (ext_new _ _ _))) _ rfl rfl rfl rfl) fun _ => .same h _
  | delT tt =>
    dsimp only [Spec.stepSimple]
    exact (h.T.get tt).on (.same h _) fun ho =>
      .of0 ((invalidateTrackable_sim (h.setT (h.T.del tt)) ho).pre (t := t) (u := u) rfl rfl rfl rfl) _
  | notifyT tt =>
    dsimp only [Spec.stepSimple]
    exact (h.T.get tt).on (.same h _) fun ho => .of0 (invalidateTrackable_sim h ho) _
  | cpT j i =>
    dsimp only [Spec.stepSimple]
    exact (h.T.get i).on (.same h _) fun _ => (h.T.get j).on
      (.fresh1 (h.fresh.setT (h.fresh.T.set j (ext_new _ _ _))) _ rfl rfl rfl rfl) fun _ => .same h _
  | mvT a b => exact step_mvT h a b
  | asgT j i =>
    dsimp only [Spec.stepSimple]
    refine (h.T.get j).on (.same h _) fun hoj => (h.T.get i).on (.same h _) fun _ => ?_
    dsimp only
    split
    · exact .same h _
    · exact .of0 (invalidateTrackable_sim h hoj) _
  | masgT a b => exact step_masgT h a b
  | mkS a b c => exact step_mkS h a b c
  | mkS0 i ty =>
    dsimp only [Spec.stepSimple]
    exact (h.S.get i).on (.ite (fun _ => .same h _) (fun _ => .setS h i _ ⟨rfl, ⟨rfl, .none⟩, rfl, rfl⟩)) fun _ => .same h _
  | cpS j i =>
    dsimp only [Spec.stepSimple]
    exact (h.S.get i).on (.same h _) fun hv => (h.S.get j).on
      (.setS h j _ ⟨hv.isVoid, hv.slot.copy, rfl, hv.taint⟩) fun _ => .same h _
  | mvS j i =>
    dsimp only [Spec.stepSimple]
    refine (h.S.get i).on (.same h _) fun hv => (h.S.get j).on ?_ fun _ => .same h _
    dsimp only
    rw [hv.incall]
    refine .ite (fun _ => .same h _) (fun _ => .upd (h.setS (AR.set (AR.set h.S i ?_) j ?_)) _ rfl rfl rfl rfl)
    · exact ⟨hv.isVoid, hv.slot.move2, rfl, hv.taint⟩
    · exact ⟨hv.isVoid, hv.slot.move1, rfl, hv.taint⟩
  | asgS j i =>
    dsimp only [Spec.stepSimple]
    refine (h.S.get j).on (.same h _) fun hd => (h.S.get i).on (.same h _) fun hv => ?_
    dsimp only
    rw [hd.isVoid, hv.isVoid, hd.incall, hd.taint, hv.taint]
    exact .ite (fun _ => .same h _) fun _ => .ite (fun _ => .same h _) fun _ =>
      .setS h j _ ⟨rfl, hd.slot.assign hv.slot _, rfl, rfl⟩
  | masgS a b => exact step_masgS h a b
  | setS a b => exact step_setS h a b
  | delS i =>
    dsimp only [Spec.stepSimple]
    refine (h.S.get i).on (.same h _) fun hv => ?_
    dsimp only
    rw [hv.incall]
    exact .ite (fun _ => .same h _) (fun _ => .upd (h.setS (h.S.del i)) _ rfl rfl rfl rfl)
  | discS i =>
    dsimp only [Spec.stepSimple]
    exact (h.S.get i).on (.same h _) fun hv => .setS h i _ ⟨hv.isVoid, hv.slot.disconnectRep, hv.incall, hv.taint⟩
  | blockS i b =>
    dsimp only [Spec.stepSimple]
    refine (h.S.get i).on (.same h _) fun hv => ?_
    dsimp only
    rw [hv.slot.blocked]
    exact .setS h i _ ⟨hv.isVoid, hv.slot.setBlocked b, hv.incall, hv.taint⟩
  | blockedSq i =>
    dsimp only [Spec.stepSimple]
    exact (h.S.get i).on (.same h _) fun hv => by dsimp only; rw [hv.slot.blocked]; exact .same h _
  | emptySq i =>
    dsimp only [Spec.stepSimple]
    exact (h.S.get i).on (.same h _) fun hv => by dsimp only; rw [hv.slot.empty]; exact .same h _
  | boolSq i =>
    dsimp only [Spec.stepSimple]
    exact (h.S.get i).on (.same h _) fun hv => by dsimp only; rw [← hv.slot.rep.isSome]; exact .same h _
  | callS a b => exact .none
  | newG i fl =>
    dsimp only [Spec.stepSimple, LSt.fresh]
    cases fl with
    | none => exact .same h _
    | some fl => exact (h.G.get i).on (newHandle h i rfl rfl .none _) fun _ => .same h _
  | cpG a b => exact step_cpG h a b
  | mvG a b => exact step_mvG h a b
  | asgG a b => exact step_asgG h a b
  | masgG a b => exact step_masgG h a b
  | delG i =>
    rw [stepSimple_delG, stepSimple_delG]
    exact (h.G.get i).on (.same h _) fun hh =>
      .ite_iff (by rw [hh.fl, hh.everFwd]) (fun _ => .same h _) fun _ =>
        .ite_iff (by rw [h.ownedG_any i]) (fun _ => .same h _) fun _ => .of0 (dropHandle_sim h i) _
  | conn a b c d e => exact step_conn h a b c d e
  | connfn a b c d => exact step_connfn h a b c d
  | emit a b c d => exact .none
  | throw_ => exact .none
  | clear g =>
    rw [stepSimple_clear, stepSimple_clear, h.k1, h.k2, h.k1', h.k2']
    exact onList_sim h g _ _ fun _ _ _ _ him e5 e6 _ _ =>
      .of0 (setSig_remove_sim h him e5 e6 false _ _ (fun _ _ _ _ _ => rfl)) _
  | sizeq g =>
    rw [stepSimple_sizeq, stepSimple_sizeq]
    exact onList_sim h g _ _ fun _ _ _ _ _ _ _ hr hv => idle_query h hr hv (fun hc => by rw [hc.length])
  | emptyGq g =>
    rw [stepSimple_emptyGq, stepSimple_emptyGq]
    exact onList_sim h g _ _ fun _ _ _ _ _ _ _ hr hv => idle_query h hr hv (fun hc => by rw [hc.isEmpty])
  | blockedGq g =>
    rw [stepSimple_blockedGq, stepSimple_blockedGq]
    exact onList_sim h g _ _ fun _ _ _ _ _ _ _ hr hv => idle_query h hr hv (fun hc => by
      rw [hc.all (fun c => c.slot.blocked) (fun c => c.slot.blocked) (fun a b hab => hab.slot.blocked.symm)])
  | blockG g b =>
    rw [stepSimple_blockG, stepSimple_blockG]
    exact onList_sim h g _ _ fun _ _ _ _ him e5 e6 _ _ =>
      .of0 (mapCells_sim h him e5 e6 (fun c => { c with slot := { c.slot with blocked := b } })
        (fun c => { c with slot := { c.slot with blocked := b } }) ⟨fun _ => rfl, fun _ => rfl, fun _ => rfl, fun _ => rfl⟩
        (fun _ _ hcr => ⟨hcr.id, hcr.slot.setBlocked b, hcr.marker, hcr.zombie⟩)) _
  | newC i =>
    dsimp only [Spec.stepSimple]
    exact (h.C.get i).on (.setC h i _ .none) fun _ => .same h _
  | cpC j i =>
    dsimp only [Spec.stepSimple]
    exact (h.C.get i).on (.same h _) fun hp => (h.C.get j).on (.setC h j _ hp) fun _ => .same h _
  | asgC j i =>
    dsimp only [Spec.stepSimple]
    exact (h.C.get j).on (.same h _) fun _ => (h.C.get i).on (.same h _) fun hp => .setC h j _ hp
  | delC i => exact step_ptr h h.C i fun _ => .upd (h.setC (h.C.del i)) _ rfl rfl rfl rfl
  | disc i => exact step_ptr h h.C i fun hp => .of0 (Sim0.onSome h hp (removeCell_sim h)) _
  | connectedq i => exact step_ptr h h.C i fun hp => by rw [connConnected_sim h hp]; exact .same h _
  | emptyCq i => exact step_ptr h h.C i fun hp => by rw [connConnected_sim h hp]; exact .same h _
  | blockedCq i => exact step_ptr h h.C i fun hp => by rw [connBlockedStr_sim h hp]; exact .same h _
  | blockC i b =>
    exact step_ptr h h.C i fun hp => by
      rw [connBlockedStr_sim h hp]; exact .of0 (Sim0.onSome h hp fun hc => updCell_sim h hc b) _
  | newK0 i =>
    dsimp only [Spec.stepSimple]
    exact (h.K.get i).on (.setK h i _ .none) fun _ => .same h _
  | newK i c =>
    dsimp only [Spec.stepSimple]
    exact (h.C.get c).on (.same h _) fun hp => (h.K.get i).on (.setK h i _ hp) fun _ => .same h _
  | asgKC a b => exact step_asgKC h a b
  | mvK j i =>
    dsimp only [Spec.stepSimple]
    exact (h.K.get i).on (.same h _) fun hp => (h.K.get j).on
      (.upd (h.setK ((h.K.set i .none).set j hp)) _ rfl rfl rfl rfl) fun _ => .same h _
  | masgK a b => exact step_masgK h a b
  | swapK i j =>
    dsimp only [Spec.stepSimple]
    exact (h.K.get i).on (.same h _) fun ha => (h.K.get j).on (.same h _) fun hb =>
      .upd (h.setK ((h.K.set i hb).set j ha)) _ rfl rfl rfl rfl
  | relK c k => exact step_ptr h h.K k fun hp => .upd ((h.setK (h.K.set k .none)).setC (h.C.set c hp)) _ rfl rfl rfl rfl
  | discK i => exact step_ptr h h.K i fun hp => .of0 (Sim0.onSome h hp (removeCell_sim h)) _
  | delK i =>
    exact step_ptr h h.K i fun hp => .of0 ((Sim0.onSome (h.setK (h.K.del i)) hp (removeCell_sim (h.setK (h.K.del i)))).pre
      (t := t) (u := u) rfl rfl rfl rfl) _
  | connectedKq i => exact step_ptr h h.K i fun hp => by rw [connConnected_sim h hp]; exact .same h _
  | blockedKq i => exact step_ptr h h.K i fun hp => by rw [connBlockedStr_sim h hp]; exact .same h _
  | blockK i b =>
    exact step_ptr h h.K i fun hp => by
      rw [connBlockedStr_sim h hp]; exact .of0 (Sim0.onSome h hp fun hc => updCell_sim h hc b) _
  | liveq fid =>
    -- the one arm that needs `Quiet`: see `liveCount_sim`
    dsimp only [Spec.stepSimple]
    rw [h.depth]
    split
    · exact .same h _
    · rw [liveCount_sim h (hq (by omega)) fid]
      exact .same h _
  | mark => exact .same h _
  | allocsq => exact .same h _
  | bad => exact .same h _

theorem invoke_owner_eq (f : Nat) (P : Prog) (s : LSt) (fid : Nat) (a k : List Nat) (arg : Nat) :
    Spec.invokeFun (f+1) P s (.owner fid a k) arg = Spec.invokeFun (f+1) P s (.leaf fid []) arg := by
  unfold Spec.invokeFun; rfl

theorem cInvoke_owner_eq (f : Nat) (P : Prog) (s : LSt) (fid : Nat) (a k : List Nat) (arg : Nat) :
    cInvoke (f+1) P s (.owner fid a k) arg = cInvoke (f+1) P s (.leaf fid []) arg := by
  unfold cInvoke; rfl

theorem invoke_leaf (f : Nat) (ih : All f) (P : Prog) {ρ : IdRel} {t u : LSt} (fid : Nat) (ts ts' : List Nat) (arg : Nat)
    (hq : Q ρ t u) (hst : Settled t) :
    Sim ρ t u (cInvoke (f+1) P t (.leaf fid ts) arg) (Spec.invokeFun (f+1) P t (.leaf fid ts) arg)
      (Spec.invokeFun (f+1+1) P u (.leaf fid ts') arg) := by
  unfold Spec.invokeFun cInvoke
  dsimp only
  rw [hq.depth]
  cases aget P.bodies fid with
  | none =>
    dsimp only
    exact .to (show Good ρ t u _ _ from ⟨ρ, hq.log _, Step.of_eq rfl rfl, Fr.of_eq rfl rfl⟩) hst.congr _
  | some body =>
    dsimp only
    rw [show (u.log (.call t.depth fid arg)).depth = (t.log (.call t.depth fid arg)).depth from hq.depth]
    refine SimP.call (ih.body' P ((hq.log _).setDepth _) hst.congr (fun hd => by simp at hd) body)
      (fun _ _ => .off) (fun _ => .nil) fun ρ2 t2 u2 o2 hq2 hs2 hf2 hst2 => ?_
    dsimp only
    rw [hq2.depth]
    -- the body ran one level deeper
    have hd : t2.depth - 1 = t.depth := by rw [hf2.depth]; rfl
    exact .to (show Good ρ t u _ _ from ⟨ρ2, hq2.setDepth (t2.depth - 1), hs2.congr rfl rfl rfl rfl, hd, hf2.act, hf2.mks⟩)
      hst2.congr _

theorem invoke_succ (f : Nat) (ih : All f) : SInvoke (f+1) := by
  intro P ρ t u fn fn' arg t' o v hq hst hfn hc hr
  refine (?_ : Sim ρ t u _ _ _) t' (o, v) hc hr
  cases hfn with
  | leaf fid _ => exact invoke_leaf f ih P fid _ _ arg hq hst
  | owner fid _ _ =>
    rw [invoke_owner_eq, invoke_owner_eq, cInvoke_owner_eq]
    exact invoke_leaf f ih P fid _ _ arg hq hst
  | nestNone b => unfold Spec.invokeFun; exact .ret hq hst _
  | nestSome b hff =>
    unfold Spec.invokeFun cInvoke
    dsimp only
    exact .ite (.ret hq hst _) (ih.invoke' P hq hst hff arg)
  | fwd ho _ =>
    unfold Spec.invokeFun cInvoke
    dsimp only
    match hx : Spec.handleByObj t _, Spec.handleByObj u _, handleByObj_sim hq ho with
    | _, _, .none => exact .to (Good.of0 (Sim0.fail hq _ _)) (hst.fail _) _
    | some (g, hd), some (g', hd'), .some hh =>
      dsimp only
      rw [hh.fl]
      exact ih.emit' P hq hst hd.fl hh.impl
        (fun i hi => List.any_eq_true.mpr ⟨(g, hd), List.mem_of_find?_eq_some hx, by simpa using hi⟩) arg .sum

theorem body_succ (f : Nat) (ih : All f) : SBody (f+1) := by
  intro P ρ t u ls t' o hq hst hqt hc hr
  refine (?_ : Sim ρ t u _ _ _) t' o hc hr
  cases ls with
  | nil => unfold Spec.runBody; exact .ret hq hst _
  | cons l ls =>
    unfold Spec.runBody cBody
    refine SimP.call (ih.line' P hq hst hqt l) (fun _ _ => .off) (fun _ => .nil) fun ρ1 t1 u1 o1 hq1 hs1 hf1 hst1 => ?_
    cases o1 with
    | exc => exact .after hs1 hf1 (.ret hq1 hst1 _)
    | ok => exact .after hs1 hf1 (ih.body' P hq1 hst1 (hqt.of_fr hf1) ls)

theorem line_succ (f : Nat) (ih : All f) : SLine (f+1) := by
  intro P ρ t u l t' o hq hst hqt hc hr
  refine (?_ : Sim ρ t u _ _ _) t' o hc hr
  unfold Spec.execLine cLine
  dsimp only
  rw [hq.steps]
  refine SimP.call (ih.op' P (hq.setSteps (t.steps + 1)) hst.congr (hqt.of_fr (Fr.of_eq rfl rfl)) l.op)
    (fun _ _ => .off) (fun _ => .nil) fun ρ1 t1 u1 e hq1 hs1 hf1 _ => ?_
  -- the result is logged and what the operation has released is collected, whether it threw or not
  have fin : ∀ (r : String) (x : Outcome), Sim ρ t u true (some (Spec.collect (t1.log (.res t1.depth l.text r)), x))
      (some (Spec.collect (u1.log (.res u1.depth l.text r)), x)) := fun r x => by
    rw [hq1.depth]
    have h2 := collect_sim (hq1.log (.res t1.depth l.text r))
    exact .to (show Good ρ t u _ _ from ⟨ρ1, h2.q, hs1.congr rfl h2.nk rfl h2.np,
      (hf1.pre (t := t) rfl rfl).trans (h2.fr.pre rfl rfl)⟩) (collectStep_collect _) x
  cases e <;> exact fin _ _

theorem op_simple (f : Nat) (P : Prog) {ρ : IdRel} {t u : LSt} (hq : Q ρ t u) (hqt : Quiet t) {op : Op}
    (hop : isComplex op = false) {c : Bool} :
    SimOp ρ t u c (Spec.execOp (f+1) P t op) (Spec.execOp (f+1+1) P u op) := by
  rw [execOp_simple _ _ _ _ hop, execOp_simple _ _ _ _ hop, modeRule_sim hq]
  cases Spec.modeRule P t op with
  | some r => exact .ret hq trivial _
  | none =>
    dsimp only
    match Spec.stepSimple t op, Spec.stepSimple u op, stepSimple_sim hq hqt op with
    | _, _, .none => exact .ret hq trivial _
    | _, _, .ok r ρ' hq' hs' hf' => exact .to ⟨ρ', hq', hs', hf'⟩ trivial _

theorem op_callS (f : Nat) (ih : All f) (P : Prog) {ρ : IdRel} {t u : LSt} (i arg : Nat) (hq : Q ρ t u) (hst : Settled t) :
    SimOp ρ t u (cOp (f+1) P t (.callS i arg)) (Spec.execOp (f+1) P t (.callS i arg))
      (Spec.execOp (f+1+1) P u (.callS i arg)) := by
  unfold Spec.execOp cOp
  dsimp only
  match hx : aget t.S i, aget u.S i, hq.S.get i with
  | _, _, .none => exact .ret hq trivial _
  | some v, some v', .some hv =>
    dsimp only
    rw [hv.isVoid, hv.slot.blocked]
    -- the depth and step budgets stop both runs or neither
    refine .ite_iff (by rw [hq.depth]) (.ret hq trivial _) (.ite_iff (by rw [hq.steps]) (.ret hq trivial _) ?_)
    match v.slot.rep, v'.slot.rep, hv.slot.rep with
    | _, _, .none => exact .ret hq trivial _
    | some ⟨c, fn⟩, some ⟨c', fn'⟩, .some hrr =>
      obtain ⟨hcall, hfn⟩ := hrr
      dsimp only at hcall hfn
      subst hcall
      cases c' with
      | false => exact .ret hq trivial _
      | true =>
        cases hfn with
        | none => exact .ret hq trivial _
        | @some fn fn' hff =>
          dsimp only
          refine .ite (.ret hq trivial _) ?_
          have hq0 := hq.setS (AR.set hq.S i (a := { v with incall := v.incall + 1 })
            (b := { v' with isVoid := v.isVoid, incall := v'.incall + 1 }) ⟨rfl, hv.slot, by simp [hv.incall], hv.taint⟩)
          refine SimP.call (ih.invoke' P hq0 (hst.setS hx rfl) hff arg) (fun _ _ => .off) (fun _ => .nil)
            fun ρ1 t1 u1 x hq1 hs1 hf1 _ => ?_
          obtain ⟨o, r⟩ := x
          dsimp only
          -- the slot variable's call counter goes down again, if the variable is still there
          have fin : Good ρ t u
              (match aget t1.S i with
                | some v2 => { t1 with S := aset t1.S i { v2 with incall := v2.incall - 1 } }
                | none => t1.fail "callS: slot variable destroyed during its own call")
              (match aget u1.S i with
                | some v2 => { u1 with S := aset u1.S i { v2 with incall := v2.incall - 1 } }
                | none => u1.fail "callS: slot variable destroyed during its own call") := by
            refine (hq1.S.get i).on ?_ fun hv2 =>
              ⟨ρ1, hq1.setS (AR.set hq1.S i ⟨hv2.isVoid, hv2.slot, by simp [hv2.incall], hv2.taint⟩),
                hs1.congr rfl rfl rfl rfl, (hf1.pre (t := t) rfl rfl).trans (Fr.of_eq rfl rfl)⟩
            have := Sim0.fail hq1 "callS: slot variable destroyed during its own call"
              "callS: slot variable destroyed during its own call"
            exact ⟨ρ1, this.q, hs1.congr rfl this.nk rfl this.np, (hf1.pre (t := t) rfl rfl).trans this.fr⟩
          cases o <;> exact .to fin trivial _

theorem op_emit (f : Nat) (ih : All f) (P : Prog) {ρ : IdRel} {t u : LSt} (g arg : Nat) (strat : Strat) (try_ : Bool)
    (hq : Q ρ t u) (hst : Settled t) :
    SimOp ρ t u (cOp (f+1) P t (.emit g arg strat try_)) (Spec.execOp (f+1) P t (.emit g arg strat try_))
      (Spec.execOp (f+1+1) P u (.emit g arg strat try_)) := by
  unfold Spec.execOp cOp
  dsimp only
  match hx : aget t.G g, aget u.G g, hq.G.get g with
  | _, _, .none => exact .ret hq trivial _
  | some hd, some hd', .some hh =>
    dsimp only
    rw [hh.fl]
    refine .ite_iff (by rw [hq.depth]) (.ret hq trivial _) (.ite_iff (by rw [hq.steps]) (.ret hq trivial _) ?_)
    have href : Ref t hd.impl := fun i hi =>
      List.any_eq_true.mpr ⟨(g, hd), aget_some_mem hx, by simp [hi]⟩
    refine SimP.call (ih.emit' P hq hst hd.fl hh.impl href arg strat) (fun _ _ => .off) (fun _ => .nil)
      fun ρ1 t1 u1 x hq1 hs1 hf1 _ => ?_
    obtain ⟨o, r⟩ := x
    cases o with
    | exc => cases try_ <;> exact .to ⟨ρ1, hq1, hs1, hf1⟩ trivial _
    | ok => exact .to ⟨ρ1, hq1, hs1, hf1⟩ trivial _

theorem op_succ (f : Nat) (ih : All f) : SOp (f+1) := by
  intro P ρ t u op t' e hq hst hqt hc hr
  have h : SimOp ρ t u (cOp (f+1) P t op) (Spec.execOp (f+1) P t op) (Spec.execOp (f+1+1) P u op) := by
    cases op with
    | callS i arg => exact op_callS f ih P i arg hq hst
    | emit g arg strat try_ => exact op_emit f ih P g arg strat try_ hq hst
    | throw_ => unfold Spec.execOp; exact .ret hq trivial _
    | _ => exact op_simple f P hq hqt rfl
  obtain ⟨u', e1, hg, _⟩ := h t' e hc hr
  exact ⟨u', e1, hg⟩

end Sigc.SpecK
