import Sigc.Lemmas.RefineOpsLists
import Sigc.Lemmas.RefineKeeps
import Sigc.Lemmas.StepIterSpec
/-!
The statements of the simulation of the mutual block, one per function, at a given fuel: `InvokeE … OpE`, with the relation
`RE e` (`R` and the specification's error flag); the facts shared by their proofs (callable cells agree, iterator positions
`PosR`, `Quiet` is kept); and `SimRun e Q x y`, "every answer of `x` is matched by one of `y`", with its rules.

Fuel: the model runs with fuel `f`, the specification with any fuel `g ≥ f` (the specification never
needs more fuel than the model: it skips the entries the model steps over).
-/
namespace Sigc.Refine
open Sigc.Model

def ResR : Except Unit String → Except Unit String → Prop
  | .error _, .error _ => True
  | .ok r', .ok r => ResAllows r' r
  | _, _ => False

theorem ResR.refl (x : Except Unit String) : ResR x x := by
  cases x with
  | error _ => trivial
  | ok r => exact ResAllows.refl r

theorem R.log {s : St} {t : Spec.LSt} (hR : R s t) (e : Event) : R (s.log e) (t.log e) :=
  { hR with trace := Allows.cons_same hR.trace e }

theorem R.logRes {s : St} {t : Spec.LSt} (hR : R s t) (d : Nat) (text : String) {rs rm : String} (hr : ResAllows rs rm) :
    R (s.log (.res d text rm)) (t.log (.res d text rs)) :=
  { hR with trace := Allows.cons_res hR.trace d text hr }

theorem R.setDepth {s : St} {t : Spec.LSt} (hR : R s t) (d : Nat) : R { s with depth := d } { t with depth := d } :=
  { hR with depth := rfl }

theorem R.setSteps {s : St} {t : Spec.LSt} (hR : R s t) (n : Nat) : R { s with steps := n } { t with steps := n } :=
  { hR with steps := rfl }

theorem Quiet.of_depth {s : St} (h : s.depth ≠ 0) : Quiet s := fun e => absurd e h

theorem Quiet.step {s s' : St} (hq : Quiet s) (hf : Emit.Frame s s') (hd : s'.depth = s.depth) : Quiet s' := by
  intro e i
  rw [hf.exec i]
  exact hq (by rw [← hd]; exact e) i

theorem quiet_init : Quiet ({} : St) := by
  intro _ i
  simp [Emit.execOf]

theorem modeRule_sim {s : St} {t : Spec.LSt} (hR : R s t) (P : Prog) (op : Op) :
    Spec.modeRule P t op = Model.modeRule P s op := by
  unfold Spec.modeRule Model.modeRule
  cases op <;> first | rfl | (simp only [hR.S, hR.steps]; rfl) | (simp only [hR.S, hR.steps])

theorem specCallable_eq {t : Spec.LSt} {i cid : Nat} {g : Spec.LSig} {d : Spec.LCell} (hg : aget t.sigs i = some g)
    (hd : g.cells.find? (fun c => c.id = cid) = some d) : Spec.callable t i cid = Spec.callFn d.slot := by
  rw [Spec.callable_eq, hg, Option.bind_some, hd, Option.bind_some]

theorem callableAt_eq {s : St} {i cid : Nat} {im : Impl} {c : Cell} (hi : aget s.impls i = some im)
    (hc : im.cells.find? (fun c => c.id = cid) = some c) : StepIter.callableAt s i cid = Spec.callFn c.slot := by
  unfold StepIter.callableAt
  simp only [hi, hc]
  rcases c with ⟨cid', ⟨_ | _, _ | ⟨_ | _, _ | fn⟩⟩, lk⟩ <;> rfl

theorem callable_sim {s : St} {t : Spec.LSt} (hs : Emit.Inv s) (hR : R s t) (i cid : Nat) :
    Spec.callable t i cid = StepIter.callableAt s i cid := by
  rw [← StepIter.specCallable_spec]
  rcases hR.sigs.get i with ⟨h1, h2⟩ | ⟨im, g, h1, h2, hr⟩
  · simp [StepIter.specCallable, StepIter.callableAt, h1, h2]
  · rcases F2.find hr.cells (fun c => c.id = cid) (fun c => c.id = cid)
        (fun c d _ _ hcd => by rw [hcd.id]) with ⟨e1, e2⟩ | ⟨c, d, e1, e2, hcd⟩
    · simp [StepIter.specCallable, StepIter.callableAt, h1, h2, e1, e2]
    · rw [StepIter.specCallable_spec, specCallable_eq h2 e2, callableAt_eq h1 e1]
      have hcm := (List.mem_of_find?_eq_some e1)
      cases hz : d.zombie with
      | false => rw [hcd.slot hz]
      | true =>
        have hl : c.linked = false := by rw [hcd.live, hz]; rfl
        rw [Spec.callFn_empty ((hs.ok i im h1).l c hcm hl), Spec.callFn_empty (hcd.zslot hz).1]

theorem getElem?_split {L : List Nat} {idx k : Nat} (h : L[idx]? = some k) :
    ∃ d r, L = d ++ k :: r ∧ d.length = idx := by
  induction L generalizing idx with
  | nil => simp at h
  | cons x xs ih =>
    cases idx with
    | zero => simp at h; subst h; exact ⟨[], xs, rfl, rfl⟩
    | succ n =>
      simp at h
      obtain ⟨d, r, e, hl⟩ := ih h
      exact ⟨x :: d, r, by rw [e]; rfl, by simp [hl]⟩

theorem getElem?_succ_of_split {d r : List Nat} {k n : Nat} : (d ++ k :: n :: r)[d.length + 1]? = some n := by
  induction d with
  | nil => simp
  | cons x xs ih => simpa using ih

/-- iterator of the model (a cell id) vs iterator of the specification (an index into the snapshot):
    the block of the emission is `snap ++ [m]` -/
structure PosR (snap : List Nat) (m : Nat) (itm : IterBuf) (its : Spec.It) : Prop where
  pos : (snap ++ [m])[its.pos]? = some itm.pos
  invoked : its.invoked = itm.invoked
  buf : its.buf = itm.buf

theorem PosR.le {snap : List Nat} {m : Nat} {itm : IterBuf} {its : Spec.It} (h : PosR snap m itm its) :
    its.pos ≤ snap.length := by
  have := h.pos
  rw [List.getElem?_eq_some_iff] at this
  obtain ⟨hlt, _⟩ := this
  simp at hlt; omega

theorem PosR.at_end {snap : List Nat} {m : Nat} {itm : IterBuf} {its : Spec.It} (h : PosR snap m itm its)
    (hnd : (snap ++ [m]).Nodup) : itm.pos = m ↔ snap.length ≤ its.pos := by
  have hle := h.le
  have hp := h.pos
  constructor
  · intro e
    by_cases hlt : its.pos < snap.length
    · exfalso
      rw [List.getElem?_append_left hlt] at hp
      have hin : itm.pos ∈ snap := List.mem_of_getElem? hp
      have := (List.nodup_append.mp hnd).2.2 itm.pos hin m (by simp)
      exact this e
    · omega
  · intro hge
    have e : its.pos = snap.length := by omega
    rw [e] at hp
    simp at hp
    exact hp.symm

theorem PosR.in_snap {snap : List Nat} {m : Nat} {itm : IterBuf} {its : Spec.It} (h : PosR snap m itm its)
    (hlt : its.pos < snap.length) : snap[its.pos]? = some itm.pos := by
  have hp := h.pos
  rw [List.getElem?_append_left hlt] at hp
  exact hp

theorem PosR.past {snap : List Nat} {m : Nat} {itm : IterBuf} {its : Spec.It} (h : PosR snap m itm its)
    (hge : snap.length ≤ its.pos) : snap[its.pos]? = none := by
  simp [hge]

theorem fuel_succ {f g : Nat} (h : f + 1 ≤ g) : ∃ g', g = g' + 1 ∧ f ≤ g' := ⟨g - 1, by omega, by omega⟩

/-! `InvokeS … OpS` state the simulation for `R` alone; of them only `DerefS 0` is proved (`deref_sim0`: without fuel `deref`
    answers nothing).  Proved for every fuel is the family `InvokeE … OpE` below, with `RE e` for `R` (`DerefE` only inside
    the snapshot). -/

def InvokeS (f : Nat) : Prop := ∀ P s t fn arg s' o v, Emit.Inv s → Emit.FunOK s.G fn → R s t →
  Model.invokeFun f P s fn arg = some (s', o, v) →
  ∀ g, f ≤ g → ∃ t', Spec.invokeFun g P t fn arg = some (t', o, v) ∧ R s' t'

def BodyS (f : Nat) : Prop := ∀ P s t ls s' o, Emit.Inv s → R s t → Quiet s →
  Model.runBody f P s ls = some (s', o) →
  ∀ g, f ≤ g → ∃ t', Spec.runBody g P t ls = some (t', o) ∧ R s' t'

def LineS (f : Nat) : Prop := ∀ P s t l s' o, Emit.Inv s → R s t → Quiet s →
  Model.execLine f P s l = some (s', o) →
  ∀ g, f ≤ g → ∃ t', Spec.execLine g P t l = some (t', o) ∧ R s' t'

def EmitS (f : Nat) : Prop := ∀ P s t fl impl arg strat s' o v, Emit.Inv s →
  (∀ i, impl = some i → (aget s.impls i).isSome = true) → R s t →
  Model.emitImpl f P s fl impl arg strat = some (s', o, v) →
  ∀ g, f ≤ g → ∃ t', Spec.emitSig g P t fl impl arg strat = some (t', o, v) ∧ R s' t'

def LoopS (f : Nat) : Prop := ∀ P s t i cur m arg r (B : List (Nat × Bool)) (Z done todo tl : List Nat) s' o v,
  Emit.Inv s → R s t → Emit.InBlk s i B → B.map (·.1) = done ++ todo ++ [m] → todo ++ [m] = cur :: tl → Off Z s →
  Model.emitLoop f P s i cur m arg r = some (s', o, v) →
  ∀ g, f ≤ g → ∃ t', Spec.turns g P t i (todo.filter (fun k => !Z.contains k)) arg r = some (t', o, v) ∧ R s' t'

def DerefS (f : Nat) : Prop := ∀ P s t i itm its arg snap m (B : List (Nat × Bool)) s' o itm', Emit.Inv s → R s t →
  Emit.InBlk s i B → B.map (·.1) = snap ++ [m] → PosR snap m itm its →
  Model.deref f P s i itm arg = some (s', o, itm') →
  ∀ g, f ≤ g → ∃ t' its', Spec.deref g P t i snap its arg = some (t', o, its') ∧ R s' t' ∧ PosR snap m itm' its' ∧
    its'.pos = its.pos

def AccS (f : Nat) : Prop := ∀ P s t i itm its m arg mode k r snap (B : List (Nat × Bool)) s' o v, Emit.Inv s → R s t →
  Emit.InBlk s i B → B.map (·.1) = snap ++ [m] → PosR snap m itm its →
  Model.accLoop f P s i itm m arg mode k r = some (s', o, v) →
  ∀ g, f ≤ g → ∃ t', Spec.accLoop g P t i snap its arg mode k r = some (t', o, v) ∧ R s' t'

def RevS (f : Nat) : Prop := ∀ P s t i itm its first m arg r snap (B : List (Nat × Bool)) s' o v, Emit.Inv s → R s t →
  Emit.InBlk s i B → B.map (·.1) = snap ++ [m] → (snap ++ [m])[0]? = some first → PosR snap m itm its →
  Model.revLoop f P s i itm first arg r = some (s', o, v) →
  ∀ g, f ≤ g → ∃ t', Spec.revLoop g P t i snap its arg r = some (t', o, v) ∧ R s' t'

def WalkS (f : Nat) : Prop := ∀ P s t i itm its first m arg ops r snap (B : List (Nat × Bool)) s' o v, Emit.Inv s → R s t →
  Emit.InBlk s i B → B.map (·.1) = snap ++ [m] → (snap ++ [m])[0]? = some first → PosR snap m itm its →
  Model.walkLoop f P s i itm first m arg ops r = some (s', o, v) →
  ∀ g, f ≤ g → ∃ t', Spec.walkLoop g P t i snap its arg ops r = some (t', o, v) ∧ R s' t'

def StratS (f : Nat) : Prop := ∀ P s t i first m arg strat snap (B : List (Nat × Bool)) s' o v, Emit.Inv s → R s t →
  Emit.InBlk s i B → B.map (·.1) = snap ++ [m] → (snap ++ [m])[0]? = some first →
  Model.runStrat f P s i first m arg strat = some (s', o, v) →
  ∀ g, f ≤ g → ∃ t', Spec.runStrat g P t i snap arg strat = some (t', o, v) ∧ R s' t'

def OpS (f : Nat) : Prop := ∀ P s t op s' res, Emit.Inv s → R s t → Quiet s →
  Model.execOp f P s op = some (s', res) →
  ∀ g, f ≤ g → ∃ t' res', Spec.execOp g P t op = some (t', res') ∧ R s' t' ∧ ResR res' res

structure RE (e : Option String) (s : St) (t : Spec.LSt) : Prop where
  r : R s t
  err : t.err = e

namespace RE
variable {e : Option String} {s : St} {t : Spec.LSt}

theorem log (h : RE e s t) (ev : Event) : RE e (s.log ev) (t.log ev) := ⟨h.r.log ev, h.err⟩

theorem logRes (h : RE e s t) (d : Nat) (text : String) {rs rm : String} (hr : ResAllows rs rm) :
    RE e (s.log (.res d text rm)) (t.log (.res d text rs)) := ⟨h.r.logRes d text hr, h.err⟩

theorem setDepth (h : RE e s t) (d : Nat) : RE e { s with depth := d } { t with depth := d } :=
  ⟨h.r.setDepth d, h.err⟩

theorem setSteps (h : RE e s t) (n : Nat) : RE e { s with steps := n } { t with steps := n } :=
  ⟨h.r.setSteps n, h.err⟩

theorem updS (h : RE e s t) (x : List (Nat × SlotVar)) : RE e { s with S := x } { t with S := x } :=
  ⟨h.r.updS x, h.err⟩

theorem collect (hs : Emit.Inv s) (h : RE e s t) : RE e (Model.collect s) (Spec.collect t) :=
  ⟨R_collect hs h.r, (SErr.collect_err t).trans h.err⟩

end RE

def InvokeE (f : Nat) : Prop := ∀ e P s t fn arg s' o v, Emit.Inv s → Emit.FunOK s.G fn → RE e s t →
  Model.invokeFun f P s fn arg = some (s', o, v) →
  ∀ g, f ≤ g → ∃ t', Spec.invokeFun g P t fn arg = some (t', o, v) ∧ RE e s' t'

def BodyE (f : Nat) : Prop := ∀ e P s t ls s' o, Emit.Inv s → RE e s t → Quiet s →
  Model.runBody f P s ls = some (s', o) →
  ∀ g, f ≤ g → ∃ t', Spec.runBody g P t ls = some (t', o) ∧ RE e s' t'

def LineE (f : Nat) : Prop := ∀ e P s t l s' o, Emit.Inv s → RE e s t → Quiet s →
  Model.execLine f P s l = some (s', o) →
  ∀ g, f ≤ g → ∃ t', Spec.execLine g P t l = some (t', o) ∧ RE e s' t'

def EmitE (f : Nat) : Prop := ∀ e P s t fl impl arg strat s' o v, Emit.Inv s →
  (∀ i, impl = some i → (aget s.impls i).isSome = true) → RE e s t →
  Model.emitImpl f P s fl impl arg strat = some (s', o, v) →
  ∀ g, f ≤ g → ∃ t', Spec.emitSig g P t fl impl arg strat = some (t', o, v) ∧ RE e s' t'

/-- the block of the emission is `done ++ todo ++ [m]`, `cur` is the head of `todo ++ [m]`, the cells
    in `Z` are unlinked for good; the specification still has to offer the turns of `todo` minus `Z` -/
def LoopE (f : Nat) : Prop := ∀ e P s t i cur m arg r (B : List (Nat × Bool)) (Z done todo tl : List Nat) s' o v,
  Emit.Inv s → RE e s t → Emit.InBlk s i B → B.map (·.1) = done ++ todo ++ [m] → todo ++ [m] = cur :: tl → Off Z s →
  Model.emitLoop f P s i cur m arg r = some (s', o, v) →
  ∀ g, f ≤ g → ∃ t', Spec.turns g P t i (todo.filter (fun k => !Z.contains k)) arg r = some (t', o, v) ∧ RE e s' t'

/-- `deref` for positions inside the snapshot (the end marker is never dereferenced) -/
def DerefE (f : Nat) : Prop := ∀ e P s t i itm its arg snap m (B : List (Nat × Bool)) s' o itm', Emit.Inv s → RE e s t →
  Emit.InBlk s i B → B.map (·.1) = snap ++ [m] → PosR snap m itm its → its.pos < snap.length →
  Model.deref f P s i itm arg = some (s', o, itm') →
  ∀ g, f ≤ g → ∃ t' its', Spec.deref g P t i snap its arg = some (t', o, its') ∧ RE e s' t' ∧ PosR snap m itm' its' ∧
    its'.pos = its.pos

def AccE (f : Nat) : Prop := ∀ e P s t i itm its m arg mode k r snap (B : List (Nat × Bool)) s' o v, Emit.Inv s → RE e s t →
  Emit.InBlk s i B → B.map (·.1) = snap ++ [m] → PosR snap m itm its →
  Model.accLoop f P s i itm m arg mode k r = some (s', o, v) →
  ∀ g, f ≤ g → ∃ t', Spec.accLoop g P t i snap its arg mode k r = some (t', o, v) ∧ RE e s' t'

def RevE (f : Nat) : Prop := ∀ e P s t i itm its first m arg r snap (B : List (Nat × Bool)) s' o v, Emit.Inv s → RE e s t →
  Emit.InBlk s i B → B.map (·.1) = snap ++ [m] → (snap ++ [m])[0]? = some first → PosR snap m itm its →
  Model.revLoop f P s i itm first arg r = some (s', o, v) →
  ∀ g, f ≤ g → ∃ t', Spec.revLoop g P t i snap its arg r = some (t', o, v) ∧ RE e s' t'

def WalkE (f : Nat) : Prop := ∀ e P s t i itm its first m arg ops r snap (B : List (Nat × Bool)) s' o v, Emit.Inv s → RE e s t →
  Emit.InBlk s i B → B.map (·.1) = snap ++ [m] → (snap ++ [m])[0]? = some first → PosR snap m itm its →
  Model.walkLoop f P s i itm first m arg ops r = some (s', o, v) →
  ∀ g, f ≤ g → ∃ t', Spec.walkLoop g P t i snap its arg ops r = some (t', o, v) ∧ RE e s' t'

def StratE (f : Nat) : Prop := ∀ e P s t i first m arg strat snap (B : List (Nat × Bool)) s' o v, Emit.Inv s → RE e s t →
  Emit.InBlk s i B → B.map (·.1) = snap ++ [m] → (snap ++ [m])[0]? = some first →
  Model.runStrat f P s i first m arg strat = some (s', o, v) →
  ∀ g, f ≤ g → ∃ t', Spec.runStrat g P t i snap arg strat = some (t', o, v) ∧ RE e s' t'

def OpE (f : Nat) : Prop := ∀ e P s t op s' res, Emit.Inv s → RE e s t → Quiet s →
  Model.execOp f P s op = some (s', res) →
  ∀ g, f ≤ g → ∃ t' res', Spec.execOp g P t op = some (t', res') ∧ RE e s' t' ∧ ResR res' res

def SimRun {γ δ : Type} (e : Option String) (Q : γ → δ → Prop) (x : Option (St × γ)) (y : Option (Spec.LSt × δ)) :
    Prop :=
  ∀ s' c, x = some (s', c) → ∃ t' d, y = some (t', d) ∧ RE e s' t' ∧ Q c d

abbrev SimEq {γ : Type} (e : Option String) (x : Option (St × γ)) (y : Option (Spec.LSt × γ)) : Prop :=
  SimRun e (fun c d => d = c) x y

namespace SimRun
variable {γ δ : Type} {e : Option String} {Q : γ → δ → Prop} {x : Option (St × γ)} {y : Option (Spec.LSt × δ)}

theorem none : SimRun e Q (Option.none : Option (St × γ)) y := fun _ _ h => nomatch h

theorem pure {s' : St} {t' : Spec.LSt} {c : γ} {d : δ} (hR : RE e s' t') (hq : Q c d) :
    SimRun e Q (some (s', c)) (some (t', d)) := fun _ _ h => by cases h; exact ⟨t', d, rfl, hR, hq⟩

theorem of_eq {x : Option (St × γ)} {y : Option (Spec.LSt × γ)}
    (h : ∀ s' c, x = some (s', c) → ∃ t', y = some (t', c) ∧ RE e s' t') : SimEq e x y :=
  fun s' c hx => let ⟨t', hy, hR⟩ := h s' c hx; ⟨t', c, hy, hR, rfl⟩

theorem eq_elim {x : Option (St × γ)} {y : Option (Spec.LSt × γ)} (h : SimEq e x y) {s' : St} {c : γ}
    (hx : x = some (s', c)) : ∃ t', y = some (t', c) ∧ RE e s' t' := by
  obtain ⟨t', d, hy, hR, rfl⟩ := h s' c hx
  exact ⟨t', hy, hR⟩

/-- Both sides call, and go on with the answers.  The two callee terms are abstracted out of the goal (`motive`), so
    the rule applies whatever `match` the callers continue with: out of fuel on the model's side is trivial, otherwise
    the specification answers too, in related states and with related results. -/
@[elab_as_elim]
theorem call {motive : Option (St × γ) → Option (Spec.LSt × δ) → Prop} (hxy : SimRun e Q x y)
    (nil : ∀ b, motive Option.none b)
    (ret : ∀ s1 t1 c d, x = some (s1, c) → RE e s1 t1 → Q c d → motive (some (s1, c)) (some (t1, d))) : motive x y := by
  cases hx : x with
  | none => exact nil y
  | some p =>
    obtain ⟨t1, d, hy, hR, hq⟩ := hxy p.1 p.2 hx
    rw [hy]
    exact ret p.1 t1 p.2 d hx hR hq

/-- `call` for callees that are simulated with equal results, in the form the statements of the block have -/
@[elab_as_elim]
theorem callEq {motive : Option (St × γ) → Option (Spec.LSt × γ) → Prop} {x : Option (St × γ)}
    {y : Option (Spec.LSt × γ)} (hxy : ∀ s' c, x = some (s', c) → ∃ t', y = some (t', c) ∧ RE e s' t')
    (nil : ∀ b, motive Option.none b)
    (ret : ∀ s1 t1 c, x = some (s1, c) → RE e s1 t1 → motive (some (s1, c)) (some (t1, c))) : motive x y :=
  call (motive := motive) (of_eq hxy) nil fun s1 t1 c _ hx hR hq => hq ▸ ret s1 t1 c hx hR

end SimRun

/-- proved for no fuel (see at `InvokeS`); the proved structure is `AllSimE` (`RefineMutual`) -/
structure AllS (f : Nat) : Prop where
  invoke : InvokeS f
  body : BodyS f
  line : LineS f
  emit : EmitS f
  loop : LoopS f
  deref : DerefS f
  acc : AccS f
  rev : RevS f
  walk : WalkS f
  strat : StratS f
  op : OpS f

end Sigc.Refine
