import Sigc.Lemmas.RefineDefs
/-!
A dangling pointer stays dangling (`Gone.mono`, along `SigsLe`), and `lookup`: what a cell id names on the two sides.
-/
namespace Sigc.Refine
open Sigc.Model


def HasId (sigs : List (Nat × Spec.LSig)) (cid : Nat) : Prop := ∃ p ∈ sigs, ∃ c ∈ p.2.cells, c.id = cid

theorem gone_iff {sigs : List (Nat × Spec.LSig)} {n cid : Nat} : Gone sigs n cid ↔ cid < n ∧ ¬ HasId sigs cid := by
  unfold Gone HasId
  constructor
  · rintro ⟨h1, h2⟩
    exact ⟨h1, fun ⟨p, hp, c, hc, e⟩ => h2 p hp c hc e⟩
  · rintro ⟨h1, h2⟩
    exact ⟨h1, fun p hp c hc e => h2 ⟨p, hp, c, hc, e⟩⟩

/-- `sigs'` has no id below `n` that `sigs` had not: what `Gone` survives (`Gone.mono`) -/
def SigsLe (sigs : List (Nat × Spec.LSig)) (n : Nat) (sigs' : List (Nat × Spec.LSig)) : Prop :=
  ∀ cid, cid < n → HasId sigs' cid → HasId sigs cid

theorem SigsLe.refl (sigs : List (Nat × Spec.LSig)) (n : Nat) : SigsLe sigs n sigs := fun _ _ h => h

theorem SigsLe.trans {a b c : List (Nat × Spec.LSig)} {n n' : Nat} (hn : n ≤ n') (h1 : SigsLe a n b) (h2 : SigsLe b n' c) :
    SigsLe a n c := fun cid hc h => h1 cid hc (h2 cid (by omega) h)

theorem Gone.mono {sigs sigs' : List (Nat × Spec.LSig)} {n n' cid : Nat} (hn : n ≤ n') (hle : SigsLe sigs n sigs')
    (h : Gone sigs n cid) : Gone sigs' n' cid := by
  rw [gone_iff] at h ⊢
  exact ⟨by omega, fun hh => h.2 (hle cid h.1 hh)⟩

theorem PtrR.mono {sigs sigs' : List (Nat × Spec.LSig)} {n n' : Nat} (hn : n ≤ n') (hle : SigsLe sigs n sigs')
    {a b : Option Nat} (h : PtrR sigs n a b) : PtrR sigs' n' a b := by
  rcases h with h | ⟨h1, cid, h2, h3⟩
  · exact Or.inl h
  · exact Or.inr ⟨h1, cid, h2, h3.mono hn hle⟩

theorem PtrR.rfl' {sigs : List (Nat × Spec.LSig)} {n : Nat} (a : Option Nat) : PtrR sigs n a a := Or.inl rfl

theorem ptrs_next {sigs : List (Nat × Spec.LSig)} {n n' : Nat} (hn : n ≤ n') {l m : List (Nat × Option Nat)}
    (h : AR (PtrR sigs n) l m) : AR (PtrR sigs n') l m :=
  h.imp (fun _ _ _ _ _ hr => hr.mono hn (SigsLe.refl _ _))

theorem SigR.ids {im : Impl} {g : Spec.LSig} (h : SigR im g) : g.cells.map (·.id) = Emit.cids im := by
  unfold Emit.cids
  exact (F2.map_eq h.cells (·.id) (·.id) (fun _ _ _ _ hr => hr.id.symm)).symm

theorem hasId_of_AR {impls : List (Nat × Impl)} {sigs : List (Nat × Spec.LSig)} (h : AR SigR impls sigs) {cid : Nat}
    (hc : HasId sigs cid) : ∃ p ∈ impls, cid ∈ Emit.cids p.2 := by
  obtain ⟨q, hq, c, hcm, e⟩ := hc
  obtain ⟨p, hp, _, hr⟩ := F2.mem_right h hq
  refine ⟨p, hp, ?_⟩
  rw [← hr.ids, ← e]; exact List.mem_map.mpr ⟨c, hcm, rfl⟩

theorem hasId_of_impl {impls : List (Nat × Impl)} {sigs : List (Nat × Spec.LSig)} (h : AR SigR impls sigs) {cid : Nat}
    {p : Nat × Impl} (hp : p ∈ impls) (hc : cid ∈ Emit.cids p.2) : HasId sigs cid := by
  obtain ⟨q, hq, _, hr⟩ := F2.mem_left h hp
  rw [← hr.ids] at hc
  obtain ⟨c, hcm, e⟩ := List.mem_map.mp hc
  exact ⟨q, hq, c, hcm, e⟩

theorem R.keys {s : St} {t : Spec.LSt} (h : R s t) : t.sigs.map (·.1) = s.impls.map (·.1) := h.sigs.keys.symm

theorem R.sig_of_impl {s : St} {t : Spec.LSt} (h : R s t) {i : Nat} {im : Impl} (hi : aget s.impls i = some im) :
    ∃ g, aget t.sigs i = some g ∧ SigR im g := h.sigs.get_some_left hi

theorem R.impl_of_sig {s : St} {t : Spec.LSt} (h : R s t) {i : Nat} {g : Spec.LSig} (hi : aget t.sigs i = some g) :
    ∃ im, aget s.impls i = some im ∧ SigR im g := h.sigs.get_some_right hi

theorem R.sig_none {s : St} {t : Spec.LSt} (h : R s t) {i : Nat} (hi : aget s.impls i = none) : aget t.sigs i = none :=
  h.sigs.get_none_left hi

theorem R.keys_nodup {s : St} {t : Spec.LSt} (hs : Emit.Inv s) (h : R s t) : (t.sigs.map (·.1)).Nodup := by
  rw [h.keys]; exact hs.keys

theorem R.mem_sig {s : St} {t : Spec.LSt} (hs : Emit.Inv s) (h : R s t) {p : Nat × Spec.LSig} (hp : p ∈ t.sigs) :
    aget t.sigs p.1 = some p.2 := Emit.aget_of_mem_nodup (h.keys_nodup hs) hp

theorem R.hasId_lt {s : St} {t : Spec.LSt} (hs : Emit.Inv s) (h : R s t) {cid : Nat} (hc : HasId t.sigs cid) :
    cid < t.next := by
  obtain ⟨p, hp, hc⟩ := hasId_of_AR h.sigs hc
  rw [h.next]
  exact (hs.lt _ _ (Emit.aget_of_mem_nodup hs.keys hp)).2 cid hc


theorem findSig_some {sigs : List (Nat × Spec.LSig)} {cid i : Nat} (h : Spec.findSig sigs cid = some i) :
    ∃ g, (i, g) ∈ sigs ∧ ∃ c ∈ g.cells, c.id = cid ∧ c.zombie = false := by
  induction sigs with
  | nil => simp [Spec.findSig] at h
  | cons p t ih =>
    obtain ⟨j, g⟩ := p
    simp only [Spec.findSig] at h
    split at h
    · rename_i hany
      cases h
      rw [List.any_eq_true] at hany
      obtain ⟨c, hc, hp⟩ := hany
      simp at hp
      exact ⟨g, by simp, c, hc, hp.1, hp.2⟩
    · obtain ⟨g', hg', hc⟩ := ih h
      exact ⟨g', List.mem_cons_of_mem _ hg', hc⟩

theorem findSig_none {sigs : List (Nat × Spec.LSig)} {cid : Nat} (h : Spec.findSig sigs cid = none) :
    ∀ p ∈ sigs, ∀ c ∈ p.2.cells, c.id = cid → c.zombie = true := by
  induction sigs with
  | nil => intro p hp; simp at hp
  | cons q t ih =>
    obtain ⟨j, g⟩ := q
    simp only [Spec.findSig] at h
    split at h
    · contradiction
    · rename_i hany
      intro p hp c hc e
      rcases List.mem_cons.mp hp with e' | e'
      · subst e'
        cases hz : c.zombie with
        | true => rfl
        | false =>
          exfalso; apply hany
          rw [List.any_eq_true]
          exact ⟨c, hc, by simp [e, hz]⟩
      · exact ih h p e' c hc e

theorem findSig_isSome_of {sigs : List (Nat × Spec.LSig)} {cid : Nat} {p : Nat × Spec.LSig} (hp : p ∈ sigs)
    {c : Spec.LCell} (hc : c ∈ p.2.cells) (e : c.id = cid) (hz : c.zombie = false) :
    ∃ i, Spec.findSig sigs cid = some i := by
  cases h : Spec.findSig sigs cid with
  | some i => exact ⟨i, rfl⟩
  | none => have := findSig_none h p hp c hc e; rw [hz] at this; contradiction

/-- a cell id on both sides: absent in both, or cell `c` of impl `i` related to the only entry `d` with that id, which
    `findSig` finds iff it is no zombie -/
theorem lookup {s : St} {t : Spec.LSt} (hs : Emit.Inv s) (h : R s t) (cid : Nat) :
    (Model.getCell s cid = none ∧ Spec.findSig t.sigs cid = none ∧ ¬ HasId t.sigs cid) ∨
    (∃ i c im g d, Model.getCell s cid = some (i, c) ∧ aget s.impls i = some im ∧ aget t.sigs i = some g ∧
      SigR im g ∧ c ∈ im.cells ∧ c.id = cid ∧ d ∈ g.cells ∧ CellR c d ∧
      (∀ p ∈ t.sigs, ∀ c' ∈ p.2.cells, c'.id = cid → p = (i, g) ∧ c' = d) ∧
      (d.zombie = false → Spec.findSig t.sigs cid = some i ∧
        g.cells.find? (fun c => c.id = cid && !c.zombie) = some d) ∧
      (d.zombie = true → Spec.findSig t.sigs cid = none)) := by
  cases hg : Model.getCell s cid with
  | none =>
    left
    have hno : ¬ HasId t.sigs cid := by
      intro hh
      obtain ⟨p, hp, hc⟩ := hasId_of_AR h.sigs hh
      obtain ⟨c0, hc0⟩ := Emit.getCell_of_mem hs (Emit.aget_of_mem_nodup hs.keys hp) hc
      rw [hg] at hc0; contradiction
    refine ⟨rfl, ?_, hno⟩
    cases hf : Spec.findSig t.sigs cid with
    | none => rfl
    | some i =>
      obtain ⟨g, hgm, c, hc, e, _⟩ := findSig_some hf
      exact absurd ⟨(i, g), hgm, c, hc, e⟩ hno
  | some pr =>
    right
    obtain ⟨i, c⟩ := pr
    obtain ⟨im, hi, hfind⟩ := Emit.getCell_some hg
    obtain ⟨hcm, hcid⟩ := Emit.find_mem hfind
    obtain ⟨g, hgi, hr⟩ := h.sig_of_impl hi
    obtain ⟨d, hd, hcd⟩ := hr.cells.mem_left hcm
    have hnd : (g.cells.map (·.id)).Nodup := by rw [hr.ids]; exact (hs.ok i im hi).nodup
    have huniq : ∀ d' ∈ g.cells, d'.id = cid → d' = d := by
      intro d' hd' e'
      have e2 : d.id = cid := by rw [hcd.id, hcid]
      exact eq_of_nodup_map hnd hd' hd (by rw [e', e2])
    have hother : ∀ p ∈ t.sigs, ∀ c' ∈ p.2.cells, c'.id = cid → p = (i, g) ∧ c' = d := by
      intro p hp c' hc' e'
      have hpi := h.mem_sig hs hp
      obtain ⟨jm, hj, hjr⟩ := h.impl_of_sig hpi
      have hin : cid ∈ Emit.cids jm := by rw [← hjr.ids, ← e']; exact List.mem_map.mpr ⟨c', hc', rfl⟩
      have hin2 : cid ∈ Emit.cids im := List.mem_map.mpr ⟨c, hcm, hcid⟩
      have hij : p.1 = i := by
        by_cases e : p.1 = i
        · exact e
        · exact absurd hin2 (hs.disj p.1 i jm im hj hi e cid hin)
      have : p = (i, g) := by
        obtain ⟨a, b⟩ := p
        simp only at hij hpi; subst hij
        rw [hgi] at hpi; cases hpi; rfl
      subst this
      exact ⟨rfl, huniq c' hc' e'⟩
    refine ⟨i, c, im, g, d, rfl, hi, hgi, hr, hcm, hcid, hd, hcd, hother, ?_, ?_⟩
    · intro hz
      obtain ⟨j, hj⟩ := findSig_isSome_of (Emit.aget_some_mem hgi) hd (by rw [hcd.id, hcid]) hz
      obtain ⟨g', hg', c', hc', e', _⟩ := findSig_some hj
      have := (hother (j, g') hg' c' hc' e').1
      cases this
      refine ⟨hj, ?_⟩
      cases hf : g.cells.find? (fun c => c.id = cid && !c.zombie) with
      | none =>
        rw [List.find?_eq_none] at hf
        exact absurd (by simp [hcd.id, hcid, hz]) (hf d hd)
      | some d' =>
        have hm := List.mem_of_find?_eq_some hf
        have hp := List.find?_some hf
        simp at hp
        rw [huniq d' hm hp.1]
    · intro hz
      cases hf : Spec.findSig t.sigs cid with
      | none => rfl
      | some j =>
        obtain ⟨g', hg', c', hc', e', hz'⟩ := findSig_some hf
        have := (hother (j, g') hg' c' hc' e').2
        rw [this, hz] at hz'; contradiction

end Sigc.Refine
