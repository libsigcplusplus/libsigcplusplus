import Sigc.Lemmas.SpecKRel
import Sigc.Lemmas.Frames
/-!
# SpecKRemove — entries leaving a list: `LSig.remove` in the two configurations (zombie positions vs immediate
removal with `limbo`)
-/
namespace Sigc.SpecK
open Sigc.Model Sigc.Spec

theorem zomb_dead {d : Bool} {p : LCell → Bool} {c : LCell} (h : live c = false) : zomb d p c = c := by
  unfold zomb
  have : (p c && !c.marker && !c.zombie) = false := by
    unfold live at h
    cases p c <;> cases hm : c.marker <;> cases hz : c.zombie <;> simp_all
  simp [this]

theorem zomb_hit {d : Bool} {p : LCell → Bool} {c : LCell} (hl : live c = true) (h : p c = true) :
    zomb d p c = { c with zombie := true, slot := if d then c.slot.invalidate else c.slot.disconnectRep } := by
  unfold zomb
  unfold live at hl
  have : (p c && !c.marker && !c.zombie) = true := by
    cases hm : c.marker <;> cases hz : c.zombie <;> simp_all
  simp [this]

theorem zomb_live (d : Bool) (p : LCell → Bool) (c : LCell) : live (zomb d p c) = (live c && !p c) := by
  cases hl : live c
  · rw [zomb_dead hl, hl]; rfl
  · cases hpc : p c
    · rw [zomb_keep hpc, hl]; rfl
    · rw [zomb_hit hl hpc]; simp [live]

theorem filter_live_zomb (d : Bool) (p : LCell → Bool) (l : List LCell) :
    (l.map (zomb d p)).filter live = (l.filter live).filter (fun c => !p c) := by
  induction l with
  | nil => rfl
  | cons c t ih =>
    have e1 : (List.map (zomb d p) (c :: t)).filter live
        = (if (live c && !p c) = true then [zomb d p c] else []) ++ (t.map (zomb d p)).filter live := by
      rw [List.map_cons, List.filter_cons, zomb_live]; split <;> rfl
    have e2 : ((c :: t).filter live).filter (fun c => !p c)
        = (if (live c && !p c) = true then [c] else []) ++ (t.filter live).filter (fun c => !p c) := by
      rw [List.filter_cons]
      cases hl : live c
      · simp
      · cases hpc : p c <;> simp [List.filter_cons, hpc]
    rw [e1, e2, ih]
    congr 1
    split
    · rename_i hx
      have hpc : p c = false := by cases hp : p c <;> simp_all
      rw [zomb_keep hpc]
    · rfl

theorem fnOf_disconnectRep (s : SlotB) : SlotB.fnOf s.disconnectRep = SlotB.fnOf s := by
  unfold SlotB.disconnectRep SlotB.fnOf
  cases h : s.rep <;> simp [h]

theorem fnOf_invalidate (s : SlotB) : SlotB.fnOf s.invalidate = none := by
  unfold SlotB.invalidate SlotB.fnOf
  cases h : s.rep <;> simp [h]

/-- The live entries that `p` hits become zombie positions on the one side and leave on the other (their slots to `limbo`
    unless `d`); with no emission in progress both sides filter. -/
theorem remove_sim {ρ : IdRel} {n : Nat} {g g' : LSig} (h : SigR ρ g g') (hi : SigInv n g)
    (d : Bool) (p p' : LCell → Bool)
    (hpp : ∀ c c', c ∈ g.cells → live c = true → CellR ρ c c' → p' c' = p c) :
    SigR ρ (g.remove true true d p) (g'.remove false false d p') ∧ SigInv n (g.remove true true d p)
      ∧ (g.remove true true d p).active = g.active
      ∧ ((g.remove true true d p).cells.filter (·.marker)).map (·.id) = (g.cells.filter (·.marker)).map (·.id) := by
  rw [remove_known, remove_pure]
  have hcells : F2 (CellR ρ) ((g.cells.filter live).filter (fun c => !p c)) (g'.cells.filter (fun c => !(p' c) || c.marker)) :=
    (h.cells.attach.filter _ _ fun a b hr => by
      rw [hpp a b (List.mem_filter.mp hr.1).1 (List.mem_filter.mp hr.1).2 hr.2.2, hr.2.2.marker, Bool.or_false]).mono
      fun _ _ hr => hr.2.2
  by_cases ha : g.active = 0
  · -- no emission in progress: every entry is live, plain removal on both sides
    have hall := hi.idle ha
    have ha' : g'.active = 0 := by rw [h.active]; exact ha
    rw [if_neg (by omega : ¬ g.active > 0), if_neg (fun x : g'.active > 0 ∧ d = false => by omega)]
    have hfl : (g.cells.filter (fun c => !(p c) || c.marker)).filter live
        = (g.cells.filter live).filter (fun c => !p c) := by
      rw [List.filter_filter, List.filter_filter]
      apply List.filter_congr
      intro c hc
      have := hall c hc
      unfold live at this
      cases hm : c.marker <;> cases hz : c.zombie <;> simp_all [live]
    -- open: `SigR`'s `cells`, `hold1`, `hold2`, `nomk`; the ids of the end markers
    refine ⟨⟨?_, h.active, h.dirty, h.limbo, ?_, ?_, ?_⟩,
      hi.sublist List.filter_sublist (fun _ c hc => hall c (List.mem_filter.mp hc).1), rfl, ?_⟩
    · simp only
      rw [hfl]
      exact hcells
    · intro c hc hl
      have := hall c (List.mem_filter.mp hc).1
      rw [this] at hl; cases hl
    · intro sl hsl f' hf'
      obtain ⟨c, hc, hl, _⟩ := h.hold2 sl hsl f' hf'
      have := hall c hc
      rw [this] at hl; cases hl
    · intro c hc; exact h.nomk c (List.mem_filter.mp hc).1
    · simp only
      rw [List.filter_filter]
      congr 1
      apply List.filter_congr
      intro c hc
      have := hall c hc
      unfold live at this
      cases hm : c.marker <;> simp_all
  · -- an emission is in progress: zombie positions vs removal with `limbo`
    have hpos : g.active > 0 := Nat.pos_of_ne_zero ha
    have hpos' : g'.active > 0 := by rw [h.active]; exact hpos
    rw [if_pos hpos]
    -- open: `SigR`'s `cells`, `hold1`, `hold2`, `nomk`; `SigInv`'s `dead`, `mkslot`
    refine ⟨⟨?_, h.active, h.dirty, h.limbo, ?_, ?_, ?_⟩,
      hi.map (zomb d p) rfl (zomb_id d p) (fun hz => absurd hz ha) ?_ ?_, rfl, mks_map _ _ (zomb_id d p) (zomb_marker d p)⟩
    · simp only
      rw [filter_live_zomb]
      exact hcells
    · intro c hc hl f hf
      simp only at hc
      obtain ⟨c0, hc0, e⟩ := List.mem_map.mp hc
      cases hl0 : live c0
      · rw [zomb_dead hl0] at e; subst e
        obtain ⟨sl, hsl, x⟩ := h.hold1 c0 hc0 hl0 f hf
        refine ⟨sl, ?_, x⟩
        simp only; split
        · exact List.mem_append_left _ hsl
        · exact hsl
      · cases hpc : p c0
        · rw [zomb_keep hpc] at e; subst e; rw [hl0] at hl; cases hl
        · rw [zomb_hit hl0 hpc] at e; subst e
          simp only at hf
          cases d with
          | true => simp only [if_true, fnOf_invalidate] at hf; cases hf
          | false =>
            simp only [Bool.false_eq_true, if_false, fnOf_disconnectRep] at hf
            obtain ⟨c', hc', hr⟩ := h.cells.mem_left (List.mem_filter.mpr ⟨hc0, hl0⟩)
            obtain ⟨f', hfn', hfr⟩ := hr.slot.fnOf.some_left hf
            refine ⟨c'.slot, ?_, f', hfn', hfr⟩
            simp only
            rw [if_pos ⟨hpos', trivial⟩]
            apply List.mem_append_right
            apply List.mem_map.mpr
            refine ⟨c', List.mem_filter.mpr ⟨hc', ?_⟩, rfl⟩
            rw [hpp c0 c' hc0 hl0 hr, hpc, hr.marker]; rfl
    · intro sl hsl f' hf'
      simp only at hsl
      have hold : sl ∈ g'.limbo → ∃ c ∈ (g.cells.map (zomb d p)), live c = false ∧
          ∃ f, SlotB.fnOf c.slot = some f ∧ FunR ρ f f' := by
        intro hsl
        obtain ⟨c, hc, hl, x⟩ := h.hold2 sl hsl f' hf'
        exact ⟨c, List.mem_map.mpr ⟨c, hc, zomb_dead hl⟩, hl, x⟩
      split at hsl
      · rename_i hd
        rcases List.mem_append.mp hsl with hsl | hsl
        · exact hold hsl
        · obtain ⟨c', hc', e⟩ := List.mem_map.mp hsl
          subst e
          obtain ⟨hc', hpc'⟩ := List.mem_filter.mp hc'
          obtain ⟨c0, hc0, hr⟩ := h.cells.mem_right hc'
          obtain ⟨hc0, hl0⟩ := List.mem_filter.mp hc0
          have hpc : p c0 = true := by
            rw [← hpp c0 c' hc0 hl0 hr]
            rw [hr.marker] at hpc'; simpa using hpc'
          refine ⟨zomb d p c0, List.mem_map.mpr ⟨c0, hc0, rfl⟩, ?_, ?_⟩
          · rw [zomb_live, hpc]; simp
          · rw [zomb_hit hl0 hpc, hd.2]
            simp only [Bool.false_eq_true, if_false, fnOf_disconnectRep]
            exact hr.slot.fnOf.some_right hf'
      · exact hold hsl
    · intro c hc hm
      simp only at hc
      obtain ⟨c0, hc0, e⟩ := List.mem_map.mp hc
      subst e
      rw [zomb_marker] at hm; rw [zomb_id]
      exact h.nomk c0 hc0 hm
    · intro c0 hc0 hl
      cases hl0 : live c0
      · rw [zomb_dead hl0]; exact hi.dead c0 hc0 hl0
      · rw [zomb_live, hl0, Bool.true_and, Bool.not_eq_false'] at hl
        rw [zomb_hit hl0 hl]
        cases d
        · exact disconnectRep_empty _
        · exact invalidate_empty _
    · intro c0 hc0 hm
      rw [zomb_marker] at hm
      rw [zomb_dead (by unfold live; simp [hm])]; exact hi.mkslot c0 hc0 hm

end Sigc.SpecK
