import Sigc.Lemmas.EmitStep
import Sigc.Lemmas.StepUnfold
/-! the *block* of an emission in progress: the skeleton its impl had when it started, followed by its end marker.  `Frame`
steps keep it a contiguous segment of the skeleton (`InBlk.frame`), so successor and predecessor lookups from a position
inside it stay inside it.  The lookups come in two forms.  `InBlk.find/.succ/.pred` ask only that the position is *in* the
block and answer that the neighbour exists and is in the block again: for the walks that must not fail whatever the cursor
is.  `blk_ids/blk_nodup/blk_succ/blk_pred/blk_step` take the block split around the cursor (`d ++ k :: n :: r`) and answer
*which* id the neighbour is: for the walks that count or compare turns or measure what is left. -/
namespace Sigc.Emit
open Sigc.Model

theorem succId_spec (cs : List Cell) (a rest : List Nat) (k n : Nat)
    (h : cs.map (·.id) = a ++ k :: n :: rest) (hk : k ∉ a) : succId cs k = some n := by
  induction cs generalizing a with
  | nil => simp at h
  | cons c t ih =>
    cases a with
    | nil =>
      simp at h
      obtain ⟨h1, h2⟩ := h
      cases t with
      | nil => simp at h2
      | cons d t' =>
        simp at h2
        simp [succId, h1, h2.1]
    | cons x a' =>
      simp at h
      obtain ⟨h1, h2⟩ := h
      have hx : c.id ≠ k := by intro e; apply hk; simp [← e, h1]
      simp only [succId, hx, if_false]
      exact ih a' h2 (fun hin => hk (List.mem_cons_of_mem _ hin))

theorem predId_spec (cs : List Cell) (a rest : List Nat) (p k : Nat)
    (h : cs.map (·.id) = a ++ p :: k :: rest) (hk : k ∉ a) (hpk : p ≠ k) : predId cs k = some p := by
  induction cs generalizing a with
  | nil => simp at h
  | cons c t ih =>
    cases t with
    | nil =>
      cases a with
      | nil => simp at h
      | cons x a' => simp at h
    | cons d t' =>
      cases a with
      | nil =>
        simp at h
        obtain ⟨h1, h2, _⟩ := h
        simp [predId, h1, h2]
      | cons x a' =>
        simp only [List.map_cons, List.cons_append, List.cons.injEq] at h
        obtain ⟨h1, h2⟩ := h
        have hd : d.id ≠ k := by
          intro e
          cases a' with
          | nil => simp at h2; exact hpk (by rw [← h2.1, e])
          | cons y a'' => simp at h2; apply hk; simp [← e, h2.1]
        simp only [predId, hd, if_false]
        apply ih a' (by simpa using h2) (fun hin => hk (List.mem_cons_of_mem _ hin))

theorem succ_exact {cs : List Cell} (hn : (cs.map (·.id)).Nodup) {pre d rest post : List Nat} {k n : Nat}
    (hL : cs.map (·.id) = pre ++ (d ++ k :: n :: rest) ++ post) : succId cs k = some n := by
  have hL' : cs.map (·.id) = (pre ++ d) ++ k :: n :: (rest ++ post) := by rw [hL]; simp
  apply succId_spec cs _ _ k n hL'
  intro hin
  rw [hL'] at hn
  exact (List.nodup_append.mp hn).2.2 k hin k (by simp) rfl

theorem succ_in_block {cs : List Cell} (hn : (cs.map (·.id)).Nodup) {pre B0 post : List Nat} {m k : Nat}
    (hL : cs.map (·.id) = pre ++ (B0 ++ [m]) ++ post) (hk : k ∈ B0 ++ [m]) (hkm : k ≠ m) :
    ∃ n, succId cs k = some n ∧ n ∈ B0 ++ [m] := by
  have hk0 : k ∈ B0 := by
    rcases List.mem_append.mp hk with h | h
    · exact h
    · simp at h; exact absurd h hkm
  obtain ⟨B1, B2, rfl⟩ := List.append_of_mem hk0
  obtain ⟨n, rest, hnr⟩ : ∃ n rest, B2 ++ [m] = n :: rest := by
    cases B2 with
    | nil => exact ⟨m, [], rfl⟩
    | cons x t => exact ⟨x, t ++ [m], rfl⟩
  refine ⟨n, succ_exact hn (pre := pre) (d := B1) (rest := rest) (post := post) ?_, ?_⟩
  · rw [hL, ← hnr]; simp
  · have : n ∈ B2 ++ [m] := by rw [hnr]; simp
    simp only [List.append_assoc, List.cons_append, List.mem_append, List.mem_cons] at this ⊢
    rcases this with h | h
    · right; right; left; exact h
    · right; right; right; simpa using h

theorem pred_exact {cs : List Cell} (hn : (cs.map (·.id)).Nodup) {pre d rest post : List Nat} {p k : Nat}
    (hL : cs.map (·.id) = pre ++ (d ++ p :: k :: rest) ++ post) : predId cs k = some p := by
  have hL' : cs.map (·.id) = (pre ++ d) ++ p :: k :: (rest ++ post) := by rw [hL]; simp
  rw [hL'] at hn
  have hnd := List.nodup_append.mp hn
  apply predId_spec cs _ _ p k hL'
  · intro hin
    exact hnd.2.2 k hin k (by simp) rfl
  · intro e
    have := hnd.2.1
    simp [e] at this

theorem pred_in_block {cs : List Cell} (hn : (cs.map (·.id)).Nodup) {pre post : List Nat} {f k : Nat} {B' : List Nat}
    (hL : cs.map (·.id) = pre ++ (f :: B') ++ post) (hk : k ∈ f :: B') (hkf : k ≠ f) :
    ∃ p, predId cs k = some p ∧ p ∈ f :: B' := by
  have hk0 : k ∈ B' := by
    rcases List.mem_cons.mp hk with h | h
    · exact absurd h hkf
    · exact h
  obtain ⟨B1, B2, rfl⟩ := List.append_of_mem hk0
  obtain ⟨C, p, hC⟩ : ∃ C p, f :: B1 = C ++ [p] :=
    ⟨_, _, (List.dropLast_concat_getLast (List.cons_ne_nil f B1)).symm⟩
  refine ⟨p, pred_exact hn (pre := pre) (d := C) (rest := B2) (post := post) ?_, ?_⟩
  · rw [hL]
    have : f :: (B1 ++ k :: B2) = C ++ [p] ++ k :: B2 := by rw [← hC]; simp
    rw [this]; simp
  · have : p ∈ f :: B1 := by rw [hC]; simp
    rcases List.mem_cons.mp this with h | h
    · simp [h]
    · simp [h]

/-- impl `i` is emitting and its skeleton contains `B` (in use: the block of an emission) as a contiguous segment -/
def InBlk (s : St) (i : Nat) (B : List (Nat × Bool)) : Prop :=
  ∃ im, aget s.impls i = some im ∧ 0 < im.exec ∧ ∃ pre post, skel im = pre ++ B ++ post

theorem InBlk.frame {s s' : St} {i : Nat} {B : List (Nat × Bool)} (h : InBlk s i B) (hf : Frame s s') :
    InBlk s' i B := by
  obtain ⟨im, hi, hx, pre, post, hsk⟩ := h
  obtain ⟨im', hi', p, q, hk⟩ := hf.keep i im hi hx
  have := hf.exec i
  rw [execOf_pos hi', execOf_pos hi] at this
  refine ⟨im', hi', by omega, p ++ pre, post ++ q, ?_⟩
  rw [hk, hsk]; simp

theorem InBlk.ids {s : St} {i : Nat} {B : List (Nat × Bool)} (h : InBlk s i B) :
    ∃ im, aget s.impls i = some im ∧ 0 < im.exec ∧ ∃ pre post, cids im = pre ++ B.map (·.1) ++ post := by
  obtain ⟨im, hi, hx, pre, post, hsk⟩ := h
  refine ⟨im, hi, hx, pre.map (·.1), post.map (·.1), ?_⟩
  rw [cids_eq_skel, hsk]; simp

theorem InBlk.find {s : St} {i : Nat} {B : List (Nat × Bool)} (h : InBlk s i B) {k : Nat}
    (hk : k ∈ B.map (·.1)) : ∃ im c, aget s.impls i = some im ∧ im.cells.find? (·.id = k) = some c := by
  obtain ⟨im, hi, _, pre, post, hids⟩ := h.ids
  have : k ∈ im.cells.map (·.id) := by
    show k ∈ cids im
    rw [hids]; simp only [List.mem_append]; left; right; exact hk
  obtain ⟨c, hc⟩ := find_of_mem_ids this
  exact ⟨im, c, hi, hc⟩

/-- `Inv.fwdC` read through `callableAt`.  No fact about blocks: this is the first file of the family that sees
    `StepIter.callableAt` -/
theorem Inv.callable_ok {s : St} (hs : Inv s) {i x : Nat} {fn : Fun} (h : StepIter.callableAt s i x = some fn) :
    FunOK s.G fn := by
  obtain ⟨im, c, him, hc, hrep, _⟩ := StepIter.callableAt_eq_some s i x fn h
  exact hs.fwdC i im him c (find_mem hc).1 _ fn hrep rfl

theorem InBlk.succ {s : St} (hs : Inv s) {i : Nat} {B0 : List (Nat × Bool)} {m : Nat}
    (h : InBlk s i (B0 ++ [(m, true)])) {k : Nat} (hk : k ∈ (B0 ++ [(m, true)]).map (·.1)) (hkm : k ≠ m) :
    ∃ im n, aget s.impls i = some im ∧ succId im.cells k = some n ∧ n ∈ (B0 ++ [(m, true)]).map (·.1) := by
  obtain ⟨im, hi, _, pre, post, hids⟩ := h.ids
  have hn := (hs.ok i im hi).nodup
  have e : (B0 ++ [(m, true)]).map (·.1) = B0.map (·.1) ++ [m] := by simp
  rw [e] at hids hk ⊢
  obtain ⟨n, h1, h2⟩ := succ_in_block (cs := im.cells) hn hids hk hkm
  exact ⟨im, n, hi, h1, h2⟩

theorem InBlk.pred {s : St} (hs : Inv s) {i : Nat} {B : List (Nat × Bool)} {first : Nat} {rest : List Nat}
    (h : InBlk s i B) (hB : B.map (·.1) = first :: rest) {k : Nat} (hk : k ∈ B.map (·.1)) (hkf : k ≠ first) :
    ∃ im p, aget s.impls i = some im ∧ predId im.cells k = some p ∧ p ∈ B.map (·.1) := by
  obtain ⟨im, hi, _, pre, post, hids⟩ := h.ids
  have hn := (hs.ok i im hi).nodup
  rw [hB] at hids hk ⊢
  obtain ⟨p, h1, h2⟩ := pred_in_block (cs := im.cells) hn hids hk hkf
  exact ⟨im, p, hi, h1, h2⟩

theorem blk_ids {s : St} {i : Nat} {B : List (Nat × Bool)} (hs : Inv s) (hb : InBlk s i B) :
    ∃ im pre post, aget s.impls i = some im ∧ cids im = pre ++ B.map (·.1) ++ post ∧ (cids im).Nodup ∧
      (B.map (·.1)).Nodup := by
  obtain ⟨im, hi, _, pre, post, hids⟩ := hb.ids
  have hn := (hs.ok i im hi).nodup
  refine ⟨im, pre, post, hi, hids, hn, ?_⟩
  rw [hids] at hn
  exact (List.nodup_append.mp (List.nodup_append.mp hn).1).2.1

theorem blk_nodup {s : St} {i : Nat} {B : List (Nat × Bool)} (hs : Inv s) (hb : InBlk s i B) {l : List Nat}
    (hB : B.map (·.1) = l) : l.Nodup := by
  obtain ⟨_, _, _, _, _, _, hnd⟩ := blk_ids hs hb
  exact hB ▸ hnd

/-- `++it` -/
theorem blk_succ {s : St} {i : Nat} {B : List (Nat × Bool)} (hs : Inv s) (hb : InBlk s i B)
    {d r : List Nat} {k n : Nat} (hB : B.map (·.1) = d ++ k :: n :: r) :
    ∃ im, aget s.impls i = some im ∧ succId im.cells k = some n := by
  obtain ⟨im, pre, post, hi, hids, hn, _⟩ := blk_ids hs hb
  refine ⟨im, hi, ?_⟩
  rw [hB] at hids
  exact succ_exact (cs := im.cells) hn (pre := pre) (d := d) (rest := r) (post := post) hids

/-- one step of the forward walk of a block `done ++ x :: todo ++ [m]` with the cursor on `x`: `x` is not the end
    marker, and in every later state of the emission `++it` leads from `x` to the head of what is left (the fourth
    conjunct is `hB` bracketed anew, in the form the next step takes it) -/
theorem blk_step {s : St} {i : Nat} {B : List (Nat × Bool)} (hs : Inv s) (hb : InBlk s i B)
    {done todo : List Nat} {x m : Nat} (hB : B.map (·.1) = done ++ (x :: todo) ++ [m]) :
    x ≠ m ∧ x ∈ B.map (·.1) ∧ ∃ n tl, todo ++ [m] = n :: tl ∧ B.map (·.1) = (done ++ [x]) ++ todo ++ [m] ∧
      ∀ s1, Inv s1 → InBlk s1 i B → ∃ im, aget s1.impls i = some im ∧ succId im.cells x = some n := by
  have hnd := blk_nodup hs hb hB
  obtain ⟨n, tl, hn⟩ := List.exists_cons_of_ne_nil (List.append_ne_nil_of_right_ne_nil todo (List.cons_ne_nil m []))
  refine ⟨?_, by rw [hB]; simp, n, tl, hn, by rw [hB]; simp, fun s1 hs1 hb1 =>
    blk_succ hs1 hb1 (d := done) (r := tl) (by rw [hB, ← hn]; simp)⟩
  intro e; subst e
  exact (List.nodup_append.mp hnd).2.2 x (by simp) x (by simp) rfl

/-- `--it` -/
theorem blk_pred {s : St} {i : Nat} {B : List (Nat × Bool)} (hs : Inv s) (hb : InBlk s i B)
    {d r : List Nat} {p k : Nat} (hB : B.map (·.1) = d ++ p :: k :: r) :
    ∃ im, aget s.impls i = some im ∧ predId im.cells k = some p := by
  obtain ⟨im, pre, post, hi, hids, hn, _⟩ := blk_ids hs hb
  refine ⟨im, hi, ?_⟩
  rw [hB] at hids
  exact pred_exact (cs := im.cells) hn (pre := pre) (d := d) (rest := r) (post := post) hids

end Sigc.Emit
