import Sigc.Lemmas.EmitMutual
import Sigc.Lemmas.Blind
/-! the driver's `teardown` (destroy everything the program left alive) never sets the model error: its `execOp`
part preserves `Inv`, its hand-written part (deleting also the pinned signal objects) and the final `delT`s only
use transformers that never touch `err` -/
namespace Sigc.Emit
open Sigc.Model

theorem libBlind_err : LibBlind (·.err) := fun _ _ _ _ _ _ => rfl

theorem dropHandle_err (s : St) (g : Nat) : (dropHandle s g).err = s.err :=
  libBlind_err.dropHandle (fun _ _ _ _ => rfl) s g

theorem seq_good (f : Nat) (P : Prog) (ops : List Op) (s s' : St) (hs : Inv s)
    (h : Inv.tdSeq f P (some s) ops = some s') : Good0 s s' :=
  Inv.tdSeq_induct f P (J := Good0 s) (fun op _ b c r g hx => g.trans ((all_ok f).op P b op c r g.inv hx)) (.refl hs) h

theorem execOp_delT_err (f : Nat) (P : Prog) (s s' : St) (t : Nat) (r : Except Unit String)
    (h : execOp f P s (.delT t) = some (s', r)) : s'.err = s.err := by
  cases f with
  | zero => simp [execOp] at h
  | succ f =>
    rw [execOp.eq_def] at h
    simp only [stepSimple, modeRule] at h
    split at h
    · rename_i hst
      split at hst
      · simp at hst h; obtain ⟨rfl, _⟩ := hst; obtain ⟨rfl, _⟩ := h; rfl
      · simp at hst h; obtain ⟨rfl, _⟩ := hst; obtain ⟨rfl, _⟩ := h
        exact (libBlind_err.prims _).invalidateTrackable _ rfl
    · simp at h; obtain ⟨rfl, _⟩ := h; rfl

theorem teardown_err (f : Nat) (P : Prog) (s s' : St) (hs : Inv s) (h : teardown f P s = some s') :
    s'.err = none := by
  rw [Inv.teardown_eq] at h
  split at h
  · contradiction
  · rename_i s1 h1
    have g1 := seq_good f P _ s s1 hs h1
    split at h
    · contradiction
    · rename_i s2 h2
      -- the hand-written part of `teardown` is a fold of `dropHandle` (`Inv.forceDelG`)
      have e3 : s'.err = ((sortedKeys s2.G).foldl dropHandle s2).err :=
        Inv.tdSeq_induct f P (J := fun b => b.err = _) (fun op hm b c r hb hx => by
          obtain ⟨t, _, rfl⟩ := List.mem_map.mp hm
          rw [execOp_delT_err f P b c t r hx, hb]) rfl h
      rw [e3, foldl_frame dropHandle (·.err) dropHandle_err]
      exact (seq_good f P _ s1 s2 g1.inv h2).inv.noerr

end Sigc.Emit
