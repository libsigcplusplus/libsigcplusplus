import Sigc.Lemmas.EmitPrim
import Sigc.Lemmas.Built
/-! `InvX` under changes of the tables of signal handles (`G`) and slot variables (`S`): the order on handle
tables under which forwarders stay valid, `gcImpl`, `ensureImpl`, writing a slot variable, `mkFun` -/
namespace Sigc.Emit
open Sigc.Model

def stripH (h : Handle) : Handle := { h with impl := none }

/-- two handle tables agree up to the `impl` pointers: what `ensureImpl` does to `G` -/
def GSame (G G' : List (Nat × Handle)) : Prop := ∀ j, (aget G' j).map stripH = (aget G j).map stripH

/-- `G'` has all the signal objects of `G` (possibly more), and what was pinned (`everFwd`) stays pinned: forwarders
    stay valid (`FunOK.monoFw`) -/
def GFw (G G' : List (Nat × Handle)) : Prop :=
  ∀ g h, aget G g = some h → ∃ h', aget G' g = some h' ∧ h'.obj = h.obj ∧ h'.fl = h.fl ∧ h'.trk = h.trk ∧
    (h.everFwd = true → h'.everFwd = true)

/-- `GFw`, and a signal object that is pinned in `G'` was already pinned in `G` (only `mkFun … (.fwd g)` pins):
    `OwnOK` stays valid as well -/
def GLe (G G' : List (Nat × Handle)) : Prop :=
  GFw G G' ∧
  (∀ g h', aget G' g = some h' → h'.everFwd = true → ∃ h, aget G g = some h ∧ h.everFwd = true ∧ h.fl = h'.fl)

theorem GLe.refl (G : List (Nat × Handle)) : GLe G G :=
  ⟨fun _ h hh => ⟨h, hh, rfl, rfl, rfl, id⟩, fun _ h hh he => ⟨h, hh, he, rfl⟩⟩

theorem GSame.get {G G'} (h : GSame G G') {j : Nat} {d : Handle} (hj : aget G j = some d) :
    ∃ d1, aget G' j = some d1 ∧ d1.obj = d.obj ∧ d1.fl = d.fl ∧ d1.trk = d.trk ∧ d1.everFwd = d.everFwd := by
  have := h j
  rw [hj] at this
  cases hg' : aget G' j with
  | none => rw [hg'] at this; simp at this
  | some h' =>
    rw [hg'] at this
    simp [stripH] at this
    obtain ⟨a, b, c, _, e⟩ := this
    exact ⟨h', rfl, a, b, c, e⟩

theorem GSame.none {G G'} (h : GSame G G') {j : Nat} (hj : aget G j = none) : aget G' j = none := by
  simpa [hj] using h j

theorem GSame.le {G G'} (h : GSame G G') : GLe G G' := by
  refine ⟨?_, ?_⟩
  · intro g hd hg
    obtain ⟨h', hg', a, b, c, e⟩ := h.get hg
    exact ⟨h', hg', a, b, c, e.trans⟩
  · intro g h' hg' he
    obtain ⟨hd, hg, _, b, _, e⟩ := GSame.get (G' := G) (fun j => (h j).symm) hg'
    exact ⟨hd, hg, e.trans he, b⟩

theorem FunOK.monoFw {G G'} (hle : GFw G G') {fn : Fun} (h : FunOK G fn) : FunOK G' fn := by
  intro o ts ht
  obtain ⟨g, hd, hg, ho, hflag⟩ := h o ts ht
  obtain ⟨h', hg', a, b, c, d⟩ := hle g hd hg
  refine ⟨g, h', hg', by rw [a, ho], ?_⟩
  rw [b, c]
  split
  · rename_i ht; simpa [ht] using hflag
  · rename_i ht; simp [ht] at hflag; exact d hflag

theorem SlotOK.monoFw {G G'} (hle : GFw G G') {sl : SlotB} (h : SlotOK G sl) : SlotOK G' sl :=
  fun r fn h1 h2 => (h r fn h1 h2).monoFw hle

theorem FunOK.mono {G G'} (hle : GLe G G') {fn : Fun} (h : FunOK G fn) : FunOK G' fn := h.monoFw hle.1

theorem SlotOK.mono {G G'} (hle : GLe G G') {sl : SlotB} (h : SlotOK G sl) : SlotOK G' sl := h.monoFw hle.1

theorem OwnOK.mono {O : List (Nat × Nat)} {G G'} (hle : GLe G G') (h : OwnOK O G) : OwnOK O G' := by
  intro p hp h' hg' he
  obtain ⟨hd, hg, he0, hfl⟩ := hle.2 p.2 h' hg' he
  rw [← hfl]; exact h p hp hd hg he0

theorem GFw.aset_same {G : List (Nat × Handle)} {g : Nat} {h h' : Handle} (hg : aget G g = some h)
    (a : h'.obj = h.obj) (b : h'.fl = h.fl) (c : h'.trk = h.trk) (d : h.everFwd = true → h'.everFwd = true) :
    GFw G (aset G g h') := by
  intro j hj hjj
  rw [aget_aset]
  by_cases e : j = g
  · subst e; rw [hg] at hjj; cases hjj
    exact ⟨h', by simp, a, b, c, d⟩
  · simp only [e, if_false]; exact ⟨hj, hjj, rfl, rfl, rfl, id⟩

/-- the last hypothesis (`h'` is not pinned by this) is found when `h'` is `{ h with impl := … }` -/
theorem GLe.aset_same {G : List (Nat × Handle)} {g : Nat} {h h' : Handle} (hg : aget G g = some h)
    (a : h'.obj = h.obj) (b : h'.fl = h.fl) (c : h'.trk = h.trk) (d : h.everFwd = true → h'.everFwd = true)
    (d' : h'.everFwd = true → h.everFwd = true := by first | exact id | (intro x; simp_all)) :
    GLe G (aset G g h') := by
  refine ⟨GFw.aset_same hg a b c d, fun j hj hjj he => ?_⟩
  rw [aget_aset] at hjj
  by_cases e : j = g
  · subst e; simp only [if_true] at hjj; cases hjj
    exact ⟨h, hg, d' he, b.symm⟩
  · simp only [e, if_false] at hjj; exact ⟨hj, hjj, he, rfl⟩

theorem GLe.aset_new {G : List (Nat × Handle)} {g : Nat} (h' : Handle) (hg : aget G g = none)
    (hf : h'.everFwd = false := by rfl) :
    GLe G (aset G g h') := by
  refine ⟨?_, ?_⟩
  · intro j hj hjj
    rw [aget_aset]
    by_cases e : j = g
    · subst e; rw [hg] at hjj; contradiction
    · simp only [e, if_false]; exact ⟨hj, hjj, rfl, rfl, rfl, id⟩
  · intro j hj hjj he
    rw [aget_aset] at hjj
    by_cases e : j = g
    · subst e; simp only [if_true] at hjj; cases hjj
      rw [hf] at he; contradiction
    · simp only [e, if_false] at hjj; exact ⟨hj, hjj, he, rfl⟩

theorem GLe.trans {A B C} (h1 : GLe A B) (h2 : GLe B C) : GLe A C := by
  refine ⟨?_, ?_⟩
  · intro g h hg
    obtain ⟨h', hg', a, b, c, d⟩ := h1.1 g h hg
    obtain ⟨h'', hg'', a', b', c', d'⟩ := h2.1 g h' hg'
    exact ⟨h'', hg'', by rw [a', a], by rw [b', b], by rw [c', c], fun x => d' (d x)⟩
  · intro g h'' hg'' he
    obtain ⟨h', hg', he', hf'⟩ := h2.2 g h'' hg'' he
    obtain ⟨h, hg, he0, hf⟩ := h1.2 g h' hg' he'
    exact ⟨h, hg, he0, by rw [hf, hf']⟩

/-- changing the handle table, possibly pinning signal objects (`mkFun … (.fwd g)`) -/
theorem InvX.setGFw {off} {s : St} (h : InvX off s) {G' : List (Nat × Handle)} (hle : GFw s.G G')
    (hh : ∀ p ∈ G', ∀ i, p.2.impl = some i → (aget s.impls i).isSome = true)
    (ho : OwnOK s.ownedG G') :
    InvX off { s with G := G' } :=
  ⟨h.keys, h.lt, h.ok, h.disj, hh, fun i v hv => (h.fwdS i v hv).monoFw hle,
   fun i im hi c hc => (h.fwdC i im hi c hc).monoFw hle, h.noerr, ho⟩

theorem Good.setG {off} {s : St} (h : InvX off s) {G' : List (Nat × Handle)} (hle : GLe s.G G')
    (hh : ∀ p ∈ G', ∀ i, p.2.impl = some i → (aget s.impls i).isSome = true) :
    Good off s { s with G := G' } :=
  ⟨h.setGFw hle.1 hh (h.own.mono hle), Frame.of_eq (Nat.le_refl _) rfl rfl⟩

/-- for `Inv` only: `holders = 0` gives `exec = 0` when no `clear()` is in progress (`ImplOK.eh`) -/
theorem Good.gcImpl {s : St} (h : Inv s) (i : Nat) : Good (fun _ => 0) s (gcImpl s i) := by
  unfold Sigc.Model.gcImpl
  cases hi : aget s.impls i with
  | none => exact Good.refl h
  | some im =>
    simp only
    split
    · rename_i hc
      simp only [Bool.and_eq_true, beq_iff_eq, Bool.not_eq_true', List.any_eq_false, decide_eq_true_eq] at hc
      obtain ⟨hh, hg⟩ := hc
      have hx : im.exec = 0 := by have := (h.ok i im hi).eh; omega
      apply Good.nullConnsList
      refine ⟨.of_wf (h.wf.adel i) (fun p hp j hj => ?_) (fun j jm hj => h.ok j jm (aget_of_adel hj)) h.fwdS
        (fun j jm hj => h.fwdC j jm (aget_of_adel hj)) h.noerr h.own, ⟨Nat.le_refl _, ?_, ?_, fun _ => rfl⟩⟩
      · obtain ⟨jm, hjm⟩ := h.hok p hp j hj
        refine ⟨jm, ?_⟩
        rw [aget_adel_other _ _ _ fun e => by subst e; exact absurd hj (by simpa using hg p hp)]
        exact hjm
      · intro j
        by_cases e : j = i
        · subst e; simp [execOf, aget_adel, hi, hx]
        · simp [execOf, aget_adel, e]
      · intro j jm hj hp
        simp only [aget_adel]
        split
        · rename_i e; subst e; rw [hi] at hj; cases hj; omega
        · exact ⟨jm, hj, [], [], by simp⟩
    · exact Good.refl h

theorem GSame.aset_impl {G : List (Nat × Handle)} {g : Nat} {h : Handle} (hg : aget G g = some h) (x : Option Nat) :
    GSame G (aset G g { h with impl := x }) := by
  intro j
  rw [aget_aset]
  by_cases e : j = g
  · subst e; simp [hg, stripH]
  · simp [e]

theorem GSame.refl (G : List (Nat × Handle)) : GSame G G := fun _ => rfl

theorem GSame.trans {A B C} (h1 : GSame A B) (h2 : GSame B C) : GSame A C := fun j => (h2 j).trans (h1 j)

/-- for `Inv` only: the new impl is `ImplOK 0` -/
theorem ensureImpl_good {s s' : St} {g i : Nat} (h : Inv s) (he : ensureImpl s g = some (s', i)) :
    Good (fun _ => 0) s s' ∧ (aget s'.impls i).isSome = true ∧ s'.S = s.S ∧ GSame s.G s'.G ∧
    (∃ hd, aget s'.G g = some hd ∧ hd.impl = some i) ∧ s'.T = s.T ∧ s'.C = s.C ∧ s'.K = s.K := by
  have w := Inv.WF.ensureImpl h.wf he
  have k := (Inv.HOK.ensureImpl h.hok he).1
  obtain ⟨hd, hg, ⟨hi, rfl⟩ | ⟨hi, rfl, rfl⟩⟩ := ensureImpl_cases he
  · exact ⟨Good.refl h, h.himpl (g, hd) (aget_some_mem hg) i hi, rfl, GSame.refl _, ⟨hd, hg, hi⟩, rfl, rfl, rfl⟩
  · have hnone : aget s.impls s.next = none := by
      cases hx : aget s.impls s.next with
      | none => rfl
      | some im => have := (h.lt _ _ hx).1; omega
    have hle := (GSame.aset_impl hg (some s.next)).le
    refine ⟨⟨.of_wf w k (fun j jm hj => ?_) (fun j v hv => (h.fwdS j v hv).mono hle) (fun j jm hj c hc => ?_) h.noerr
        (h.own.mono hle), ⟨by simp, fun j => ?_, fun j jm hj hp => ?_, fun _ => rfl⟩⟩, by simp, rfl,
      GSame.aset_impl hg _, ⟨{ hd with impl := some s.next }, by simp, rfl⟩, rfl, rfl, rfl⟩
    · simp only [aget_aset] at hj
      split at hj
      · cases hj
        exact ⟨by simp [cids], rfl, by simp [markers], fun _ => rfl, by simp, by simp⟩
      · exact h.ok j jm hj
    · simp only [aget_aset] at hj
      split at hj
      · cases hj; simp at hc
      · exact (h.fwdC j jm hj c hc).mono hle
    · by_cases e : j = s.next
      · subst e; simp [execOf, hnone]
      · simp [execOf, aget_aset, e]
    · simp only [aget_aset]
      split
      · rename_i e; subst e; rw [hnone] at hj; cases hj
      · exact ⟨jm, hj, [], [], by simp⟩

theorem incallOf_aset (s : St) (i j : Nat) (v : SlotVar) :
    incallOf { s with S := aset s.S i v } j = if j = i then v.incall else incallOf s j := by
  unfold incallOf
  simp only [aget_aset]
  by_cases e : j = i <;> simp [e]

theorem InvX.setS {off} {s : St} (h : InvX off s) (i : Nat) (v : SlotVar) (hv : SlotOK s.G v.slot) :
    InvX off { s with S := aset s.S i v } := by
  refine h.writeS fun j w hw => ?_
  rw [aget_aset] at hw
  exact ite_eq_elim hw (fun _ e => by cases e; exact hv) fun _ e => h.fwdS j w e

theorem Good.setS {off} {s : St} (h : InvX off s) (i : Nat) (v : SlotVar) (hv : SlotOK s.G v.slot)
    (hc : v.incall = incallOf s i) : Good off s { s with S := aset s.S i v } := by
  refine ⟨h.setS i v hv, .of_impls (Nat.le_refl _) rfl fun j => ?_⟩
  rw [incallOf_aset]
  split
  · rename_i e; subst e; exact hc
  · rfl

theorem Good.delS {off} {s : St} (h : InvX off s) (i : Nat) (hc : incallOf s i = 0) :
    Good off s { s with S := adel s.S i } := by
  refine ⟨h.writeS fun j w hw => ?_, .of_impls (Nat.le_refl _) rfl fun j => ?_⟩
  · rw [aget_adel] at hw
    exact ite_eq_elim hw (fun _ e => nomatch e) fun _ e => h.fwdS j w e
  · by_cases e : j = i
    · subst e; simp [incallOf, aget_adel] at hc ⊢; exact hc.symm
    · simp [incallOf, aget_adel, e]

theorem incallOf_of_aget {s : St} {i : Nat} {v : SlotVar} (h : aget s.S i = some v) : incallOf s i = v.incall := by
  simp [incallOf, h]

/-- a direct call of slot variable `i`: `incall` is raised around a `Frame` step -/
theorem Frame.bracketS {s s1 : St} {i : Nat} {v v2 : SlotVar} (hv : aget s.S i = some v)
    (h01 : Frame { s with S := aset s.S i { v with incall := v.incall + 1 } } s1)
    (hv2 : aget s1.S i = some v2) :
    Frame s { s1 with S := aset s1.S i { v2 with incall := v2.incall - 1 } } := by
  have hin : v2.incall = v.incall + 1 := by
    have := h01.vars i
    rw [incallOf_of_aget hv2, incallOf_aset] at this
    simpa using this
  refine ⟨h01.next, h01.exec, h01.keep, ?_⟩
  intro j
  rw [incallOf_aset]
  by_cases e : j = i
  · subst e; simp only [if_true]; rw [incallOf_of_aget hv]; omega
  · simp only [e, if_false]
    have := h01.vars j
    rw [incallOf_aset] at this
    simpa [e] using this

theorem incallOf_of_none {s : St} {i : Nat} (h : aget s.S i = none) : incallOf s i = 0 := by
  simp [incallOf, h]

theorem FunOK.leaf (G) (fid : Nat) (ts : List Nat) : FunOK G (.leaf fid ts) := by
  intro o ts' h; simp [funTarget] at h

theorem target_tracks : ∀ (f : Fun) (o : Nat) (ts : List Nat), funTarget f = some (o, ts) → f.tracks = ts
  | .leaf _ _, _, _, h => by simp [funTarget] at h
  | .fwd o' ts', o, ts, h => by simp [funTarget] at h; simp [Fun.tracks, h.2]
  | .nest _ none, _, _, h => by simp [funTarget] at h
  | .nest _ (some f), o, ts, h => by
    simp only [funTarget] at h
    simp only [Fun.tracks]
    exact target_tracks f o ts h
  | .owner _ _ _, _, _, h => by simp [funTarget] at h

theorem good_made {off} {s s' : St} {fn : Fun} (h : InvX off s) {τ : Int} (m : MkFun s τ fn s') :
    Good off s s' ∧ FunOK s'.G fn ∧ s'.S = s.S := by
  cases m with
  | plain _ hsh =>
    refine ⟨Good.refl h, ?_, rfl⟩
    rcases hsh with ⟨fid, ts, rfl⟩ | ⟨i, v, hv, rfl, _⟩
    · exact FunOK.leaf _ _ _
    · -- `nest:` forwards to what the copied slot forwards to
      intro o ts ht
      cases hr : v.slot.copy.rep with
      | none => simp [hr, funTarget] at ht
      | some r =>
        cases hf : r.fn with
        | none => simp [hr, hf, funTarget] at ht
        | some f =>
          simp [hr, hf, funTarget] at ht
          exact (h.fwdS i v hv).copy r f hr hf o ts ht
  | @fwd g hd hg hown =>
    have hfw : GFw s.G (aset s.G g { hd with everFwd := true }) := GFw.aset_same hg rfl rfl rfl fun _ => rfl
    refine ⟨⟨?_, Frame.of_eq (Nat.le_refl _) rfl rfl⟩, ?_, rfl⟩
    · apply h.setGFw hfw
      · exact (h.hok.aset_G g { hd with everFwd := true } fun i hi => h.hok.get hg hi).isSome
      · intro p hp h' hg' he
        rw [aget_aset] at hg'
        by_cases e : p.2 = g
        · simp only [e, if_true] at hg'; cases hg'
          cases htk : hd.fl.isTrackable with
          | true => rfl
          | false =>
            rw [htk, Bool.not_false, Bool.true_and, List.any_eq_false] at hown
            exact absurd e (by simpa using hown p hp)
        · simp only [e, if_false] at hg'; exact h.own p hp h' hg' he
    · intro o ts ht
      simp [funTarget] at ht
      obtain ⟨rfl, rfl⟩ := ht
      refine ⟨g, { hd with everFwd := true }, by simp, rfl, ?_⟩
      simp only
      split <;> simp
  | ownT fid _ => exact ⟨.of_core h rfl rfl rfl rfl (Nat.le_refl _), (fun o ts ht => nomatch ht), rfl⟩
  | ownK fid _ => exact ⟨.of_core h rfl rfl rfl rfl (Nat.le_succ _), (fun o ts ht => nomatch ht), rfl⟩
  | @ownG fid g hd hg hpin _ =>
    refine ⟨⟨?_, Frame.of_eq (Nat.le_succ _) rfl rfl⟩, (fun o ts ht => nomatch ht), rfl⟩
    have h1 : InvX off { s with next := s.next + 1 } := h.congr rfl rfl rfl rfl (Nat.le_succ _)
    refine ⟨h1.keys, h1.lt, h1.ok, h1.disj, h1.himpl, h1.fwdS, h1.fwdC, h1.noerr, ?_⟩
    intro p hp h' hg' he
    rcases List.mem_cons.mp hp with e | e
    · subst e
      have hg'' : aget s.G g = some h' := hg'
      rw [hg] at hg''; cases hg''
      simpa [he] using hpin
    · exact h.own p e h' hg' he

theorem mkFun_good {off} {s s' : St} {isVoid : Bool} {spec : FSpec} {fn : Fun} (h : InvX off s)
    (hm : mkFun s isVoid spec = .ok (fn, s')) :
    Good off s s' ∧ FunOK s'.G fn ∧ s'.S = s.S :=
  good_made h (mkFun_cases hm)

end Sigc.Emit
