import Sigc.Lemmas.RefineSimDefs
/-!
The simulation of the iterator functions of the mutual block (`deref`, `accLoop`, `revLoop`, `walkLoop`, `runStrat`):
step lemmas (hypotheses at fuel `f`, conclusion at fuel `f+1`).  `deref` is simulated for positions inside the snapshot
only (`DerefE`): every caller dereferences only there (the end marker is excluded by the guards of the loops).
-/
namespace Sigc.Refine
open Sigc.Model

theorem PosR.memB {snap : List Nat} {m : Nat} {itm : IterBuf} {its : Spec.It} (h : PosR snap m itm its)
    {B : List (Nat × Bool)} (hB : B.map (·.1) = snap ++ [m]) : itm.pos ∈ B.map (·.1) := by
  rw [hB]; exact List.mem_of_getElem? h.pos

theorem PosR.at_first {snap : List Nat} {m first : Nat} {itm : IterBuf} {its : Spec.It} (h : PosR snap m itm its)
    (hnd : (snap ++ [m]).Nodup) (hf : (snap ++ [m])[0]? = some first) : itm.pos = first ↔ its.pos = 0 := by
  constructor
  · intro e
    have h0 : 0 < (snap ++ [m]).length := by simp
    have := (List.getElem?_inj (i := 0) (j := its.pos) h0 hnd).mp (by rw [hf, h.pos, e])
    exact this.symm
  · intro e
    have hp := h.pos
    rw [e, hf] at hp
    simp at hp
    exact hp.symm

/-- `++it` inside the snapshot -/
theorem PosR.succ {s : St} {i : Nat} {B : List (Nat × Bool)} {snap : List Nat} {m : Nat} {itm : IterBuf}
    {its : Spec.It} (hs : Emit.Inv s) (hb : Emit.InBlk s i B) (hB : B.map (·.1) = snap ++ [m])
    (hp : PosR snap m itm its) (hlt : its.pos < snap.length) :
    ∃ im nxt, aget s.impls i = some im ∧ succId im.cells itm.pos = some nxt ∧
      PosR snap m { itm with pos := nxt, invoked := false } { its with pos := its.pos + 1, invoked := false } := by
  obtain ⟨d, r, e, hl⟩ := getElem?_split hp.pos
  cases r with
  | nil =>
    exfalso
    have := congrArg List.length e
    simp at this
    omega
  | cons n r' =>
    obtain ⟨im, him, hsucc⟩ := Emit.blk_succ hs hb (hB.trans e)
    refine ⟨im, n, him, hsucc, ?_, rfl, hp.buf⟩
    show (snap ++ [m])[its.pos + 1]? = some n
    rw [e, ← hl]
    exact getElem?_succ_of_split

/-- `--it` not at the beginning -/
theorem PosR.pred {s : St} {i : Nat} {B : List (Nat × Bool)} {snap : List Nat} {m : Nat} {itm : IterBuf}
    {its : Spec.It} (hs : Emit.Inv s) (hb : Emit.InBlk s i B) (hB : B.map (·.1) = snap ++ [m])
    (hp : PosR snap m itm its) (hne : its.pos ≠ 0) :
    ∃ im prv, aget s.impls i = some im ∧ predId im.cells itm.pos = some prv ∧
      PosR snap m { itm with pos := prv, invoked := false } { its with pos := its.pos - 1, invoked := false } := by
  have hle := hp.le
  have hlen : its.pos - 1 < (snap ++ [m]).length := by simp; omega
  obtain ⟨d, r, e, hl⟩ := getElem?_split (List.getElem?_eq_getElem hlen)
  generalize (snap ++ [m])[its.pos - 1] = p at e
  cases r with
  | nil =>
    exfalso
    have := congrArg List.length e
    simp at this
    omega
  | cons k r' =>
    have hk : (snap ++ [m])[its.pos]? = some k := by
      have : its.pos = d.length + 1 := by omega
      rw [this, e]
      exact getElem?_succ_of_split
    have ek : k = itm.pos := by
      have := hp.pos
      rw [hk] at this
      simpa using this
    subst ek
    obtain ⟨im, him, hpred⟩ := Emit.blk_pred hs hb (hB.trans e)
    refine ⟨im, p, him, hpred, ?_, rfl, hp.buf⟩
    show (snap ++ [m])[its.pos - 1]? = some p
    rw [e, ← hl]
    simp

/-- `DerefS` for positions inside the snapshot (`DerefS.inside`); the statement proved for every fuel is `DerefE` -/
def DerefS' (f : Nat) : Prop := ∀ P s t i itm its arg snap m (B : List (Nat × Bool)) s' o itm', Emit.Inv s → R s t →
  Emit.InBlk s i B → B.map (·.1) = snap ++ [m] → PosR snap m itm its → its.pos < snap.length →
  Model.deref f P s i itm arg = some (s', o, itm') →
  ∀ g, f ≤ g → ∃ t' its', Spec.deref g P t i snap its arg = some (t', o, its') ∧ R s' t' ∧ PosR snap m itm' its' ∧
    its'.pos = its.pos

theorem DerefS.inside {f : Nat} (h : DerefS f) : DerefS' f :=
  fun P s t i itm its arg snap m B s' o itm' hs hR hb hB hp _ hd => h P s t i itm its arg snap m B s' o itm' hs hR hb hB hp hd

theorem deref_sim0 : DerefS 0 := by
  intro P s t i itm its arg snap m B s' o itm' _ _ _ _ _ h
  simp [Model.deref] at h

theorem deref_simE (f : Nat) (hi : InvokeE f) : DerefE (f+1) := by
  intro e P s t i itm its arg snap m B s' o itm' hs hR hb hB hp hlt h g hg
  obtain ⟨g', rfl, hfg⟩ := fuel_succ hg
  suffices key : SimRun e (fun c d => d.1 = c.1 ∧ PosR snap m c.2 d.2 ∧ d.2.pos = its.pos)
      (Model.deref (f+1) P s i itm arg) (Spec.deref (g'+1) P t i snap its arg) by
    obtain ⟨t', d, ht', hR', rfl, hp', hpos⟩ := key s' (o, itm') h
    exact ⟨t', d.2, ht', hR', hp', hpos⟩
  rw [StepIter.deref_cases, Spec.deref_eq]
  obtain ⟨im, c, him, hfind⟩ := hb.find (hp.memB hB)
  rw [him, hp.in_snap hlt]
  dsimp only
  rw [hfind, callable_sim hs hR.r, hp.invoked]
  dsimp only
  cases hinv : itm.invoked with
  | true =>
    rw [if_pos rfl]
    cases StepIter.callableAt s i itm.pos with
    | none => exact .pure hR ⟨rfl, hp, rfl⟩
    | some fn => dsimp only; rw [if_pos rfl]; exact .pure hR ⟨rfl, hp, rfl⟩
  | false =>
    rw [if_neg Bool.false_ne_true]
    cases hc : StepIter.callableAt s i itm.pos with
    | none => exact .pure hR ⟨rfl, hp, rfl⟩
    | some fn =>
      dsimp only
      rw [if_neg Bool.false_ne_true]
      have hfn := hs.callable_ok hc
      refine SimRun.callEq (fun s1 (c : Outcome × Nat) hinvk => hi e P s t fn arg s1 c.1 c.2 hs hfn hR hinvk g' hfg)
        (fun _ => .none) fun s1 t1 c _ hR1 => ?_
      obtain ⟨o1, v1⟩ := c
      cases o1 with
      | exc => exact .pure hR1 ⟨rfl, hp, rfl⟩
      | ok => exact .pure hR1 ⟨rfl, ⟨hp.pos, rfl, rfl⟩, rfl⟩

theorem deref_blk {f : Nat} {P : Prog} {s s1 : St} {i arg : Nat} {itm it1 : IterBuf} {o : Outcome}
    {B : List (Nat × Bool)} {snap : List Nat} {m : Nat} {its : Spec.It} (hs : Emit.Inv s) (hb : Emit.InBlk s i B)
    (hB : B.map (·.1) = snap ++ [m]) (hp : PosR snap m itm its)
    (h : Model.deref f P s i itm arg = some (s1, o, it1)) : Emit.Inv s1 ∧ Emit.InBlk s1 i B := by
  obtain ⟨g1, _⟩ := (Emit.all_ok f).deref P s i itm arg B s1 o it1 hs hb (hp.memB hB) h
  exact ⟨g1.inv, hb.frame g1.frame⟩

/-- `*it` inside a loop, as a rule: both sides dereference (`x`, `y`); if the model's side answers, so does the
    specification's, with the same outcome, in related states, with related iterators at the same position, and the
    loop's own hypotheses hold again -/
@[elab_as_elim]
theorem deref_call {f : Nat} (hd : DerefE f) {e : Option String} {P : Prog} {s : St} {t : Spec.LSt} {i m : Nat}
    {snap : List Nat} {B : List (Nat × Bool)} {itm : IterBuf} {its : Spec.It} {arg g : Nat}
    {motive : Option (St × Outcome × IterBuf) → Option (Spec.LSt × Outcome × Spec.It) → Prop}
    {x : Option (St × Outcome × IterBuf)} {y : Option (Spec.LSt × Outcome × Spec.It)}
    (hx : x = Model.deref f P s i itm arg) (hy : y = Spec.deref g P t i snap its arg)
    (hs : Emit.Inv s) (hR : RE e s t) (hb : Emit.InBlk s i B) (hB : B.map (·.1) = snap ++ [m])
    (hp : PosR snap m itm its) (hlt : its.pos < snap.length) (hg : f ≤ g)
    (nil : ∀ b, motive none b)
    (ret : ∀ s1 t1 o it1 its1, RE e s1 t1 → PosR snap m it1 its1 → its1.pos = its.pos → Emit.Inv s1 →
      Emit.InBlk s1 i B → motive (some (s1, o, it1)) (some (t1, o, its1))) : motive x y := by
  subst hx hy
  cases h : Model.deref f P s i itm arg with
  | none => exact nil _
  | some p =>
    obtain ⟨s1, o, it1⟩ := p
    obtain ⟨t1, its1, hd1, hR1, hp1, hpp1⟩ := hd e P s t i itm its arg snap m B s1 o it1 hs hR hb hB hp hlt h g hg
    obtain ⟨hs1, hb1⟩ := deref_blk hs hb hB hp h
    rw [hd1]
    exact ret s1 t1 o it1 its1 hR1 hp1 hpp1 hs1 hb1

/-- `++it` of the accumulator loops -/
theorem advance_simE (f : Nat) (ha : AccE f) {e : Option String} {P : Prog} {s : St} {t : Spec.LSt} {i m : Nat} {snap : List Nat}
    {B : List (Nat × Bool)} (hs : Emit.Inv s) (hR : RE e s t) (hb : Emit.InBlk s i B) (hB : B.map (·.1) = snap ++ [m])
    {itm : IterBuf} {its : Spec.It} (hp : PosR snap m itm its) (hlt : its.pos < snap.length)
    (arg mode k r : Nat) {g : Nat} (hg : f ≤ g) :
    SimEq e (match aget s.impls i with
      | none => some (s.fail "acc: impl destroyed", Outcome.ok, r)
      | some im =>
        match succId im.cells itm.pos with
        | none => some (s.fail "acc: iterator invalidated", Outcome.ok, r)
        | some nxt => Model.accLoop f P s i { itm with pos := nxt, invoked := false } m arg mode k r)
      (Spec.accLoop g P t i snap { its with pos := its.pos + 1, invoked := false } arg mode k r) := by
  obtain ⟨im, nxt, him, hsucc, hp'⟩ := hp.succ hs hb hB hlt
  rw [him]
  dsimp only
  rw [hsucc]
  exact .of_eq (fun s' c h => ha e P s t i _ _ m arg mode k r snap B s' c.1 c.2 hs hR hb hB hp' h g hg)

theorem acc_simE (f : Nat) (hd : DerefE f) (ha : AccE f) : AccE (f+1) := by
  intro e P s t i itm its m arg mode k r snap B s' o v hs hR hb hB hp h g hg
  obtain ⟨g', rfl, hg'⟩ := fuel_succ hg
  have hend := hp.at_end (Emit.blk_nodup hs hb hB)
  refine SimRun.eq_elim ?_ h
  rw [Model.accLoop, Spec.accLoop]
  refine sim_ite (fun _ => .pure hR rfl) (fun hpm => ?_) hend.symm
  have hlt : its.pos < snap.length := by have := mt hend.mpr hpm; omega
  dsimp only
  refine sim_ite (fun _ => advance_simE f ha hs hR hb hB hp hlt arg mode k _ hg') (fun _ => ?_)
  refine deref_call hd rfl rfl hs hR hb hB hp hlt hg' (fun _ => .none) fun s1 t1 o1 it1 its1 hR1 hp1 hpp1 hs1 hb1 => ?_
  cases o1 with
  | exc => exact .pure hR1 rfl
  | ok =>
    dsimp only
    rw [hp1.buf]
    have hpX : PosR snap m (if mode = 4 then itm else it1) (if mode = 4 then its else its1) := by
      split
      · exact hp
      · exact hp1
    have hltX : (if mode = 4 then its else its1).pos < snap.length := by
      split
      · exact hlt
      · omega
    refine sim_ite (fun _ => .pure hR1 rfl) (fun _ => sim_ite (fun _ => ?_)
      (fun _ => advance_simE f ha hs1 hR1 hb1 hB hpX hltX arg mode k _ hg'))
    refine deref_call hd rfl rfl hs1 hR1 hb1 hB hpX hltX hg' (fun _ => .none)
      fun s2 t2 o2 it2 its2 hR2 hp2 hpp2 hs2 hb2 => ?_
    cases o2 with
    | exc => exact .pure hR2 rfl
    | ok =>
      dsimp only
      rw [show r + it1.buf + its2.buf = r + it1.buf + it2.buf by rw [hp2.buf]]
      exact advance_simE f ha hs2 hR2 hb2 hB hp2 (by omega) arg mode k _ hg'

theorem rev_simE (f : Nat) (hd : DerefE f) (hr : RevE f) : RevE (f+1) := by
  intro e P s t i itm its first m arg r snap B s' o v hs hR hb hB hfirst hp h g hg
  obtain ⟨g', rfl, hg'⟩ := fuel_succ hg
  have hiff := hp.at_first (Emit.blk_nodup hs hb hB) hfirst
  refine SimRun.eq_elim ?_ h
  rw [Model.revLoop, Spec.revLoop]
  refine sim_ite (fun _ => .pure hR rfl) (fun hpf => ?_) hiff.symm
  have hne : its.pos ≠ 0 := mt hiff.mpr hpf
  obtain ⟨im, prv, him, hpred, hp'⟩ := hp.pred hs hb hB hne
  rw [him]
  dsimp only
  rw [hpred]
  dsimp only
  refine deref_call hd rfl rfl hs hR hb hB hp' (by have := hp.le; show its.pos - 1 < snap.length; omega) hg'
    (fun _ => .none) fun s1 t1 o1 it1 its1 hR1 hp1 _ hs1 hb1 => ?_
  cases o1 with
  | exc => exact .pure hR1 rfl
  | ok =>
    dsimp only
    rw [hp1.buf]
    exact .of_eq (fun s' c h => hr e P s1 t1 i it1 its1 first m arg _ snap B s' c.1 c.2 hs1 hR1 hb1 hB hfirst hp1 h g' hg')

/-- `*it` in the scripted walk; the walk goes on with the dereferenced iterator (`d`) or with the original one when
    a copy was dereferenced (`c`) -/
theorem walk_deref_simE {f : Nat} (hd : DerefE f) (hw : WalkE f) {e : Option String} {P : Prog} {s : St} {t : Spec.LSt}
    {i first m : Nat} {snap : List Nat} {B : List (Nat × Bool)} (hs : Emit.Inv s) (hR : RE e s t) (hb : Emit.InBlk s i B)
    (hB : B.map (·.1) = snap ++ [m]) (hfirst : (snap ++ [m])[0]? = some first) {itm : IterBuf} {its : Spec.It}
    (hp : PosR snap m itm its) (hlt : its.pos < snap.length) (arg : Nat) (cs : List Char) (r : Nat) {g : Nat} (hg : f ≤ g)
    (nm : IterBuf → IterBuf) (ns : Spec.It → Spec.It)
    (hn : ∀ a b, PosR snap m a b → PosR snap m (nm a) (ns b)) :
    SimEq e (match Model.deref f P s i itm arg with
      | none => none
      | some (s, .exc, _) => some (s, Outcome.exc, r)
      | some (s, .ok, d) => Model.walkLoop f P s i (nm d) first m arg cs (r + d.buf))
      (match Spec.deref g P t i snap its arg with
      | none => none
      | some (s, .exc, _) => some (s, Outcome.exc, r)
      | some (s, .ok, d) => Spec.walkLoop g P s i snap (ns d) arg cs (r + d.buf)) := by
  refine deref_call hd rfl rfl hs hR hb hB hp hlt hg (fun _ => .none) fun s1 t1 o1 it1 its1 hR1 hp1 _ hs1 hb1 => ?_
  cases o1 with
  | exc => exact .pure hR1 rfl
  | ok =>
    dsimp only
    rw [hp1.buf]
    exact .of_eq (fun s' c h =>
      hw e P s1 t1 i _ _ first m arg cs _ snap B s' c.1 c.2 hs1 hR1 hb1 hB hfirst (hn _ _ hp1) h g hg)

theorem walk_simE (f : Nat) (hd : DerefE f) (hw : WalkE f) : WalkE (f+1) := by
  intro e P s t i itm its first m arg ops r snap B s' o v hs hR hb hB hfirst hp h g hg
  obtain ⟨g', rfl, hg'⟩ := fuel_succ hg
  have hnd := Emit.blk_nodup hs hb hB
  have hend := hp.at_end hnd
  have hiff := hp.at_first hnd hfirst
  refine SimRun.eq_elim ?_ h
  cases ops with
  | nil => rw [Model.walkLoop, Spec.walkLoop]; exact .pure hR rfl
  | cons c cs =>
    rw [Model.walkLoop, Spec.walkLoop]
    -- the walk goes on in the same states, with related iterators
    have go : ∀ {a b}, PosR snap m a b →
        SimEq e (Model.walkLoop f P s i a first m arg cs r) (Spec.walkLoop g' P t i snap b arg cs r) :=
      fun hp' => .of_eq (fun s' c h => hw e P s t i _ _ first m arg cs r snap B s' c.1 c.2 hs hR hb hB hfirst hp' h g' hg')
    have hlt : ¬ itm.pos = m → its.pos < snap.length := fun hpm => by have := mt hend.mpr hpm; omega
    -- the letters of the script in the order of `Model.walkLoop`: 'd' (`*it`), 'c' (`*` of a copy), 'i' (`++it`), 'x' (`--it`), any other letter is skipped
    refine sim_ite (fun _ => sim_ite (fun _ => go hp)
        (fun hpm => walk_deref_simE hd hw hs hR hb hB hfirst hp (hlt hpm) arg cs r hg' id id (fun _ _ h => h)) hend.symm)
      (fun _ => sim_ite (fun _ => sim_ite (fun _ => go hp)
        (fun hpm => walk_deref_simE hd hw hs hR hb hB hfirst hp (hlt hpm) arg cs r hg' (fun _ => itm) (fun _ => its)
          (fun _ _ _ => hp)) hend.symm)
      (fun _ => sim_ite (fun _ => sim_ite (fun _ => go hp) (fun hpm => ?_) hend.symm)
      (fun _ => sim_ite (fun _ => sim_ite (fun _ => go hp) (fun hpf => ?_) hiff.symm) (fun _ => go hp))))
    · obtain ⟨im, nxt, him, hsucc, hp'⟩ := hp.succ hs hb hB (hlt hpm)
      rw [him]
      dsimp only
      rw [hsucc]
      exact go hp'
    · obtain ⟨im, prv, him, hpred, hp'⟩ := hp.pred hs hb hB (mt hiff.mpr hpf)
      rw [him]
      dsimp only
      rw [hpred]
      exact go hp'

theorem strat_simE (f : Nat) (ha : AccE f) (hr : RevE f) (hw : WalkE f) : StratE (f+1) := by
  intro e P s t i first m arg strat snap B s' o v hs hR hb hB hfirst h g hg
  obtain ⟨g', rfl, hg'⟩ := fuel_succ hg
  have hp0 : PosR snap m { pos := first } { pos := 0 } := ⟨hfirst, rfl, rfl⟩
  have hpm : PosR snap m { pos := m } { pos := snap.length } := ⟨by simp, rfl, rfl⟩
  cases strat <;> rw [Model.runStrat] at h <;> rw [Spec.runStrat]
  case sum => exact ha e P s t i _ _ m arg 0 0 0 snap B s' o v hs hR hb hB hp0 h g' hg'
  case stop k => exact ha e P s t i _ _ m arg 1 k 0 snap B s' o v hs hR hb hB hp0 h g' hg'
  case twice => exact ha e P s t i _ _ m arg 2 0 0 snap B s' o v hs hR hb hB hp0 h g' hg'
  case never => exact ha e P s t i _ _ m arg 3 0 0 snap B s' o v hs hR hb hB hp0 h g' hg'
  case postinc => exact ha e P s t i _ _ m arg 4 0 0 snap B s' o v hs hR hb hB hp0 h g' hg'
  case rev => exact hr e P s t i _ _ first m arg 0 snap B s' o v hs hR hb hB hfirst hpm h g' hg'
  case walk ops => exact hw e P s t i _ _ first m arg ops 0 snap B s' o v hs hR hb hB hfirst hp0 h g' hg'

end Sigc.Refine
