import Sigc.Lemmas.SpecKPrimCells
/-!
# SpecKRun — the interpreter of the mutual block seen from the simulation: `execOp` on the operations without user
code, how calls end in related states (`Good`), small updates of related states, "nothing left to collect" (`Settled`)
-/
namespace Sigc.SpecK
open Sigc.Model Sigc.Spec

/-- the `callable` of `cTurns`, `cDeref` is the one of `Spec.callable_eq`, `Spec.turns_cons`, `Spec.deref_eq` -/
theorem callable_spec : @callable = @Spec.callable := rfl

/-- the operations that run user code -/
def isComplex : Op → Bool
  | .callS _ _ => true
  | .emit _ _ _ _ => true
  | .throw_ => true
  | _ => false

theorem execOp_simple (f : Nat) (P : Prog) (s : LSt) (op : Op) (h : isComplex op = false) :
    Spec.execOp (f+1) P s op =
      (match Spec.modeRule P s op with
       | some r => some (s, .ok r)
       | none =>
         match Spec.stepSimple s op with
         | some (s, r) => some (s, .ok r)
         | none => some (s, .ok "badop")) :=
  Spec.execOp_simple f P s op (fun _ _ e => by subst e; cases h) (fun _ _ _ _ e => by subst e; cases h)
    (fun e => by subst e; cases h)

theorem cOp_simple (f : Nat) (P : Prog) (s : LSt) (op : Op) (h : isComplex op = false) : cOp (f+1) P s op = true := by
  rw [cOp]
  all_goals (intros; rename_i e; subst e; cases h)

/-- the runs went from `t`, `u` to `t'`, `u'`: related again, ids only added to `ρ`, frame kept (what `StepR.ok` and
    `MkR.ok` carry) -/
def Good (ρ : IdRel) (t u t' u' : LSt) : Prop := ∃ ρ', Q ρ' t' u' ∧ Step ρ ρ' t t' u u' ∧ Fr t t'

theorem Good.refl {ρ : IdRel} {t u : LSt} (h : Q ρ t u) : Good ρ t u t u := ⟨ρ, h, Step.refl _ _ _, Fr.refl _⟩

theorem Good.of0 {ρ : IdRel} {t u t' u' : LSt} (h : Sim0 ρ t u t' u') : Good ρ t u t' u' := ⟨ρ, h.q, h.step, h.fr⟩

theorem Good.trans {ρ ρ1 : IdRel} {t u t1 u1 t2 u2 : LSt} (hs : Step ρ ρ1 t t1 u u1) (hf : Fr t t1)
    (h : Good ρ1 t1 u1 t2 u2) : Good ρ t u t2 u2 := by
  obtain ⟨ρ2, hq, hs2, hf2⟩ := h
  exact ⟨ρ2, hq, hs.trans hs2, hf.trans hf2⟩

theorem Good.post {ρ : IdRel} {t u t1 u1 t2 u2 : LSt} (h : Good ρ t u t1 u1)
    (hq : ∀ ρ', Q ρ' t1 u1 → Q ρ' t2 u2) (hd : t2.depth = t1.depth) (hsg : t2.sigs = t1.sigs)
    (hn : t2.next = t1.next) (hn' : u2.next = u1.next) : Good ρ t u t2 u2 := by
  obtain ⟨ρ1, hq1, hs1, hf1⟩ := h
  exact ⟨ρ1, hq _ hq1, hs1.congr rfl hn rfl hn', hf1.trans (Fr.of_eq hd hsg)⟩

section
variable {ρ : IdRel} {t u : LSt}

theorem Q.log (h : Q ρ t u) (e : Event) : Q ρ (t.log e) (u.log e) := by
  unfold LSt.log
  exact { h with trace := by simp [h.trace] }

theorem Q.setDepth (h : Q ρ t u) (d : Nat) : Q ρ { t with depth := d } { u with depth := d } :=
  { h with depth := rfl }

theorem Q.setSteps (h : Q ρ t u) (d : Nat) : Q ρ { t with steps := d } { u with steps := d } :=
  { h with steps := rfl }

theorem Q.setSigU (h : Q ρ t u) {i i' : Nat} (hi : ρ i i') {g g' : LSig} (hx : aget t.sigs i = some g)
    (hg : SigR ρ g g') : Q ρ t (Spec.setSig u i' g') := by
  have := h.setSig hi hg (h.sig_inv hx).2
  unfold Spec.setSig at this ⊢
  rw [aset_self hx] at this
  exact this

end

/-- no owned object is waiting to be destroyed: `Spec.collect` is then the identity (`collectN_of_settled`).  The
    simulation carries it for the `k2` shortcut: the first run returns at once where the second ends its emission with a
    `collect`, which must then change nothing (`emit_succ`) -/
def Settled (t : LSt) : Prop := Spec.collectStep t = none

theorem Settled.congr {t t' : LSt} (h : Settled t) (h1 : t'.ownedT = t.ownedT := by rfl)
    (h2 : t'.ownedK = t.ownedK := by rfl) (h2' : t'.ownedG = t.ownedG := by rfl)
    (h3 : ∀ o, Spec.heldT t' o = Spec.heldT t o := by intro; rfl)
    (h4 : ∀ o, Spec.heldK t' o = Spec.heldK t o := by intro; rfl) : Settled t' := by
  rw [Settled, Spec.collectStep_none_iff] at h ⊢
  simpa only [h1, h2, h2', h3, h4] using h

theorem collectN_of_settled {t : LSt} (h : Settled t) (n : Nat) : Spec.collectN n t = t := by
  cases n with
  | zero => rfl
  | succ n => unfold Spec.collectN; rw [h]

end Sigc.SpecK
