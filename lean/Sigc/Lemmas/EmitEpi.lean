import Sigc.Lemmas.EmitBlock
import Sigc.Lemmas.InvSchema
/-! prologue and epilogue of `emitImpl`: `signal_impl_holder` and `temp_slot_list` (the state in which the loop
starts); `~temp_slot_list` (erase the end marker), then `~signal_impl_holder` (`unreference_exec`, possibly
`sweep`, release the owner); and the bracket they form: whatever good step runs between them, the emission as a
whole is a good step (`good_emission`) -/
namespace Sigc.Emit
open Sigc.Model

/-- `signal_impl_holder` + `temp_slot_list`: the state in which the loop of `emitImpl` starts -/
def emitStart (s : St) (i : Nat) (im : Impl) : St :=
  setImpl { s with next := s.next + 1 } i
    { im with exec := im.exec + 1, holders := im.holders + 1,
              cells := im.cells ++ [{ id := s.next, slot := {}, linked := false }] }

/-- `slots.begin()` captured before the loop -/
def emitFirst (s : St) (im : Impl) : Nat :=
  match im.cells with
  | [] => s.next
  | c :: _ => c.id

theorem emitStart_inv {s : St} (hs : Inv s) {i : Nat} {im : Impl} (hi : aget s.impls i = some im) :
    Inv (emitStart s i im) ∧ InBlk (emitStart s i im) i (skel im ++ [(s.next, true)]) := by
  have hok := hs.ok i im hi
  have hfresh : ∀ j jm, aget s.impls j = some jm → s.next ∉ cids jm := by
    intro j jm hj hk; have := (hs.lt j jm hj).2 _ hk; omega
  constructor
  · have h0 : Inv { s with next := s.next + 1 } := hs.congr rfl rfl rfl rfl (by simp)
    unfold emitStart
    apply h0.setImpl (i := i) (im := im) hi
    · refine ⟨?_, by have := hok.eh; simp at this ⊢; omega, ?_, fun e => by simp at e, ?_, ?_⟩
      · simp only [cids, List.map_append, List.map_cons, List.map_nil]
        rw [List.nodup_append]
        refine ⟨hok.nodup, by simp, ?_⟩
        intro a ha b hb; simp at hb; subst hb; intro e; subst e; exact hfresh i im hi ha
      · have := hok.mkr
        simp only [markers, List.countP_append] at this ⊢
        simp; omega
      · intro c hc hl
        simp at hc
        rcases hc with hc | hc
        · exact hok.l c hc hl
        · subst hc; rfl
      · intro hd c hc hn
        simp at hc
        rcases hc with hc | hc
        · exact hok.d hd c hc hn
        · subst hc; simp at hn
    · intro k hk
      simp only [cids, List.map_append, List.map_cons, List.map_nil, List.mem_append, List.mem_singleton] at hk
      rcases hk with hk | hk
      · left; exact hk
      · right; subst hk; exact ⟨by simp, hfresh⟩
    · intro c hc
      simp at hc
      rcases hc with hc | hc
      · exact hs.fwdC i im hi c hc
      · subst hc; exact SlotOK.none _
  · refine ⟨{ im with exec := im.exec + 1, holders := im.holders + 1, cells := im.cells ++ [{ id := s.next, slot := {}, linked := false }] },
      by simp [emitStart, aget_setImpl], by simp, [], [], ?_⟩
    simp [skel]

theorem emitFirst_cons (s : St) (im : Impl) :
    ∃ tl, (skel im ++ [(s.next, true)]).map (·.1) = emitFirst s im :: tl := by
  unfold emitFirst skel
  cases im.cells with
  | nil => exact ⟨[], rfl⟩
  | cons c t => exact ⟨(t.map fun c => (c.id, c.slot.rep.isNone)).map (·.1) ++ [s.next], by simp⟩

/-- the epilogue of `emitImpl` before `gcImpl` (the branch in which the marker is found) -/
def epilogue (s : St) (i m : Nat) : St :=
  let s := eraseCell s i m
  let s := unrefExec s i
  match aget s.impls i with
  | none => s
  | some im3 => setImpl s i { im3 with holders := im3.holders - 1 }

/-- what the epilogue does to the impl -/
def epiImpl (im2 : Impl) (m : Nat) : Impl :=
  if (im2.exec - 1 = 0 && im2.deferred) = true then
    { cells := (im2.cells.filter (·.id ≠ m)).filter (fun c => !c.slot.empty), exec := im2.exec - 1,
      deferred := false, holders := im2.holders - 1 }
  else
    { cells := im2.cells.filter (·.id ≠ m), exec := im2.exec - 1, deferred := im2.deferred,
      holders := im2.holders - 1 }

open Sigc.Refine in
/-- the epilogue in closed form: impl `i` becomes `epiImpl`, the connections to the marker and to the cells swept are nulled -/
theorem epilogue_closed {s : St} {i m : Nat} {im2 : Impl} (hi : aget s.impls i = some im2) :
    epilogue s i m
      = nullSt (m :: (if (im2.exec - 1 = 0 && im2.deferred) = true then
            ((im2.cells.filter (·.id ≠ m)).filter (·.slot.empty)).map (·.id) else []))
          { s with impls := aset s.impls i (epiImpl im2 m) } := by
  unfold epilogue
  simp only
  rw [eraseCell_eq hi, nullConns_eq]
  generalize hA : ({ im2 with cells := im2.cells.filter (·.id ≠ m) } : Impl) = A
  have hi3 : aget (nullSt [m] (setImpl s i A)).impls i = some A := by simp
  rw [unrefExec_eq hi3]
  unfold epiImpl
  have hAe : A.exec = im2.exec := by subst hA; rfl
  have hAd : A.deferred = im2.deferred := by subst hA; rfl
  rw [hAe, hAd]
  by_cases hcond : (im2.exec - 1 = 0 && im2.deferred) = true
  · simp only [if_pos hcond]
    generalize hB : ({ cells := A.cells, exec := im2.exec - 1, deferred := im2.deferred, holders := A.holders } : Impl) = B
    have hi4 : aget (setImpl (nullSt [m] (setImpl s i A)) i B).impls i = some B := by simp
    rw [sweep_eq hi4, nullConnsList_eq]
    have hi5 : aget (nullSt ((B.cells.filter (·.slot.empty)).map (·.id))
        (setImpl (setImpl (nullSt [m] (setImpl s i A)) i B) i
          { B with deferred := false, cells := B.cells.filter (fun c => !c.slot.empty) })).impls i
        = some { B with deferred := false, cells := B.cells.filter (fun c => !c.slot.empty) } := by
      simp
    rw [hi5]
    simp only
    subst hB; subst hA
    simp [nullSt, setImpl, aset_aset, amap_amap, nullE_append]
  · simp only [if_neg hcond]
    generalize hB : ({ cells := A.cells, exec := im2.exec - 1, deferred := im2.deferred, holders := A.holders } : Impl) = B
    have hi4 : aget (setImpl (nullSt [m] (setImpl s i A)) i B).impls i = some B := by simp
    rw [hi4]
    simp only
    subst hB; subst hA
    simp [nullSt, setImpl, aset_aset]

/-- the epilogue is made of updates of cells and impls -/
theorem epilogue_blind {γ : Type} {π : St → γ} (h : CellBlind π) (s : St) (i m : Nat) : π (epilogue s i m) = π s := by
  have e : π (unrefExec (eraseCell s i m) i) = π s := (h.prims _).unrefExec i ((h.prims _).eraseCell i m rfl)
  unfold epilogue
  simp only
  split
  · exact e
  · exact (h.setImpl ..).trans e

theorem epilogue_ownedG (s : St) (i m : Nat) : (epilogue s i m).ownedG = s.ownedG :=
  epilogue_blind (π := (·.ownedG)) (fun _ _ _ _ _ => rfl) s i m

theorem epilogue_core {s : St} {i m : Nat} {im2 : Impl} (hi : aget s.impls i = some im2) :
    (epilogue s i m).impls = aset s.impls i (epiImpl im2 m) ∧ (epilogue s i m).G = s.G ∧
    (epilogue s i m).S = s.S ∧ (epilogue s i m).err = s.err ∧ (epilogue s i m).next = s.next := by
  rw [epilogue_closed hi]
  exact ⟨rfl, rfl, rfl, rfl, rfl⟩

/-- the marker is one unit of `exec` (`mkr`); the sweep runs exactly when `exec - 1 = 0`, and then no marker is left, so
    filtering the empty cells keeps `ImplOK 0` -/
theorem epiImpl_ok {im2 : Impl} {m : Nat} (h : ImplOK 0 im2) (hx : 1 ≤ im2.exec)
    (hm : ∃ c ∈ im2.cells, c.id = m ∧ c.slot.rep.isNone = true) : ImplOK 0 (epiImpl im2 m) := by
  obtain ⟨c, hc, hcm, hcn⟩ := hm
  have hmk : (im2.cells.filter (·.id ≠ m)).countP (fun c => c.slot.rep.isNone) + 1 = im2.exec := by
    have := countP_filter_ne im2.cells h.nodup c hc (fun c => c.slot.rep.isNone)
    simp only [hcn, if_true, hcm] at this
    have h2 := h.mkr
    simp only [markers] at h2
    omega
  have heh := h.eh
  have hnd : ((im2.cells.filter (·.id ≠ m)).map (·.id)).Nodup :=
    List.Nodup.sublist ((List.filter_sublist).map _) h.nodup
  have hl : ∀ c ∈ im2.cells.filter (·.id ≠ m), c.linked = false → c.slot.empty = true :=
    fun c hc => h.l c (List.mem_filter.mp hc).1
  have hd : im2.deferred = false → ∀ c ∈ im2.cells.filter (·.id ≠ m), c.slot.rep.isNone = false → c.linked = true :=
    fun hd c hc => h.d hd c (List.mem_filter.mp hc).1
  unfold epiImpl
  split
  · rename_i hcond
    simp only [Bool.and_eq_true, decide_eq_true_eq] at hcond
    obtain ⟨he, hdf⟩ := hcond
    refine ⟨?_, by simp; omega, ?_, fun _ => rfl, ?_, ?_⟩
    · exact List.Nodup.sublist ((List.filter_sublist).map _) hnd
    · simp only [markers]
      have h0 : (im2.cells.filter (·.id ≠ m)).countP (fun c => c.slot.rep.isNone) = 0 := by omega
      rw [List.countP_eq_zero] at h0
      have : ((im2.cells.filter (·.id ≠ m)).filter (fun c => !c.slot.empty)).countP (fun c => c.slot.rep.isNone) = 0 := by
        rw [List.countP_eq_zero]
        intro c hc; exact h0 c (List.mem_filter.mp hc).1
      omega
    · intro c hc; exact hl c (List.mem_filter.mp hc).1
    · intro _ c hc _
      obtain ⟨hc1, hc2⟩ := List.mem_filter.mp hc
      cases hlk : c.linked with
      | true => rfl
      | false => have := hl c hc1 hlk; simp [this] at hc2
  · rename_i hcond
    refine ⟨hnd, by simp; omega, ?_, ?_, hl, hd⟩
    · simp only [markers]; omega
    · intro e
      simp only at e
      cases hdf : im2.deferred with
      | false => rfl
      | true => exfalso; apply hcond; simp [e, hdf]

theorem epiImpl_exec (im2 : Impl) (m : Nat) : (epiImpl im2 m).exec = im2.exec - 1 := by
  unfold epiImpl; split <;> rfl

theorem epiImpl_cells_sub (im2 : Impl) (m : Nat) : ∀ c ∈ (epiImpl im2 m).cells, c ∈ im2.cells := by
  intro c hc
  unfold epiImpl at hc
  split at hc
  · exact (List.mem_filter.mp (List.mem_filter.mp hc).1).1
  · exact (List.mem_filter.mp hc).1

theorem epilogue_inv {s : St} (hs : Inv s) {i m : Nat} {im2 : Impl} (hi : aget s.impls i = some im2) (hx : 1 ≤ im2.exec)
    (hm : ∃ c ∈ im2.cells, c.id = m ∧ c.slot.rep.isNone = true) : Inv (epilogue s i m) := by
  obtain ⟨ca, cb, cc, cd, ce⟩ := epilogue_core (m := m) hi
  have : Inv (setImpl s i (epiImpl im2 m)) := by
    apply hs.setImpl hi (epiImpl_ok (hs.ok i im2 hi) hx hm)
    · intro k hk
      obtain ⟨c, hc, rfl⟩ := List.mem_map.mp hk
      exact Or.inl (List.mem_map.mpr ⟨c, epiImpl_cells_sub im2 _ c hc, rfl⟩)
    · intro c hc; exact hs.fwdC i im2 hi c (epiImpl_cells_sub im2 _ c hc)
  exact this.congr ca cb cc cd (by rw [ce]; exact Nat.le_refl _) (epilogue_ownedG _ _ _)

/-- while the impl is still emitting (an outer emission), only the marker is removed -/
theorem epiImpl_skel {im2 : Impl} {m : Nat} (hn : (cids im2).Nodup) (hx : 1 < im2.exec)
    {pre post B : List (Nat × Bool)} (hsk : skel im2 = pre ++ (B ++ [(m, true)]) ++ post) :
    skel (epiImpl im2 m) = pre ++ B ++ post := by
  have hcond : ¬ ((im2.exec - 1 = 0 && im2.deferred) = true) := by simp; intro e; omega
  unfold epiImpl
  rw [if_neg hcond]
  have hf : ∀ (e : Nat) (d : Bool) (h : Nat), skel { cells := im2.cells.filter (·.id ≠ m), exec := e, deferred := d, holders := h } = (skel im2).filter (fun p => p.1 ≠ m) := by
    intro _ _ _
    simp only [skel]
    generalize im2.cells = cs
    induction cs with
    | nil => rfl
    | cons c t ih =>
      by_cases e : c.id = m <;> simp [List.filter, e] <;> simpa using ih
  rw [hf, hsk]
  have hnd : ((pre ++ (B ++ [(m, true)]) ++ post).map (·.1)).Nodup := by
    rw [← hsk, ← cids_eq_skel]; exact hn
  simp only [List.map_append, List.map_cons, List.map_nil] at hnd
  have hnot : ∀ (l : List (Nat × Bool)), m ∉ l.map (·.1) → l.filter (fun p => p.1 ≠ m) = l := by
    intro l hl
    rw [List.filter_eq_self]
    intro p hp; simp; intro e; exact hl (List.mem_map.mpr ⟨p, hp, e⟩)
  have hpre : m ∉ pre.map (·.1) := by
    intro hin
    have := (List.nodup_append.mp (List.nodup_append.mp hnd).1).2.2 m hin m (by simp)
    exact this rfl
  have hB : m ∉ B.map (·.1) := by
    intro hin
    have := (List.nodup_append.mp (List.nodup_append.mp (List.nodup_append.mp hnd).1).2.1).2.2 m hin m (by simp)
    exact this rfl
  have hpost : m ∉ post.map (·.1) := by
    intro hin
    have := (List.nodup_append.mp hnd).2.2 m (by simp) m hin
    exact this rfl
  simp only [List.filter_append, hnot _ hpre, hnot _ hB, hnot _ hpost]
  simp [List.filter]

/-- `Inv.emitImpl_succ` with `emitStart` and `emitFirst` (`emitStart s i im` is `Inv.emitPro s i im`) -/
theorem emitImpl_succ (f : Nat) (P : Prog) (s : St) (fl : Flavour) (i arg : Nat) (strat : Strat) :
    emitImpl (f+1) P s fl (some i) arg strat =
      match aget s.impls i with
      | none => some (s.fail "emit: dangling impl", .ok, 0)
      | some im =>
        if !fl.isAcc && im.cells.isEmpty then some (s, .ok, 0) else
        match (if fl.isAcc then runStrat f P (emitStart s i im) i (emitFirst s im) s.next arg (strat.forFlavour fl)
               else emitLoop f P (emitStart s i im) i (emitFirst s im) s.next arg 0) with
        | none => none
        | some (s2, o, v) => some (Inv.emitEpi s2 i s.next, o, v) :=
  Inv.emitImpl_succ f P s fl i arg strat

/-- the epilogue when the impl and its end marker are still there -/
theorem emitEpi_found {s : St} {i m : Nat} {im2 : Impl} (hi : aget s.impls i = some im2)
    (hm : im2.cells.any (·.id = m) = true) :
    Inv.emitEpi s i m = collect (gcImpl (epilogue s i m) i) := by
  simp only [Inv.emitEpi, hi, hm, if_true, Inv.dropHolder, epilogue]
  cases aget (unrefExec (eraseCell s i m) i).impls i <;> rfl

/-- after a good run from `emitStart` the impl is still there, one level deeper than at the start, and the block
    `skel im ++ [marker]` is still in it -/
theorem marker_found {s : St} (hs : Inv s) {i : Nat} {im : Impl} (hi : aget s.impls i = some im) {s2 : St}
    (g : Good0 (emitStart s i im) s2) :
    ∃ im2 cm, aget s2.impls i = some im2 ∧ im2.exec = im.exec + 1 ∧ cm ∈ im2.cells ∧ cm.id = s.next ∧
      cm.slot.rep.isNone = true ∧ ∃ pre post, skel im2 = pre ++ (skel im ++ [(s.next, true)]) ++ post := by
  obtain ⟨im2, hi2, _, pre, post, hsk2⟩ := (emitStart_inv hs hi).2.frame g.frame
  have hex2 : im2.exec = im.exec + 1 := by
    have := g.frame.exec i
    rw [execOf_pos hi2, emitStart, execOf_setImpl, if_pos rfl] at this; exact this
  obtain ⟨cm, hcm, hcmid, hcmn⟩ := mem_skel (m := s.next) (b := true) (by rw [hsk2]; simp)
  exact ⟨im2, cm, hi2, hex2, hcm, hcmid, hcmn, pre, post, hsk2⟩

/-- the bracket of an emission: whatever good step runs between prologue and epilogue, the whole is a good step -/
theorem good_emission {s : St} (hs : Inv s) {i : Nat} {im : Impl} (hi : aget s.impls i = some im) {s2 : St}
    (g12 : Good0 (emitStart s i im) s2) : Good0 s (Inv.emitEpi s2 i s.next) := by
  obtain ⟨im2, cm, hi2, hex2, hcm, hcmid, hcmn, pre, post, hsk2⟩ := marker_found hs hi g12
  rw [emitEpi_found hi2 (any_of_mem_ids (List.mem_map.mpr ⟨cm, hcm, hcmid⟩))]
  obtain ⟨ca, _, cc, _, ce⟩ := epilogue_core (m := s.next) hi2
  have hfr : Frame s (epilogue s2 i s.next) := by
    refine Frame.bracket (s1 := emitStart s i im) hi (Nat.le_succ _) (fun j hj => aget_aset_other _ _ _ _ hj)
      (fun _ => rfl) g12.frame (by rw [ce]; exact Nat.le_refl _) ?_ ?_ ?_ ?_
    · intro j hj; rw [ca, aget_aset_other _ _ _ _ hj]
    · intro j; simp [incallOf, cc]
    · simp only [execOf, ca, aget_aset_same]
      rw [epiImpl_exec]; omega
    · intro hpos
      exact ⟨epiImpl im2 s.next, by rw [ca, aget_aset_same], pre, post,
        epiImpl_skel (g12.inv.ok i im2 hi2).nodup (by omega) hsk2⟩
  exact ((Good.mk (epilogue_inv g12.inv hi2 (by omega) ⟨cm, hcm, hcmid, hcmn⟩) hfr).andThen
    fun h => Good.gcImpl h i).andThen fun h => good_collect h

end Sigc.Emit
