import Sigc.Lemmas.SpecKSimOps
import Sigc.Lemmas.SpecKSimLoops
import Sigc.Lemmas.SpecKSimEmit
/-!
# SpecKSimAll — all statements of the mutual induction for every fuel (`all`); the run of the top-level operations
(`runTop_sim`); the programs `exEmpty`, `exK1`, `exK2`, `exOwnG` and the observer `firstLen` that the examples of
`Props/SpecK.lean` run
-/
namespace Sigc.SpecK
open Sigc.Model Sigc.Spec

theorem all (f : Nat) : All f := by
  induction f with
  | zero =>
    -- without fuel the first configuration's run does not end
    constructor <;>
      (intro P; intros; rename_i hr
       simp only [Spec.invokeFun, Spec.runBody, Spec.execLine, Spec.execOp, Spec.emitSig, Spec.turns, Spec.deref,
         Spec.accLoop, Spec.revLoop, Spec.walkLoop, Spec.runStrat] at hr
       cases hr)
  | succ f ih =>
    exact ⟨invoke_succ f ih, body_succ f ih, line_succ f ih, op_succ f ih, emit_succ f ih, turns_succ f ih, deref_succ f ih,
      acc_succ f ih, rev_succ f ih, walk_succ f ih, strat_succ f ih⟩

/-- the run of the top-level operations: no emission is in progress between them -/
theorem runTop_sim (f : Nat) (P : Prog) : ∀ (ls : List Line) (ρ : IdRel) (t u t' : LSt),
    Q ρ t u → Settled t → (∀ i, act t i = 0) → clearTop f P t ls = true → Spec.runTop f P t ls = some t' →
    ∃ u', Spec.runTop (f+1) P u ls = some u' ∧ ∃ ρ', Q ρ' t' u' := by
  intro ls
  induction ls with
  | nil =>
    intro ρ t u t' hq _ _ _ hr
    unfold Spec.runTop at hr ⊢
    simp only [Option.some.injEq] at hr
    subst hr
    exact ⟨u, rfl, ρ, hq⟩
  | cons l ls ihl =>
    intro ρ t u t' hq hst hidle hc hr
    unfold Spec.runTop at hr ⊢
    unfold clearTop at hc
    have hc := (Bool.and_eq_true _ _).mp hc
    cases hl : Spec.execLine f P t l with
    | none => rw [hl] at hr; cases hr
    | some res =>
      obtain ⟨t1, o1⟩ := res
      rw [hl] at hr hc
      simp only at hr hc
      obtain ⟨u1, e1, ⟨ρ1, hq1, _, hf1⟩, hst1⟩ := (all f).line P ρ t u l t1 o1 hq hst (fun _ => hidle) hc.1 hl
      rw [e1]
      simp only
      exact ihl ρ1 t1 u1 t' hq1 hst1 (fun i => by rw [hf1.act i]; exact hidle i) hc.2 hr

/-- an emission of an existing *empty* list (the `k2` shortcut: the two configurations allocate different ids
    afterwards), then a re-entrant emission in which the running slot disconnects itself and another slot
    (zombie positions vs immediate removal), queries in between -/
def exEmpty : Prog :=
  { bodies := [(1, [⟨"disc C0", .disc 0⟩, ⟨"disc C1", .disc 1⟩, ⟨"emit G0 3", .emit 0 3 .sum false⟩,
                    ⟨"size? G0", .sizeq 0⟩])],
    top := [⟨"newG G0 I", .newG 0 (some .I)⟩, ⟨"connfn C0 G0 fn:1", .connfn 0 0 (.fn 1) false⟩,
            ⟨"disc C0", .disc 0⟩, ⟨"emit G0 1", .emit 0 1 .sum false⟩, ⟨"newT T1", .newT 1⟩,
            ⟨"connfn C0 G0 fn:1", .connfn 0 0 (.fn 1) false⟩, ⟨"connfn C1 G0 trk:2:T1", .connfn 1 0 (.trk 2 1 none) false⟩,
            ⟨"connfn C2 G0 fn:3", .connfn 2 0 (.fn 3) false⟩, ⟨"emit G0 7", .emit 0 7 .sum false⟩,
            ⟨"size? G0", .sizeq 0⟩, ⟨"connected? C1", .connectedq 1⟩] }

/-- known finding K1 (corpus/C01/K1_empty_slot_counted_until_sweep): an *empty* slot is connected and a deferred
    sweep drops it -/
def exK1 : Prog :=
  { bodies := [(1, [⟨"disc C2", .disc 2⟩])],
    top := [⟨"newG G0 V", .newG 0 (some .V)⟩, ⟨"mkS0 S0 V", .mkS0 0 "V"⟩, ⟨"conn C0 G0 S0", .conn 0 0 0 false false⟩,
            ⟨"connfn C1 G0 fn:1", .connfn 1 0 (.fn 1) false⟩, ⟨"connfn C2 G0 fn:2", .connfn 2 0 (.fn 2) false⟩,
            ⟨"size? G0", .sizeq 0⟩, ⟨"emit G0 1", .emit 0 1 .sum false⟩, ⟨"size? G0", .sizeq 0⟩] }

/-- known finding K2 (corpus/C13/K2_nested_accumulated_emission_sees_markers): an accumulated emission starts
    while an emission of the same list runs -/
def exK2 : Prog :=
  { bodies := [(1, [⟨"emit G0 2 never", .emit 0 2 .never false⟩, ⟨"emit G0 3 sum", .emit 0 3 .sum false⟩])],
    top := [⟨"newG G0 A", .newG 0 (some .A)⟩, ⟨"connfn C0 G0 fn:1", .connfn 0 0 (.fn 1) false⟩,
            ⟨"emit G0 1 sum", .emit 0 1 .sum false⟩] }

/-- functor-owned signal objects (`ownG:`): an emission of an existing empty list first (the two configurations
    allocate different ids afterwards, so the owner ids differ), two lists owned by functors held in `G1`;
    `delG G0` is refused (`owned`); the only copy of the functor owning `G0` is released *during an emission of
    `G0`* (`disc C0` in the body of functor 2: `collect` → `dropHandle`, `size? G0` answers `dead`, the emission
    goes on with the next slot); `G2` stays owned to the end -/
def exOwnG : Prog :=
  { owners := true,
    bodies := [(2, [⟨"disc C0", .disc 0⟩, ⟨"size? G0", .sizeq 0⟩])],
    top := [⟨"newG G0 I", .newG 0 (some .I)⟩, ⟨"newG G1 I", .newG 1 (some .I)⟩, ⟨"newG G2 I", .newG 2 (some .I)⟩,
            ⟨"connfn C3 G1 fn:9", .connfn 3 1 (.fn 9) false⟩, ⟨"disc C3", .disc 3⟩,
            ⟨"emit G1 1", .emit 1 1 .sum false⟩,
            ⟨"connfn C0 G1 ownG:1:G0", .connfn 0 1 (.ownG 1 0) false⟩,
            ⟨"connfn C4 G1 ownG:4:G2", .connfn 4 1 (.ownG 4 2) false⟩,
            ⟨"connfn C1 G0 fn:2", .connfn 1 0 (.fn 2) false⟩,
            ⟨"connfn C2 G0 fn:3", .connfn 2 0 (.fn 3) false⟩,
            ⟨"delG G0", .delG 0⟩,
            ⟨"emit G0 5", .emit 0 5 .sum false⟩,
            ⟨"emit G0 7", .emit 0 7 .sum false⟩,
            ⟨"size? G1", .sizeq 1⟩] }

def firstLen (s : LSt) : Option Nat := s.sigs.head?.map (·.2.cells.length)

end Sigc.SpecK
