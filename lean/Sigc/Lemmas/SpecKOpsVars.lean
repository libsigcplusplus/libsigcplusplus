import Sigc.Lemmas.SpecKPrimFun
import Sigc.Lemmas.SpecKStepR
/-!
# SpecKOpsVars — `stepSimple` on related states: the operations on named variables (trackables, slot variables,
connections, scoped connections) that change the state in several steps or branches (`SpecKSimOps` says which arms have a
lemma); for the arms in place: `SlotR.assign`, `step_ptr`

Every lemma `step_<op>`, here and in `SpecKOpsSignals`, has the same shape: both configurations run `Spec.stepSimple` on related
states and end in related states with the same answer.  The proofs follow the code of the operation: a look-up in related
tables gives related entries or none on either side (`AR.get`, used through the rule `OR.on`), equal guards
are decided alike, and the updates keep `Q`.
-/
namespace Sigc.SpecK
open Sigc.Model Sigc.Spec

section
variable {ρ : IdRel} {t u : LSt}

theorem step_mvT (h : Q ρ t u) (j i : Nat) : StepR ρ t u (Spec.stepSimple t (.mvT j i)) (Spec.stepSimple u (.mvT j i)) := by
  dsimp only [Spec.stepSimple]
  refine (h.T.get i).on (.same h _) fun hoi => (h.T.get j).on ?_ fun _ => .same h _
  have h2 := invalidateTrackable_sim (h.fresh.setT (h.fresh.T.set j (ext_new _ _ _))) (ext_sub _ _ _ _ _ hoi)
  exact .ok _ _ h2.q (Step.fresh_of_eq h2.nk h2.np) (h2.fr.pre rfl rfl)

theorem step_masgT (h : Q ρ t u) (j i : Nat) :
    StepR ρ t u (Spec.stepSimple t (.masgT j i)) (Spec.stepSimple u (.masgT j i)) := by
  dsimp only [Spec.stepSimple]
  refine (h.T.get j).on (.same h _) fun hoj => (h.T.get i).on (.same h _) fun hoi => ?_
  dsimp only
  split
  · exact .same h _
  · have h1 := invalidateTrackable_sim h hoj
    exact .of0 (h1.trans (invalidateTrackable_sim h1.q hoi)) _

/-- the slot variable that `mkS` / `setS` make of a new functor -/
theorem VarR.ofFun {ρ : IdRel} {fn fn' : Fun} (hf : FunR ρ fn fn') (v : Bool) (n : Nat) (x : Int) :
    VarR ρ { isVoid := v, slot := { blocked := false, rep := some { call := true, fn := some fn } }, incall := n, taint := x }
      { isVoid := v, slot := { blocked := false, rep := some { call := true, fn := some fn' } }, incall := n, taint := x } :=
  ⟨rfl, ⟨rfl, .some ⟨rfl, .some hf⟩⟩, rfl, rfl⟩

/-- the tail of `mkS` / `setS`: the new functor is stored in slot variable `i` -/
theorem mkFun_setS (h : Q ρ t u) (isVoid : Bool) (spec : FSpec) (i : Nat) {V V' : Fun → SlotVar}
    (hV : ∀ {ρ' : IdRel} {fn fn' : Fun}, FunR ρ' fn fn' → VarR ρ' (V fn) (V' fn')) :
    StepR ρ t u
      (match Spec.mkFun t isVoid spec with
        | .error e => some (t, e)
        | .ok (fn, s') => some ({ s' with S := aset s'.S i (V fn) }, "ok"))
      (match Spec.mkFun u isVoid spec with
        | .error e => some (u, e)
        | .ok (fn, s') => some ({ s' with S := aset s'.S i (V' fn) }, "ok")) := by
  match Spec.mkFun t isVoid spec, Spec.mkFun u isVoid spec, mkFun_sim h isVoid spec with
  | _, _, .err e => exact .same h _
  | _, _, .ok ρ' hf hq hs hfr =>
    exact .ok _ ρ' (hq.setS (hq.S.set i (hV hf))) (hs.congr rfl rfl rfl rfl) (hfr.trans (Fr.of_eq rfl rfl))

theorem step_mkS (h : Q ρ t u) (i : Nat) (ty : String) (spec : FSpec) :
    StepR ρ t u (Spec.stepSimple t (.mkS i ty spec)) (Spec.stepSimple u (.mkS i ty spec)) := by
  dsimp only [Spec.stepSimple]
  refine (h.S.get i).on (.ite (fun _ => .same h _) (fun _ => ?_)) fun _ => .same h _
  rw [specTaint_sim h spec]
  exact mkFun_setS h _ spec i (fun hf => .ofFun hf _ _ _)

theorem step_setS (h : Q ρ t u) (i : Nat) (spec : FSpec) :
    StepR ρ t u (Spec.stepSimple t (.setS i spec)) (Spec.stepSimple u (.setS i spec)) := by
  dsimp only [Spec.stepSimple]
  refine (h.S.get i).on (.same h _) fun hd => ?_
  dsimp only
  rw [hd.incall, hd.isVoid, hd.taint, specTaint_sim h spec]
  exact .ite (fun _ => .same h _) (fun _ => mkFun_setS h _ spec i (fun hf => .ofFun hf _ _ _))

/-- the slot value that the copy assignment `d = v` leaves in `d` -/
theorem SlotR.assign {d d' v v' : SlotB} (hd : SlotR ρ d d') (hv : SlotR ρ v v') (c : Bool) :
    SlotR ρ
      (if (c || d.rep.isNone && v.rep.isNone) = true then { d with blocked := v.blocked }
       else if v.empty = true then { d with rep := none } else { blocked := v.blocked, rep := v.copy.rep })
      (if (c || d'.rep.isNone && v'.rep.isNone) = true then { d' with blocked := v'.blocked }
       else if v'.empty = true then { d' with rep := none } else { blocked := v'.blocked, rep := v'.copy.rep }) := by
  rw [← hd.rep.isNone, ← hv.rep.isNone, hv.empty, hv.blocked]
  split
  · exact ⟨rfl, hd.rep⟩
  · split
    · exact ⟨hd.blocked, .none⟩
    · exact ⟨rfl, hv.copy.rep⟩

theorem step_masgS (h : Q ρ t u) (j i : Nat) :
    StepR ρ t u (Spec.stepSimple t (.masgS j i)) (Spec.stepSimple u (.masgS j i)) := by
  dsimp only [Spec.stepSimple]
  refine (h.S.get j).on (.same h _) fun hd => (h.S.get i).on (.same h _) fun hv => ?_
  dsimp only
  rw [hd.isVoid, hv.isVoid, hd.incall, hv.incall, hd.taint, hv.taint, ← hd.slot.rep.isNone, ← hv.slot.rep.isNone,
    hv.slot.empty, hv.slot.blocked]
  refine .ite (fun _ => .same h _) fun _ => .ite (fun _ => .same h _) fun _ => .ite (fun _ => ?_) fun _ =>
    .ite (fun _ => ?_) (fun _ => .upd (h.setS (AR.set (AR.set h.S i ?_) j ?_)) _ rfl rfl rfl rfl)
  · exact .setS h j _ ⟨rfl, ⟨rfl, hd.slot.rep⟩, rfl, rfl⟩
  · exact .setS h j _ ⟨rfl, ⟨hd.slot.blocked, .none⟩, rfl, rfl⟩
  · exact ⟨rfl, ⟨rfl, .none⟩, rfl, rfl⟩
  · exact ⟨rfl, hv.slot, rfl, rfl⟩

/-- the operations on one entry of a table of connection ids (`C`, `K`).  The `match` is the one the arms of
    `stepSimple` are written with, so that an arm is an instance of the statement as it stands -/
theorem step_ptr (h : Q ρ t u) {A B : List (Nat × Option Nat)} (hAB : AR (OR ρ) A B) (k : Nat)
    {f g : Option Nat → Option (LSt × String)} (hfg : ∀ {p p'}, OR ρ p p' → StepR ρ t u (f p) (g p')) :
    StepR ρ t u (match aget A k with | none => some (t, "dead") | some p => f p)
      (match aget B k with | none => some (u, "dead") | some p => g p) :=
  (hAB.get k).on (.same h _) hfg

theorem step_asgKC (h : Q ρ t u) (i c : Nat) :
    StepR ρ t u (Spec.stepSimple t (.asgKC i c)) (Spec.stepSimple u (.asgKC i c)) := by
  dsimp only [Spec.stepSimple]
  refine (h.K.get i).on (.same h _) fun hold => (h.C.get c).on (.same h _) fun hp => ?_
  have h1 := Sim0.onSome h hold (removeCell_sim h)
  exact .ok _ ρ (h1.q.setK (h.K.set i hp)) (Step.of_eq h1.nk h1.np) (h1.fr.trans (Fr.of_eq rfl rfl))

theorem step_masgK (h : Q ρ t u) (j i : Nat) :
    StepR ρ t u (Spec.stepSimple t (.masgK j i)) (Spec.stepSimple u (.masgK j i)) := by
  dsimp only [Spec.stepSimple]
  refine (h.K.get j).on (.same h _) fun hold => (h.K.get i).on (.same h _) fun hp => ?_
  have h1 := Sim0.onSome h hold (removeCell_sim h)
  exact .ite (fun _ => .same h _) fun _ =>
    .ok _ ρ (h1.q.setK ((h.K.set i .none).set j hp)) (Step.of_eq h1.nk h1.np) (h1.fr.trans (Fr.of_eq rfl rfl))

end

end Sigc.SpecK
