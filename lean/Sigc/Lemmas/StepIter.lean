import Sigc.Model
import Sigc.Lemmas.Basic
import Sigc.Lemmas.StepLog
import Sigc.Lemmas.InvSchema
import Sigc.Lemmas.StepUnfold
/-!
The iterator buffer and the loops of the interpreter: `succId`/`predId`, a `deref`
that invokes nothing (`deref_idle`), `emitImpl` as prologue, loop, epilogue (`emitImpl_unfold`); every function of the
interpreter only *extends* the call log and restores the depth (`Ext`: an instance, indexed by the start state and the
number of user bodies entered since, of the schema `Inv.StableKD`, so `allExt` is `Inv.preservedD`); the runs of the
non-accumulating loop (`EmitRun`).  The one-step equations of the loops are in `Lemmas/StepUnfold`.
-/
namespace Sigc.StepIter
open Sigc.Model

/-! ## `succId` / `predId` -/

theorem succId_adj (cs : List Cell) (k n : Nat) (h : succId cs k = some n) :
    ∃ l c d r, cs = l ++ c :: d :: r ∧ c.id = k ∧ d.id = n := by
  induction cs with
  | nil => cases h
  | cons c t ih =>
    rw [succId] at h
    split at h
    · cases t with
      | nil => cases h
      | cons d r => exact ⟨[], c, d, r, rfl, ‹_›, by simpa using h⟩
    · obtain ⟨l, c', d, r, e, hk, hn⟩ := ih h
      exact ⟨c :: l, c', d, r, by rw [e]; rfl, hk, hn⟩

theorem predId_adj (cs : List Cell) (n k : Nat) (h : predId cs n = some k) :
    ∃ l c d r, cs = l ++ c :: d :: r ∧ c.id = k ∧ d.id = n := by
  induction cs with
  | nil => cases h
  | cons c t ih =>
    cases t with
    | nil => cases h
    | cons d r =>
      rw [predId] at h
      split at h
      · exact ⟨[], c, d, r, rfl, by simpa using h, ‹_›⟩
      · obtain ⟨l, c', d', r', e, hk, hn⟩ := ih h
        exact ⟨c :: l, c', d', r', by rw [e]; rfl, hk, hn⟩

theorem adj_succ_pred (l : List Cell) (c d : Cell) (r : List Cell) (hnd : ((l ++ c :: d :: r).map (·.id)).Nodup) :
    succId (l ++ c :: d :: r) c.id = some d.id ∧ predId (l ++ c :: d :: r) d.id = some c.id := by
  induction l with
  | nil => simp [succId, predId]
  | cons a l ih =>
    simp only [List.cons_append, List.map_cons, List.nodup_cons] at hnd
    obtain ⟨ha, hnd⟩ := hnd
    have hac : a.id ≠ c.id := fun e => ha (by simp [e])
    refine ⟨by rw [List.cons_append, succId, if_neg hac]; exact (ih hnd).1, ?_⟩
    have hd : ∀ b t, l ++ c :: d :: r = b :: t → b.id ≠ d.id := by
      intro b t e he
      cases l with
      | nil =>
        cases e
        simp [he] at hnd
      | cons b' l' =>
        cases e
        simp [he] at hnd
    cases e : l ++ c :: d :: r with
    | nil => simp at e
    | cons b t =>
      rw [List.cons_append, e, predId, if_neg (hd b t e), ← e]
      exact (ih hnd).2

/-! ## `deref` (`slot_iterator_buf::operator*`) -/

theorem callableAt_blocked (s : St) (i cur : Nat) (im : Impl) (c : Cell) (hi : aget s.impls i = some im)
    (hc : im.cells.find? (·.id = cur) = some c) (hb : c.slot.blocked = true) : callableAt s i cur = none := by
  simp only [callableAt, hi, hc, hb, if_true]
  split <;> rfl

theorem callableAt_empty (s : St) (i cur : Nat) (im : Impl) (c : Cell) (hi : aget s.impls i = some im)
    (hc : im.cells.find? (·.id = cur) = some c) (he : c.slot.empty = true) : callableAt s i cur = none := by
  simp only [callableAt, hi, hc]
  split
  · rename_i hrep; simp [SlotB.empty, hrep] at he
  · rfl

/-- an already-invoked position, or one that is not callable at that moment, is not invoked, in *every*
    state (also when the list or the cell is gone) -/
theorem deref_idle (f : Nat) (P : Prog) (s : St) (i arg : Nat) (it : IterBuf)
    (h : it.invoked = true ∨ callableAt s i it.pos = none) :
    ∃ s', deref (f+1) P s i it arg = some (s', .ok, it) ∧ (s' = s ∨ ∃ msg, s' = s.fail msg) := by
  cases hi : aget s.impls i with
  | none => exact ⟨_, by rw [deref, hi], .inr ⟨_, rfl⟩⟩
  | some im =>
    cases hc : im.cells.find? (·.id = it.pos) with
    | none => exact ⟨s.fail "deref: iterator invalidated", by rw [deref]; simp only [hi, hc], .inr ⟨_, rfl⟩⟩
    | some c => exact ⟨s, deref_skip f P s i arg it im c hi hc h, .inl rfl⟩

theorem accAdvance_step (f : Nat) (P : Prog) (i m arg mode k : Nat) (s : St) (it : IterBuf) (r : Nat)
    (im : Impl) (nxt : Nat) (hi : aget s.impls i = some im) (hn : succId im.cells it.pos = some nxt) :
    accAdvance f P i m arg mode k s it r
      = accLoop f P s i { it with pos := nxt, invoked := false } m arg mode k r := by
  simp [accAdvance, hi, hn]

/-! ## `emitImpl`: prologue, one loop / one accumulator call, epilogue -/

/-- `~temp_slot_list`, `~signal_impl_holder`, then the destructors of owned objects whose last owning
    functor copy died (`collect`); no functor runs here.  `Inv.emitEpi` with outcome and value passed through
    (`emitEpilogue_eq`) -/
def emitEpilogue (s : St) (i m : Nat) (o : Outcome) (v : Nat) : St × Outcome × Nat :=
  match aget s.impls i with
  | none => (s.fail "emit: impl destroyed during emission", o, v)
  | some im2 =>
    let s := if im2.cells.any (·.id = m) then eraseCell s i m else s.fail "emit: end marker missing"
    let s := unrefExec s i
    let s := match aget s.impls i with
      | none => s
      | some im3 => setImpl s i { im3 with holders := im3.holders - 1 }
    (collect (gcImpl s i), o, v)

theorem emitEpilogue_inv {x : Option (St × Outcome × Nat)} {i m : Nat} {s' : St} {o : Outcome} {v : Nat}
    (h : (match x with
          | none => none
          | some (s2, o, v) => some (emitEpilogue s2 i m o v)) = some (s', o, v)) :
    ∃ s2, x = some (s2, o, v) ∧ s' = (emitEpilogue s2 i m o v).1 := by
  split at h
  · cases h
  · rename_i s2 o2 v2
    have e := Option.some.inj h
    have hp : (emitEpilogue s2 i m o2 v2).2 = (o2, v2) := by unfold emitEpilogue; split <;> rfl
    rw [e] at hp
    cases hp
    exact ⟨s2, rfl, by rw [e]⟩

/-- `signal_impl_holder` + `temp_slot_list`: exec and holder counts raised, end marker appended; the body of
    `Inv.emitPro` -/
def emitPrologue (s : St) (i : Nat) (im : Impl) : St :=
  setImpl { s with next := s.next + 1 } i
    { im with exec := im.exec + 1, holders := im.holders + 1,
              cells := im.cells ++ [{ id := s.next, slot := {}, linked := false }] }

/-- `begin()` of the range: the first cell present at emission start (the marker if there is none) -/
def emitFirst (s : St) (im : Impl) : Nat :=
  match im.cells with
  | [] => s.next
  | c :: _ => c.id

theorem emitEpilogue_eq (s : St) (i m : Nat) (o : Outcome) (v : Nat) :
    emitEpilogue s i m o v = (Inv.emitEpi s i m, o, v) := by
  unfold emitEpilogue Inv.emitEpi Inv.dropHolder
  cases aget s.impls i <;> rfl

theorem emitImpl_unfold (f : Nat) (P : Prog) (s : St) (fl : Flavour) (i arg : Nat) (strat : Strat) (im : Impl)
    (hi : aget s.impls i = some im) :
    emitImpl (f+1) P s fl (some i) arg strat =
      (if !fl.isAcc && im.cells.isEmpty then some (s, .ok, 0) else
       match (if fl.isAcc then runStrat f P (emitPrologue s i im) i (emitFirst s im) s.next arg (strat.forFlavour fl)
              else emitLoop f P (emitPrologue s i im) i (emitFirst s im) s.next arg 0) with
       | none => none
       | some (s2, o, v) => some (emitEpilogue s2 i s.next o v)) := by
  rw [Inv.emitImpl_succ, hi]
  simp only [emitEpilogue_eq]
  rfl

/-! ## user functors (`leaf`, `owner`) -/

def userFid : Fun → Option Nat
  | .leaf fid _ => some fid
  | .owner fid _ _ => some fid
  | _ => none

/-- the functor runs a user body directly (`leaf`, `owner`) — as opposed to a slot held inside an
    adaptor (`nest`) or `make_slot()` of another signal (`fwd`) -/
def isUser (fn : Fun) : Bool := (userFid fn).isSome

theorem invokeFun_user (f : Nat) (P : Prog) (s : St) (fn : Fun) (fid arg : Nat) (hu : userFid fn = some fid) :
    invokeFun (f+1) P s fn arg =
      (match aget P.bodies fid with
       | none => some (s.log (.call s.depth fid arg), .ok, resultOf fid arg)
       | some body =>
         match runBody f P { s.log (.call s.depth fid arg) with depth := s.depth + 1 } body with
         | none => none
         | some (s2, o) => some ({ s2 with depth := s2.depth - 1 }, o, resultOf fid arg)) := by
  cases fn with
  | leaf fid' ts => simp [userFid] at hu; subst hu; rw [invokeFun]; rfl
  | owner fid' a b => simp [userFid] at hu; subst hu; rw [invokeFun]; rfl
  | nest b inner => simp [userFid] at hu
  | fwd o ts => simp [userFid] at hu

theorem invokeFun_leaf_nobody (f : Nat) (P : Prog) (s : St) (fid arg : Nat) (ts : List Nat)
    (hb : aget P.bodies fid = none) :
    invokeFun (f+1) P s (.leaf fid ts) arg = some (s.log (.call s.depth fid arg), .ok, resultOf fid arg) := by
  rw [invokeFun_user f P s _ fid arg rfl]; simp [hb]

theorem invokeFun_leaf_body (f : Nat) (P : Prog) (s : St) (fid arg : Nat) (ts : List Nat) (body : List Line)
    (hb : aget P.bodies fid = some body) :
    invokeFun (f+1) P s (.leaf fid ts) arg =
      (match runBody f P { s.log (.call s.depth fid arg) with depth := s.depth + 1 } body with
       | none => none
       | some (s2, o) => some ({ s2 with depth := s2.depth - 1 }, o, resultOf fid arg)) := by
  rw [invokeFun_user f P s _ fid arg rfl]; simp only [hb]

/-! ## concrete states for the `example`s of `Props/C13.lean` -/

def exCell (id fid : Nat) (blocked : Bool) : Cell :=
  { id := id, slot := { blocked := blocked, rep := some { call := true, fn := some (.leaf fid []) } }, linked := true }

/-- impl 1 with cells 2 (functor 7), 3 (functor 8, blocked), 4 (functor 9), 5 (invalidated) -/
def exImpl : Impl :=
  { cells := [exCell 2 7 false, exCell 3 8 true, exCell 4 9 false,
              { id := 5, slot := { blocked := false, rep := some { call := false, fn := none } }, linked := false }] }

def exSt : St := { impls := [(1, exImpl)], next := 6, G := [(0, { obj := 100, fl := .I, impl := some 1, trk := 101, lvl := 0 })] }

def exProg : Prog := { bodies := [], top := [] }

/-- `exSt` after functor 7 (cell 2) was invoked with argument 5 -/
def exSt2 : St := exSt.log (.call 0 7 5)

theorem exDeref2 : deref 2 exProg exSt 1 { pos := 2 } 5
    = some (exSt2, .ok, { pos := 2, invoked := true, buf := 75 }) := by
  rw [deref]
  have hx : invokeFun 1 exProg exSt (.leaf 7 []) 5 = some (exSt2, .ok, 75) := invokeFun_leaf_nobody 0 exProg exSt 7 5 [] rfl
  have hi : aget exSt.impls 1 = some exImpl := rfl
  have hc : exImpl.cells.find? (·.id = ({ pos := 2 } : IterBuf).pos) = some (exCell 2 7 false) := rfl
  simp only [hi, hc]
  simp [exCell, hx]

/-- a program whose functor 7 throws -/
def exProgT : Prog := { bodies := [(7, [{ text := "throw", op := .throw_ }])], top := [] }

/-! ## `Ext`: the log is only extended -/

def evDepth : Event → Nat
  | .call d _ _ => d
  | .res d _ _ => d

/-- `s'` continues `s`: the depth is restored, the log (newest first) is extended by events at depth ≥ `s.depth` -/
def Ext (s s' : St) : Prop :=
  s'.depth = s.depth ∧ ∃ new, s'.trace = new ++ s.trace ∧ ∀ e ∈ new, s.depth ≤ evDepth e

theorem Ext.refl (s : St) : Ext s s := ⟨rfl, [], rfl, by simp⟩

theorem Ext.trans {s1 s2 s3 : St} (h12 : Ext s1 s2) (h23 : Ext s2 s3) : Ext s1 s3 := by
  obtain ⟨d12, n12, t12, a12⟩ := h12
  obtain ⟨d23, n23, t23, a23⟩ := h23
  refine ⟨d23.trans d12, n23 ++ n12, by rw [t23, t12, List.append_assoc], ?_⟩
  intro e he
  rcases List.mem_append.1 he with he | he
  · have := a23 e he; omega
  · exact a12 e he

theorem Ext.of_td {s s' : St} (ht : s'.trace = s.trace) (hd : s'.depth = s.depth) : Ext s s' :=
  ⟨hd, [], by simp [ht], by simp⟩

theorem Ext.fail (s : St) (msg : String) : Ext s (s.fail msg) := Ext.of_td (by simp) (by simp)

/-! ## the epilogues touch neither log nor depth -/

theorem callEpi_td (s : St) (i : Nat) : (Inv.callEpi s i).trace = s.trace ∧ (Inv.callEpi s i).depth = s.depth := by
  unfold Inv.callEpi; split <;> simp

theorem emitEpi_td (s : St) (i m : Nat) : (Inv.emitEpi s i m).trace = s.trace ∧ (Inv.emitEpi s i m).depth = s.depth := by
  unfold Inv.emitEpi Inv.dropHolder
  split
  · simp
  · split <;> split <;> simp

theorem emitEpilogue_td (s : St) (i m : Nat) (o : Outcome) (v : Nat) :
    (emitEpilogue s i m o v).1.trace = s.trace ∧ (emitEpilogue s i m o v).1.depth = s.depth := by
  rw [emitEpilogue_eq]; exact emitEpi_td s i m

/-! ## the mutual induction -/

structure AllExt (f : Nat) : Prop where
  invoke : ∀ P s fn arg s' o v, invokeFun f P s fn arg = some (s', o, v) → Ext s s'
  body : ∀ P s ls s' o, runBody f P s ls = some (s', o) → Ext s s'
  line : ∀ P s l s' o, execLine f P s l = some (s', o) → Ext s s'
  emit : ∀ P s fl impl arg strat s' o v, emitImpl f P s fl impl arg strat = some (s', o, v) → Ext s s'
  loop : ∀ P s i cur m arg r s' o v, emitLoop f P s i cur m arg r = some (s', o, v) → Ext s s'
  deref : ∀ P s i it arg s' o it', deref f P s i it arg = some (s', o, it') → Ext s s'
  acc : ∀ P s i it m arg mode k r s' o v, accLoop f P s i it m arg mode k r = some (s', o, v) → Ext s s'
  rev : ∀ P s i it first arg r s' o v, revLoop f P s i it first arg r = some (s', o, v) → Ext s s'
  walk : ∀ P s i it first m arg ops r s' o v, walkLoop f P s i it first m arg ops r = some (s', o, v) → Ext s s'
  strat : ∀ P s i first m arg st s' o v, runStrat f P s i first m arg st = some (s', o, v) → Ext s s'
  op : ∀ P s op s' r, execOp f P s op = some (s', r) → Ext s s'

/-- invoking a user functor (`leaf` or `owner`): the value is `resultOf fid arg` whatever its body does;
    its call is logged at the current depth; everything its body logs is deeper; the depth is restored -/
theorem invoke_user_step {f : Nat} (body : ∀ P s ls s' o, runBody f P s ls = some (s', o) → Ext s s')
    (P : Prog) (s : St) (fn : Fun) (fid arg : Nat) (s' : St) (o : Outcome) (v : Nat)
    (hu : userFid fn = some fid) (h : invokeFun (f+1) P s fn arg = some (s', o, v)) :
    v = resultOf fid arg ∧ s'.depth = s.depth ∧
    ∃ new, s'.trace = new ++ (Event.call s.depth fid arg :: s.trace) ∧ ∀ e ∈ new, s.depth < evDepth e := by
  rw [invokeFun_user f P s fn fid arg hu] at h
  split at h
  · cases h
    exact ⟨rfl, rfl, [], rfl, by simp⟩
  · split at h
    · cases h
    · rename_i s2 o2 hr
      cases h
      obtain ⟨hd, new, ht, ha⟩ := body _ _ _ _ _ hr
      simp only [St.log] at hd ht ha
      refine ⟨rfl, by simp [hd], new, by simp [ht], ?_⟩
      intro e he
      have := ha e he
      omega

/-- `Ext k.1 s` seen from inside `k.2` user bodies entered since `k.1` -/
def ExtI (k : St × Nat) (s : St) : Prop :=
  s.depth = k.1.depth + k.2 ∧ ∃ new, s.trace = new ++ k.1.trace ∧ ∀ e ∈ new, k.1.depth ≤ evDepth e

theorem ExtI.td {k : St × Nat} {s s' : St} (h : ExtI k s) (ht : s'.trace = s.trace) (hd : s'.depth = s.depth) :
    ExtI k s' :=
  ⟨hd.trans h.1, by rw [ht]; exact h.2⟩

theorem ExtI.log {k : St × Nat} {s : St} (h : ExtI k s) (e : Event) (he : evDepth e = s.depth) : ExtI k (s.log e) := by
  obtain ⟨hd, new, ht, ha⟩ := h
  refine ⟨hd, e :: new, by simp [St.log, ht], fun x hx => ?_⟩
  rcases List.mem_cons.1 hx with rfl | hx
  · omega
  · exact ha x hx

/-- events are logged at the current depth; a user body runs one level deeper and the level is lowered again
    afterwards; nothing else touches log or depth -/
theorem extI_stable : Inv.StableKD ExtI where
  logCall _ _ _ _ h := h.log _ rfl
  logRes _ _ _ _ h := h.log _ rfl
  fail _ _ _ h := h.td (by simp) (by simp)
  body k _ h := ⟨(k.1, k.2 + 1), ⟨by simp [h.1]; omega, h.2⟩, fun _ h2 => ⟨by simp [h2.1], h2.2⟩⟩
  steps _ _ _ h := h.td rfl rfl
  call k _ i _ h _ := ⟨k, h.td rfl rfl, fun s2 h2 => h2.td (callEpi_td s2 i).1 (callEpi_td s2 i).2⟩
  simple _ _ _ _ _ h e := h.td (stepSimple_td _ _ _ _ e).1 (stepSimple_td _ _ _ _ e).2
  collect _ _ h := h.td (collect_trace _) (collect_depth _)
  emit k s i _ h _ := ⟨k, h.td rfl rfl, fun s2 h2 => h2.td (emitEpi_td s2 i s.next).1 (emitEpi_td s2 i s.next).2⟩

theorem allExt (f : Nat) : AllExt f :=
  have p := Inv.preservedD extI_stable f
  have r (s : St) : ExtI (s, 0) s := ⟨rfl, [], rfl, by simp⟩
  have mk {s s' : St} (h : ExtI (s, 0) s') : Ext s s' := ⟨h.1, h.2⟩
  { invoke := fun P s fn arg _ _ _ h => mk (p.1 _ P s fn arg _ (r s) h)
    body := fun P s ls _ _ h => mk (p.2.1 _ P s ls _ (r s) h)
    line := fun P s l _ _ h => mk (p.2.2.1 _ P s l _ (r s) h)
    emit := fun P s fl impl arg strat _ _ _ h => mk (p.2.2.2.1 _ P s fl impl arg strat _ (r s) h)
    loop := fun P s i cur m arg v _ _ _ h => mk (p.2.2.2.2.1 _ P s i cur m arg v _ (r s) h)
    deref := fun P s i it arg _ _ _ h => mk (p.2.2.2.2.2.1 _ P s i it arg _ (r s) h)
    acc := fun P s i it m arg mode kk v _ _ _ h => mk (p.2.2.2.2.2.2.1 _ P s i it m arg mode kk v _ (r s) h)
    rev := fun P s i it first arg v _ _ _ h => mk (p.2.2.2.2.2.2.2.1 _ P s i it first arg v _ (r s) h)
    walk := fun P s i it first m arg cs v _ _ _ h => mk (p.2.2.2.2.2.2.2.2.1 _ P s i it first m arg cs v _ (r s) h)
    strat := fun P s i first m arg st _ _ _ h => mk (p.2.2.2.2.2.2.2.2.2.1 _ P s i first m arg st _ (r s) h)
    op := fun P s op _ _ h => mk (p.2.2.2.2.2.2.2.2.2.2 _ P s op _ (r s) h) }

/-! ## the newest call logged at depth `d` -/

/-- the newest `.call d fid arg` event (the trace is newest-first) -/
def lastCallAt (d : Nat) : List Event → Option (Nat × Nat)
  | [] => none
  | .call d' fid a :: t => if d' = d then some (fid, a) else lastCallAt d t
  | .res _ _ _ :: t => lastCallAt d t

theorem lastCallAt_append (d : Nat) (a b : List Event) :
    lastCallAt d (a ++ b) = (lastCallAt d a).or (lastCallAt d b) := by
  induction a with
  | nil => simp [lastCallAt]
  | cons e t ih =>
    cases e with
    | call d' fid x =>
      simp only [List.cons_append, lastCallAt]
      split
      · simp
      · exact ih
    | res _ _ _ => simpa [lastCallAt] using ih

theorem lastCallAt_deeper (d : Nat) (l : List Event) (h : ∀ e ∈ l, d < evDepth e) : lastCallAt d l = none := by
  induction l with
  | nil => rfl
  | cons e t ih =>
    have ht : ∀ e ∈ t, d < evDepth e := fun e he => h e (List.mem_cons_of_mem _ he)
    cases e with
    | call d' fid x =>
      have : d < d' := h _ (List.mem_cons_self ..)
      have hne : d' ≠ d := by omega
      simp [lastCallAt, hne, ih ht]
    | res _ _ _ => simp [lastCallAt, ih ht]

theorem invoke_leaf_trace (f : Nat) (P : Prog) (s : St) (fid : Nat) (ts : List Nat) (arg : Nat) (s' : St) (o : Outcome) (v : Nat)
    (h : invokeFun f P s (.leaf fid ts) arg = some (s', o, v)) :
    v = resultOf fid arg ∧ s'.depth = s.depth ∧
    ∃ new, s'.trace = new ++ (Event.call s.depth fid arg :: s.trace) ∧ ∀ e ∈ new, s.depth < evDepth e := by
  cases f with
  | zero => simp [invokeFun] at h
  | succ f => exact invoke_user_step (allExt f).body P s _ fid arg s' o v rfl h

/-! ## the run of the non-accumulating loop -/

def cellAt (s : St) (i cur : Nat) : Option Cell :=
  match aget s.impls i with
  | none => none
  | some im => im.cells.find? (·.id = cur)

/-- `++it` in the current list -/
def nextOf (s : St) (i cur : Nat) : Option Nat :=
  match aget s.impls i with
  | none => none
  | some im => succId im.cells cur

/-- `EmitRun P i m arg s cur r calls s' o v`: the loop of the non-accumulating emitters, started at
    cell `cur` in state `s` with `r` = the result so far, ends in state `s'` with outcome `o` and value
    `v`, having invoked exactly the functors `calls` (in this order, each with the value it returned):
    at each turn the cell is invoked iff it is callable *at that moment* (`callableAt`), the successor
    is looked up in the list as it is *after* the call; an exception stops the loop. -/
inductive EmitRun (P : Prog) (i m arg : Nat) : St → Nat → Nat → List (Fun × Nat) → St → Outcome → Nat → Prop
  /-- reached the end marker -/
  | done (s : St) (r : Nat) : EmitRun P i m arg s m r [] s .ok r
  /-- model error: list or cell gone (never happens in a well-formed state, see C03) -/
  | lost (s : St) (cur r : Nat) (msg : String) : cur ≠ m → cellAt s i cur = none →
      EmitRun P i m arg s cur r [] (s.fail msg) .ok r
  /-- not callable at its turn (blocked, invalid, …): not invoked, result unchanged -/
  | skip (s : St) (cur r nxt : Nat) (c : Cell) (calls : List (Fun × Nat)) (s' : St) (o : Outcome) (v : Nat) :
      cur ≠ m → cellAt s i cur = some c → callableAt s i cur = none → nextOf s i cur = some nxt →
      EmitRun P i m arg s nxt r calls s' o v → EmitRun P i m arg s cur r calls s' o v
  /-- no successor after the turn: model error, as `lost` -/
  | skipLost (s : St) (cur r : Nat) (c : Cell) (msg : String) :
      cur ≠ m → cellAt s i cur = some c → callableAt s i cur = none → nextOf s i cur = none →
      EmitRun P i m arg s cur r [] (s.fail msg) .ok r
  /-- callable: invoked; its value replaces the result -/
  | call (f : Nat) (s : St) (cur r nxt : Nat) (fn : Fun) (s1 : St) (v1 : Nat)
      (calls : List (Fun × Nat)) (s' : St) (o : Outcome) (v : Nat) :
      cur ≠ m → callableAt s i cur = some fn → invokeFun f P s fn arg = some (s1, .ok, v1) →
      nextOf s1 i cur = some nxt →
      EmitRun P i m arg s1 nxt v1 calls s' o v → EmitRun P i m arg s cur r ((fn, v1) :: calls) s' o v
  /-- no successor after the call: model error, as `lost` -/
  | callLost (f : Nat) (s : St) (cur r : Nat) (fn : Fun) (s1 : St) (v1 : Nat) (msg : String) :
      cur ≠ m → callableAt s i cur = some fn → invokeFun f P s fn arg = some (s1, .ok, v1) →
      nextOf s1 i cur = none →
      EmitRun P i m arg s cur r [(fn, v1)] (s1.fail msg) .ok v1
  /-- the invoked functor threw: the loop is left at once -/
  | exc (f : Nat) (s : St) (cur r : Nat) (fn : Fun) (s1 : St) (v1 : Nat) :
      cur ≠ m → callableAt s i cur = some fn → invokeFun f P s fn arg = some (s1, .exc, v1) →
      EmitRun P i m arg s cur r [(fn, v1)] s1 .exc v1

theorem emitLoop_run (f : Nat) : ∀ (P : Prog) (s : St) (i cur m arg r : Nat) (s' : St) (o : Outcome) (v : Nat),
    emitLoop f P s i cur m arg r = some (s', o, v) → ∃ calls, EmitRun P i m arg s cur r calls s' o v := by
  induction f with
  | zero => intro P s i cur m arg r s' o v h; simp [emitLoop] at h
  | succ f ih =>
    intro P s i cur m arg r s' o v h
    rw [emitLoop_unfold] at h
    split at h
    · rename_i hcm
      cases h
      subst hcm
      exact ⟨[], EmitRun.done _ _⟩
    · rename_i hcm
      split at h
      · rename_i hi
        cases h
        exact ⟨[], EmitRun.lost _ _ _ _ hcm (by simp [cellAt, hi])⟩
      · rename_i im hi
        split at h
        · rename_i hc
          cases h
          exact ⟨[], EmitRun.lost _ _ _ _ hcm (by simp [cellAt, hi, hc])⟩
        · rename_i c hc
          have hcell : cellAt s i cur = some c := by simp [cellAt, hi, hc]
          unfold emitStep at h
          cases hca : callableAt s i cur with
          | none =>
            simp only [hca, hi] at h
            split at h
            · rename_i hn
              cases h
              exact ⟨[], EmitRun.skipLost _ _ _ c _ hcm hcell hca (by simp [nextOf, hi, hn])⟩
            · rename_i nxt hn
              obtain ⟨calls, hr⟩ := ih _ _ _ _ _ _ _ _ _ _ h
              exact ⟨calls, EmitRun.skip _ _ _ nxt c _ _ _ _ hcm hcell hca (by simp [nextOf, hi, hn]) hr⟩
          | some fn =>
            simp only [hca] at h
            split at h
            · cases h
            · rename_i s1 v1 hx
              cases h
              exact ⟨[(fn, _)], EmitRun.exc f _ _ _ fn _ _ hcm hca hx⟩
            · rename_i s1 v1 hx
              split at h
              · rename_i hi1
                cases h
                exact ⟨[(fn, _)], EmitRun.callLost f _ _ _ fn _ _ _ hcm hca hx (by simp [nextOf, hi1])⟩
              · rename_i im1 hi1
                split at h
                · rename_i hn
                  cases h
                  exact ⟨[(fn, _)], EmitRun.callLost f _ _ _ fn _ _ _ hcm hca hx (by simp [nextOf, hi1, hn])⟩
                · rename_i nxt hn
                  obtain ⟨calls, hr⟩ := ih _ _ _ _ _ _ _ _ _ _ h
                  exact ⟨(fn, v1) :: calls,
                    EmitRun.call f _ _ _ nxt fn _ _ _ _ _ _ hcm hca hx (by simp [nextOf, hi1, hn]) hr⟩

theorem EmitRun.ext {P : Prog} {i m arg : Nat} {s : St} {cur r : Nat} {calls : List (Fun × Nat)}
    {s' : St} {o : Outcome} {v : Nat} (h : EmitRun P i m arg s cur r calls s' o v) : Ext s s' := by
  induction h with
  | done => exact Ext.refl _
  | lost => exact Ext.fail _ _
  | skip _ _ _ _ _ _ _ _ _ _ _ _ _ _ ih => exact ih
  | skipLost => exact Ext.fail _ _
  | call f _ _ _ _ _ _ _ _ _ _ _ _ _ hx _ _ ih => exact ((allExt f).invoke _ _ _ _ _ _ _ hx).trans ih
  | callLost f _ _ _ _ _ _ _ _ _ hx _ => exact ((allExt f).invoke _ _ _ _ _ _ _ hx).trans (Ext.fail _ _)
  | exc f _ _ _ _ _ _ _ _ hx => exact (allExt f).invoke _ _ _ _ _ _ _ hx

/-! ## a concrete run (for the `example`s): `exSt` after the prologue; cell 3 is blocked, cell 5 invalid -/

def exSt1 : St := emitPrologue exSt 1 exImpl

theorem exRun : EmitRun exProg 1 6 5 exSt1 2 0 [(.leaf 7 [], 75), (.leaf 9 [], 95)]
    ((exSt1.log (.call 0 7 5)).log (.call 0 9 5)) .ok 95 :=
  EmitRun.call 1 _ 2 0 3 (.leaf 7 []) _ 75 _ _ _ _ (by decide) rfl (invokeFun_leaf_nobody 0 exProg exSt1 7 5 [] rfl) rfl
    (EmitRun.skip _ 3 75 4 (exCell 3 8 true) _ _ _ _ (by decide) rfl rfl rfl
      (EmitRun.call 1 _ 4 75 5 (.leaf 9 []) _ 95 _ _ _ _ (by decide) rfl
        (invokeFun_leaf_nobody 0 exProg (exSt1.log (.call 0 7 5)) 9 5 [] rfl) rfl
        (EmitRun.skip _ 5 95 6 { id := 5, slot := { blocked := false, rep := some { call := false, fn := none } }, linked := false }
          _ _ _ _ (by decide) rfl rfl rfl (EmitRun.done _ _))))

/-- a program whose functor 7, when invoked, blocks the slot of cell 4 through connection 0 -/
def exProgB : Prog := { bodies := [(7, [{ text := "blockC 0 1", op := .blockC 0 true }])], top := [] }
def exStB : St := { exSt with C := [(0, some 4)] }

end Sigc.StepIter
