import Sigc.Lemmas.FuelMono
import Sigc.Lemmas.FuelLvl
import Sigc.Lemmas.EmitTurns
import Sigc.Lemmas.RefineKeeps
/-!
Termination.  `LvlStable` lists what the argument uses of the *preservation* of the level invariant `JK` (the schema
`Inv.StableKCore`, and the two prologues again, met outside it); no interface: its one instance is `lvlStable` below.
`InvokeT P δ ℓ`: every functor that forwards below level `ℓ` terminates when invoked at nesting depth `≥ δ`.

* From `InvokeT P δ L` the loops of an emission of a slot list bounded by `L` terminate (`loop_term`, `deref_term`,
  `acc_term`, `rev_term`, `walk_term`, `strat_term`): the walk stays inside the block of the emission
  (`Emit.InBlk`, preserved by every invoked slot: `Emit.Frame`), and every step moves to the next position of
  that block.  Hence `emit_term`: the emission terminates.
* `invoke_term_aux` — a functor forwarding below `ℓ` terminates if bodies one level deeper do and emissions of
  lists bounded by some `L < ℓ` do (structural recursion on the functor value); `invoke_emit_term` — both, for
  every level (strong induction on the level).
* `op_term`, `line_term`, `body_term` — operations, lines and bodies at nesting depth `≥ δ` terminate if functors and
  emissions at that depth do, or if `δ ≥ P.maxdepth` (where `callS` and `emit` answer `toodeep`); `op_all` — hence at
  every depth, by downward induction on `δ`; `runTop_term` — every program terminates.
-/
namespace Sigc.Fuel
open Sigc.Model

structure LvlStable : Prop where
  core : Sigc.Inv.StableKCore JK
  pro : ∀ k s i im, JK k s → aget s.impls i = some im → JK k (Sigc.Inv.emitPro s i im)
  callPro : ∀ k s i v, JK k s → aget s.S i = some v → JK k (Sigc.Inv.callPro s i v)

/-- what is known of every state the interpreter passes through: the structural invariant, the level
    invariant (with `k = some (i, L)`: the bound `L` of the list `i` whose emission is in progress), and a lower
    bound `δ` of the nesting depth -/
structure W (δ : Nat) (k : Option (Nat × Nat)) (s : St) : Prop where
  inv : Emit.Inv s
  jk : JK k s
  dep : δ ≤ s.depth

theorem W.weaken {δ : Nat} {k : Option (Nat × Nat)} {s : St} (w : W δ k s) : W δ none s :=
  ⟨w.inv, ⟨w.jk.1, fun _ _ h => by cases h⟩, w.dep⟩

def InvokeT (P : Prog) (δ ℓ : Nat) : Prop :=
  ∀ s fn arg, W δ none s → Emit.FunOK s.G fn → FunLt s.next s.G fn ℓ → ∃ f r, invokeFun f P s fn arg = some r

theorem W.cell {δ i L P s} {x : Nat} {fn : Fun} (hT : InvokeT P δ L) (w : W δ (some (i, L)) s)
    (hcall : StepIter.callableAt s i x = some fn) (arg : Nat) :
    Emit.FunOK s.G fn ∧ ∃ f r, invokeFun f P s fn arg = some r := by
  obtain ⟨im, c, him, hfind, hrep, _⟩ := StepIter.callableAt_eq_some s i x fn hcall
  have hok := w.inv.callable_ok hcall
  refine ⟨hok, hT s fn arg w.weaken hok ?_⟩
  exact (w.jk.2 i L rfl).1.1 im him c (Emit.find_mem hfind).1 fn (by simp [fnOf, hrep])

section
variable (hL : LvlStable)
include hL

theorem W.invoke {δ k f P s fn arg s' o v} (w : W δ k s) (hfn : Emit.FunOK s.G fn)
    (e : invokeFun f P s fn arg = some (s', o, v)) : W δ k s' ∧ Emit.Frame s s' := by
  have g := (Emit.all_ok f).invoke P s fn arg s' o v w.inv hfn e
  refine ⟨⟨g.inv, (Sigc.Inv.preservedCore hL.core f).1 k P s fn arg _ w.jk e, ?_⟩, g.frame⟩
  rw [(Sigc.Refine.invokeFun_keeps e).depth]; exact w.dep

/-- the block is `done ++ todo ++ [m]` and `cur` is the head of `todo ++ [m]` -/
theorem loop_term {δ i L : Nat} {P : Prog} (hT : InvokeT P δ L) : ∀ (todo : List Nat) (s : St) (cur m arg r : Nat)
    (B : List (Nat × Bool)) (done tl : List Nat), W δ (some (i, L)) s → Emit.InBlk s i B →
    B.map (·.1) = done ++ todo ++ [m] → todo ++ [m] = cur :: tl →
    ∃ f res, emitLoop f P s i cur m arg r = some res := by
  intro todo
  induction todo with
  | nil =>
    intro s cur m arg r B done tl w hb hB hcur
    simp at hcur
    refine ⟨1, (s, .ok, r), ?_⟩
    rw [emitLoop, if_pos hcur.1.symm]
  | cons x todo ih =>
    intro s cur m arg r B done tl w hb hB hcur
    simp only [List.cons_append, List.cons.injEq] at hcur
    obtain ⟨rfl, rfl⟩ := hcur
    obtain ⟨hxm, hxB, n, rest, hnr, hB2, hnext⟩ := Emit.blk_step w.inv hb hB
    obtain ⟨im, c, him, hfind⟩ := hb.find hxB
    -- what follows the invocation of the cell (or its skipping)
    have after : ∀ (f1 : Nat) (s1 : St) (v : Nat), W δ (some (i, L)) s1 → Emit.Frame s s1 →
        (∀ f, f1 ≤ f → ∀ im2 nxt, aget s1.impls i = some im2 → succId im2.cells x = some nxt →
          emitLoop (f+1) P s i x m arg r = emitLoop f P s1 i nxt m arg v) →
        ∃ f res, emitLoop f P s i x m arg r = some res := by
      intro f1 s1 v w1 hfr hstep
      have hb1 := hb.frame hfr
      obtain ⟨im2, him2, hsucc⟩ := hnext s1 w1.inv hb1
      obtain ⟨f2, res, h2⟩ := ih s1 n m arg v B (done ++ [x]) rest w1 hb1 hB2 hnr
      refine ⟨max f1 f2 + 1, res, ?_⟩
      rw [hstep _ (Nat.le_max_left _ _) im2 n him2 hsucc]
      exact emitLoop_mono (Nat.le_max_right _ _) h2
    have skip : (∀ f nxt, succId im.cells x = some nxt →
          emitLoop (f+1) P s i x m arg r = emitLoop f P s i nxt m arg r) →
        ∃ f res, emitLoop f P s i x m arg r = some res := by
      intro hsk
      refine after 0 s r w (Emit.Frame.refl s) ?_
      intro f _ im2 nxt h1 h2
      rw [him] at h1; cases h1
      exact hsk f nxt h2
    cases hcall : StepIter.callableAt s i x with
    | none =>
      refine skip fun f nxt h3 => ?_
      rw [StepIter.emitLoop_unfold, if_neg hxm, him]; simp only [hfind, StepIter.emitStep, hcall, him, h3]
    | some fn =>
      obtain ⟨hok, f1, ⟨s1, o, v⟩, h1⟩ := w.cell hT hcall arg
      obtain ⟨w1, hfr⟩ := w.invoke hL hok h1
      cases o with
      | ok =>
        refine after f1 s1 v w1 hfr ?_
        intro f hf im2 nxt h2 h3
        rw [StepIter.emitLoop_unfold, if_neg hxm, him]
        simp only [hfind, StepIter.emitStep, hcall, invokeFun_mono hf h1, h2, h3]
      | exc =>
        refine ⟨f1 + 1, (s1, .exc, v), ?_⟩
        rw [StepIter.emitLoop_unfold, if_neg hxm, him]
        simp only [hfind, StepIter.emitStep, hcall, h1]

theorem W.deref {δ k f P s i it arg s' o it'} {B : List (Nat × Bool)} (w : W δ k s) (hb : Emit.InBlk s i B)
    (hpos : it.pos ∈ B.map (·.1)) (e : deref f P s i it arg = some (s', o, it')) :
    W δ k s' ∧ Emit.Frame s s' ∧ it'.pos = it.pos := by
  obtain ⟨g, hp⟩ := (Emit.all_ok f).deref P s i it arg B s' o it' w.inv hb hpos e
  refine ⟨⟨g.inv, (Sigc.Inv.preservedCore hL.core f).2.2.2.2.2.1 k P s i it arg _ w.jk e, ?_⟩, g.frame, hp⟩
  rw [(Sigc.Refine.deref_keeps' e).depth]; exact w.dep

omit hL in
theorem deref_term {δ i L : Nat} {P : Prog} (hT : InvokeT P δ L) (s : St) (it : IterBuf) (arg : Nat)
    (B : List (Nat × Bool)) (w : W δ (some (i, L)) s) (hb : Emit.InBlk s i B) (hpos : it.pos ∈ B.map (·.1)) :
    ∃ f res, deref f P s i it arg = some res := by
  obtain ⟨im, c, him, hfind⟩ := hb.find hpos
  by_cases hidle : it.invoked = true ∨ StepIter.callableAt s i it.pos = none
  · exact ⟨1, (s, .ok, it), StepIter.deref_skip 0 P s i arg it im c him hfind hidle⟩
  · obtain ⟨fn, hcall⟩ := Option.ne_none_iff_exists'.mp fun e => hidle (.inr e)
    obtain ⟨_, f1, ⟨s1, o, v⟩, h1⟩ := w.cell hT hcall arg
    have hinv : it.invoked = false := by cases h : it.invoked <;> simp [h] at hidle ⊢
    cases o with
    | ok =>
      refine ⟨f1 + 1, (s1, .ok, { it with buf := v, invoked := true }), ?_⟩
      rw [StepIter.deref_cases]; simp only [hinv, Bool.false_eq_true, if_false, him, hfind, hcall, h1]
    | exc =>
      refine ⟨f1 + 1, (s1, .exc, it), ?_⟩
      rw [StepIter.deref_cases]; simp only [hinv, Bool.false_eq_true, if_false, him, hfind, hcall, h1]

theorem acc_term {δ i L : Nat} {P : Prog} (hT : InvokeT P δ L) : ∀ (todo : List Nat) (s : St) (it : IterBuf)
    (m arg mode k r : Nat) (B : List (Nat × Bool)) (done tl : List Nat), W δ (some (i, L)) s → Emit.InBlk s i B →
    B.map (·.1) = done ++ todo ++ [m] → todo ++ [m] = it.pos :: tl →
    ∃ f res, accLoop f P s i it m arg mode k r = some res := by
  intro todo
  induction todo with
  | nil =>
    intro s it m arg mode k r B done tl w hb hB hcur
    simp at hcur
    refine ⟨1, (s, .ok, r), ?_⟩
    rw [accLoop, if_pos hcur.1.symm]
  | cons x todo ih =>
    intro s it m arg mode k r B done tl w hb hB hcur
    simp only [List.cons_append, List.cons.injEq] at hcur
    obtain ⟨hx, rfl⟩ := hcur
    obtain ⟨hxm, hxB, n, rest, hnr, hB2, hnext⟩ := Emit.blk_step w.inv hb hB
    have hpm : ¬ it.pos = m := by rw [← hx]; exact hxm
    have hposB : it.pos ∈ B.map (·.1) := by rw [← hx]; exact hxB
    -- `++it` from a position `x` of the block, in a later state
    have adv : ∀ (s' : St) (it' : IterBuf) (r' : Nat), W δ (some (i, L)) s' → Emit.Frame s s' → it'.pos = x →
        ∃ f0 res im' nxt, aget s'.impls i = some im' ∧ succId im'.cells it'.pos = some nxt ∧
          ∀ f, f0 ≤ f → accLoop f P s' i { it' with pos := nxt, invoked := false } m arg mode k r' = some res := by
      intro s' it' r' w' hfr hp
      have hb' := hb.frame hfr
      obtain ⟨im', him', hsucc⟩ := hnext s' w'.inv hb'
      obtain ⟨f2, res, h2⟩ := ih s' { it' with pos := n, invoked := false } m arg mode k r' B (done ++ [x]) rest
        w' hb' hB2 hnr
      exact ⟨f2, res, im', n, him', by rw [hp]; exact hsucc, fun f hf => accLoop_mono hf h2⟩
    by_cases hm3 : mode = 3
    · obtain ⟨f0, res, im', nxt, ha, hsu, hacc⟩ := adv s it (r + 1) w (Emit.Frame.refl s) hx.symm
      refine ⟨f0 + 1, res, ?_⟩
      rw [accLoop, if_neg hpm]
      simp only [hm3, if_true, ha, hsu]
      exact hm3 ▸ hacc f0 (Nat.le_refl _)
    · obtain ⟨f1, ⟨s1, o, it1⟩, h1⟩ := deref_term hT s it arg B w hb hposB
      obtain ⟨w1, hfr1, hp1⟩ := W.deref hL w hb hposB h1
      cases o with
      | exc =>
        refine ⟨f1 + 1, (s1, .exc, r), ?_⟩
        rw [accLoop, if_neg hpm]
        simp only [hm3, if_false, h1]
      | ok =>
        by_cases hst : (decide (mode = 1) && decide (r + it1.buf ≥ k)) = true
        · refine ⟨f1 + 1, (s1, .ok, r + it1.buf), ?_⟩
          rw [accLoop, if_neg hpm]
          simp only [hm3, if_false, h1, hst, if_true]
        · have hposX : (if mode = 4 then it else it1).pos = x := by split <;> simp [hp1, hx]
          by_cases hm2 : mode = 2
          · subst hm2
            have hb1 := hb.frame hfr1
            obtain ⟨f2, ⟨s2, o2, it2⟩, h2⟩ := deref_term hT s1 (if 2 = 4 then it else it1) arg B w1 hb1
              (by rw [hposX]; exact hxB)
            obtain ⟨w2, hfr2, hp2⟩ := W.deref hL w1 hb1 (by rw [hposX]; exact hxB) h2
            cases o2 with
            | exc =>
              refine ⟨max f1 f2 + 1, (s2, .exc, r + it1.buf), ?_⟩
              rw [accLoop, if_neg hpm]
              simp only [hm3, deref_mono (Nat.le_max_left f1 f2) h1, hst, eq_self, Bool.false_eq_true, ↓reduceIte,
                deref_mono (Nat.le_max_right f1 f2) h2]
            | ok =>
              obtain ⟨f0, res, im', nxt, ha, hsu, hacc⟩ := adv s2 it2 (r + it1.buf + it2.buf) w2 (hfr1.trans hfr2)
                (by rw [hp2, hposX])
              refine ⟨max (max f1 f2) f0 + 1, res, ?_⟩
              rw [accLoop, if_neg hpm]
              have e1 := deref_mono (Nat.le_trans (Nat.le_max_left f1 f2) (Nat.le_max_left _ f0)) h1
              have e2 := deref_mono (Nat.le_trans (Nat.le_max_right f1 f2) (Nat.le_max_left _ f0)) h2
              simp only [hm3, e1, hst, eq_self, Bool.false_eq_true, ↓reduceIte, e2, ha, hsu]
              exact hacc _ (Nat.le_max_right _ _)
          · obtain ⟨f0, res, im', nxt, ha, hsu, hacc⟩ := adv s1 (if mode = 4 then it else it1) (r + it1.buf) w1 hfr1
              hposX
            refine ⟨max f1 f0 + 1, res, ?_⟩
            rw [accLoop, if_neg hpm]
            simp only [hm3, if_false, deref_mono (Nat.le_max_left f1 f0) h1, hst, hm2, ha, hsu]
            exact hacc _ (Nat.le_max_right _ _)

/-- the block is `before ++ it.pos :: after` and starts with `first` -/
theorem rev_term {δ i L : Nat} {P : Prog} (hT : InvokeT P δ L) : ∀ (n : Nat) (s : St) (it : IterBuf)
    (first arg r : Nat) (B : List (Nat × Bool)) (before after : List Nat), W δ (some (i, L)) s → Emit.InBlk s i B →
    B.map (·.1) = before ++ it.pos :: after → (before ++ [it.pos]).head? = some first → before.length = n →
    ∃ f res, revLoop f P s i it first arg r = some res := by
  intro n
  induction n with
  | zero =>
    intro s it first arg r B before after w hb hB hfirst hlen
    have : before = [] := List.eq_nil_of_length_eq_zero hlen
    subst this
    simp at hfirst
    exact ⟨1, (s, .ok, r), by rw [revLoop, if_pos hfirst]⟩
  | succ n ih =>
    intro s it first arg r B before after w hb hB hfirst hlen
    rcases List.eq_nil_or_concat before with e | ⟨b', p, e⟩
    · subst e; simp at hlen
    · rw [List.concat_eq_append] at e
      subst e
      have hlen' : b'.length = n := by simpa using hlen
      have hB' : B.map (·.1) = b' ++ p :: it.pos :: after := by rw [hB]; simp
      have hnd := Emit.blk_nodup w.inv hb hB'
      have hpf : ¬ it.pos = first := by
        intro e
        have hmem : first ∈ b' ++ [p] := by
          cases b' with
          | nil => simp at hfirst; simp [hfirst]
          | cons y t => simp at hfirst; simp [hfirst]
        have h2 : (b' ++ [p] ++ it.pos :: after).Nodup := by simpa using hnd
        exact (List.nodup_append.mp h2).2.2 first hmem it.pos (by simp) e.symm
      have hfirst' : (b' ++ [p]).head? = some first := by
        cases b' with
        | nil => simpa using hfirst
        | cons y t => simpa using hfirst
      obtain ⟨im, him, hpred⟩ := Emit.blk_pred w.inv hb hB'
      have hpB : p ∈ B.map (·.1) := by rw [hB']; simp
      obtain ⟨f1, ⟨s1, o, it1⟩, h1⟩ := deref_term hT s { it with pos := p, invoked := false } arg B w hb hpB
      obtain ⟨w1, hfr1, hp1⟩ := W.deref hL w hb hpB h1
      cases o with
      | exc =>
        refine ⟨f1 + 1, (s1, .exc, r), ?_⟩
        rw [revLoop, if_neg hpf, him]
        simp only [hpred, h1]
      | ok =>
        obtain ⟨f2, res, h2⟩ := ih s1 it1 first arg (r + it1.buf) B b' (it.pos :: after) w1 (hb.frame hfr1)
          (by rw [hB', hp1]) (by rw [hp1]; exact hfirst') hlen'
        refine ⟨max f1 f2 + 1, res, ?_⟩
        rw [revLoop, if_neg hpf, him]
        simp only [hpred, deref_mono (Nat.le_max_left f1 f2) h1]
        exact revLoop_mono (Nat.le_max_right f1 f2) h2

theorem walk_term {δ i L : Nat} {P : Prog} (hT : InvokeT P δ L) : ∀ (cs : List Char) (s : St) (it : IterBuf)
    (first m arg r : Nat) (B0 : List (Nat × Bool)) (rest : List Nat), W δ (some (i, L)) s →
    Emit.InBlk s i (B0 ++ [(m, true)]) → (B0 ++ [(m, true)]).map (·.1) = first :: rest →
    it.pos ∈ (B0 ++ [(m, true)]).map (·.1) →
    ∃ f res, walkLoop f P s i it first m arg cs r = some res := by
  intro cs
  induction cs with
  | nil =>
    intro s it first m arg r B0 rest w hb hB hpos
    exact ⟨1, (s, .ok, r), by rw [walkLoop]⟩
  | cons c cs ih =>
    intro s it first m arg r B0 rest w hb hB hpos
    -- the rest of the script, from the same state
    have same : ∀ (it' : IterBuf), it'.pos ∈ (B0 ++ [(m, true)]).map (·.1) →
        ∃ f res, ∀ g, f ≤ g → walkLoop g P s i it' first m arg cs r = some res := by
      intro it' hp
      obtain ⟨f, res, h⟩ := ih s it' first m arg r B0 rest w hb hB hp
      exact ⟨f, res, fun g hg => walkLoop_mono hg h⟩
    by_cases hd : c = 'd'
    · by_cases hpm : it.pos = m
      · obtain ⟨f, res, h⟩ := same it hpos
        exact ⟨f + 1, res, by rw [walkLoop, if_pos hd, if_pos hpm]; exact h f (Nat.le_refl _)⟩
      · obtain ⟨f1, ⟨s1, o, it1⟩, h1⟩ := deref_term hT s it arg _ w hb hpos
        obtain ⟨w1, hfr1, hp1⟩ := W.deref hL w hb hpos h1
        cases o with
        | exc =>
          refine ⟨f1 + 1, (s1, .exc, r), ?_⟩
          rw [walkLoop, if_pos hd, if_neg hpm]; simp only [h1]
        | ok =>
          obtain ⟨f2, res, h2⟩ := ih s1 it1 first m arg (r + it1.buf) B0 rest w1 (hb.frame hfr1) hB
            (by rw [hp1]; exact hpos)
          refine ⟨max f1 f2 + 1, res, ?_⟩
          rw [walkLoop, if_pos hd, if_neg hpm]; simp only [deref_mono (Nat.le_max_left f1 f2) h1]
          exact walkLoop_mono (Nat.le_max_right f1 f2) h2
    · by_cases hc : c = 'c'
      · by_cases hpm : it.pos = m
        · obtain ⟨f, res, h⟩ := same it hpos
          exact ⟨f + 1, res, by rw [walkLoop, if_neg hd, if_pos hc, if_pos hpm]; exact h f (Nat.le_refl _)⟩
        · obtain ⟨f1, ⟨s1, o, it1⟩, h1⟩ := deref_term hT s it arg _ w hb hpos
          obtain ⟨w1, hfr1, hp1⟩ := W.deref hL w hb hpos h1
          cases o with
          | exc =>
            refine ⟨f1 + 1, (s1, .exc, r), ?_⟩
            rw [walkLoop, if_neg hd, if_pos hc, if_neg hpm]; simp only [h1]
          | ok =>
            obtain ⟨f2, res, h2⟩ := ih s1 it first m arg (r + it1.buf) B0 rest w1 (hb.frame hfr1) hB hpos
            refine ⟨max f1 f2 + 1, res, ?_⟩
            rw [walkLoop, if_neg hd, if_pos hc, if_neg hpm]; simp only [deref_mono (Nat.le_max_left f1 f2) h1]
            exact walkLoop_mono (Nat.le_max_right f1 f2) h2
      · by_cases hi : c = 'i'
        · by_cases hpm : it.pos = m
          · obtain ⟨f, res, h⟩ := same it hpos
            exact ⟨f + 1, res, by rw [walkLoop, if_neg hd, if_neg hc, if_pos hi, if_pos hpm]; exact h f (Nat.le_refl _)⟩
          · obtain ⟨im, nxt, him, hsucc, hnxt⟩ := hb.succ w.inv hpos hpm
            obtain ⟨f, res, h⟩ := same { it with pos := nxt, invoked := false } hnxt
            refine ⟨f + 1, res, ?_⟩
            rw [walkLoop, if_neg hd, if_neg hc, if_pos hi, if_neg hpm, him]; simp only [hsucc]
            exact h f (Nat.le_refl _)
        · by_cases hx : c = 'x'
          · by_cases hpf : it.pos = first
            · obtain ⟨f, res, h⟩ := same it hpos
              exact ⟨f + 1, res, by
                rw [walkLoop, if_neg hd, if_neg hc, if_neg hi, if_pos hx, if_pos hpf]; exact h f (Nat.le_refl _)⟩
            · obtain ⟨im, prv, him, hpred, hprv⟩ := hb.pred w.inv hB hpos hpf
              obtain ⟨f, res, h⟩ := same { it with pos := prv, invoked := false } hprv
              refine ⟨f + 1, res, ?_⟩
              rw [walkLoop, if_neg hd, if_neg hc, if_neg hi, if_pos hx, if_neg hpf, him]; simp only [hpred]
              exact h f (Nat.le_refl _)
          · obtain ⟨f, res, h⟩ := same it hpos
            exact ⟨f + 1, res, by
              rw [walkLoop, if_neg hd, if_neg hc, if_neg hi, if_neg hx]; exact h f (Nat.le_refl _)⟩

theorem strat_term {δ i L : Nat} {P : Prog} (hT : InvokeT P δ L) (s : St) (first m arg : Nat) (strat : Strat)
    (B0 : List (Nat × Bool)) (rest : List Nat) (w : W δ (some (i, L)) s)
    (hb : Emit.InBlk s i (B0 ++ [(m, true)])) (hB : (B0 ++ [(m, true)]).map (·.1) = first :: rest) :
    ∃ f res, runStrat f P s i first m arg strat = some res := by
  have hB2 : (B0 ++ [(m, true)]).map (·.1) = [] ++ B0.map (·.1) ++ [m] := by simp
  have hcur : B0.map (·.1) ++ [m] = first :: rest := by rw [← hB]; simp
  have hfirst : first ∈ (B0 ++ [(m, true)]).map (·.1) := by rw [hB]; simp
  have accT : ∀ mode k, (∀ f, runStrat (f + 1) P s i first m arg strat =
      accLoop f P s i { pos := first } m arg mode k 0) → ∃ f res, runStrat f P s i first m arg strat = some res :=
    fun mode k e =>
      let ⟨f, res, h⟩ := acc_term hL hT (B0.map (·.1)) s { pos := first } m arg mode k 0 _ [] rest w hb hB2 hcur
      ⟨f + 1, res, (e f).trans h⟩
  cases strat with
  | sum => exact accT 0 0 fun f => by rw [runStrat]
  | stop k => exact accT 1 k fun f => by rw [runStrat]
  | twice => exact accT 2 0 fun f => by rw [runStrat]
  | never => exact accT 3 0 fun f => by rw [runStrat]
  | postinc => exact accT 4 0 fun f => by rw [runStrat]
  | rev =>
    have hBr : (B0 ++ [(m, true)]).map (·.1) = B0.map (·.1) ++ m :: [] := by simp
    have hf : (B0.map (·.1) ++ [m]).head? = some first := by rw [hcur]; rfl
    obtain ⟨f, res, h⟩ := rev_term hL hT _ s { pos := m } first arg 0 _ (B0.map (·.1)) [] w hb hBr hf rfl
    exact ⟨f + 1, res, by rw [runStrat]; exact h⟩
  | walk ops =>
    obtain ⟨f, res, h⟩ := walk_term hL hT ops s { pos := first } first m arg 0 B0 rest w hb hB hfirst
    exact ⟨f + 1, res, by rw [runStrat]; exact h⟩

def EmitT (P : Prog) (δ L : Nat) : Prop :=
  ∀ s fl impl arg strat, W δ none s →
    (∀ i, impl = some i → (aget s.impls i).isSome = true ∧ Bnd s i L ∧ i < s.next) →
    ∃ f r, emitImpl f P s fl impl arg strat = some r

def BodyT (P : Prog) (δ : Nat) : Prop := ∀ s ls, W δ none s → ∃ f r, runBody f P s ls = some r

def OpT (P : Prog) (δ : Nat) : Prop := ∀ s op, W δ none s → ∃ f r, execOp f P s op = some r

theorem emit_term {P : Prog} {δ L : Nat} (hT : InvokeT P δ L) : EmitT P δ L := by
  intro s fl impl arg strat w himpl
  cases impl with
  | none => exact ⟨1, (s, .ok, 0), by rw [emitImpl]⟩
  | some i =>
    obtain ⟨hsome, hbnd, hlt⟩ := himpl i rfl
    obtain ⟨im, him⟩ := Option.isSome_iff_exists.mp hsome
    by_cases hemp : (!fl.isAcc && im.cells.isEmpty) = true
    · exact ⟨1, (s, .ok, 0), by rw [Emit.emitImpl_succ, him]; simp only [hemp, if_true]⟩
    · obtain ⟨h1, hb1⟩ := Emit.emitStart_inv w.inv him
      have w1 : W δ (some (i, L)) (Emit.emitStart s i im) :=
        ⟨h1, hL.pro (some (i, L)) s i im ⟨w.jk.1, fun i' L' e => by cases e; exact ⟨hbnd, hlt⟩⟩ him, w.dep⟩
      obtain ⟨rest, hB⟩ := Emit.emitFirst_cons s im
      have key : ∃ f res, (if fl.isAcc then
            runStrat f P (Emit.emitStart s i im) i (Emit.emitFirst s im) s.next arg (strat.forFlavour fl)
          else emitLoop f P (Emit.emitStart s i im) i (Emit.emitFirst s im) s.next arg 0) = some res := by
        cases hacc : fl.isAcc with
        | true =>
          obtain ⟨f, res, h⟩ := strat_term hL hT _ _ s.next arg (strat.forFlavour fl) (Emit.skel im) rest w1 hb1 hB
          exact ⟨f, res, by simpa using h⟩
        | false =>
          have hB2 : (Emit.skel im ++ [(s.next, true)]).map (·.1) = [] ++ Emit.cids im ++ [s.next] := by
            simp [Emit.cids_eq_skel]
          have hcur : Emit.cids im ++ [s.next] = Emit.emitFirst s im :: rest := by
            rw [← hB]; simp [Emit.cids_eq_skel]
          obtain ⟨f, res, h⟩ := loop_term hL hT (Emit.cids im) _ _ s.next arg 0 _ [] rest w1 hb1 hB2 hcur
          exact ⟨f, res, by simpa using h⟩
      obtain ⟨f, ⟨s2, o, v⟩, h⟩ := key
      refine ⟨f + 1, (Sigc.Inv.emitEpi s2 i s.next, o, v), ?_⟩
      rw [Emit.emitImpl_succ, him]
      simp only [hemp, Bool.false_eq_true, ↓reduceIte]
      rw [h]

theorem W.enter {δ : Nat} {s : St} (w : W δ none s) (e : Event) :
    W (δ + 1) none { (s.log e) with depth := (s.log e).depth + 1 } :=
  ⟨w.inv.congr rfl rfl rfl rfl (Nat.le_refl _), hL.core.depth _ _ _ (hL.core.log _ _ e w.jk),
   Nat.succ_le_succ w.dep⟩

theorem invoke_term_aux {P : Prog} {δ ℓ : Nat} (hB : BodyT P (δ + 1)) (hE : ∀ L, L < ℓ → EmitT P δ L) :
    ∀ (fn : Fun) (s : St) (arg : Nat), W δ none s → Emit.FunOK s.G fn → FunLt s.next s.G fn ℓ →
      ∃ f r, invokeFun f P s fn arg = some r
  | .leaf fid _, s, arg, w, _, _ | .owner fid _ _, s, arg, w, _, _ => by
    cases hb : aget P.bodies fid with
    | none => exact ⟨1, _, by rw [invokeFun.eq_def]; simp only [hb]; rfl⟩
    | some body =>
      obtain ⟨f, ⟨s2, o⟩, h⟩ := hB _ body (w.enter hL (.call s.depth fid arg))
      exact ⟨f + 1, _, by rw [invokeFun.eq_def]; simp only [hb, h]; rfl⟩
  | .nest blocked none, s, arg, w, _, _ => ⟨1, _, by rw [invokeFun.eq_def]⟩
  | .nest true (some g), s, arg, w, _, _ => ⟨1, _, by rw [invokeFun.eq_def]; simp only [if_true]; rfl⟩
  | .nest false (some g), s, arg, w, hok, hlt => by
    obtain ⟨f, r, h⟩ := invoke_term_aux hB hE g s arg w (fun o ts ht => hok o ts ht) (fun o ts ht => hlt o ts ht)
    exact ⟨f + 1, r, by rw [invokeFun.eq_def]; simp only [Bool.false_eq_true, if_false]; exact h⟩
  | .fwd ob ts, s, arg, w, hok, hlt => by
    cases hh : handleByObj s ob with
    | none => exact ⟨1, _, by rw [invokeFun.eq_def]; simp only [hh]; rfl⟩
    | some p =>
      obtain ⟨g, hd⟩ := p
      have hmem : (g, hd) ∈ s.G := List.mem_of_find?_eq_some hh
      have hobj : hd.obj = ob := by simpa using List.find?_some hh
      have hlvl : hd.lvl < ℓ := by
        have := (hlt ob ts rfl).2 (g, hd) hmem hobj
        exact Int.ofNat_lt.mp this
      obtain ⟨f, r, h⟩ := hE hd.lvl hlvl s hd.fl hd.impl arg .sum w (fun i hi =>
        ⟨w.inv.himpl (g, hd) hmem i hi, w.jk.1.impls (g, hd) hmem i hi, w.jk.1.impllt (g, hd) hmem i hi⟩)
      exact ⟨f + 1, r, by rw [invokeFun.eq_def]; simp only [hh]; exact h⟩

theorem invoke_emit_term {P : Prog} {δ : Nat} (hB : BodyT P (δ + 1)) : ∀ ℓ, InvokeT P δ ℓ ∧ EmitT P δ ℓ := by
  intro ℓ
  induction ℓ using Nat.strongRecOn with
  | _ ℓ ih =>
    have hi : InvokeT P δ ℓ := fun s fn arg => invoke_term_aux hL hB (fun L hL' => (ih L hL').2) fn s arg
    exact ⟨hi, emit_term hL hi⟩

theorem op_term {P : Prog} {δ : Nat} (hI : P.maxdepth ≤ δ ∨ ∀ ℓ, InvokeT P δ ℓ ∧ EmitT P δ ℓ) : OpT P δ := by
  intro s op w
  by_cases h1 : ∃ i arg, op = .callS i arg
  · obtain ⟨i, arg, rfl⟩ := h1
    cases hv : aget s.S i with
    | none => exact ⟨1, _, by rw [execOp, hv]⟩
    | some v =>
      by_cases hd : s.depth ≥ P.maxdepth
      · exact ⟨1, _, by rw [execOp, hv]; exact if_pos hd⟩
      by_cases hst : s.steps > P.maxsteps
      · exact ⟨1, _, by rw [execOp, hv]; dsimp only; rw [if_neg hd, if_pos hst]⟩
      rcases hrep : v.slot.rep with _ | ⟨_ | _, _ | fn⟩ <;> try
        (refine ⟨1, ?_⟩
         rw [execOp, hv]; dsimp only; rw [if_neg hd, if_neg hst, hrep]; exact ⟨_, rfl⟩)
      · cases hbl : v.slot.blocked with
        | true => exact ⟨1, _, by rw [execOp, hv]; dsimp only; rw [if_neg hd, if_neg hst, hrep]; dsimp only; rw [hbl]; rfl⟩
        | false =>
          have hT : ∀ ℓ, InvokeT P δ ℓ := by
            rcases hI with h | h
            · exact absurd (Nat.le_trans h w.dep) hd
            · exact fun ℓ => (h ℓ).1
          have hsl := w.inv.fwdS i v hv
          have w1 : W δ none (Sigc.Inv.callPro s i v) :=
            ⟨Emit.InvX.setS w.inv i _ hsl, hL.callPro none s i v w.jk hv, w.dep⟩
          have hlt : FunLt (Sigc.Inv.callPro s i v).next (Sigc.Inv.callPro s i v).G fn ((v.taint + 1).toNat : Nat) :=
            (w.jk.1.slots i v hv fn (by simp [fnOf, hrep])).mono (by omega)
          obtain ⟨f, ⟨s1, o, r⟩, h⟩ := hT _ (Sigc.Inv.callPro s i v) fn arg w1 (hsl _ fn hrep rfl) hlt
          refine ⟨f + 1, ?_⟩
          rw [execOp, hv]
          dsimp only
          rw [if_neg hd, if_neg hst, hrep]
          dsimp only
          rw [hbl, if_neg Bool.false_ne_true]
          rw [show invokeFun f P { s with S := aset s.S i { v with incall := v.incall + 1 } } fn arg = _ from h]
          cases o <;> exact ⟨_, rfl⟩
  by_cases h2 : ∃ g arg st t, op = .emit g arg st t
  · obtain ⟨g, arg, strat, try_, rfl⟩ := h2
    cases hg : aget s.G g with
    | none => exact ⟨1, _, by rw [execOp, hg]⟩
    | some hd =>
      by_cases hdp : s.depth ≥ P.maxdepth
      · exact ⟨1, _, by rw [execOp, hg]; exact if_pos hdp⟩
      by_cases hst : s.steps > P.maxsteps
      · exact ⟨1, _, by rw [execOp, hg]; dsimp only; rw [if_neg hdp, if_pos hst]⟩
      have hE : EmitT P δ hd.lvl := by
        rcases hI with h | h
        · exact absurd (Nat.le_trans h w.dep) hdp
        · exact (h hd.lvl).2
      have hmem : (g, hd) ∈ s.G := Emit.aget_some_mem hg
      obtain ⟨f, ⟨s1, o, r⟩, h⟩ := hE s hd.fl hd.impl arg strat w (fun i hi =>
        ⟨w.inv.himpl (g, hd) hmem i hi, w.jk.1.impls (g, hd) hmem i hi, w.jk.1.impllt (g, hd) hmem i hi⟩)
      refine ⟨f + 1, ?_⟩
      rw [execOp, hg]
      dsimp only
      rw [if_neg hdp, if_neg hst, h]
      cases o
      · exact ⟨_, rfl⟩
      · cases try_ <;> exact ⟨_, rfl⟩
  by_cases h3 : op = .throw_
  · subst h3; exact ⟨1, _, by rw [execOp]⟩
  refine ⟨1, ?_⟩
  rw [Model.execOp_simple 0 P s op (fun i arg e => h1 ⟨i, arg, e⟩) (fun g arg st t e => h2 ⟨g, arg, st, t, e⟩) h3]
  cases modeRule P s op with
  | some r => exact ⟨_, rfl⟩
  | none => cases stepSimple s op <;> exact ⟨_, rfl⟩

theorem W.line {δ k f P s l s' o} (w : W δ k s) (e : execLine f P s l = some (s', o)) : W δ k s' := by
  have g := (Emit.all_ok f).line P s l s' o w.inv e
  refine ⟨g.inv, (Sigc.Inv.preservedCore hL.core f).2.2.1 k P s l _ w.jk e, ?_⟩
  rw [(Sigc.Refine.execLine_keeps e).depth]; exact w.dep

theorem line_term {P : Prog} {δ : Nat} (hO : OpT P δ) (s : St) (l : Line) (w : W δ none s) :
    ∃ f r, execLine f P s l = some r := by
  have w1 : W δ none { s with steps := s.steps + 1 } :=
    ⟨w.inv.congr rfl rfl rfl rfl (Nat.le_refl _), hL.core.steps _ _ _ w.jk, w.dep⟩
  obtain ⟨f, ⟨s1, res⟩, h⟩ := hO _ l.op w1
  refine ⟨f + 1, ?_⟩
  rw [execLine]
  simp only [h]
  cases res <;> exact ⟨_, rfl⟩

theorem body_term {P : Prog} {δ : Nat} (hO : OpT P δ) : BodyT P δ := by
  intro s ls
  induction ls generalizing s with
  | nil => intro _; exact ⟨1, _, by rw [runBody]⟩
  | cons l ls ih =>
    intro w
    obtain ⟨f1, ⟨s1, o⟩, h1⟩ := line_term hL hO s l w
    cases o with
    | exc => exact ⟨f1 + 1, (s1, .exc), by rw [runBody]; simp only [h1]⟩
    | ok =>
      obtain ⟨f2, r, h2⟩ := ih s1 (w.line hL h1)
      refine ⟨max f1 f2 + 1, r, ?_⟩
      rw [runBody]
      simp only [execLine_mono (Nat.le_max_left f1 f2) h1]
      exact runBody_mono (Nat.le_max_right f1 f2) h2

/-- operations (hence lines and bodies) terminate at every nesting depth: downward induction from `P.maxdepth` -/
theorem op_all (P : Prog) : ∀ (n δ : Nat), P.maxdepth ≤ δ + n → OpT P δ := by
  intro n
  induction n with
  | zero => intro δ h; exact op_term hL (Or.inl h)
  | succ n ih =>
    intro δ h
    have hO1 : OpT P (δ + 1) := ih (δ + 1) (by omega)
    exact op_term hL (Or.inr (invoke_emit_term hL (body_term hL hO1)))

theorem runTop_term (P : Prog) : ∀ (ls : List Line) (s : St), W 0 none s → ∃ f s', runTop f P s ls = some s' := by
  intro ls
  induction ls with
  | nil => intro s _; exact ⟨0, s, rfl⟩
  | cons l ls ih =>
    intro s w
    have hO : OpT P 0 := op_all hL P P.maxdepth 0 (by omega)
    obtain ⟨f1, ⟨s1, o⟩, h1⟩ := line_term hL hO s l w
    obtain ⟨f2, s', h2⟩ := ih s1 (w.line hL h1)
    refine ⟨max f1 f2, s', ?_⟩
    simp only [runTop, execLine_mono (Nat.le_max_left f1 f2) h1]
    exact runTop_mono (Nat.le_max_right f1 f2) P ls s1 s' h2

end

theorem lvlStable : LvlStable where
  core :=
    { log := fun _ s e hJ => JK.sub (sub_log (Sub.refl s) e) hJ
      fail := fun _ s m hJ => JK.sub (sub_fail (Sub.refl s) m) hJ
      depth := fun _ s _ hJ => JK.sub ((Sub.refl s).congr rfl rfl rfl rfl) hJ
      steps := fun _ s _ hJ => JK.sub ((Sub.refl s).congr rfl rfl rfl rfl) hJ
      call := fun k _ i _ hJ hv => ⟨k, hJ.callPro hv, fun _ h2 => h2.callEpi i⟩
      simple := fun _ _ _ _ _ hJ h => stepSimple_preserved' JK.move h hJ
      collect := fun _ s hJ => JK.sub (sub_collect (Sub.refl s)) hJ
      emit := fun k s i _ hJ hi => ⟨k, JK.sub (sub_emitPro (Sub.refl s) hi) hJ,
        fun s2 h2 => JK.sub (sub_emitEpi (Sub.refl s2) i s.next) h2⟩ }
  pro := fun _ s _ _ hJ hi => JK.sub (sub_emitPro (Sub.refl s) hi) hJ
  callPro := fun _ _ _ _ hJ hv => hJ.callPro hv

end Sigc.Fuel
