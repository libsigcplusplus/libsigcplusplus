import Sigc.Lemmas.SpecKSimDefs
/-!
# SpecKSimLoops — the mutual induction on fuel: the steps for `turns`, `deref`, `accLoop`, `revLoop`, `walkLoop`, `runStrat`
-/
namespace Sigc.SpecK
open Sigc.Model Sigc.Spec

theorem turns_succ (f : Nat) (ih : All f) : STurns (f+1) := by
  intro P ρ t u i i' snap snap' arg r t' o v hq hst hi hsn hc hr
  refine (?_ : Sim ρ t u _ _ _) t' (o, v) hc hr
  cases hsn with
  | nil => unfold Spec.turns; exact .ret hq hst _
  | @cons cid cid' rest rest' hcid hrest =>
    rw [Spec.turns_cons, Spec.turns_cons, ← callable_spec]
    unfold cTurns
    refine (callable_sim hq hi hcid).on (ih.turns' P hq hst hi hrest arg r) fun hff => ?_
    dsimp only
    refine SimP.call (ih.invoke' P hq hst hff arg) (fun _ _ => .off) (fun _ => .nil) fun ρ1 t1 u1 x hq1 hs1 hf1 hst1 => ?_
    obtain ⟨o1, v1⟩ := x
    cases o1 with
    | exc => exact .after hs1 hf1 (.ret hq1 hst1 _)
    | ok => exact .after hs1 hf1 (ih.turns' P hq1 hst1 (hs1.sub _ _ hi) (hrest.mono hs1.sub) arg v1)

theorem deref_succ (f : Nat) (ih : All f) : SDeref (f+1) := by
  intro P ρ t u i i' snap snap' it arg t' o it' hq hst hi hsn hc hr
  refine (?_ : Sim ρ t u _ _ _) t' (o, it') hc hr
  rw [Spec.deref_eq, Spec.deref_eq, ← callable_spec]
  unfold cDeref
  refine (hsn.get? it.pos).on (.ret hq hst _) fun hcid => ?_
  dsimp only
  refine (callable_sim hq hi hcid).on (.ret hq hst _) fun hff => ?_
  dsimp only
  refine .ite (.ret hq hst _) ?_
  refine SimP.call (ih.invoke' P hq hst hff arg) (fun _ _ => .off) (fun _ => .nil) fun ρ1 t1 u1 x hq1 hs1 hf1 hst1 => ?_
  obtain ⟨o1, v1⟩ := x
  cases o1 <;> exact .after hs1 hf1 (.ret hq1 hst1 _)

theorem acc_succ (f : Nat) (ih : All f) : SAcc (f+1) := by
  intro P ρ t u i i' snap snap' it arg mode k r t' o v hq hst hi hsn hc hr
  refine (?_ : Sim ρ t u _ _ _) t' (o, v) hc hr
  have hloop := fun {ρ1 t1 u1} it1 r1 (hq1 : Q ρ1 t1 u1) (hst1 : Settled t1) (hs : ∀ a b, ρ a b → ρ1 a b) =>
    ih.acc' P hq1 hst1 (hs _ _ hi) (hsn.mono hs) it1 arg mode k r1
  unfold Spec.accLoop cAcc
  simp only
  rw [← hsn.length]
  refine .ite (.ret hq hst _) (.ite (hloop _ _ hq hst fun _ _ h => h)
    (.deref ih hi hsn hq hst (fun _ _ h => h) _ _ _ fun ρ1 t1 u1 it1 hq1 hst1 hs1 => ?_))
  refine .ite (.ret hq1 hst1 _) (.ite (.deref ih hi hsn hq1 hst1 hs1 _ _ _ fun ρ2 t2 u2 it2 hq2 hst2 hs2 => ?_)
    (hloop _ _ hq1 hst1 hs1))
  exact hloop _ _ hq2 hst2 hs2

theorem rev_succ (f : Nat) (ih : All f) : SRev (f+1) := by
  intro P ρ t u i i' snap snap' it arg r t' o v hq hst hi hsn hc hr
  refine (?_ : Sim ρ t u _ _ _) t' (o, v) hc hr
  unfold Spec.revLoop cRev
  simp only
  exact .ite (.ret hq hst _) (.deref ih hi hsn hq hst (fun _ _ h => h) _ _ _ fun ρ1 t1 u1 it1 hq1 hst1 hs1 =>
    ih.rev' P hq1 hst1 (hs1 _ _ hi) (hsn.mono hs1) _ arg _)

theorem walk_succ (f : Nat) (ih : All f) : SWalk (f+1) := by
  intro P ρ t u i i' snap snap' it arg ops r t' o v hq hst hi hsn hc hr
  refine (?_ : Sim ρ t u _ _ _) t' (o, v) hc hr
  cases ops with
  | nil =>
    unfold Spec.walkLoop
    exact .ret hq hst _
  | cons c cs =>
    have hloop := fun {ρ1 t1 u1} it1 r1 (hq1 : Q ρ1 t1 u1) (hst1 : Settled t1) (hs : ∀ a b, ρ a b → ρ1 a b) =>
      ih.walk' P hq1 hst1 (hs _ _ hi) (hsn.mono hs) it1 arg cs r1
    have stay := fun it1 => hloop it1 r hq hst fun _ _ h => h
    have derefArm := fun keep : Bool => SimP.deref (P := P) ih hi hsn hq hst (fun _ _ h => h) it arg r
      fun ρ1 t1 u1 it1 hq1 hst1 hs1 => hloop (if keep then it else it1) (r + it1.buf) hq1 hst1 hs1
    unfold Spec.walkLoop cWalk
    simp only
    rw [← hsn.length]
    -- 'd' and 'c' dereference in place, 'i' and 'x' move, any other letter does nothing
    exact .ite (.ite (stay _) (derefArm false))
      (.ite (.ite (stay _) (derefArm true))
        (.ite (.ite (stay _) (stay _)) (.ite (.ite (stay _) (stay _)) (stay _))))

theorem strat_succ (f : Nat) (ih : All f) : SStrat (f+1) := by
  intro P ρ t u i i' snap snap' arg strat t' o v hq hst hi hsn hc hr
  refine (?_ : Sim ρ t u _ _ _) t' (o, v) hc hr
  unfold Spec.runStrat cStrat
  cases strat with
  | rev =>
    dsimp only
    rw [← hsn.length]
    exact ih.rev' P hq hst hi hsn _ arg 0
  | walk ops => exact ih.walk' P hq hst hi hsn _ arg ops 0
  | _ => exact ih.acc' P hq hst hi hsn _ arg _ _ 0

end Sigc.SpecK
