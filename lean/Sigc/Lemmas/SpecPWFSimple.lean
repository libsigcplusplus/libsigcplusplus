import Sigc.Lemmas.SpecPWF
/-!
# SpecPWFSimple — every operation that runs no user code (`Spec.stepSimple`) is a `Step`
-/
namespace Sigc.SpecP
open Sigc.Spec
open Sigc.Model (aget aset adel amap Prog Line Op FSpec Fun SlotB SlotVar Rep Handle Flavour Strat Outcome Event
  aget_nil aget_aset_same aget_aset_other aget_amap aget_adel_same aget_adel_other)

theorem step_mkFun (s s' : LSt) (v : Bool) (spec : FSpec) (fn : Fun) (h : Spec.mkFun s v spec = .ok (fn, s')) : Step s s' := by
  cases spec
  all_goals conv at h => lhs; whnf
  -- functors owning a connection or a signal object draw an id for it
  case ownK =>
    split at h
    · cases h
    · cases h; exact step_fields 1 rfl
  case ownG =>
    split at h
    · cases h
    · split at h
      · cases h
      · split at h
        · cases h
        · cases h; exact step_fields 1 rfl
  all_goals repeat' split at h
  all_goals cases h
  all_goals exact step_fields 0 rfl

theorem step_blockAll (s : LSt) (im : Nat) (x : LSig) (b : Bool) (hx : aget s.sigs im = some x) :
    Step s (setSig s im { x with cells := x.cells.map (fun c => { c with slot := { c.slot with blocked := b } }) }) := by
  refine step_aset im x _ hx rfl (Nat.le_refl _) rfl rfl rfl
    (fun h => WFSig.map h _ _ _ _ h.clean (fun _ => rfl) (fun _ _ => ⟨rfl, rfl⟩)) (fun c hc _ => ?_)
  obtain ⟨c0, hc0, rfl⟩ := List.mem_map.1 hc
  exact ⟨c0, hc0, rfl⟩

theorem step_blockCell (s : LSt) (p : Option Nat) (b : Bool) :
    Step s (match p with
      | some cid => updCell s cid (fun c => { c with slot := { c.slot with blocked := b } })
      | none => s) := by
  cases p with
  | none => exact Step.refl s
  | some cid => exact step_updCell s cid _ (fun _ => rfl) (fun _ => ⟨rfl, rfl⟩)

theorem stepTo_stepSimple (s : LSt) (op : Op) : StepTo s (Spec.stepSimple s op) := by
  cases op
  case delG i =>
    rw [stepSimple_delG]
    split
    · exact .self
    · exact .ite .self (.ite .self (.ret (step_releases.dropHandle _ _)))
  -- `whnf` evaluates the interpreter as far as the operation decides: each case below sees its own arm only
  all_goals conv => arg 2; whnf
  case newT t =>
    split
    · exact .self
    · exact .ret (step_fields 1 rfl)
  case delT t =>
    split
    · exact .self
    · exact .ret (.after (step_invalidate _ _) (step_fields 0 rfl))
  case notifyT t =>
    split
    · exact .self
    · exact .ret (step_invalidate _ _)
  case cpT j i =>
    split
    · exact .self
    · split
      · exact .self
      · exact .ret (step_fields 1 rfl)
  case mvT j i =>
    split
    · exact .self
    · split
      · exact .self
      · exact .ret (.after (step_invalidate _ _) (step_fields 1 rfl))
  case asgT j i =>
    split
    · exact .ret (.ite (.refl s) (step_invalidate _ _))
    · exact .self
  case masgT j i =>
    split
    · exact .ret (.ite (.refl s) (.after (step_invalidate _ _) (step_invalidate _ _)))
    · exact .self
  case mkS i ty f =>
    split
    · exact .self
    · refine .ite .self ?_
      dsimp only
      split
      · exact .self
      · next fn s' h => exact .ret (.trans (step_mkFun _ _ _ _ _ h) (step_fields 0 rfl))
  case setS i f =>
    split
    · exact .self
    · refine .ite .self ?_
      split
      · exact .self
      · next fn s' h => exact .ret (.trans (step_mkFun _ _ _ _ _ h) (step_fields 0 rfl))
  case asgS j i =>
    split
    · exact .ite .self (.ite .self (.ret (step_fields 0 rfl)))
    · exact .self
  case masgS j i =>
    split
    · exact .ite .self (.ite .self (.ite (.ret (step_fields 0 rfl))
        (.ite (.ret (step_fields 0 rfl)) (.ret (step_fields 0 rfl)))))
    · exact .self
  -- the other operations on slot and connection variables: no branch touches a list, `next` or the flags
  case mkS0 | cpS | mvS | delS | discS | blockS | newC | cpC | asgC | delC | newK0 | newK | mvK | swapK | relK =>
    repeat' split
    all_goals exact .ret (step_fields 0 rfl)
  -- queries return the state as it is, whatever they answer
  case blockedSq | emptySq | boolSq | sizeq | emptyGq | blockedGq | connectedq | emptyCq | blockedCq | connectedKq
      | blockedKq | liveq | mark | allocsq | bad =>
    repeat' split
    all_goals exact .self
  case callS | emit | throw_ => exact .none
  case newG i fl =>
    split
    · exact .self
    · split
      · exact .self
      · exact .ret (step_fields 2 rfl)
  case cpG j i =>
    split
    · exact .self
    · split
      · exact .self
      · split
        · exact .self
        · next s1 im he =>
          split
          · exact .ret (step_ensureSig _ _ _ _ he)
          · exact .ret (.after (step_fields 2 rfl) (step_ensureSig _ _ _ _ he))
  case mvG j i =>
    split
    · exact .self
    · split
      · exact .self
      · split
        · split
          · exact .self
          · next s1 im he => exact .ret (.after (step_fields 2 rfl) (step_ensureSig _ _ _ _ he))
        · exact .ret (.invalidate_if (step_fields 2 rfl))
  case asgG j i =>
    split
    · refine .ite .self (.ite .self (.ite .self ?_))
      split
      · exact .self
      · next s1 im he =>
        exact .ite (.ret (step_ensureSig _ _ _ _ he))
          (.ret (.after (step_release _ _) (.trans (step_ensureSig _ _ _ _ he) (step_fields 0 rfl))))
    · exact .self
  case masgG j i =>
    split
    · refine .ite .self (.ite .self (.ite .self (.ite (.ite .self ?_) (.ite .self ?_))))
      · split
        · exact .self
        · next s1 im he =>
          exact .ite (.ret (step_ensureSig _ _ _ _ he))
            (.ret (.after (step_release _ _) (.trans (step_ensureSig _ _ _ _ he) (step_fields 0 rfl))))
      · exact .ret (.invalidate_if (.after (step_release _ _) (step_fields 0 rfl)))
    · exact .self
  case conn k g sv first mv =>
    split
    · refine .ite .self (.ite .self (.ite .self ?_))
      split
      · exact .self
      · next s1 im he =>
        cases mv
        · exact .ret (.after (step_insert_conn _ _ _ _ _) (step_ensureSig _ _ _ _ he))
        · exact .ret (.after (step_insert_conn _ _ _ _ _) (.trans (step_ensureSig _ _ _ _ he) (step_fields 0 rfl)))
    · exact .self
  case connfn k g f first =>
    split
    · exact .self
    · split
      · exact .self
      · next fn s1 hm =>
        refine .ite (.ret (step_mkFun _ _ _ _ _ hm)) ?_
        split
        · exact .self
        · next s2 im he =>
          exact .ret (.after (step_insert_conn _ _ _ { blocked := false, rep := some { call := true, fn := some fn } } _)
            (.trans (step_mkFun _ _ _ _ _ hm) (step_ensureSig _ _ _ _ he)))
  case clear g =>
    split
    · exact .self
    · split
      · exact .self
      · split
        · exact .self
        · next x hx => exact .ret (step_setSig_remove _ _ _ _ _ hx)
  case blockG g b =>
    split
    · exact .self
    · split
      · exact .self
      · split
        · exact .self
        · next x hx => exact .ret (step_blockAll _ _ _ _ hx)
  case disc i | discK i =>
    split
    · exact .self
    · exact .ret (step_disconnect _ _)
  case delK i =>
    split
    · exact .self
    · exact .ret (.after (step_disconnect _ _) (step_fields 0 rfl))
  case asgKC i c =>
    split
    · next old p _ _ => exact .ret (.trans (step_disconnect s old) (step_fields 0 rfl))
    · exact .self
  case masgK j i =>
    split
    · next old p _ _ => exact .ite .self (.ret (.trans (step_disconnect s old) (step_fields 0 rfl)))
    · exact .self
  case blockC i b | blockK i b =>
    split
    · exact .self
    · exact .ret (step_blockCell _ _ _)

end Sigc.SpecP
