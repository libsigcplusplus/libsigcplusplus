import Sigc.Lemmas.RefineSimDefs
/-!
The simulation of the mutual block: emission.  The loop of a non-accumulating emission (`emitLoop`, pointer
chasing from `cur` to the end marker) is simulated by the specification's `turns` over the snapshot; the prologue
(`signal_impl_holder`, `temp_slot_list`) and epilogue (`~temp_slot_list`, `~signal_impl_holder`: `unreference_exec`,
`sweep`) of `emitImpl` correspond to `Spec.proState`/`snapOf` and `Spec.epi` of `emitSig`.
-/
namespace Sigc.Refine
open Sigc.Model

theorem off_not_callable {s : St} (hs : Emit.Inv s) {Z : List Nat} (hoff : Off Z s) {i cur : Nat} (hz : cur ∈ Z) :
    StepIter.callableAt s i cur = none := by
  cases hi : aget s.impls i with
  | none => simp [StepIter.callableAt, hi]
  | some im =>
    cases hc : im.cells.find? (fun c => c.id = cur) with
    | none => simp [StepIter.callableAt, hi, hc]
    | some c =>
      rw [callableAt_eq hi hc]
      obtain ⟨hcm, hcid⟩ := Emit.find_mem hc
      have hl := hoff.2 (i, im) (Emit.aget_some_mem hi) c hcm (by rw [hcid]; exact hz)
      exact Spec.callFn_empty ((hs.ok i im hi).l c hcm hl)

theorem loop_simE (f : Nat) (hi : InvokeE f) (hl : LoopE f) : LoopE (f+1) := by
  intro e P s t i cur m arg r B Z done todo tl s' o v hs hR hb hB hcur hoff h g hg
  obtain ⟨g', rfl, hg'⟩ := fuel_succ hg
  refine SimRun.eq_elim ?_ h
  rw [StepIter.emitLoop_unfold]
  cases todo with
  | nil =>
    simp at hcur
    rw [if_pos hcur.1.symm, List.filter_nil, Spec.turns]
    exact .pure hR rfl
  | cons x todo' =>
    simp at hcur
    obtain ⟨hx, htl⟩ := hcur
    subst hx
    obtain ⟨hcm, hxB, n, tl', hnt, hB2, hnext⟩ := Emit.blk_step hs hb hB
    rw [if_neg hcm]
    obtain ⟨im0, c, him0, hfind⟩ := hb.find hxB
    rw [him0]
    dsimp only
    rw [hfind]
    dsimp only [StepIter.emitStep]
    -- after the turn of `x` (if it has one) both sides go on with `n`
    have next : ∀ {s1 : St} {t1 : Spec.LSt} {v1 g1 : Nat}, f ≤ g1 → Emit.Inv s1 → RE e s1 t1 → Emit.InBlk s1 i B →
        Off Z s1 →
        SimEq e (match aget s1.impls i with
          | none => some (s1.fail "loop: impl destroyed", Outcome.ok, v1)
          | some im2 =>
            match succId im2.cells x with
            | none => some (s1.fail "loop: iterator invalidated", Outcome.ok, v1)
            | some nxt => Model.emitLoop f P s1 i nxt m arg v1)
          (Spec.turns g1 P t1 i (todo'.filter (fun k => !Z.contains k)) arg v1) := by
      intro s1 t1 v1 g1 hg1 hs1 hR1 hb1 hoff1
      obtain ⟨im1, him1, hsucc⟩ := hnext s1 hs1 hb1
      rw [him1]
      dsimp only
      rw [hsucc]
      exact .of_eq (fun s' c h =>
        hl e P s1 t1 i n m arg v1 B Z (done ++ [x]) todo' tl' s' c.1 c.2 hs1 hR1 hb1 hB2 hnt hoff1 h g1 hg1)
    by_cases hz : x ∈ Z
    · -- the cell is unlinked for good: the model steps over it, the specification has no turn for it
      have hfil : (x :: todo').filter (fun k => !Z.contains k) = todo'.filter (fun k => !Z.contains k) := by
        simp [List.filter, hz]
      rw [hfil, off_not_callable hs hoff hz]
      exact next (g1 := g' + 1) (by omega) hs hR hb hoff
    · have hfil : (x :: todo').filter (fun k => !Z.contains k) = x :: todo'.filter (fun k => !Z.contains k) := by
        simp [List.filter, hz]
      rw [hfil, Spec.turns_cons, callable_sim hs hR.r]
      cases hc : StepIter.callableAt s i x with
      | none => exact next hg' hs hR hb hoff
      | some fn =>
        dsimp only
        have hfok := hs.callable_ok hc
        refine SimRun.callEq (fun s1 (c : Outcome × Nat) hinv => hi e P s t fn arg s1 c.1 c.2 hs hfok hR hinv g' hg')
          (fun _ => .none) fun s1 t1 c hinv hR1 => ?_
        obtain ⟨o1, v1⟩ := c
        have g1 := (Emit.all_ok f).invoke P s fn arg s1 o1 v1 hs hfok hinv
        cases o1 with
        | exc => exact .pure hR1 rfl
        | ok =>
          exact next hg' g1.inv hR1 (hb.frame g1.frame)
            ((invokeFun_keeps hinv).off Z hoff)

/-- `R.setSig` with the connections to the ids that left the list nulled (the prologue with `E = []`, the epilogue with the
    marker and the cells swept) -/
theorem R_setImpl_null {s : St} {t : Spec.LSt} (hs : Emit.Inv s) (hR : R s t) {i : Nat} {im : Impl}
    (hi : aget s.impls i = some im) {im' : Impl} {g' : Spec.LSig} (hr' : SigR im' g')
    (hsub : ∀ k ∈ Emit.cids im', k ∈ Emit.cids im ∨ s.next ≤ k)
    (E : List Nat) (hE : ∀ k ∈ E, k ∈ Emit.cids im ∧ k ∉ Emit.cids im') :
    R (nullSt E { s with impls := aset s.impls i im' }) { t with sigs := aset t.sigs i g' } := by
  refine hR.lists (hR.sigs.set i hr') (fun p' hp' k hk hlt => ?_) E fun cid hc =>
    ⟨(hs.lt i im hi).2 cid (hE cid hc).1, fun p hp hin => ?_⟩
  · rcases Emit.mem_aset hp' with hp | rfl
    · exact ⟨p', hp, hk⟩
    · exact ⟨(i, im), Emit.aget_some_mem hi, (hsub k hk).resolve_right (by omega)⟩
  · have hpa := Emit.aget_of_mem_nodup (Emit.keys_nodup_aset hs.keys i im') (show (p.1, p.2) ∈ aset s.impls i im' from hp)
    rw [Emit.aget_aset] at hpa
    split at hpa
    · cases hpa; exact (hE cid hc).2 hin
    · rename_i hne
      exact hs.disj p.1 i p.2 im hpa hi hne cid hin (hE cid hc).1

theorem R_start {s : St} {t : Spec.LSt} (hs : Emit.Inv s) (hR : R s t) {i : Nat} {im : Impl} {g : Spec.LSig}
    (hi : aget s.impls i = some im) (hr : SigR im g) :
    R (Emit.emitStart s i im) (Spec.proState t i g true) := by
  have hmk : CellR { id := s.next, slot := {}, linked := false } { id := s.next, slot := {}, marker := true } :=
    ⟨rfl, rfl, rfl, fun _ => rfl, fun h => by simp at h, fun h => by simp at h⟩
  have hr' : SigR { im with exec := im.exec + 1, holders := im.holders + 1,
                            cells := im.cells ++ [{ id := s.next, slot := {}, linked := false }] }
      { g with active := g.active + 1, cells := g.cells ++ [{ id := s.next, slot := {}, marker := true }] } :=
    ⟨hr.cells.append (.cons hmk .nil), by simp [hr.active], hr.dirty, hr.limbo⟩
  have := (R_setImpl_null hs hR hi hr' (by
    intro k hk
    simp only [Emit.cids, List.map_append, List.map_cons, List.map_nil, List.mem_append, List.mem_singleton] at hk
    rcases hk with hk | hk
    · exact Or.inl hk
    · right; omega) [] (by simp)).fresh'
  rw [Emit.nullSt_nil] at this
  unfold Spec.proState Spec.setSig
  rw [hR.next]
  exact this

/-- the cells already unlinked when an emission starts: the set `Z` that `LoopE` starts with (`off_start`) -/
def unlinkedIds (im : Impl) : List Nat := (im.cells.filter (fun c => !c.linked)).map (·.id)

theorem mem_unlinkedIds {im : Impl} (hn : (Emit.cids im).Nodup) {c : Cell} (hc : c ∈ im.cells) :
    c.id ∈ unlinkedIds im ↔ c.linked = false := by
  unfold unlinkedIds
  constructor
  · intro h
    obtain ⟨c', hc', e⟩ := List.mem_map.mp h
    obtain ⟨hc1, hc2⟩ := List.mem_filter.mp hc'
    obtain ⟨c0, hf⟩ := Emit.find_of_mem_ids (List.mem_map.mpr ⟨c, hc, rfl⟩)
    have h1 := Emit.find_unique hn hf hc rfl
    have h2 := Emit.find_unique hn hf hc1 e
    rw [h1, ← h2]
    simpa using hc2
  · intro h
    exact List.mem_map.mpr ⟨c, List.mem_filter.mpr ⟨hc, by simp [h]⟩, rfl⟩

theorem off_start {s : St} (hs : Emit.Inv s) {i : Nat} {im : Impl} (hi : aget s.impls i = some im) :
    Off (unlinkedIds im) (Emit.emitStart s i im) := by
  have hn := (hs.ok i im hi).nodup
  refine ⟨?_, ?_⟩
  · intro z hz
    obtain ⟨c, hc, rfl⟩ := List.mem_map.mp hz
    have := (hs.lt i im hi).2 c.id (List.mem_map.mpr ⟨c, (List.mem_filter.mp hc).1, rfl⟩)
    simp [Emit.emitStart, Model.setImpl]; omega
  · intro p hp c hc hz
    obtain ⟨pi, pim⟩ := p
    simp only at hc
    have hpa := Emit.aget_of_mem_nodup (l := (Emit.emitStart s i im).impls) (by
      unfold Emit.emitStart Model.setImpl; exact Emit.keys_nodup_aset hs.keys i _) hp
    unfold Emit.emitStart Model.setImpl at hpa
    simp only at hpa
    rw [Emit.aget_aset] at hpa
    split at hpa
    · cases hpa
      simp only [List.mem_append, List.mem_singleton] at hc
      rcases hc with hc | hc
      · exact (mem_unlinkedIds hn hc).mp hz
      · subst hc; rfl
    · rename_i hne
      exfalso
      obtain ⟨c', hc', e⟩ := List.mem_map.mp hz
      have h1 : c.id ∈ Emit.cids im := by rw [← e]; exact List.mem_map.mpr ⟨c', (List.mem_filter.mp hc').1, rfl⟩
      exact hs.disj pi i pim im hpa hi hne c.id (List.mem_map.mpr ⟨c, hc, rfl⟩) h1

/-- the sweep runs on both sides exactly when the last holder leaves (`exec - 1 = 0`, `active - 1 = 0`) with `deferred` =
    `dirty` set, and it removes the unlinked cells = the zombies -/
theorem sigR_epi {im2 : Impl} {g2 : Spec.LSig} (hr : SigR im2 g2) (hok : Emit.ImplOK 0 im2) (hx : 1 ≤ im2.exec) (m : Nat) :
    SigR (Emit.epiImpl im2 m) (Spec.epi g2 m) := by
  have heh : im2.exec = im2.holders := by have := hok.eh; omega
  have hact : g2.active = im2.exec := by rw [hr.active, heh]
  have hA : F2 CellR (im2.cells.filter (·.id ≠ m)) (g2.cells.filter (·.id ≠ m)) :=
    F2.filter hr.cells _ _ (fun c d _ _ hcd => by rw [hcd.id])
  unfold Emit.epiImpl Spec.epi
  by_cases h1 : im2.exec - 1 = 0
  · have ha : g2.active - 1 = 0 := by rw [hact]; exact h1
    cases hd : im2.deferred with
    | true =>
      have hdirty : g2.dirty = true := by rw [hr.dirty, hd]
      simp only [h1, hd, ha, hdirty, Bool.and_self, decide_true, if_true]
      refine ⟨?_, by simp [hr.active] <;> omega, rfl, rfl⟩
      simp only [List.filter_filter]
      apply F2.filter hr.cells
      intro c d hc _ hcd
      rw [hcd.id]
      cases hz : d.zombie with
      | true =>
        have hl : c.linked = false := by rw [hcd.live, hz]; rfl
        rw [hok.l c hc hl]; simp
      | false => rw [hcd.slot hz]; simp
    | false =>
      have hdirty : g2.dirty = false := by rw [hr.dirty, hd]
      simp only [h1, hd, ha, hdirty, Bool.and_false, decide_true, if_true, Bool.false_eq_true, if_false]
      refine ⟨?_, by simp [hr.active] <;> omega, by simp [hdirty, hd], rfl⟩
      simp only
      have : (g2.cells.filter (·.id ≠ m)).filter (fun c => !c.zombie) = g2.cells.filter (·.id ≠ m) := by
        rw [List.filter_eq_self]
        intro d hd'
        obtain ⟨c, hc, hcd⟩ := hr.cells.mem_right (List.mem_filter.mp hd').1
        rw [hcd.zombie]
        cases hn : c.slot.rep with
        | none => simp
        | some rp =>
          have := hok.d hd c hc (by rw [hn]; rfl)
          simp [this]
      rw [this]; exact hA
  · have ha : ¬ (g2.active - 1 = 0) := by rw [hact]; exact h1
    simp only [h1, ha, decide_false, Bool.false_and, Bool.false_eq_true, if_false]
    exact ⟨hA, by simp [hr.active] <;> omega, hr.dirty, hr.limbo⟩

theorem R_epilogue {s : St} {t : Spec.LSt} (hs : Emit.Inv s) (hR : R s t) {i m : Nat} {im2 : Impl} {g2 : Spec.LSig}
    (hi : aget s.impls i = some im2) (hr : SigR im2 g2) (hx : 1 ≤ im2.exec)
    (hm : m ∈ Emit.cids im2) :
    R (Emit.epilogue s i m) (Spec.setSig t i (Spec.epi g2 m)) := by
  rw [Emit.epilogue_closed hi]
  have hok := hs.ok i im2 hi
  have hsub : ∀ k ∈ Emit.cids (Emit.epiImpl im2 m), k ∈ Emit.cids im2 ∨ s.next ≤ k := by
    intro k hk
    obtain ⟨c, hc, rfl⟩ := List.mem_map.mp hk
    exact Or.inl (List.mem_map.mpr ⟨c, Emit.epiImpl_cells_sub im2 m c hc, rfl⟩)
  exact R_setImpl_null hs hR hi (sigR_epi hr hok hx m) hsub
    (m :: (if (im2.exec - 1 = 0 && im2.deferred) = true then
            ((im2.cells.filter (·.id ≠ m)).filter (·.slot.empty)).map (·.id) else [])) (by
      intro k hk
      rcases List.mem_cons.mp hk with e | hk
      · subst e
        refine ⟨hm, ?_⟩
        intro hin
        obtain ⟨c, hc, e⟩ := List.mem_map.mp hin
        unfold Emit.epiImpl at hc
        split at hc
        · have := (List.mem_filter.mp (List.mem_filter.mp hc).1).2
          simp [e] at this
        · have := (List.mem_filter.mp hc).2
          simp [e] at this
      · split at hk
        · rename_i hcond
          obtain ⟨c, hc, rfl⟩ := List.mem_map.mp hk
          obtain ⟨hc1, hc2⟩ := List.mem_filter.mp hc
          refine ⟨List.mem_map.mpr ⟨c, (List.mem_filter.mp hc1).1, rfl⟩, ?_⟩
          intro hin
          obtain ⟨c', hc', e⟩ := List.mem_map.mp hin
          unfold Emit.epiImpl at hc'
          rw [if_pos hcond] at hc'
          simp only at hc'
          obtain ⟨hc'1, hc'2⟩ := List.mem_filter.mp hc'
          have hcu : c' = c := cell_unique hs (Emit.aget_some_mem hi) (Emit.aget_some_mem hi)
            (List.mem_filter.mp hc'1).1 (List.mem_filter.mp hc1).1 e
          subst hcu
          simp [hc2] at hc'2
        · simp at hk)

theorem specSnap_acc {fl : Flavour} (hacc : fl.isAcc = true) {im : Impl} {g : Spec.LSig} (hr : SigR im g) :
    Spec.snapOf g true fl = Emit.cids im := by
  unfold Spec.snapOf
  have : g.cells.filter (fun c => (true && fl.isAcc) || (!c.marker && !c.zombie)) = g.cells := by
    rw [List.filter_eq_self]; intro c _; simp [hacc]
  rw [this, hr.ids]

/-- the snapshot of a non-accumulating emission: the live entries = the linked cells -/
theorem specSnap_nonacc {fl : Flavour} (hacc : fl.isAcc = false) {im : Impl} {g : Spec.LSig} (hr : SigR im g)
    (hn : (Emit.cids im).Nodup) :
    Spec.snapOf g true fl = (Emit.cids im).filter (fun k => !(unlinkedIds im).contains k) := by
  have h1 : Spec.snapOf g true fl = (im.cells.filter (fun c => c.linked)).map (·.id) := by
    apply Eq.symm
    apply F2.map_eq (F2.filter hr.cells _ _ (fun c d _ _ hcd => by rw [hcd.live, hacc, Bool.and_false, Bool.false_or, Bool.and_comm]))
    intro c d _ _ hcd; exact hcd.id.symm
  rw [h1]
  unfold Emit.cids
  rw [List.filter_map]
  congr 1
  apply List.filter_congr
  intro c hc
  simp only [Function.comp]
  cases hl : c.linked with
  | true =>
    have : c.id ∉ unlinkedIds im := fun h => by
      have := (mem_unlinkedIds hn hc).mp h; rw [hl] at this; contradiction
    simp [this]
  | false =>
    have : c.id ∈ unlinkedIds im := (mem_unlinkedIds hn hc).mpr hl
    simp [this]

theorem first_head (s : St) (im : Impl) : ∃ tl, Emit.cids im ++ [s.next] = Emit.emitFirst s im :: tl := by
  unfold Emit.emitFirst Emit.cids
  cases im.cells with
  | nil => exact ⟨[], rfl⟩
  | cons c t => exact ⟨t.map (·.id) ++ [s.next], rfl⟩

theorem emit_simE (f : Nat) (hst : StratE f) (hl : LoopE f) : EmitE (f+1) := by
  intro e P s t fl impl arg strat s' o v hs himpl hR h g hg
  obtain ⟨g', rfl, hg'⟩ := fuel_succ hg
  refine SimRun.eq_elim ?_ h
  cases impl with
  | none => rw [Model.emitImpl, Spec.emitSig]; exact .pure hR rfl
  | some i =>
    cases hi : aget s.impls i with
    | none => have := himpl i rfl; rw [hi] at this; contradiction
    | some im =>
      obtain ⟨g0, hg0, hr⟩ := hR.r.sig_of_impl hi
      have hok := hs.ok i im hi
      rw [Emit.emitImpl_succ, hi, Spec.emitSig_some g' P t fl i arg strat g0 hg0 true hR.r.k2, ← F2.isEmpty hr.cells]
      dsimp only
      refine sim_ite (fun _ => .pure hR rfl) (fun _ => ?_)
      obtain ⟨h1, hb1⟩ := Emit.emitStart_inv hs hi
      have hR1 : RE e (Emit.emitStart s i im) (Spec.proState t i g0 true) := ⟨R_start hs hR.r hi hr, hR.err⟩
      obtain ⟨tl, hcur⟩ := first_head s im
      have hB : (Emit.skel im ++ [(s.next, true)]).map (·.1) = Emit.cids im ++ [s.next] := by
        simp [Emit.cids_eq_skel]
      have hrun : ∀ s2 (c : Outcome × Nat),
          (if fl.isAcc = true then
            Model.runStrat f P (Emit.emitStart s i im) i (Emit.emitFirst s im) s.next arg (strat.forFlavour fl)
          else Model.emitLoop f P (Emit.emitStart s i im) i (Emit.emitFirst s im) s.next arg 0) = some (s2, c) →
          Emit.Good0 (Emit.emitStart s i im) s2 ∧ ∃ t2,
            (if fl.isAcc = true then Spec.runStrat g' P (Spec.proState t i g0 true) i (Spec.snapOf g0 true fl) arg (strat.forFlavour fl)
             else Spec.turns g' P (Spec.proState t i g0 true) i (Spec.snapOf g0 true fl) arg 0) = some (t2, c) ∧ RE e s2 t2 := by
        intro s2 c hr2
        cases hacc : fl.isAcc with
        | true =>
          simp only [hacc, if_true] at hr2 ⊢
          refine ⟨(Emit.all_ok f).strat P _ i _ s.next arg (strat.forFlavour fl) (Emit.skel im) tl s2 c.1 c.2 h1 hb1
            (by rw [hB]; exact hcur) hr2, ?_⟩
          rw [specSnap_acc hacc hr]
          exact hst e P _ _ i _ s.next arg (strat.forFlavour fl) (Emit.cids im) _ s2 c.1 c.2 h1 hR1 hb1 hB
            (by rw [hcur]; rfl) hr2 g' hg'
        | false =>
          simp only [hacc, Bool.false_eq_true, if_false] at hr2 ⊢
          refine ⟨(Emit.all_ok f).loop P _ i _ s.next arg 0 (Emit.skel im) s2 c.1 c.2 h1 hb1
            (by rw [hB, hcur]; simp) hr2, ?_⟩
          rw [specSnap_nonacc hacc hr hok.nodup]
          exact hl e P _ _ i _ s.next arg 0 _ (unlinkedIds im) [] (Emit.cids im) tl s2 c.1 c.2 h1 hR1 hb1
            (by rw [hB]; simp) hcur (off_start hs hi) hr2 g' hg'
      refine SimRun.callEq (fun s2 c hx => (hrun s2 c hx).2) (fun _ => .none) fun s2 t2 c hx hR2 => ?_
      -- the epilogue: the impl and its end marker are still there
      have g12 := (hrun s2 c hx).1
      obtain ⟨im2, cm, hi2, hex2, hcm, hcmid, hcmn, _⟩ := Emit.marker_found hs hi g12
      have hmid : s.next ∈ Emit.cids im2 := List.mem_map.mpr ⟨cm, hcm, hcmid⟩
      obtain ⟨g2, hg2, hr2s⟩ := hR2.r.sig_of_impl hi2
      dsimp only
      rw [Emit.emitEpi_found hi2 (Emit.any_of_mem_ids hmid), hg2, hR.r.next]
      have hie := Emit.epilogue_inv g12.inv hi2 (by omega) ⟨cm, hcm, hcmid, hcmn⟩
      exact .pure ⟨R_collect (Emit.Good.gcImpl hie i).inv (R_gc hie (R_epilogue g12.inv hR2.r hi2 hr2s (by omega) hmid) i),
        by rw [SErr.collect_err, SErr.gcSig_err]; exact hR2.err⟩ rfl

end Sigc.Refine
