import Sigc.Lemmas.InvConn
/-!
# `Dead cid`: validity of a cell is monotone

once the id `cid` has been allocated and no cell with this id is valid (`!empty()`), this stays so for
ever: no function of the model turns `call_` from false to true for an existing cell, ids are never
reused, and an erased cell never comes back.
At the end `getCell_of_mem` (look-up of a member cell under `WF`) and, with it, `Dead cid` as `connected() = false`.
-/
namespace Sigc.Inv
open Sigc.Model
open Sigc.Emit (aget_aset aget_adel)

def DeadI (cid : Nat) (impls : List (Nat × Impl)) (next : Nat) : Prop :=
  cid < next ∧ ∀ i im c, aget impls i = some im → c ∈ im.cells → c.id = cid → c.slot.empty = true

def Dead (cid : Nat) (s : St) : Prop := DeadI cid s.impls s.next

theorem SlotLe.empty {a b : SlotB} (h : SlotLe a b) (hb : b.empty = true) : a.empty = true := by
  unfold SlotB.empty at *
  rcases h with e | e | e
  · rw [e]; exact hb
  · rw [e]; exact disconnectRep_empty b
  · rw [e]; exact invalidate_empty b

theorem DeadI.mono {cid : Nat} {impls : List (Nat × Impl)} {n n' : Nat} (h : DeadI cid impls n) (hn : n ≤ n') :
    DeadI cid impls n' := ⟨Nat.lt_of_lt_of_le h.1 hn, h.2⟩

theorem DeadI.aset {cid : Nat} {impls : List (Nat × Impl)} {n n' : Nat} (h : DeadI cid impls n) {i : Nat}
    {im' : Impl} (hn : n ≤ n') (hc : ∀ c ∈ im'.cells, c.id = cid → c.slot.empty = true) :
    DeadI cid (Model.aset impls i im') n' := by
  refine ⟨Nat.lt_of_lt_of_le h.1 hn, ?_⟩
  intro j jm c hj hcm he
  rw [aget_aset] at hj
  split at hj
  · cases hj; exact hc c hcm he
  · exact h.2 j jm c hj hcm he

theorem DeadI.adel {cid : Nat} {impls : List (Nat × Impl)} {n : Nat} (h : DeadI cid impls n) (i : Nat) :
    DeadI cid (Model.adel impls i) n := by
  refine ⟨h.1, ?_⟩
  intro j jm c hj hcm he
  rw [aget_adel] at hj
  split at hj
  · cases hj
  · exact h.2 j jm c hj hcm he

theorem Dead.prims (cid : Nat) : PrimsA (Dead cid) where
  upd s i im g e d _ h hi hg := by
    refine DeadI.aset h (Nat.le_refl _) ?_
    intro c' hc' he
    obtain ⟨c, hc, rfl⟩ := List.mem_map.1 hc'
    exact (hg c).2.empty (h.2 i im c hi hc ((hg c).1 ▸ he))
  filter s i im p d ids _ h hi _ := by
    show DeadI cid (nullConnsList _ _).impls (nullConnsList _ _).next
    simp only [nullConnsList_impls, nullConnsList_next]
    refine DeadI.aset h (Nat.le_refl _) ?_
    intro c hc he
    exact h.2 i im c hi (List.mem_filter.1 hc).1 he
  delImpl s i im _ h _ _ _ := by
    show DeadI cid (nullConnsList _ _).impls (nullConnsList _ _).next
    simp only [nullConnsList_impls, nullConnsList_next]
    exact DeadI.adel h i
  invalS s t _ h := h

theorem Dead.mkFun {cid : Nat} {s s' : St} {fn : Fun} (h : Dead cid s) {τ : Int} (m : MkFun s τ fn s') : Dead cid s' := by
  obtain ⟨h1, h2, _⟩ := m.frame
  unfold Dead; rw [h1]; exact DeadI.mono h h2

theorem Dead.ensureImpl {cid : Nat} {s s1 : St} {g i : Nat} (h : Dead cid s)
    (he : ensureImpl s g = some (s1, i)) : Dead cid s1 := by
  obtain ⟨_, _, ⟨_, rfl⟩ | ⟨_, rfl, rfl⟩⟩ := ensureImpl_cases he
  · exact h
  · exact DeadI.aset h (Nat.le_succ _) (fun c hc => by cases hc)

theorem Dead.grow (cid : Nat) : Grow (fun _ => True) (Dead cid) where
  next _ _ h := DeadI.mono h (Nat.le_succ _)
  holders _ i im _ h hi := DeadI.aset h (Nat.le_refl _) (fun c hc he => h.2 i im c hi hc he)
  add s i im c cs _ _ h hi h0 _ hp := by
    refine DeadI.aset h (Nat.le_succ _) fun c' hc' he => ?_
    rcases List.mem_cons.1 (hp.mem_iff.1 hc') with rfl | hc
    -- the cell that joins has the fresh id, and `cid` is an old one
    · exact absurd (he.symm.trans h0) (Nat.ne_of_lt h.1)
    · exact h.2 i im c' hi hc he

theorem Dead.insertCell {cid : Nat} {s : St} (i : Nat) (first : Bool) (sl : SlotB) (h : Dead cid s) :
    Dead cid (insertCell s i first sl).fst := (Dead.grow cid).insertCell i first trivial h

theorem Dead.forceDelG (cid : Nat) (s : St) (g : Nat) (hI : Dead cid s) : Dead cid (forceDelG s g) :=
  (Dead.prims cid).dropHandle g (fun _ h => h) hI

theorem Dead.move {cid : Nat} {s s' : St} (m : Move s s') (h : Dead cid s) : Dead cid s' := by
  have two : s.next ≤ s.next + 1 + 1 := Nat.le_add_right _ 2
  cases m with
  | lib l => exact (Dead.prims cid).lib l h
  | newT _ => exact DeadI.mono h (Nat.le_succ _)
  | delT _ => exact (Dead.prims cid).invalidateTrackable _ h
  | setS _ => exact h
  | made hm => exact Dead.mkFun h hm
  | mkS hm _ _ => exact (Dead.mkFun h hm :)
  | newG _ _ _ _ => exact DeadI.mono h two
  | ensure he => exact Dead.ensureImpl h he
  | mvG _ _ => exact DeadI.mono h two
  | asgG _ _ => exact (Dead.prims cid).gcOpt _ h
  | masgG _ _ _ => exact (Dead.prims cid).gcOpt _ h
  | drop _ => exact Dead.forceDelG cid _ _ h
  | conn _ _ _ _ => exact Dead.insertCell _ _ _ h
  | connMv _ _ _ _ => exact Dead.insertCell _ _ _ h
  | connfn _ _ hm he => exact Dead.insertCell _ _ _ (Dead.ensureImpl (Dead.mkFun h hm) he)
  | setCK _ => exact h


theorem Dead.stable (cid : Nat) : Stable (Dead cid) :=
  StableRel.ofPrims (Dead.prims cid) (fun _ _ _ _ _ h => h) (fun _ _ _ _ h _ => h) (fun _ _ => trivial) (fun m _ => Dead.move m)
    (fun _ _ h => (Dead.prims cid).collect' (fun _ _ _ _ h => h) (Dead.forceDelG cid) h)
    ((Dead.grow cid).emitPro fun _ => trivial) (Dead.grow cid).dropHolder (fun s g _ h => Dead.forceDelG cid s g h)

theorem getCell_of_mem {s : St} (hw : WF s) {i : Nat} {im : Impl} {c : Cell} (hi : aget s.impls i = some im)
    (hc : c ∈ im.cells) : getCell s c.id = some (i, c) := by
  have hne : getCell s c.id ≠ none := (getCell_ne_none_iff hw.keys c.id).2 ⟨i, im, hi, c, hc, rfl⟩
  cases hg : getCell s c.id with
  | none => exact absurd hg hne
  | some x =>
    obtain ⟨j, d⟩ := x
    obtain ⟨jm, hj, _, hd, hde⟩ := getCell_some hg
    have e : i = j := hw.cellU i j im jm c d hi hj hc hd hde.symm
    subst e
    rw [hi] at hj; cases hj
    rw [eq_of_nodup_map (hw.cellN i im hi) hd hc hde]

theorem dead_iff_not_connected {s : St} (hw : WF s) {cid : Nat} (hlt : cid < s.next) :
    Dead cid s ↔ connConnected s (some cid) = false := by
  constructor
  · intro h
    unfold connConnected
    simp only []
    split
    · rfl
    · rename_i i c hg
      obtain ⟨im, hi, _, hc, he⟩ := getCell_some hg
      simp [h.2 i im c hi hc he]
  · intro h
    refine ⟨hlt, ?_⟩
    intro i im c hi hc he
    have hg := getCell_of_mem hw hi hc
    rw [he] at hg
    unfold connConnected at h
    simp only [hg, Bool.not_eq_false'] at h
    exact h

end Sigc.Inv
