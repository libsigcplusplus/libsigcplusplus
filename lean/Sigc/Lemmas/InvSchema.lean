import Sigc.Model
import Sigc.Run
import Sigc.Lemmas.Basic
import Sigc.Lemmas.StepUnfold
/-!
# Preservation schemas for the mutual block of `Sigc.Model`

The named parts of an emission and of the teardown (`emitPro`, `emitEpi`, `emitImpl_succ`; `forceDelG`; `tdSeq`, `teardown_eq`,
`runTop_induct`); `Ans Q x`,
"every answer of `x` satisfies `Q`"; then the schemas: the primitive facts that a family of state predicates `I k : St → Prop`
needs in order to be kept by every function of the mutual block (`preservedD`, the one mutual induction on fuel).  The
letters: `K` a family indexed by `k`; `D` with the bracket around a user body spelt out; `Core` (and `D`): no `forceDel`, i.e.
the interpreter proper without the harness teardown; `Rel` each fact under an invariant `J` already established (`Stable`,
`StableCore`: trivial `J`); without `K` the schema is unary and lists the steps of the emission epilogue.  `collect` is a
field; `PrimsA.collect` (`Lemmas/InvPrims`) derives it from the three branches of `collectStep`.
-/
namespace Sigc.Inv
open Sigc.Model

/-- prologue of `emitImpl`: fresh marker id, `signal_impl_holder`, `temp_slot_list` -/
def emitPro (s : St) (i : Nat) (im : Impl) : St :=
  setImpl (s.fresh.2) i { im with exec := im.exec + 1, holders := im.holders + 1,
                                   cells := im.cells ++ [{ id := s.next, slot := {}, linked := false }] }

/-- `holders - 1` (`~signal_impl_holder` before the `shared_ptr` release) -/
def dropHolder (s : St) (i : Nat) : St :=
  match aget s.impls i with
  | none => s
  | some im3 => setImpl s i { im3 with holders := im3.holders - 1 }

/-- epilogue of `emitImpl`: `~temp_slot_list`, `~signal_impl_holder` -/
def emitEpi (s : St) (i m : Nat) : St :=
  match aget s.impls i with
  | none => s.fail "emit: impl destroyed during emission"
  | some im2 =>
    collect (gcImpl (dropHolder (unrefExec
      (if im2.cells.any (·.id = m) then eraseCell s i m else s.fail "emit: end marker missing") i) i) i)

theorem emitImpl_succ (f : Nat) (P : Prog) (s : St) (fl : Flavour) (i arg : Nat) (strat : Strat) :
    emitImpl (f+1) P s fl (some i) arg strat =
      match aget s.impls i with
      | none => some (s.fail "emit: dangling impl", .ok, 0)
      | some im =>
        if !fl.isAcc && im.cells.isEmpty then some (s, .ok, 0) else
        let first := match im.cells with
          | [] => s.next
          | c :: _ => c.id
        match (if fl.isAcc then runStrat f P (emitPro s i im) i first s.next arg (strat.forFlavour fl)
               else emitLoop f P (emitPro s i im) i first s.next arg 0) with
        | none => none
        | some (s2, o, v) => some (emitEpi s2 i s.next, o, v) := by
  rw [emitImpl]
  cases h : aget s.impls i with
  | none => rfl
  | some im =>
    simp only []
    split
    · rfl
    · simp only [St.fresh, emitPro]
      generalize (if fl.isAcc = true then _ else _ : Option (St × Outcome × Nat)) = r
      cases r with
      | none => rfl
      | some x =>
        obtain ⟨s2, o, v⟩ := x
        simp only [emitEpi, dropHolder]
        cases h2 : aget s2.impls i <;> rfl


/-- `Model.dropHandle` under the name the schema uses (`dropHandle_eq_forceDelG`): what `teardown` does to a signal
    object, `delG` without the `pinned` refusal -/
def forceDelG (s : St) (g : Nat) : St :=
  match aget s.G g with
  | none => s
  | some h =>
    let s := if h.fl.isTrackable then invalidateTrackable s h.trk else s
    let s := { s with G := adel s.G g }
    match h.impl with
    | some im => gcImpl s im
    | none => s

theorem dropHandle_eq_forceDelG (s : St) (g : Nat) : dropHandle s g = forceDelG s g := rfl

def tdQuiet (f : Nat) (P : Prog) (s : St) (op : Op) : Option St :=
  match execOp f P s op with
  | none => none
  | some (s, _) => some s

/-- a stretch of `teardown` (`teardown_eq`): the operations one after the other, their answers dropped -/
def tdSeq (f : Nat) (P : Prog) (s : Option St) (ops : List Op) : Option St :=
  ops.foldl (fun acc op => acc.bind (fun s => tdQuiet f P s op)) s

theorem teardown_eq (f : Nat) (P : Prog) (s : St) :
    teardown f P s =
      match tdSeq f P (some s) ((sortedKeys s.K).map Op.delK) with
      | none => none
      | some s =>
        match tdSeq f P (some s) ((sortedKeys s.C).map Op.delC ++ (sortedKeys s.S).map Op.delS
                          ++ (sortedKeys s.G).map Op.clear) with
        | none => none
        | some s =>
          let s := (sortedKeys s.G).foldl forceDelG s
          tdSeq f P (some s) ((sortedKeys s.T).map Op.delT) := rfl

theorem tdSeq_none (f : Nat) (P : Prog) (ops : List Op) : tdSeq f P none ops = none := by
  induction ops with
  | nil => rfl
  | cons o os ih => simpa [tdSeq] using ih

theorem tdSeq_cons (f : Nat) (P : Prog) (s : St) (o : Op) (os : List Op) :
    tdSeq f P (some s) (o :: os) = tdSeq f P (tdQuiet f P s o) os := by
  simp [tdSeq]

theorem tdSeq_cons_some {f : Nat} {P : Prog} {s s' : St} {op : Op} {ops : List Op}
    (h : tdSeq f P (some s) (op :: ops) = some s') :
    ∃ s1 r, execOp f P s op = some (s1, r) ∧ tdSeq f P (some s1) ops = some s' := by
  rw [tdSeq_cons] at h
  unfold tdQuiet at h
  split at h
  · rw [tdSeq_none] at h; cases h
  · rename_i s1 r hx
    exact ⟨s1, r, hx, h⟩

theorem tdSeq_induct (f : Nat) (P : Prog) {J : St → Prop} {ops : List Op}
    (step : ∀ op ∈ ops, ∀ b c r, J b → execOp f P b op = some (c, r) → J c) {s s' : St} (hs : J s)
    (h : tdSeq f P (some s) ops = some s') : J s' := by
  induction ops generalizing s with
  | nil => cases h; exact hs
  | cons op ops ih =>
    obtain ⟨s1, r, hx, h⟩ := tdSeq_cons_some h
    exact ih (fun op' hm => step op' (List.mem_cons_of_mem _ hm)) (step op List.mem_cons_self _ _ _ hs hx) h

theorem tdSeq_append (f : Nat) (P : Prog) (s : Option St) (a b : List Op) :
    tdSeq f P s (a ++ b) = tdSeq f P (tdSeq f P s a) b := by
  simp [tdSeq, List.foldl_append]

theorem mem_sortedKeys {α : Type} (l : List (Nat × α)) (x : Nat) : x ∈ sortedKeys l ↔ x ∈ l.map (·.1) := by
  simp only [sortedKeys]; exact List.mem_mergeSort

/-- the operations of the teardown run no user code; where `stepSimple` has no answer, `execOp` answers `badop` -/
theorem execOp_simple_of {f : Nat} {P : Prog} {s : St} {op : Op} {r : St × Except Unit String} (k : Nat)
    (hop : op = .delK k ∨ op = .delC k ∨ op = .delS k ∨ op = .clear k ∨ op = .delT k)
    (h : execOp f P s op = some r) :
    (∃ r0, stepSimple s op = some (r.1, r0)) ∨ (stepSimple s op = none ∧ r.1 = s) := by
  cases f with
  | zero => rw [execOp] at h; cases h
  | succ f =>
    have hm : modeRule P s op = none := by rcases hop with rfl | rfl | rfl | rfl | rfl <;> rfl
    rw [execOp_simple f P s op (fun _ _ e => by simp [e] at hop) (fun _ _ _ _ e => by simp [e] at hop)
      (fun e => by simp [e] at hop)] at h
    simp only [hm] at h
    split at h
    · rename_i heq; cases h; exact Or.inl ⟨_, heq⟩
    · rename_i heq; cases h; exact Or.inr ⟨heq, rfl⟩

/-- `runTop` is `execLine` folded over the lines: what every line keeps holds at the end -/
theorem runTop_induct {f : Nat} {P : Prog} {J : St → Prop}
    (step : ∀ s l s1 o, J s → execLine f P s l = some (s1, o) → J s1) :
    ∀ {ls : List Line} {s s' : St}, J s → runTop f P s ls = some s' → J s' := by
  intro ls
  induction ls with
  | nil => intro s s' hJ h; cases h; exact hJ
  | cons l ls ih =>
    intro s s' hJ h
    rw [runTop] at h
    split at h
    · cases h
    · exact ih (step _ _ _ _ hJ ‹_›) h

/-- the index change that `emit` (`Bal`: impl `i`) and `call` (`Inc`: slot variable `i`) of the indexed schemas allow -/
def bump (h : Nat → Nat) (i : Nat) : Nat → Nat := fun j => if j = i then h j + 1 else h j

/-- prologue of a direct slot invocation `callS i`: one more invocation of the variable in progress -/
def callPro (s : St) (i : Nat) (v : SlotVar) : St :=
  { s with S := aset s.S i { v with incall := v.incall + 1 } }

def callEpi (s : St) (i : Nat) : St :=
  match aget s.S i with
  | some v2 => { s with S := aset s.S i { v2 with incall := v2.incall - 1 } }
  | none => s.fail "callS: slot variable destroyed during its own call"

theorem collectN_preserved {I : St → Prop} (hstep : ∀ s s', I s → collectStep s = some s' → I s') :
    ∀ n s, I s → I (collectN n s) := by
  intro n
  induction n with
  | zero => intro s h; exact h
  | succ n ih =>
    intro s h
    simp only [collectN]
    split
    · rename_i s' hs; exact ih _ (hstep _ _ h hs)
    · exact h

theorem collect_preserved {I : St → Prop} (hstep : ∀ s s', I s → collectStep s = some s' → I s')
    (s : St) (h : I s) : I (collect s) :=
  collectN_preserved hstep _ s h

/-- the primitive preservation facts for a family of predicates `I k`, as far as the interpreter proper
    (everything but the harness teardown) is concerned; the emission prologue may change the index (`k'`),
    the epilogue must bring it back -/
structure StableKCore {κ : Type} (I : κ → St → Prop) : Prop where
  log : ∀ k s e, I k s → I k (s.log e)
  fail : ∀ k s m, I k s → I k (s.fail m)
  depth : ∀ k (s : St) d, I k s → I k { s with depth := d }
  steps : ∀ k (s : St) n, I k s → I k { s with steps := n }
  call : ∀ k (s : St) i (v : SlotVar), I k s → aget s.S i = some v →
    ∃ k', I k' (callPro s i v) ∧ ∀ s2, I k' s2 → I k (callEpi s2 i)
  simple : ∀ k s op s' r, I k s → stepSimple s op = some (s', r) → I k s'
  collect : ∀ k s, I k s → I k (collect s)
  emit : ∀ k s i im, I k s → aget s.impls i = some im →
    ∃ k', I k' (emitPro s i im) ∧ ∀ s2, I k' s2 → I k (emitEpi s2 i s.next)

/-- `StableKCore` and `forceDel`, the harness teardown's unconditional destruction of signal objects (`teardown_preserved`).
    An invariant that the teardown deliberately breaks ("every functor-owned signal object is still named") stops at `Core`. -/
structure StableK {κ : Type} (I : κ → St → Prop) : Prop where
  log : ∀ k s e, I k s → I k (s.log e)
  fail : ∀ k s m, I k s → I k (s.fail m)
  depth : ∀ k (s : St) d, I k s → I k { s with depth := d }
  steps : ∀ k (s : St) n, I k s → I k { s with steps := n }
  call : ∀ k (s : St) i (v : SlotVar), I k s → aget s.S i = some v →
    ∃ k', I k' (callPro s i v) ∧ ∀ s2, I k' s2 → I k (callEpi s2 i)
  simple : ∀ k s op s' r, I k s → stepSimple s op = some (s', r) → I k s'
  collect : ∀ k s, I k s → I k (collect s)
  emit : ∀ k s i im, I k s → aget s.impls i = some im →
    ∃ k', I k' (emitPro s i im) ∧ ∀ s2, I k' s2 → I k (emitEpi s2 i s.next)
  forceDel : ∀ k s g, I k s → I k (forceDelG s g)

theorem StableK.core {κ : Type} {I : κ → St → Prop} (h : StableK I) : StableKCore I :=
  ⟨h.log, h.fail, h.depth, h.steps, h.call, h.simple, h.collect, h.emit⟩

/-- events are logged at the current depth only, and the depth changes only around a user body (call logged, body one
    level deeper, level lowered again), where the index may change as it may for `call` and `emit`: so a relation to the
    start state that speaks of log or depth is an instance -/
structure StableKD {κ : Type} (I : κ → St → Prop) : Prop where
  logCall : ∀ k (s : St) fid arg, I k s → I k (s.log (.call s.depth fid arg))
  logRes : ∀ k (s : St) text r, I k s → I k (s.log (.res s.depth text r))
  fail : ∀ k s m, I k s → I k (s.fail m)
  body : ∀ k (s : St), I k s →
    ∃ k', I k' { s with depth := s.depth + 1 } ∧ ∀ s2, I k' s2 → I k { s2 with depth := s2.depth - 1 }
  steps : ∀ k (s : St) n, I k s → I k { s with steps := n }
  call : ∀ k (s : St) i (v : SlotVar), I k s → aget s.S i = some v →
    ∃ k', I k' (callPro s i v) ∧ ∀ s2, I k' s2 → I k (callEpi s2 i)
  simple : ∀ k s op s' r, I k s → stepSimple s op = some (s', r) → I k s'
  collect : ∀ k s, I k s → I k (collect s)
  emit : ∀ k s i im, I k s → aget s.impls i = some im →
    ∃ k', I k' (emitPro s i im) ∧ ∀ s2, I k' s2 → I k (emitEpi s2 i s.next)

theorem StableKCore.toD {κ : Type} {I : κ → St → Prop} (h : StableKCore I) : StableKD I :=
  ⟨fun k s _ _ => h.log k s _, fun k s _ _ => h.log k s _, h.fail,
   fun k s hI => ⟨k, h.depth k s _ hI, fun s2 => h.depth k s2 _⟩, h.steps, h.call, h.simple, h.collect, h.emit⟩

section
variable {κ : Type} {I : κ → St → Prop}

/-- the statement of the induction `preservedD`: each function of the block, at fuel `f`, keeps `I k` whenever it returns.
    Order of the conjuncts: `invokeFun`, `runBody`, `execLine`, `emitImpl`, `emitLoop`, `deref`, `accLoop`, `revLoop`,
    `walkLoop`, `runStrat`, `execOp`. -/
def PresAll (I : κ → St → Prop) (f : Nat) : Prop :=
  (∀ k P s fn arg r, I k s → invokeFun f P s fn arg = some r → I k r.1) ∧
  (∀ k P s b r, I k s → runBody f P s b = some r → I k r.1) ∧
  (∀ k P s l r, I k s → execLine f P s l = some r → I k r.1) ∧
  (∀ k P s fl impl arg strat r, I k s → emitImpl f P s fl impl arg strat = some r → I k r.1) ∧
  (∀ k P s i cur m arg v r, I k s → emitLoop f P s i cur m arg v = some r → I k r.1) ∧
  (∀ k P s i it arg r, I k s → deref f P s i it arg = some r → I k r.1) ∧
  (∀ k P s i it m arg mode kk v r, I k s → accLoop f P s i it m arg mode kk v = some r → I k r.1) ∧
  (∀ k P s i it first arg v r, I k s → revLoop f P s i it first arg v = some r → I k r.1) ∧
  (∀ k P s i it first m arg cs v r, I k s → walkLoop f P s i it first m arg cs v = some r → I k r.1) ∧
  (∀ k P s i first m arg strat r, I k s → runStrat f P s i first m arg strat = some r → I k r.1) ∧
  (∀ k P s op r, I k s → execOp f P s op = some r → I k r.1)

/-- every answer of `x` satisfies `Q` -/
def Ans {α : Type} (Q : α → Prop) (x : Option α) : Prop := ∀ r, x = some r → Q r

theorem Ans.ret {α : Type} {Q : α → Prop} {a : α} (h : Q a) : Ans Q (some a) :=
  fun _ e => by cases e; exact h

theorem Ans.cond {α : Type} {Q : α → Prop} {c : Prop} [Decidable c] {a b : Option α} (ha : Ans Q a)
    (hb : Ans Q b) : Ans Q (if c then a else b) := by
  split <;> assumption

/-- a move of an iterator in the current list: `q` looks the new position up, `K` goes on from there -/
theorem Ans.move {Q : St × Outcome × Nat → Prop} {s : St} {i r : Nat} {m1 m2 : String} {q : Impl → Option Nat}
    {K : Nat → Option (St × Outcome × Nat)} (hf : ∀ m, Q (s.fail m, .ok, r)) (hK : ∀ p, Ans Q (K p)) :
    Ans Q (match aget s.impls i with
           | none => some (s.fail m1, .ok, r)
           | some im =>
             match q im with
             | none => some (s.fail m2, .ok, r)
             | some p => K p) := by
  split
  · exact .ret (hf _)
  · split
    · exact .ret (hf _)
    · exact hK _

abbrev AnsS {α : Type} (Q : St → Prop) (x : Option (St × α)) : Prop := Ans (fun r => Q r.1) x

/-- one `deref` turn of an accumulator loop: the dereference, then — unless the slot threw — the rest `K` -/
theorem Ans.derefTurn {Q : St → Prop} {x : Option (St × Outcome × IterBuf)} {r : Nat}
    {K : St → IterBuf → Option (St × Outcome × Nat)} (hx : AnsS Q x) (hK : ∀ s1 it1, Q s1 → AnsS Q (K s1 it1)) :
    AnsS Q (match x with
            | none => none
            | some (s1, .exc, _) => some (s1, .exc, r)
            | some (s1, .ok, it1) => K s1 it1) := by
  intro res h
  split at h
  · cases h
  · cases h; exact hx _ rfl
  · exact hK _ _ (hx _ rfl) _ h

theorem invokeFun_step (hS : StableKD I) {f : Nat} (ih : PresAll I f) :
    ∀ k P s fn arg r, I k s → invokeFun (f+1) P s fn arg = some r → I k r.1 := by
  obtain ⟨ihInvoke, ihBody, -, ihEmit, -⟩ := ih
  intro k P s fn arg r hI
  refine (?_ : AnsS (I k) _) r
  -- a user functor: the call is logged, the body runs one level deeper
  have user : ∀ fid, AnsS (I k) (match aget P.bodies fid with
      | none => some (s.log (.call s.depth fid arg), Outcome.ok, resultOf fid arg)
      | some body =>
        match runBody f P { s.log (.call s.depth fid arg) with depth := s.depth + 1 } body with
        | none => none
        | some (s2, o) => some ({ s2 with depth := s2.depth - 1 }, o, resultOf fid arg)) := by
    intro fid
    have hl := hS.logCall k s fid arg hI
    split
    · exact .ret hl
    · obtain ⟨k', hpro, hepi⟩ := hS.body _ _ hl
      intro r h
      split at h
      · cases h
      · cases h; exact hepi _ (ihBody _ _ _ _ _ hpro ‹_›)
  cases fn with
  | leaf fid ts => rw [invokeFun]; exact user fid
  | owner fid ts ks => rw [invokeFun]; exact user fid
  | nest b inner =>
    cases inner with
    | none => rw [invokeFun]; exact .ret hI
    | some g => rw [invokeFun]; exact .cond (.ret hI) fun _ h => ihInvoke _ _ _ _ _ _ hI h
  | fwd o ts =>
    rw [invokeFun]
    split
    · exact .ret (hS.fail _ _ _ hI)
    · exact fun _ h => ihEmit _ _ _ _ _ _ _ _ hI h

theorem runBody_step (_hS : StableKD I) {f : Nat} (ih : PresAll I f) :
    ∀ k P s b r, I k s → runBody (f+1) P s b = some r → I k r.1 := by
  obtain ⟨-, ihBody, ihLine, -⟩ := ih
  intro k P s b r hI h
  cases b with
  | nil => rw [runBody] at h; cases h; exact hI
  | cons l ls =>
    rw [runBody] at h
    split at h
    · cases h
    · rename_i heq; cases h; exact ihLine _ _ _ _ _ hI heq
    · rename_i heq; exact ihBody _ _ _ _ _ (ihLine _ _ _ _ _ hI heq) h

theorem execLine_step (hS : StableKD I) {f : Nat} (ih : PresAll I f) :
    ∀ k P s l r, I k s → execLine (f+1) P s l = some r → I k r.1 := by
  obtain ⟨-, -, -, -, -, -, -, -, -, -, ihOp⟩ := ih
  intro k P s l r hI h
  rw [execLine] at h
  split at h
  · cases h
  · rename_i heq; cases h; exact hS.collect _ _ (hS.logRes _ _ _ _ (ihOp _ _ _ _ _ (hS.steps _ _ _ hI) heq))
  · rename_i heq; cases h; exact hS.collect _ _ (hS.logRes _ _ _ _ (ihOp _ _ _ _ _ (hS.steps _ _ _ hI) heq))

theorem emitImpl_step (hS : StableKD I) {f : Nat} (ih : PresAll I f) :
    ∀ k P s fl impl arg strat r, I k s → emitImpl (f+1) P s fl impl arg strat = some r → I k r.1 := by
  obtain ⟨-, -, -, -, ihLoop, -, -, -, -, ihStrat, -⟩ := ih
  intro k P s fl impl arg strat r hI
  refine (?_ : AnsS (I k) _) r
  cases impl with
  | none => rw [emitImpl]; exact .ret hI
  | some i =>
    rw [emitImpl_succ]
    split
    · exact .ret (hS.fail _ _ _ hI)
    · rename_i im him
      refine .cond (.ret hI) fun r h => ?_
      obtain ⟨k', hpro, hepi⟩ := hS.emit k s i im hI him
      simp only [] at h
      split at h
      · cases h
      · rename_i heq
        cases h
        exact hepi _ (Ans.cond (fun _ h => ihStrat _ _ _ _ _ _ _ _ _ hpro h) (fun _ h => ihLoop _ _ _ _ _ _ _ _ _ hpro h)
          _ heq)

theorem emitLoop_step (hS : StableKD I) {f : Nat} (ih : PresAll I f) :
    ∀ k P s i cur m arg v r, I k s → emitLoop (f+1) P s i cur m arg v = some r → I k r.1 := by
  obtain ⟨ihInvoke, -, -, -, ihLoop, -⟩ := ih
  intro k P s i cur m arg v r hI
  refine (?_ : AnsS (I k) _) r
  rw [StepIter.emitLoop_unfold]
  refine .cond (.ret hI) ?_
  split
  · exact .ret (hS.fail _ _ _ hI)
  split
  · exact .ret (hS.fail _ _ _ hI)
  have e : AnsS (I k) (StepIter.emitStep f P s i cur arg v) := by
    unfold StepIter.emitStep
    split
    · exact .ret hI
    · exact fun _ h => ihInvoke _ _ _ _ _ _ hI h
  intro res h
  split at h
  · cases h
  · cases h; exact e _ ‹_›
  · have h1 := e _ ‹_›
    exact Ans.move (fun _ => hS.fail _ _ _ h1) (fun _ _ h => ihLoop _ _ _ _ _ _ _ _ _ h1 h) _ h

theorem deref_step (hS : StableKD I) {f : Nat} (ih : PresAll I f) :
    ∀ k P s i it arg r, I k s → deref (f+1) P s i it arg = some r → I k r.1 := by
  obtain ⟨ihInvoke, -⟩ := ih
  intro k P s i it arg r hI h
  rw [deref] at h
  split at h
  · cases h; exact hS.fail _ _ _ hI
  split at h
  · cases h; exact hS.fail _ _ _ hI
  split at h
  · split at h
    · cases h; exact hI
    split at h
    · cases h
    · rename_i heq; cases h; exact ihInvoke _ _ _ _ _ _ hI heq
    · rename_i heq; cases h; exact ihInvoke _ _ _ _ _ _ hI heq
  · cases h; exact hI

theorem accLoop_step (hS : StableKD I) {f : Nat} (ih : PresAll I f) :
    ∀ k P s i it m arg mode kk v r, I k s → accLoop (f+1) P s i it m arg mode kk v = some r → I k r.1 := by
  obtain ⟨-, -, -, -, -, ihDeref, ihAcc, -⟩ := ih
  intro k P s i it m arg mode kk v r hI
  have adv : ∀ s it r, I k s → AnsS (I k) (StepIter.accAdvance f P i m arg mode kk s it r) := fun s it r hI =>
    .move (fun _ => hS.fail _ _ _ hI) fun _ _ h => ihAcc _ _ _ _ _ _ _ _ _ _ _ hI h
  have der : ∀ s it, I k s → AnsS (I k) (deref f P s i it arg) := fun s it hI _ h => ihDeref _ _ _ _ _ _ _ hI h
  refine (?_ : AnsS (I k) _) r
  rw [StepIter.accLoop_unfold]
  exact .cond (.ret hI) (.cond (adv _ _ _ hI) (.derefTurn (der _ _ hI) fun s1 it1 h1 =>
    .cond (.ret h1) (.cond (.derefTurn (der _ _ h1) fun _ _ h2 => adv _ _ _ h2) (adv _ _ _ h1))))

theorem revLoop_step (hS : StableKD I) {f : Nat} (ih : PresAll I f) :
    ∀ k P s i it first arg v r, I k s → revLoop (f+1) P s i it first arg v = some r → I k r.1 := by
  obtain ⟨-, -, -, -, -, ihDeref, -, ihRev, -⟩ := ih
  intro k P s i it first arg v r hI
  refine (?_ : AnsS (I k) _) r
  rw [revLoop]
  exact .cond (.ret hI) (.move (fun _ => hS.fail _ _ _ hI) fun _ =>
    .derefTurn (fun _ h => ihDeref _ _ _ _ _ _ _ hI h) fun _ _ h1 _ h => ihRev _ _ _ _ _ _ _ _ _ h1 h)

theorem walkLoop_step (hS : StableKD I) {f : Nat} (ih : PresAll I f) :
    ∀ k P s i it first m arg cs v r, I k s → walkLoop (f+1) P s i it first m arg cs v = some r → I k r.1 := by
  obtain ⟨-, -, -, -, -, ihDeref, -, -, ihWalk, -⟩ := ih
  intro k P s i it first m arg cs v r hI
  have rest : ∀ {s1 it1 cs r1}, I k s1 → AnsS (I k) (walkLoop f P s1 i it1 first m arg cs r1) :=
    fun h1 _ h => ihWalk _ _ _ _ _ _ _ _ _ _ _ h1 h
  have der : AnsS (I k) (deref f P s i it arg) := fun _ h => ihDeref _ _ _ _ _ _ _ hI h
  have fail : ∀ m, I k (s.fail m) := fun _ => hS.fail _ _ _ hI
  refine (?_ : AnsS (I k) _) r
  cases cs with
  | nil => rw [StepIter.walkLoop_nil]; exact .ret hI
  | cons c cs =>
    rw [walkLoop]
    -- `d`, `c`: a dereference; `i`, `x`: a move in the current list (refused at either end); any other letter is skipped
    exact .cond (.cond (rest hI) (.derefTurn der fun _ _ h1 => rest h1))
      (.cond (.cond (rest hI) (.derefTurn der fun _ _ h1 => rest h1))
        (.cond (.cond (rest hI) (.move fail fun _ => rest hI))
          (.cond (.cond (rest hI) (.move fail fun _ => rest hI)) (rest hI))))

theorem runStrat_step (_hS : StableKD I) {f : Nat} (ih : PresAll I f) :
    ∀ k P s i first m arg strat r, I k s → runStrat (f+1) P s i first m arg strat = some r → I k r.1 := by
  obtain ⟨-, -, -, -, -, -, ihAcc, ihRev, ihWalk, -⟩ := ih
  intro k P s i first m arg strat r hI h
  cases strat <;> rw [runStrat] at h
  · exact ihAcc _ _ _ _ _ _ _ _ _ _ _ hI h
  · exact ihAcc _ _ _ _ _ _ _ _ _ _ _ hI h
  · exact ihAcc _ _ _ _ _ _ _ _ _ _ _ hI h
  · exact ihRev _ _ _ _ _ _ _ _ _ hI h
  · exact ihAcc _ _ _ _ _ _ _ _ _ _ _ hI h
  · exact ihAcc _ _ _ _ _ _ _ _ _ _ _ hI h
  · exact ihWalk _ _ _ _ _ _ _ _ _ _ _ hI h

theorem execOp_step (hS : StableKD I) {f : Nat} (ih : PresAll I f) :
    ∀ k P s op r, I k s → execOp (f+1) P s op = some r → I k r.1 := by
  obtain ⟨ihInvoke, -, -, ihEmit, -⟩ := ih
  intro k P s op r hI
  refine (?_ : AnsS (I k) _) r
  have same : ∀ {x : Except Unit String}, AnsS (I k) (some (s, x)) := .ret hI
  rw [execOp.eq_def]
  simp only []
  split
  · -- `callS`: a refusal returns the state it got; otherwise `incall` is raised, the functor runs, `incall` is lowered
    rename_i i _
    split
    · exact same
    rename_i v hv
    refine .cond same (.cond same ?_)
    split
    · refine .cond same fun res h => ?_
      obtain ⟨k', hpro, hepi⟩ := hS.call k s i v hI hv
      split at h
      · cases h
      · rename_i heq
        have h2 := hepi _ (ihInvoke _ _ _ _ _ _ hpro heq)
        split at h <;> (cases h; exact h2)
    · exact same
  · -- `emit`
    split
    · exact same
    refine .cond same (.cond same fun res h => ?_)
    split at h
    · cases h
    · split at h <;> (cases h; exact ihEmit _ _ _ _ _ _ _ _ hI ‹_›)
    · cases h; exact ihEmit _ _ _ _ _ _ _ _ hI ‹_›
  · exact same
  · split
    · exact same
    split
    · exact .ret (hS.simple _ _ _ _ _ hI ‹_›)
    · exact same

theorem presAll_zero : PresAll I 0 := by
  refine ⟨?_, ?_, ?_, ?_, ?_, ?_, ?_, ?_, ?_, ?_, ?_⟩
  · intro k P s fn arg r _ h; rw [invokeFun] at h; cases h
  · intro k P s b r _ h; rw [runBody] at h; cases h
  · intro k P s l r _ h; rw [execLine] at h; cases h
  · intro k P s fl impl arg strat r _ h; rw [emitImpl] at h; cases h
  · intro k P s i cur m arg v r _ h; rw [emitLoop] at h; cases h
  · intro k P s i it arg r _ h; rw [deref] at h; cases h
  · intro k P s i it m arg mode kk v r _ h; rw [accLoop] at h; cases h
  · intro k P s i it first arg v r _ h; rw [revLoop] at h; cases h
  · intro k P s i it first m arg cs v r _ h; rw [walkLoop] at h; cases h
  · intro k P s i first m arg strat r _ h; rw [runStrat] at h; cases h
  · intro k P s op r _ h; rw [execOp] at h; cases h

theorem preservedD (hS : StableKD I) : ∀ f, PresAll I f := by
  intro f
  induction f with
  | zero => exact presAll_zero
  | succ f ih =>
    exact ⟨invokeFun_step hS ih, runBody_step hS ih, execLine_step hS ih, emitImpl_step hS ih,
      emitLoop_step hS ih, deref_step hS ih, accLoop_step hS ih, revLoop_step hS ih,
      walkLoop_step hS ih, runStrat_step hS ih, execOp_step hS ih⟩

theorem preservedCore (hS : StableKCore I) : ∀ f, PresAll I f := preservedD hS.toD

theorem preserved (hS : StableK I) : ∀ f, PresAll I f := preservedCore hS.core

theorem execLine_preservedCore (hS : StableKCore I) {f k P s l r} (hI : I k s) (h : execLine f P s l = some r) :
    I k r.1 := (preservedCore hS f).2.2.1 _ _ _ _ _ hI h

theorem execOp_preservedCore (hS : StableKCore I) {f k P s op r} (hI : I k s) (h : execOp f P s op = some r) :
    I k r.1 := (preservedCore hS f).2.2.2.2.2.2.2.2.2.2 _ _ _ _ _ hI h

theorem emitImpl_preservedCore (hS : StableKCore I) {f k P s fl impl arg strat r} (hI : I k s)
    (h : emitImpl f P s fl impl arg strat = some r) : I k r.1 :=
  (preservedCore hS f).2.2.2.1 _ _ _ _ _ _ _ _ hI h

theorem invokeFun_preservedCore (hS : StableKCore I) {f k P s fn arg r} (hI : I k s)
    (h : invokeFun f P s fn arg = some r) : I k r.1 :=
  (preservedCore hS f).1 _ _ _ _ _ _ hI h

theorem execOp_preserved (hS : StableK I) {f k P s op r} (hI : I k s) (h : execOp f P s op = some r) :
    I k r.1 := execOp_preservedCore hS.core hI h

theorem emitImpl_preserved (hS : StableK I) {f k P s fl impl arg strat r} (hI : I k s)
    (h : emitImpl f P s fl impl arg strat = some r) : I k r.1 :=
  emitImpl_preservedCore hS.core hI h

theorem runTop_preservedCore (hS : StableKCore I) (f : Nat) (k : κ) (P : Prog) :
    ∀ (ls : List Line) (s s' : St), I k s → runTop f P s ls = some s' → I k s' :=
  fun _ _ _ hI h => runTop_induct (J := I k) (fun _ _ _ _ hI heq => execLine_preservedCore hS hI heq) hI h

theorem runTop_preserved (hS : StableK I) (f : Nat) (k : κ) (P : Prog) :
    ∀ (ls : List Line) (s s' : St), I k s → runTop f P s ls = some s' → I k s' :=
  runTop_preservedCore hS.core f k P

theorem tdSeq_preserved (hS : StableK I) (f : Nat) (k : κ) (P : Prog) (ops : List Op) (s s' : St) (hI : I k s)
    (h : tdSeq f P (some s) ops = some s') : I k s' :=
  tdSeq_induct f P (J := I k) (fun _ _ _ _ _ hb hx => execOp_preserved hS hb hx) hI h

theorem foldl_forceDelG_preserved (hS : StableK I) (k : κ) :
    ∀ (gs : List Nat) (s : St), I k s → I k (gs.foldl forceDelG s) := by
  intro gs
  induction gs with
  | nil => intro s h; exact h
  | cons g gs ih => intro s h; exact ih _ (hS.forceDel _ _ _ h)

theorem teardown_preserved (hS : StableK I) (f : Nat) (k : κ) (P : Prog) (s s' : St)
    (hI : I k s) (h : teardown f P s = some s') : I k s' := by
  rw [teardown_eq] at h
  split at h
  · cases h
  · rename_i s1 h1
    have i1 := tdSeq_preserved hS f k P _ _ _ hI h1
    split at h
    · cases h
    · rename_i s2 h2
      have i2 := tdSeq_preserved hS f k P _ _ _ i1 h2
      exact tdSeq_preserved hS f k P _ _ _ (foldl_forceDelG_preserved hS k _ _ i2) h

end

/-- the unary case for the interpreter proper: one predicate `I`, each fact under `J`, the emission as its steps (`pro`, then
    `erase`, `unref`, `drop`, `gc` of the epilogue) and the direct call as `incall` -/
structure StableRelCore (J I : St → Prop) : Prop where
  log : ∀ s e, J s → I s → I (s.log e)
  fail : ∀ s m, J s → I s → I (s.fail m)
  depth : ∀ (s : St) d, J s → I s → I { s with depth := d }
  steps : ∀ (s : St) n, J s → I s → I { s with steps := n }
  incall : ∀ (s : St) i (v : SlotVar) n, J s → I s → aget s.S i = some v →
    I { s with S := aset s.S i { v with incall := n } }
  simple : ∀ s op s' r, J s → I s → stepSimple s op = some (s', r) → I s'
  collect : ∀ s, J s → I s → I (collect s)
  pro : ∀ s i im, J s → I s → aget s.impls i = some im → I (emitPro s i im)
  erase : ∀ s i m, J s → I s → I (eraseCell s i m)
  unref : ∀ s i, J s → I s → I (unrefExec s i)
  drop : ∀ s i, J s → I s → I (dropHolder s i)
  gc : ∀ s i, J s → I s → I (gcImpl s i)

abbrev StableCore (I : St → Prop) : Prop := StableRelCore (fun _ => True) I

theorem StableCore.weaken {J I : St → Prop} (h : StableCore I) : StableRelCore J I where
  log s e _ hI := h.log s e trivial hI
  fail s m _ hI := h.fail s m trivial hI
  depth s d _ hI := h.depth s d trivial hI
  steps s n _ hI := h.steps s n trivial hI
  incall s i v n _ hI hv := h.incall s i v n trivial hI hv
  simple s op s' r _ hI hs := h.simple s op s' r trivial hI hs
  collect s _ hI := h.collect s trivial hI
  pro s i im _ hI hi := h.pro s i im trivial hI hi
  erase s i m _ hI := h.erase s i m trivial hI
  unref s i _ hI := h.unref s i trivial hI
  drop s i _ hI := h.drop s i trivial hI
  gc s i _ hI := h.gc s i trivial hI

theorem StableRelCore.and {J I : St → Prop} (hJ : StableCore J) (hI : StableRelCore J I) :
    StableCore (fun s => J s ∧ I s) where
  log s e _ h := ⟨hJ.log s e trivial h.1, hI.log s e h.1 h.2⟩
  fail s m _ h := ⟨hJ.fail s m trivial h.1, hI.fail s m h.1 h.2⟩
  depth s d _ h := ⟨hJ.depth s d trivial h.1, hI.depth s d h.1 h.2⟩
  steps s n _ h := ⟨hJ.steps s n trivial h.1, hI.steps s n h.1 h.2⟩
  incall s i v n _ h hv := ⟨hJ.incall s i v n trivial h.1 hv, hI.incall s i v n h.1 h.2 hv⟩
  simple s op s' r _ h hs := ⟨hJ.simple s op s' r trivial h.1 hs, hI.simple s op s' r h.1 h.2 hs⟩
  collect s _ h := ⟨hJ.collect s trivial h.1, hI.collect s h.1 h.2⟩
  pro s i im _ h hi := ⟨hJ.pro s i im trivial h.1 hi, hI.pro s i im h.1 h.2 hi⟩
  erase s i m _ h := ⟨hJ.erase s i m trivial h.1, hI.erase s i m h.1 h.2⟩
  unref s i _ h := ⟨hJ.unref s i trivial h.1, hI.unref s i h.1 h.2⟩
  drop s i _ h := ⟨hJ.drop s i trivial h.1, hI.drop s i h.1 h.2⟩
  gc s i _ h := ⟨hJ.gc s i trivial h.1, hI.gc s i h.1 h.2⟩

theorem StableCore.emitEpi {I : St → Prop} (h : StableCore I) (s : St) (i m : Nat) (hI : I s) :
    I (emitEpi s i m) := by
  unfold Inv.emitEpi
  split
  · exact h.fail _ _ trivial hI
  · apply h.collect _ trivial
    apply h.gc _ _ trivial
    apply h.drop _ _ trivial
    apply h.unref _ _ trivial
    split
    · exact h.erase _ _ _ trivial hI
    · exact h.fail _ _ trivial hI

theorem StableCore.toK {I : St → Prop} (h : StableCore I) : StableKCore (fun (_ : Unit) => I) where
  log _ s e hI := h.log s e trivial hI
  fail _ s m hI := h.fail s m trivial hI
  depth _ s d hI := h.depth s d trivial hI
  steps _ s n hI := h.steps s n trivial hI
  call _ s i v hI hv := ⟨(), h.incall s i v _ trivial hI hv, fun s2 h2 => by
    unfold callEpi
    split
    · rename_i hv2; exact h.incall s2 i _ _ trivial h2 hv2
    · exact h.fail _ _ trivial h2⟩
  simple _ s op s' r hI hs := h.simple s op s' r trivial hI hs
  collect _ s hI := h.collect s trivial hI
  emit _ s i im hI hi := ⟨(), h.pro s i im trivial hI hi, fun s2 h2 => h.emitEpi s2 i s.next h2⟩

theorem StableCore.runTop {I : St → Prop} (h : StableCore I) (h0 : I {}) (f : Nat) (P : Prog) (s : St)
    (hr : runTop f P {} P.top = some s) : I s :=
  runTop_preservedCore h.toK f () P _ _ _ h0 hr

theorem StableCore.runTop_from {I : St → Prop} (h : StableCore I) (f : Nat) (P : Prog) (ls : List Line)
    (s s' : St) (hs : I s) (hr : Model.runTop f P s ls = some s') : I s' :=
  runTop_preservedCore h.toK f () P _ _ _ hs hr

theorem StableCore.execOp {I : St → Prop} (h : StableCore I) {f P s op r}
    (hs : I s) (hr : Model.execOp f P s op = some r) : I r.1 :=
  execOp_preservedCore h.toK (k := ()) hs hr

theorem StableCore.execLine {I : St → Prop} (h : StableCore I) {f P s l r}
    (hs : I s) (hr : Model.execLine f P s l = some r) : I r.1 :=
  execLine_preservedCore h.toK (k := ()) hs hr

theorem StableCore.emitImpl {I : St → Prop} (h : StableCore I) {f P s fl impl arg strat r}
    (hs : I s) (hr : Model.emitImpl f P s fl impl arg strat = some r) : I r.1 :=
  emitImpl_preservedCore h.toK (k := ()) hs hr

theorem StableCore.invokeFun {I : St → Prop} (h : StableCore I) {f P s fn arg r}
    (hs : I s) (hr : Model.invokeFun f P s fn arg = some r) : I r.1 :=
  invokeFun_preservedCore h.toK (k := ()) hs hr

/-- `StableRelCore` and `forceDel` -/
structure StableRel (J I : St → Prop) : Prop where
  log : ∀ s e, J s → I s → I (s.log e)
  fail : ∀ s m, J s → I s → I (s.fail m)
  depth : ∀ (s : St) d, J s → I s → I { s with depth := d }
  steps : ∀ (s : St) n, J s → I s → I { s with steps := n }
  incall : ∀ (s : St) i (v : SlotVar) n, J s → I s → aget s.S i = some v →
    I { s with S := aset s.S i { v with incall := n } }
  simple : ∀ s op s' r, J s → I s → stepSimple s op = some (s', r) → I s'
  collect : ∀ s, J s → I s → I (collect s)
  pro : ∀ s i im, J s → I s → aget s.impls i = some im → I (emitPro s i im)
  erase : ∀ s i m, J s → I s → I (eraseCell s i m)
  unref : ∀ s i, J s → I s → I (unrefExec s i)
  drop : ∀ s i, J s → I s → I (dropHolder s i)
  gc : ∀ s i, J s → I s → I (gcImpl s i)
  forceDel : ∀ s g, J s → I s → I (forceDelG s g)

abbrev Stable (I : St → Prop) : Prop := StableRel (fun _ => True) I

theorem StableRel.core {J I : St → Prop} (h : StableRel J I) : StableRelCore J I :=
  ⟨h.log, h.fail, h.depth, h.steps, h.incall, h.simple, h.collect, h.pro, h.erase, h.unref, h.drop, h.gc⟩

theorem Stable.weaken {J I : St → Prop} (h : Stable I) : StableRel J I :=
  let c : StableRelCore J I := StableCore.weaken h.core
  ⟨c.log, c.fail, c.depth, c.steps, c.incall, c.simple, c.collect, c.pro, c.erase, c.unref, c.drop, c.gc,
    fun s g _ hI => h.forceDel s g trivial hI⟩

theorem StableRel.and {J I : St → Prop} (hJ : Stable J) (hI : StableRel J I) :
    Stable (fun s => J s ∧ I s) :=
  let c := StableRelCore.and hJ.core hI.core
  ⟨c.log, c.fail, c.depth, c.steps, c.incall, c.simple, c.collect, c.pro, c.erase, c.unref, c.drop, c.gc,
    fun s g _ h => ⟨hJ.forceDel s g trivial h.1, hI.forceDel s g h.1 h.2⟩⟩

theorem Stable.emitEpi {I : St → Prop} (h : Stable I) (s : St) (i m : Nat) (hI : I s) : I (emitEpi s i m) :=
  StableCore.emitEpi h.core s i m hI

theorem Stable.toK {I : St → Prop} (h : Stable I) : StableK (fun (_ : Unit) => I) :=
  let c := StableCore.toK h.core
  ⟨c.log, c.fail, c.depth, c.steps, c.call, c.simple, c.collect, c.emit, fun _ s g hI => h.forceDel s g trivial hI⟩

/-- the indexed schema relative to an established unary invariant `J` -/
structure StableKRel {κ : Type} (J : St → Prop) (I : κ → St → Prop) : Prop where
  log : ∀ k s e, J s → I k s → I k (s.log e)
  fail : ∀ k s m, J s → I k s → I k (s.fail m)
  depth : ∀ k (s : St) d, J s → I k s → I k { s with depth := d }
  steps : ∀ k (s : St) n, J s → I k s → I k { s with steps := n }
  call : ∀ k (s : St) i (v : SlotVar), J s → I k s → aget s.S i = some v →
    ∃ k', I k' (callPro s i v) ∧ ∀ s2, J s2 → I k' s2 → I k (callEpi s2 i)
  simple : ∀ k s op s' r, J s → I k s → stepSimple s op = some (s', r) → I k s'
  collect : ∀ k s, J s → I k s → I k (collect s)
  emit : ∀ k s i im, J s → I k s → aget s.impls i = some im →
    ∃ k', I k' (emitPro s i im) ∧ ∀ s2, J s2 → I k' s2 → I k (emitEpi s2 i s.next)
  forceDel : ∀ k s g, J s → I k s → I k (forceDelG s g)

theorem StableKRel.and {κ : Type} {J : St → Prop} {I : κ → St → Prop} (hJ : Stable J) (hI : StableKRel J I) :
    StableK (fun k s => J s ∧ I k s) where
  log k s e h := ⟨hJ.log s e trivial h.1, hI.log k s e h.1 h.2⟩
  fail k s m h := ⟨hJ.fail s m trivial h.1, hI.fail k s m h.1 h.2⟩
  depth k s d h := ⟨hJ.depth s d trivial h.1, hI.depth k s d h.1 h.2⟩
  steps k s n h := ⟨hJ.steps s n trivial h.1, hI.steps k s n h.1 h.2⟩
  call k s i v h hv := by
    obtain ⟨k', hp, he⟩ := hI.call k s i v h.1 h.2 hv
    refine ⟨k', ⟨hJ.incall s i v _ trivial h.1 hv, hp⟩, fun s2 h2 => ⟨?_, he s2 h2.1 h2.2⟩⟩
    unfold callEpi
    split
    · rename_i hv2; exact hJ.incall s2 i _ _ trivial h2.1 hv2
    · exact hJ.fail _ _ trivial h2.1
  simple k s op s' r h hs := ⟨hJ.simple s op s' r trivial h.1 hs, hI.simple k s op s' r h.1 h.2 hs⟩
  collect k s h := ⟨hJ.collect s trivial h.1, hI.collect k s h.1 h.2⟩
  emit k s i im h hi := by
    obtain ⟨k', hp, he⟩ := hI.emit k s i im h.1 h.2 hi
    exact ⟨k', ⟨hJ.pro s i im trivial h.1 hi, hp⟩,
      fun s2 h2 => ⟨hJ.emitEpi s2 i s.next h2.1, he s2 h2.1 h2.2⟩⟩
  forceDel k s g h := ⟨hJ.forceDel s g trivial h.1, hI.forceDel k s g h.1 h.2⟩

theorem Stable.runTop {I : St → Prop} (h : Stable I) (h0 : I {}) (f : Nat) (P : Prog) (s : St)
    (hr : runTop f P {} P.top = some s) : I s :=
  runTop_preserved h.toK f () P _ _ _ h0 hr

theorem Stable.runTop_from {I : St → Prop} (h : Stable I) (f : Nat) (P : Prog) (ls : List Line) (s s' : St)
    (hs : I s) (hr : Model.runTop f P s ls = some s') : I s' :=
  runTop_preserved h.toK f () P _ _ _ hs hr

theorem Stable.teardown {I : St → Prop} (h : Stable I) (f : Nat) (P : Prog) (s s' : St)
    (hs : I s) (hr : Model.teardown f P s = some s') : I s' :=
  teardown_preserved h.toK f () P _ _ hs hr

theorem Stable.execOp {I : St → Prop} (h : Stable I) {f P s op r}
    (hs : I s) (hr : Model.execOp f P s op = some r) : I r.1 :=
  execOp_preserved h.toK (k := ()) hs hr

theorem Stable.execLine {I : St → Prop} (h : Stable I) {f P s l r}
    (hs : I s) (hr : Model.execLine f P s l = some r) : I r.1 :=
  StableCore.execLine h.core hs hr

theorem Stable.emitImpl {I : St → Prop} (h : Stable I) {f P s fl impl arg strat r}
    (hs : I s) (hr : Model.emitImpl f P s fl impl arg strat = some r) : I r.1 :=
  emitImpl_preserved h.toK (k := ()) hs hr

theorem Stable.invokeFun {I : St → Prop} (h : Stable I) {f P s fn arg r}
    (hs : I s) (hr : Model.invokeFun f P s fn arg = some r) : I r.1 :=
  StableCore.invokeFun h.core hs hr

end Sigc.Inv
