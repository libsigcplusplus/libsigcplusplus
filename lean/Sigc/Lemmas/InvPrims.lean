import Sigc.Lemmas.InvSchema
import Sigc.Lemmas.Built
import Sigc.Lemmas.Frames
/-!
# Primitive impl-level updates and the library cascades derived from them

`Prims J I`: `I` is kept (in states satisfying `J`) by the four primitive updates out of which every library cascade of
`Sigc.Model` is built; every instance is for the trivial `J` (`PrimsA`), only `Prims.and` speaks of another.  `CellPrims I`: the first three, with `upd` told what happens to `linked`; enough for every cascade
below `invalidateTrackable`.  `PrimsL I` adds `invalS` and gives `invalidateTrackable`, `dropHandle`, `collect`.  Each cascade
is derived once, at the weaker of the two that supports it; `PrimsA I` (trivial `J`) gives both, and the `PrimsA.X` are what
the invariants of `Sigc.Inv` call.  `Grow A I`: `I` is kept by what the library adds to the table of impls (a fresh id, a
holder count, one fresh cell); `insertCell`, the emission prologue and the holder release are derived from it.
`StableRel.ofPrims` makes a schema instance of `PrimsA I`, `X.move` and these.
-/
namespace Sigc.Inv
open Sigc.Model

/-- the rep of `a` is the rep of `b`, possibly disconnected or invalidated (never revived) -/
def SlotLe (a b : SlotB) : Prop :=
  a.rep = b.rep ∨ a.rep = b.disconnectRep.rep ∨ a.rep = b.invalidate.rep

theorem SlotLe.refl (a : SlotB) : SlotLe a a := Or.inl rfl

/-- `upd`: an id-preserving update of the cells of one impl that only weakens reps; `filter`: removal of cells, their
    connections nulled; `delImpl`: removal of an unreferenced impl; `invalS`: invalidation of user slot variables.
    `e`, `d` are arbitrary: a predicate that reads `exec` or `deferred` is no instance. -/
structure Prims (J I : St → Prop) : Prop where
  upd : ∀ (s : St) i (im : Impl) (g : Cell → Cell) e d, J s → I s → aget s.impls i = some im →
    (∀ c, (g c).id = c.id ∧ SlotLe (g c).slot c.slot) →
    I (setImpl s i { im with cells := im.cells.map g, exec := e, deferred := d })
  filter : ∀ (s : St) i (im : Impl) (p : Cell → Bool) d ids, J s → I s → aget s.impls i = some im →
    (∀ c ∈ im.cells, p c = false → c.id ∈ ids) →
    I (nullConnsList (setImpl s i { im with cells := im.cells.filter p, deferred := d }) ids)
  delImpl : ∀ (s : St) i (im : Impl), J s → I s → aget s.impls i = some im → im.holders = 0 →
    (s.G.any (fun p => p.2.impl = some i)) = false →
    I (nullConnsList { s with impls := adel s.impls i } (im.cells.map (·.id)))
  invalS : ∀ (s : St) t, J s → I s →
    I { s with S := amap s.S (fun v => if v.slot.tracksObj t then { v with slot := v.slot.invalidate } else v) }

abbrev PrimsA (I : St → Prop) : Prop := Prims (fun _ => True) I

theorem Prims.and {J I : St → Prop} (hJ : PrimsA J) (hI : Prims J I) : PrimsA (fun s => J s ∧ I s) where
  upd s i im g e d _ h hi hg := ⟨hJ.upd s i im g e d trivial h.1 hi hg, hI.upd s i im g e d h.1 h.2 hi hg⟩
  filter s i im p d ids _ h hi hp :=
    ⟨hJ.filter s i im p d ids trivial h.1 hi hp, hI.filter s i im p d ids h.1 h.2 hi hp⟩
  delImpl s i im _ h hi hh hg := ⟨hJ.delImpl s i im trivial h.1 hi hh hg, hI.delImpl s i im h.1 h.2 hi hh hg⟩
  invalS s t _ h := ⟨hJ.invalS s t trivial h.1, hI.invalS s t h.1 h.2⟩

/-- the cell-level part of `Prims`: no `invalS`, so that `s.S = c` is an instance, and `upd` also knows that a cell is
    unlinked or keeps `linked`, so that predicates reading `linked` are instances.  Every cascade that does not start from the
    `S` update (all but `invalidateTrackable` and what calls it) is derived from these three. -/
structure CellPrims (I : St → Prop) : Prop where
  upd : ∀ (s : St) i (im : Impl) (g : Cell → Cell) e d, I s → aget s.impls i = some im →
    (∀ c, (g c).id = c.id ∧ SlotLe (g c).slot c.slot ∧ ((g c).linked = false ∨ (g c).linked = c.linked)) →
    I (setImpl s i { im with cells := im.cells.map g, exec := e, deferred := d })
  filter : ∀ (s : St) i (im : Impl) (p : Cell → Bool) d ids, I s → aget s.impls i = some im →
    (∀ c ∈ im.cells, p c = false → c.id ∈ ids) →
    I (nullConnsList (setImpl s i { im with cells := im.cells.filter p, deferred := d }) ids)
  delImpl : ∀ (s : St) i (im : Impl), I s → aget s.impls i = some im → im.holders = 0 →
    (s.G.any (fun p => p.2.impl = some i)) = false →
    I (nullConnsList { s with impls := adel s.impls i } (im.cells.map (·.id)))

theorem PrimsA.toCell {I : St → Prop} (h : PrimsA I) : CellPrims I where
  upd s i im g e d hI hi hg := h.upd s i im g e d trivial hI hi (fun c => ⟨(hg c).1, (hg c).2.1⟩)
  filter s i im p d ids hI hi hp := h.filter s i im p d ids trivial hI hi hp
  delImpl s i im hI hi hh hg := h.delImpl s i im trivial hI hi hh hg

/-- `slot_rep::disconnect()` / `notify_slot_rep_invalidated` on cell `cid` with slot update `F`; the body of
    `Model.touchCell` (`genCell_eq_touchCell`) -/
def genCell (F : SlotB → SlotB) (s : St) (cid : Nat) : St :=
  match getCell s cid with
  | none => s
  | some (i, c) =>
    let s := updCell s i cid (fun c => { c with slot := F c.slot, linked := false })
    if c.linked then notifyParent s i cid else s

theorem genCell_eq_touchCell : @genCell = @Model.touchCell := rfl

section
variable {I : St → Prop} (h : CellPrims I)
include h

theorem CellPrims.setMeta {s : St} {i : Nat} {im : Impl} (e : Nat) (d : Bool) (hI : I s)
    (hi : aget s.impls i = some im) : I (setImpl s i { im with exec := e, deferred := d }) := by
  have := h.upd s i im id e d hI hi (fun c => ⟨rfl, SlotLe.refl _, Or.inr rfl⟩)
  simpa using this

theorem CellPrims.eraseCell {s : St} (i cid : Nat) (hI : I s) : I (Model.eraseCell s i cid) := by
  unfold Model.eraseCell
  split
  · exact hI
  · rename_i im hi
    have := h.filter s i im (fun c => decide (c.id ≠ cid)) im.deferred [cid] hI hi
      (by intro c _ hc; simpa using hc)
    simpa [nullConnsList] using this

theorem CellPrims.sweep {s : St} (i : Nat) (hI : I s) : I (Model.sweep s i) := by
  unfold Model.sweep
  split
  · exact hI
  · rename_i im hi
    exact h.filter s i im (fun c => !c.slot.empty) false _ hI hi
      (by intro c hc hp
          simp only [List.mem_map, List.mem_filter]
          exact ⟨c, ⟨hc, by simpa using hp⟩, rfl⟩)

theorem CellPrims.unrefExec {s : St} (i : Nat) (hI : I s) : I (Model.unrefExec s i) := by
  unfold Model.unrefExec
  split
  · exact hI
  · rename_i im hi
    have h1 : I (setImpl s i { im with exec := im.exec - 1 }) := h.setMeta (im.exec - 1) im.deferred hI hi
    simp only []
    split
    · exact h.sweep _ h1
    · exact h1

theorem CellPrims.notifyParent {s : St} (i cid : Nat) (hI : I s) : I (Model.notifyParent s i cid) := by
  unfold Model.notifyParent
  split
  · exact hI
  · rename_i im hi
    split
    · exact h.eraseCell _ _ hI
    · exact h.setMeta im.exec true hI hi

theorem CellPrims.updCell {s : St} (i cid : Nat) (f : Cell → Cell)
    (hf : ∀ c, (f c).id = c.id ∧ SlotLe (f c).slot c.slot ∧ ((f c).linked = false ∨ (f c).linked = c.linked)) (hI : I s) : I (Model.updCell s i cid f) := by
  unfold Model.updCell
  split
  · exact hI
  · rename_i im hi
    exact h.upd s i im (fun c => if c.id = cid then f c else c) im.exec im.deferred hI hi
      (by intro c; by_cases hc : c.id = cid
          · rw [if_pos hc]; exact hf c
          · rw [if_neg hc]; exact ⟨rfl, SlotLe.refl _, Or.inr rfl⟩)

theorem CellPrims.genCell {F : SlotB → SlotB} (hF : ∀ sl, SlotLe (F sl) sl) {s : St} (cid : Nat) (hI : I s) :
    I (Inv.genCell F s cid) := by
  unfold Inv.genCell
  split
  · exact hI
  · rename_i i c _
    have h1 := h.updCell (s := s) i cid (fun c => { c with slot := F c.slot, linked := false })
      (fun c => ⟨rfl, hF _, Or.inl rfl⟩) hI
    simp only []
    split
    · exact h.notifyParent _ _ h1
    · exact h1

theorem CellPrims.disconnectCell {s : St} (cid : Nat) (hI : I s) : I (Model.disconnectCell s cid) :=
  h.genCell (fun _ => Or.inr (Or.inl rfl)) cid hI

theorem CellPrims.invalidateCell {s : St} (cid : Nat) (hI : I s) : I (Model.invalidateCell s cid) :=
  h.genCell (fun _ => Or.inr (Or.inr rfl)) cid hI

theorem CellPrims.foldl_disconnectCell (cids : List Nat) : ∀ {s : St}, I s → I (cids.foldl Model.disconnectCell s) := by
  induction cids with
  | nil => intro s hI; exact hI
  | cons c cs ih => intro s hI; exact ih (h.disconnectCell c hI)

theorem CellPrims.foldl_invalidateCell (cids : List Nat) : ∀ {s : St}, I s → I (cids.foldl Model.invalidateCell s) := by
  induction cids with
  | nil => intro s hI; exact hI
  | cons c cs ih => intro s hI; exact ih (h.invalidateCell c hI)

theorem CellPrims.gcImpl {s : St} (i : Nat) (hI : I s) : I (Model.gcImpl s i) := by
  unfold Model.gcImpl
  split
  · exact hI
  · rename_i im hi
    split
    · rename_i hc
      simp only [Bool.and_eq_true, decide_eq_true_eq, Bool.not_eq_true'] at hc
      exact h.delImpl s i im hI hi hc.1 hc.2
    · exact hI

theorem CellPrims.clearImpl {s : St} (i : Nat) (hI : I s) : I (Model.clearImpl s i) := by
  unfold Model.clearImpl
  split
  · exact hI
  · rename_i im hi
    have h1 : I (setImpl s i { im with exec := im.exec + 1 }) := h.setMeta (im.exec + 1) im.deferred hI hi
    have h2 := h.foldl_disconnectCell (im.cells.map (·.id)) h1
    simp only []
    split
    · exact h2
    · rename_i im2 hi2
      apply h.unrefExec
      split
      · exact h2
      · have := h.filter _ i im2 (fun _ => false) im.deferred (im2.cells.map (·.id)) h2 hi2
          (by intro c hc _; exact List.mem_map.2 ⟨c, hc, rfl⟩)
        have hf : im2.cells.filter (fun _ => false) = [] := List.filter_eq_nil_iff.2 (by simp)
        rw [hf] at this
        exact this

theorem CellPrims.connBlock {s : St} (p : Option Nat) (b : Bool) (hI : I s) : I (Model.connBlock s p b) := by
  unfold Model.connBlock
  split
  · exact hI
  · split
    · exact hI
    · exact h.updCell _ _ _ (fun c => ⟨rfl, Or.inl rfl, Or.inr rfl⟩) hI

theorem CellPrims.blockAll {s : St} {i : Nat} {x : Impl} (b : Bool) (hI : I s) (hi : aget s.impls i = some x) :
    I (setImpl s i { x with cells := x.cells.map (fun c => { c with slot := { c.slot with blocked := b } }) }) :=
  h.upd s i x _ x.exec x.deferred hI hi (fun _ => ⟨rfl, Or.inl rfl, Or.inr rfl⟩)

theorem CellPrims.gcOpt {s : St} (o : Option Nat) (hI : I s) : I (Model.gcOpt s o) := by
  cases o with
  | none => exact hI
  | some i => exact h.gcImpl i hI

end

/-- what `invalidateTrackable`, and with it the destruction of signal objects and `collect`, need -/
structure PrimsL (I : St → Prop) : Prop extends CellPrims I where
  invalS : ∀ (s : St) t, I s →
    I { s with S := amap s.S (fun v => if v.slot.tracksObj t then { v with slot := v.slot.invalidate } else v) }

theorem PrimsA.toL {I : St → Prop} (h : PrimsA I) : PrimsL I :=
  { h.toCell with invalS := fun s t hI => h.invalS s t trivial hI }

section
variable {I : St → Prop} (h : PrimsL I)
include h

theorem PrimsL.invalidateTrackable {s : St} (t : Nat) (hI : I s) : I (Model.invalidateTrackable s t) := by
  unfold Model.invalidateTrackable
  exact h.foldl_invalidateCell _ (h.invalS s t hI)

theorem PrimsL.lib {s s' : St} (m : LibMove s s') (hI : I s) : I s' := by
  cases m with
  | notify o => exact h.invalidateTrackable o hI
  | disconnect cid => exact h.disconnectCell cid hI
  | clear i => exact h.clearImpl i hI
  | block p b => exact h.connBlock p b hI
  | blockAll b hi => exact h.blockAll b hI hi

/-- `collectStep` is built from `invalidateTrackable`, `disconnectCell` and `dropHandle` plus removals from the
    owned lists; `hG` is the third branch: the entry `(k, g)` leaves `ownedG`, then the signal
    object named `g` is destroyed -/
theorem PrimsL.collectStep {s s' : St}
    (hT : ∀ (s : St) p, I s → I { s with ownedT := s.ownedT.filter p })
    (hK : ∀ (s : St) p, I s → I { s with ownedK := s.ownedK.filter p })
    (hG : ∀ (s : St) k g, I s → (k, g) ∈ s.ownedG →
      I (dropHandle { s with ownedG := s.ownedG.filter (fun q => q.1 ≠ k) } g))
    (hs : I s) (hc : Model.collectStep s = some s') : I s' := by
  unfold Model.collectStep at hc
  split at hc
  · cases hc
    exact h.invalidateTrackable _ (hT _ _ hs)
  · split at hc
    · simp only [Option.some.injEq] at hc
      subst hc
      split
      · exact h.disconnectCell _ (hK _ _ hs)
      · exact hK _ _ hs
    · split at hc
      · rename_i k g hf
        cases hc
        exact hG _ k g hs (List.mem_of_find?_eq_some hf)
      · cases hc

theorem PrimsL.collect {s : St}
    (hT : ∀ (s : St) p, I s → I { s with ownedT := s.ownedT.filter p })
    (hK : ∀ (s : St) p, I s → I { s with ownedK := s.ownedK.filter p })
    (hG : ∀ (s : St) k g, I s → (k, g) ∈ s.ownedG →
      I (dropHandle { s with ownedG := s.ownedG.filter (fun q => q.1 ≠ k) } g))
    (hI : I s) : I (Model.collect s) :=
  collect_preserved (fun _ _ hs hc => h.collectStep hT hK hG hs hc) s hI

theorem PrimsL.dropHandle {s : St} (g : Nat) (hG : ∀ s : St, I s → I { s with G := adel s.G g }) (hI : I s) :
    I (Model.dropHandle s g) := by
  unfold Model.dropHandle
  split
  · exact hI
  · rename_i hd _
    have h1 : I (if hd.fl.isTrackable then Model.invalidateTrackable s hd.trk else s) := by
      split
      · exact h.invalidateTrackable _ hI
      · exact hI
    simp only [gcOpt_eq]
    exact h.gcOpt _ (hG _ h1)

end

section
variable {I : St → Prop} (h : PrimsA I)
include h

theorem PrimsA.eraseCell {s : St} (i cid : Nat) (hI : I s) : I (Model.eraseCell s i cid) := h.toCell.eraseCell i cid hI

theorem PrimsA.unrefExec {s : St} (i : Nat) (hI : I s) : I (Model.unrefExec s i) := h.toCell.unrefExec i hI

theorem PrimsA.notifyParent {s : St} (i cid : Nat) (hI : I s) : I (Model.notifyParent s i cid) :=
  h.toCell.notifyParent i cid hI

theorem PrimsA.disconnectCell {s : St} (cid : Nat) (hI : I s) : I (Model.disconnectCell s cid) :=
  h.toCell.disconnectCell cid hI

theorem PrimsA.invalidateCell {s : St} (cid : Nat) (hI : I s) : I (Model.invalidateCell s cid) :=
  h.toCell.invalidateCell cid hI

theorem PrimsA.gcImpl {s : St} (i : Nat) (hI : I s) : I (Model.gcImpl s i) := h.toCell.gcImpl i hI

theorem PrimsA.clearImpl {s : St} (i : Nat) (hI : I s) : I (Model.clearImpl s i) := h.toCell.clearImpl i hI

theorem PrimsA.gcOpt {s : St} (o : Option Nat) (hI : I s) : I (Model.gcOpt s o) := h.toCell.gcOpt o hI

theorem PrimsA.invalidateTrackable {s : St} (t : Nat) (hI : I s) : I (Model.invalidateTrackable s t) :=
  h.toL.invalidateTrackable t hI

theorem PrimsA.lib {s s' : St} (m : LibMove s s') (hI : I s) : I s' := h.toL.lib m hI

theorem PrimsA.collectStep {s s' : St}
    (hT : ∀ (s : St) p, I s → I { s with ownedT := s.ownedT.filter p })
    (hK : ∀ (s : St) p, I s → I { s with ownedK := s.ownedK.filter p })
    (hG : ∀ (s : St) k g, I s → (k, g) ∈ s.ownedG →
      I (dropHandle { s with ownedG := s.ownedG.filter (fun q => q.1 ≠ k) } g))
    (hs : I s) (hc : Model.collectStep s = some s') : I s' := h.toL.collectStep hT hK hG hs hc

theorem PrimsA.collect {s : St}
    (hT : ∀ (s : St) p, I s → I { s with ownedT := s.ownedT.filter p })
    (hK : ∀ (s : St) p, I s → I { s with ownedK := s.ownedK.filter p })
    (hG : ∀ (s : St) k g, I s → (k, g) ∈ s.ownedG →
      I (dropHandle { s with ownedG := s.ownedG.filter (fun q => q.1 ≠ k) } g))
    (hI : I s) : I (Model.collect s) := h.toL.collect hT hK hG hI

theorem PrimsA.collect' {s : St}
    (frame : ∀ (s : St) oT oK oG, I s → I { s with ownedT := oT, ownedK := oK, ownedG := oG })
    (hD : ∀ (s : St) g, I s → I (forceDelG s g)) (hI : I s) : I (Model.collect s) :=
  h.collect (fun s _ hs => frame s _ s.ownedK s.ownedG hs) (fun s _ hs => frame s s.ownedT _ s.ownedG hs)
    (fun s _ g hs _ => hD _ g (frame s s.ownedT s.ownedK _ hs)) hI

theorem PrimsA.dropHandle {s : St} (g : Nat) (hG : ∀ s : St, I s → I { s with G := adel s.G g }) (hI : I s) :
    I (Model.dropHandle s g) := h.toL.dropHandle g hG hI

end

/-- the `ownedG` branch (`hG`) of `PrimsA.collect` for a predicate that ignores the dropped `ownedG` entries and is kept
    by the destruction of a signal object -/
theorem dropG_of {I : St → Prop}
    (hG : ∀ (s : St) p, I s → I { s with ownedG := s.ownedG.filter p })
    (hD : ∀ (s : St) g, I s → I (forceDelG s g)) :
    ∀ (s : St) k g, I s → (k, g) ∈ s.ownedG →
      I (dropHandle { s with ownedG := s.ownedG.filter (fun q => q.1 ≠ k) } g) :=
  fun s _ g hs _ => hD _ g (hG s _ hs)

/-- `insertCell` writes `impls`, `next` and (refused) the error mark -/
theorem insertCell_frame (s : St) (i : Nat) (first : Bool) (sl : SlotB) :
    (insertCell s i first sl).fst.C = s.C ∧ (insertCell s i first sl).fst.K = s.K ∧
    (insertCell s i first sl).fst.ownedK = s.ownedK ∧ (insertCell s i first sl).fst.G = s.G ∧
    (insertCell s i first sl).fst.S = s.S ∧ (insertCell s i first sl).fst.T = s.T ∧
    (insertCell s i first sl).fst.ownedT = s.ownedT ∧ (insertCell s i first sl).snd = s.next := by
  rw [insertCell_eq]
  split
  · unfold St.fail; split <;> exact ⟨rfl, rfl, rfl, rfl, rfl, rfl, rfl, rfl⟩
  · exact ⟨rfl, rfl, rfl, rfl, rfl, rfl, rfl, rfl⟩

/-- What the library adds to the table of impls, beside what `Prims` takes away from it: an id is drawn (`St.fresh`;
    `e`: a refused insertion also sets the error mark), the holder count of an impl changes (`signal_impl_holder`), one
    cell with the fresh id joins the cells of an impl at either end (`signal_impl::insert`, the end marker of
    `temp_slot_list`; `A` is what is known of that cell, `e`, `h` the counts the prologue raises with it).  Used through
    `Grow.insertCell`, `Grow.emitPro`, `Grow.dropHolder`. -/
structure Grow (A : Cell → Prop) (I : St → Prop) : Prop where
  next : ∀ (s : St) e, I s → I { s with next := s.next + 1, err := e }
  holders : ∀ (s : St) i (im : Impl) h, I s → aget s.impls i = some im → I (setImpl s i { im with holders := h })
  add : ∀ (s : St) i (im : Impl) (c : Cell) cs e h, I s → aget s.impls i = some im → c.id = s.next → A c →
    cs.Perm (c :: im.cells) →
    I (setImpl { s with next := s.next + 1 } i { im with cells := cs, exec := e, holders := h })

section
variable {A : Cell → Prop} {I : St → Prop} (g : Grow A I)
include g

theorem Grow.insertCell {s : St} (i : Nat) (first : Bool) {sl : SlotB}
    (ha : A { id := s.next, slot := normSlot sl, linked := true }) (h : I s) :
    I (Model.insertCell s i first sl).fst := by
  rw [insertCell_eq]
  split
  · unfold St.fail
    split
    · exact g.next s _ h
    · exact g.next s s.err h
  · rename_i im hi
    refine g.add s i im _ _ im.exec im.holders h hi rfl ha ?_
    cases first
    · exact List.perm_append_singleton _ _
    · exact List.Perm.refl _

/-- `mark`: the end marker (an unlinked cell with an empty slot) is a cell that may join -/
theorem Grow.emitPro (mark : ∀ n, A { id := n, slot := {}, linked := false }) (s : St) (i : Nat) (im : Impl) (h : I s)
    (hi : aget s.impls i = some im) : I (Inv.emitPro s i im) :=
  g.add s i im _ _ _ _ h hi rfl (mark _) (List.perm_append_singleton _ _)

theorem Grow.dropHolder (s : St) (i : Nat) (h : I s) : I (Inv.dropHolder s i) := by
  unfold Inv.dropHolder
  split
  · exact h
  · exact g.holders s i _ _ h ‹_›

end

/-- The nine arguments in order: `hp` the primitive updates; `frame`: `I` reads neither trace, error mark, depth nor step
    count; `incall`: nor the `incall` counts; `hJ`: every move keeps `J`; `move`: every move keeps `I` under `J` (`X.move`); then
    what is special to the invariant: `collect`, `pro` the emission prologue, `drop` the holder release (`X.grow.emitPro`,
    `X.grow.dropHolder` where there is a `Grow` instance), `forceDel` the teardown's destruction of a signal object. -/
theorem StableRel.ofPrims {J I : St → Prop} (hp : PrimsA I)
    (frame : ∀ (s : St) tr e d n, I s → I { s with trace := tr, err := e, depth := d, steps := n })
    (incall : ∀ (s : St) i (v : SlotVar) n, I s → aget s.S i = some v →
      I { s with S := aset s.S i { v with incall := n } })
    (hJ : ∀ {s s'}, Move s s' → J s → J s') (move : ∀ {s s'}, Move s s' → J s → I s → I s')
    (collect : ∀ s, J s → I s → I (Model.collect s))
    (pro : ∀ s i im, I s → aget s.impls i = some im → I (emitPro s i im))
    (drop : ∀ s i, I s → I (dropHolder s i))
    (forceDel : ∀ s g, J s → I s → I (forceDelG s g)) : StableRel J I where
  log s e _ h := frame s (e :: s.trace) s.err s.depth s.steps h
  fail s m _ h := by
    unfold St.fail
    split
    · exact frame s s.trace (some m) s.depth s.steps h
    · exact h
  depth s d _ h := frame s s.trace s.err d s.steps h
  steps s n _ h := frame s s.trace s.err s.depth n h
  incall s i v n _ h hv := incall s i v n h hv
  simple _ _ _ _ j h hs := stepSimple_preserved hJ move hs j h
  collect := collect
  pro s i im _ h hi := pro s i im h hi
  erase _ i m _ h := hp.eraseCell i m h
  unref _ i _ h := hp.unrefExec i h
  drop s i _ h := drop s i h
  gc _ i _ h := hp.gcImpl i h
  forceDel := forceDel

end Sigc.Inv
