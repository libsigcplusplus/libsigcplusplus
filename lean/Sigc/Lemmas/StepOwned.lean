import Sigc.Model
import Sigc.Lemmas.Basic
import Sigc.Lemmas.Frames
import Sigc.Lemmas.StepConn
import Sigc.Lemmas.StepHandles
import Sigc.Lemmas.StepTrack
import Sigc.Lemmas.InvPrims
/-!
# Signal objects owned by functors (`ownG`): `dropHandle` and `collect`

What the destructor primitives (`invalidateTrackable`, `disconnectCell`, `gcImpl`, `dropHandle`) and `collectStep`
do to the tables of owned objects (`OwnFrame`), to "a functor copy still holds owner id `k`" (`HeldSub`, `heldK`: it can
only become false) and to the names in `G` (they can only disappear): each of these relations to a fixed start state is
kept by the four primitive updates (`Inv.PrimsA`), hence by every cascade and by every step of `collect`
(`CollectRel`); `collect` reaches a fixpoint of `collectStep`.  Last: the list that a handle in `G` refers to
(`Referred`) survives the destruction of another handle.  Everything holds for arbitrary states.
-/
namespace Sigc.StepOwned
open Sigc.Model Sigc.StepConn Sigc.StepHandles Sigc.StepTrack

/-! ### the tables of owned objects are left alone by the destructor primitives -/

/-- `ownedT`, `ownedG` unchanged; `ownedK` keeps its length (its connections may be nulled) -/
structure OwnFrame (s' s : St) : Prop where
  t : s'.ownedT = s.ownedT
  g : s'.ownedG = s.ownedG
  k : s'.ownedK.length = s.ownedK.length

theorem OwnFrame.refl (s : St) : OwnFrame s s := ⟨rfl, rfl, rfl⟩

theorem OwnFrame.nullConnsList {s' s : St} (h : OwnFrame s' s) (cs : List Nat) : OwnFrame (nullConnsList s' cs) s := by
  rw [nullConnsList_eq]; exact ⟨h.t, h.g, by simp [amap, h.k]⟩

theorem OwnFrame.prims (s0 : St) : Sigc.Inv.PrimsA (fun s => OwnFrame s s0) where
  upd _ _ _ _ _ _ _ h _ _ := ⟨h.t, h.g, h.k⟩
  filter s i _ _ _ _ _ h _ _ := OwnFrame.nullConnsList (s' := setImpl s i _) ⟨h.t, h.g, h.k⟩ _
  delImpl s i _ _ h _ _ _ := OwnFrame.nullConnsList (s' := { s with impls := adel s.impls i }) ⟨h.t, h.g, h.k⟩ _
  invalS _ _ _ h := ⟨h.t, h.g, h.k⟩

theorem disconnectCell_own (s : St) (c : Nat) : OwnFrame (disconnectCell s c) s :=
  (OwnFrame.prims s).disconnectCell c (.refl s)

theorem invalidateTrackable_own (s : St) (t : Nat) : OwnFrame (invalidateTrackable s t) s :=
  (OwnFrame.prims s).invalidateTrackable t (.refl s)

theorem dropHandle_own (s : St) (g : Nat) : OwnFrame (dropHandle s g) s :=
  (OwnFrame.prims s).dropHandle g (fun _ h => ⟨h.t, h.g, h.k⟩) (.refl s)

/-! ### two facts for `connfn k g (ownG ..)` -/

theorem insertCell_ownedG (s : St) (i : Nat) (first : Bool) (sl : SlotB) :
    (insertCell s i first sl).1.ownedG = s.ownedG := by
  unfold insertCell
  simp only [St.fresh]
  split
  · unfold St.fail; split <;> rfl
  · rfl

theorem mkFun_error_ne_ok (s : St) (b : Bool) (spec : FSpec) (e : String) (h : mkFun s b spec = .error e) :
    e ≠ "ok" := by
  cases spec <;> simp only [mkFun] at h
  -- the error texts of `mkFun` are the literals "dead", "badtype", "owned", "pinned"
  all_goals (repeat' (split at h))
  all_goals (first | (injection h with h; subst h; decide) | (cases h; done))

/-! ### the names in `G` after `dropHandle` -/

theorem dropHandle_G (s : St) (g k : Nat) :
    aget (dropHandle s g).G k = if k = g then none else aget s.G k := by
  unfold dropHandle
  split
  · rename_i hg
    by_cases hk : k = g
    · subst hk; simp [hg]
    · simp [hk]
  · rename_i hd hg
    have hG : (if hd.fl.isTrackable then invalidateTrackable s hd.trk else s).G = s.G := by
      split
      · exact invalidateTrackable_G _ _
      · rfl
    simp only
    by_cases hk : k = g
    · subst hk
      split <;> simp [gcImpl_G]
    · split <;> simp [gcImpl_G, hk, hG, aget_adel_other _ _ _ hk]

/-! ### `heldK` can only become false under the destructor primitives -/

/-- weaker than `Inv.SlotLe` (`HoldsLe.of_inv`) -/
def HoldsLe (a b : SlotB) : Prop := ∀ k, a.holdsK k = true → b.holdsK k = true

theorem HoldsLe.refl (a : SlotB) : HoldsLe a a := fun _ h => h

theorem holdsLe_disconnectRep (sl : SlotB) : HoldsLe sl.disconnectRep sl := by
  intro k h
  obtain ⟨b, rep⟩ := sl
  cases rep with
  | none => exact h
  | some r =>
    obtain ⟨c, fn⟩ := r
    cases fn
    · simp [SlotB.holdsK, SlotB.disconnectRep] at h
    · simpa [SlotB.holdsK, SlotB.disconnectRep] using h

theorem holdsLe_invalidate (sl : SlotB) : HoldsLe sl.invalidate sl := by
  intro k h
  obtain ⟨b, rep⟩ := sl
  cases rep with
  | none => exact h
  | some r => simp [SlotB.holdsK, SlotB.invalidate] at h

/-- every slot value of `s'` is `HoldsLe` one of `s`, so an owner id held in `s'` is held
    in `s` (`HeldSub.heldK`) -/
structure HeldSub (s' s : St) : Prop where
  vars : ∀ p ∈ s'.S, ∃ q ∈ s.S, HoldsLe p.2.slot q.2.slot
  cells : ∀ p ∈ s'.impls, ∀ c ∈ p.2.cells, ∃ q ∈ s.impls, ∃ d ∈ q.2.cells, HoldsLe c.slot d.slot

theorem HeldSub.refl (s : St) : HeldSub s s :=
  ⟨fun p hp => ⟨p, hp, HoldsLe.refl _⟩, fun p hp c hc => ⟨p, hp, c, hc, HoldsLe.refl _⟩⟩

theorem HeldSub.of_eq {s' s : St} (hS : s'.S = s.S) (hI : s'.impls = s.impls) : HeldSub s' s := by
  refine ⟨fun p hp => ⟨p, hS ▸ hp, HoldsLe.refl _⟩, fun p hp c hc => ⟨p, hI ▸ hp, c, hc, HoldsLe.refl _⟩⟩

theorem HeldSub.trans {a b c : St} (h1 : HeldSub a b) (h2 : HeldSub b c) : HeldSub a c := by
  constructor
  · intro p hp
    obtain ⟨q, hq, hle⟩ := h1.vars p hp
    obtain ⟨r, hr, hle'⟩ := h2.vars q hq
    exact ⟨r, hr, fun k hk => hle' k (hle k hk)⟩
  · intro p hp x hx
    obtain ⟨q, hq, d, hd, hle⟩ := h1.cells p hp x hx
    obtain ⟨r, hr, e, he, hle'⟩ := h2.cells q hq d hd
    exact ⟨r, hr, e, he, fun k hk => hle' k (hle k hk)⟩

theorem HeldSub.congr {s s0 : St} (h : HeldSub s s0) {s' : St} (hS : s'.S = s.S) (hI : s'.impls = s.impls) :
    HeldSub s' s0 :=
  (HeldSub.of_eq hS hI).trans h

theorem HeldSub.heldK {s' s : St} (h : HeldSub s' s) (k : Nat) (hk : heldK s' k = true) : heldK s k = true := by
  unfold Model.heldK at hk ⊢
  rw [Bool.or_eq_true] at hk ⊢
  rcases hk with hk | hk
  · left
    rw [List.any_eq_true] at hk ⊢
    obtain ⟨p, hp, hpk⟩ := hk
    obtain ⟨q, hq, hle⟩ := h.vars p hp
    exact ⟨q, hq, hle k hpk⟩
  · right
    rw [List.any_eq_true] at hk ⊢
    obtain ⟨p, hp, hpk⟩ := hk
    rw [List.any_eq_true] at hpk
    obtain ⟨c, hc, hck⟩ := hpk
    obtain ⟨q, hq, d, hd, hle⟩ := h.cells p hp c hc
    exact ⟨q, hq, List.any_eq_true.mpr ⟨d, hd, hle k hck⟩⟩

theorem holdsK_of_rep {a b : SlotB} (h : a.rep = b.rep) (k : Nat) : a.holdsK k = b.holdsK k := by
  unfold SlotB.holdsK; rw [h]

/-- the order of the primitive updates (same rep, disconnected or invalidated) loses owner ids only -/
theorem HoldsLe.of_inv {a b : SlotB} (h : Sigc.Inv.SlotLe a b) : HoldsLe a b := fun k hk => by
  rcases h with e | e | e
  · rwa [holdsK_of_rep e] at hk
  · rw [holdsK_of_rep e] at hk; exact holdsLe_disconnectRep b k hk
  · rw [holdsK_of_rep e] at hk; exact holdsLe_invalidate b k hk

theorem HeldSub.setImpl {s : St} {i : Nat} {im : Impl} (hi : aget s.impls i = some im) (im' : Impl)
    (h : ∀ c ∈ im'.cells, ∃ d ∈ im.cells, HoldsLe c.slot d.slot) : HeldSub (setImpl s i im') s :=
  ⟨fun p hp => ⟨p, hp, .refl _⟩, fun p hp c hc => by
    rcases mem_aset hp with hp | rfl
    · exact ⟨p, hp, c, hc, .refl _⟩
    · obtain ⟨d, hd, hle⟩ := h c hc
      exact ⟨(i, im), mem_of_aget hi, d, hd, hle⟩⟩

theorem HeldSub.nullConnsList {s' s : St} (h : HeldSub s' s) (cs : List Nat) : HeldSub (nullConnsList s' cs) s :=
  (HeldSub.of_eq (nullConnsList_S _ _) (nullConnsList_impls _ _)).trans h

theorem HeldSub.prims (s0 : St) : Sigc.Inv.PrimsA (fun s => HeldSub s s0) where
  upd s i im g e d _ h hi hg := (HeldSub.setImpl hi _ fun c hc => by
    obtain ⟨c0, h0, rfl⟩ := List.mem_map.mp hc
    exact ⟨c0, h0, .of_inv (hg c0).2⟩).trans h
  filter s i im p d ids _ h hi _ := ((HeldSub.setImpl hi _ fun c hc =>
    ⟨c, (List.mem_filter.mp hc).1, .refl _⟩).trans h).nullConnsList _
  delImpl s i im _ h _ _ _ := HeldSub.nullConnsList (s' := { s with impls := adel s.impls i })
    (HeldSub.trans (b := s) ⟨fun p hp => ⟨p, hp, .refl _⟩, fun p hp c hc => ⟨p, (mem_adel hp).1, c, hc, .refl _⟩⟩ h) _
  invalS s t _ h := by
    refine HeldSub.trans (b := s) ⟨fun p hp => ?_, fun p hp c hc => ⟨p, hp, c, hc, .refl _⟩⟩ h
    dsimp only at hp
    obtain ⟨q, hq, rfl⟩ := mem_amap hp
    refine ⟨q, hq, ?_⟩
    dsimp only
    split
    · exact holdsLe_invalidate _
    · exact .refl _

/-! ### one step of `collect` -/

theorem filter_length_lt {α : Type} (l : List α) (p : α → Bool) (a : α) (ha : a ∈ l) (hp : p a = false) :
    (l.filter p).length < l.length :=
  List.length_filter_lt_length_iff_exists.mpr ⟨a, ha, by simp [hp]⟩

/-- the fuel `collect` gives `collectN` -/
def ownMeasure (s : St) : Nat := s.ownedT.length + s.ownedK.length + s.ownedG.length

/-- what one step of `collect` does: exactly one owned object (the first unheld one, trackables first, then scoped
    connections, then signal objects) is removed from its table and destroyed -/
theorem collectStep_cases (s s' : St) (h : collectStep s = some s') :
    (∃ o, s.ownedT.find? (fun o => !heldT s o) = some o ∧
      s' = invalidateTrackable { s with ownedT := s.ownedT.filter (· ≠ o) } o) ∨
    (s.ownedT.find? (fun o => !heldT s o) = none ∧ ∃ k p, s.ownedK.find? (fun q => !heldK s q.1) = some (k, p) ∧
      s' = (match p with
        | some cid => disconnectCell { s with ownedK := s.ownedK.filter (fun q => q.1 ≠ k) } cid
        | none => { s with ownedK := s.ownedK.filter (fun q => q.1 ≠ k) })) ∨
    (s.ownedT.find? (fun o => !heldT s o) = none ∧ s.ownedK.find? (fun q => !heldK s q.1) = none ∧
      ∃ k g, s.ownedG.find? (fun q => !heldK s q.1) = some (k, g) ∧
        s' = dropHandle { s with ownedG := s.ownedG.filter (fun q => q.1 ≠ k) } g) := by
  unfold collectStep at h
  split at h
  · rename_i o ho
    simp only [Option.some.injEq] at h
    exact Or.inl ⟨o, ho, h.symm⟩
  · rename_i hT
    split at h
    · rename_i k p hK
      simp only [Option.some.injEq] at h
      exact Or.inr (Or.inl ⟨hT, k, p, hK, h.symm⟩)
    · rename_i hK
      split at h
      · rename_i k g hG
        simp only [Option.some.injEq] at h
        exact Or.inr (Or.inr ⟨hT, hK, k, g, hG, h.symm⟩)
      · cases h

theorem collectStep_none (s : St) (h : collectStep s = none) :
    s.ownedT.find? (fun o => !heldT s o) = none ∧ s.ownedK.find? (fun q => !heldK s q.1) = none ∧
    s.ownedG.find? (fun q => !heldK s q.1) = none := by
  unfold collectStep at h
  split at h
  · cases h
  · rename_i hT
    split at h
    · cases h
    · rename_i hK
      split at h
      · cases h
      · rename_i hG
        exact ⟨hT, hK, hG⟩

/-- what every step of `collect` guarantees: owner ids are only let go of, names only leave `G`, entries only leave
    `ownedG` -/
structure CollectRel (s' s : St) : Prop where
  heldSub : HeldSub s' s
  names : ∀ g, aget s.G g = none → aget s'.G g = none
  sub : ∀ p ∈ s'.ownedG, p ∈ s.ownedG

theorem CollectRel.refl (s : St) : CollectRel s s := ⟨.refl s, fun _ h => h, fun _ h => h⟩

/-- the primitive updates touch neither `G` nor `ownedG` -/
theorem CollectRel.prims (s0 : St) : Sigc.Inv.PrimsA (fun s => CollectRel s s0) where
  upd s i im g e d _ h hi hg := ⟨(HeldSub.prims s0).upd s i im g e d trivial h.heldSub hi hg, h.names, h.sub⟩
  filter s i im p d ids _ h hi hp :=
    ⟨(HeldSub.prims s0).filter s i im p d ids trivial h.heldSub hi hp,
     fun g hg => by rw [nullConnsList_G]; exact h.names g hg,
     fun q hq => h.sub q (by rwa [nullConnsList_ownedG] at hq)⟩
  delImpl s i im _ h hi hh hr :=
    ⟨(HeldSub.prims s0).delImpl s i im trivial h.heldSub hi hh hr,
     fun g hg => by rw [nullConnsList_G]; exact h.names g hg,
     fun q hq => h.sub q (by rwa [nullConnsList_ownedG] at hq)⟩
  invalS s t _ h := ⟨(HeldSub.prims s0).invalS s t trivial h.heldSub, h.names, h.sub⟩

/-- the third branch of `collectStep`: the entry leaves `ownedG`, then the signal object is destroyed -/
theorem CollectRel.dropOwned {s s0 : St} (h : CollectRel s s0) (k g : Nat) :
    CollectRel (dropHandle { s with ownedG := s.ownedG.filter (fun q => q.1 ≠ k) } g) s0 := by
  refine (CollectRel.prims s0).dropHandle g (fun x hx => ⟨?_, fun g' hg' => ?_, hx.sub⟩)
    ⟨h.heldSub.congr rfl rfl, h.names, fun p hp => h.sub p (List.mem_filter.mp hp).1⟩
  · exact hx.heldSub.congr rfl rfl
  · by_cases e : g' = g
    · subst e; exact aget_adel_same _ _
    · exact (aget_adel_other _ _ _ e).trans (hx.names g' hg')

theorem CollectRel.step {s0 s s' : St} (hx : CollectRel s s0) (hc : collectStep s = some s') : CollectRel s' s0 :=
  (CollectRel.prims s0).collectStep (fun _ _ hx => ⟨hx.heldSub.congr rfl rfl, hx.names, hx.sub⟩)
    (fun _ _ hx => ⟨hx.heldSub.congr rfl rfl, hx.names, hx.sub⟩) (fun _ k g hx _ => hx.dropOwned k g) hx hc

theorem OwnFrame.measure {s' s : St} (h : OwnFrame s' s) : ownMeasure s' = ownMeasure s := by
  unfold ownMeasure; rw [h.t, h.g, h.k]

/-- every step takes one entry out of one owned table -/
theorem collectStep_lt (s s' : St) (h : collectStep s = some s') : ownMeasure s' < ownMeasure s := by
  rcases collectStep_cases s s' h with ⟨o, ho, rfl⟩ | ⟨_, k, p, hK, rfl⟩ | ⟨_, _, k, g, hG, rfl⟩
  · have hlt := filter_length_lt s.ownedT (· ≠ o) o (List.mem_of_find?_eq_some ho) (by simp)
    rw [(invalidateTrackable_own _ o).measure]
    unfold ownMeasure; simp only; omega
  · have hlt := filter_length_lt s.ownedK (fun q => q.1 ≠ k) (k, p) (List.mem_of_find?_eq_some hK) (by simp)
    cases p with
    | none => unfold ownMeasure; simp only; omega
    | some cid =>
      dsimp only
      rw [(disconnectCell_own _ cid).measure]
      unfold ownMeasure; simp only; omega
  · have hlt := filter_length_lt s.ownedG (fun q => q.1 ≠ k) (k, g) (List.mem_of_find?_eq_some hG) (by simp)
    rw [(dropHandle_own _ g).measure]
    unfold ownMeasure; simp only; omega

/-- the third branch of `collectStep`: the first functor-owned signal object whose owner id no functor copy holds
    any more leaves `ownedG` and its name is destroyed as by `delG` -/
theorem collectStep_ownedG (s : St) (k g : Nat)
    (hT : s.ownedT.find? (fun o => !heldT s o) = none)
    (hK : s.ownedK.find? (fun q => !heldK s q.1) = none)
    (hG : s.ownedG.find? (fun q => !heldK s q.1) = some (k, g)) :
    collectStep s = some (dropHandle { s with ownedG := s.ownedG.filter (fun q => q.1 ≠ k) } g) := by
  unfold collectStep
  simp only [hT, hK, hG]

/-! ### the whole of `collect` -/

theorem collectN_rel (n : Nat) (s : St) : CollectRel (collectN n s) s :=
  Sigc.Inv.collectN_preserved (I := fun x => CollectRel x s) (fun _ _ hx hc => hx.step hc) n s (.refl s)

/-- `collect` runs `collectStep` to its fixpoint: the fuel (the number of owned objects) suffices -/
theorem collectN_fix (n : Nat) (s : St) (h : ownMeasure s ≤ n) : collectStep (collectN n s) = none := by
  induction n generalizing s with
  | zero =>
    simp only [collectN]
    cases hc : collectStep s with
    | none => rfl
    | some s1 => have := collectStep_lt s s1 hc; omega
  | succ n ih =>
    simp only [collectN]
    split
    · rename_i s1 h1
      have := collectStep_lt s s1 h1
      exact ih s1 (by omega)
    · rename_i h1; exact h1

theorem collect_fix (s : St) : collectStep (collect s) = none :=
  collectN_fix _ s (Nat.le_refl _)

theorem collect_rel (s : St) : CollectRel (collect s) s := collectN_rel _ s

theorem collect_ownedG_held (s : St) (p : Nat × Nat) (hp : p ∈ (collect s).ownedG) : heldK (collect s) p.1 = true := by
  have h := (collectStep_none _ (collect_fix s)).2.2
  have := List.find?_eq_none.mp h p hp
  simpa using this

/-- an owned signal object whose owner id occurs once in `ownedG` (owner ids come from the allocator): when a step
    of `collect` takes its entry out of `ownedG`, its name leaves `G` -/
theorem collectStep_dropped (s s' : St) (h : collectStep s = some s') (k g : Nat) (hm : (k, g) ∈ s.ownedG)
    (hu : ∀ g', (k, g') ∈ s.ownedG → g' = g) : (k, g) ∈ s'.ownedG ∨ aget s'.G g = none := by
  rcases collectStep_cases s s' h with ⟨o, ho, rfl⟩ | ⟨_, k', p, hK, rfl⟩ | ⟨_, _, k', g', hG, rfl⟩
  · left; rw [(invalidateTrackable_own _ o).g]; exact hm
  · cases p with
    | none => exact Or.inl hm
    | some cid => left; simp only; rw [(disconnectCell_own _ cid).g]; exact hm
  · rw [(dropHandle_own _ g').g]
    by_cases hkk : k = k'
    · right
      subst hkk
      have : g' = g := hu g' (List.mem_of_find?_eq_some hG)
      subst this
      rw [dropHandle_G]; simp
    · left
      exact List.mem_filter.mpr ⟨hm, by simpa using hkk⟩

theorem collectN_dropped (n : Nat) (s : St) (k g : Nat) (hm : (k, g) ∈ s.ownedG)
    (hu : ∀ g', (k, g') ∈ s.ownedG → g' = g) :
    (k, g) ∈ (collectN n s).ownedG ∨ aget (collectN n s).G g = none := by
  induction n generalizing s with
  | zero => exact Or.inl hm
  | succ n ih =>
    simp only [collectN]
    split
    · rename_i s1 h1
      have hrel := (CollectRel.refl s).step h1
      rcases collectStep_dropped s s1 h1 k g hm hu with h | h
      · exact ih s1 h (fun g' hg' => hu g' (hrel.sub _ hg'))
      · exact Or.inr ((collectN_rel n s1).names _ h)
    · exact Or.inl hm

theorem collect_drops_unheld (s : St) (k g : Nat) (hm : (k, g) ∈ s.ownedG)
    (hu : ∀ g', (k, g') ∈ s.ownedG → g' = g) (hk : heldK s k = false) :
    aget (collect s).G g = none ∧ (k, g) ∉ (collect s).ownedG := by
  have hnot : (k, g) ∉ (collect s).ownedG := by
    intro hin
    have h1 := collect_ownedG_held s (k, g) hin
    have h2 := (collect_rel s).heldSub.heldK k h1
    rw [hk] at h2; cases h2
  rcases collectN_dropped (ownMeasure s) s k g hm hu with h | h
  · exact absurd h hnot
  · exact ⟨h, hnot⟩

/-! ### destroying one handle leaves the list of another alone -/

/-- `b`: whether `impls` has the list that handle `g0` refers to; a parameter, so that `Referred.prims` also says that no
    cascade creates it -/
def Referred (g0 : Nat) (h0 : Handle) (im : Nat) (b : Bool) (s : St) : Prop :=
  aget s.G g0 = some h0 ∧ h0.impl = some im ∧ (aget s.impls im).isSome = b

theorem aget_aset_isSome {α : Type} {l : List (Nat × α)} {k : Nat} {x : α} (v : α) (i : Nat) (h : aget l k = some x) :
    (aget (aset l k v) i).isSome = (aget l i).isSome := by
  by_cases hik : i = k
  · subst hik; simp [h]
  · rw [aget_aset_other _ _ _ _ hik]

/-- the only primitive update that removes a list, `delImpl`, runs when no handle refers to it -/
theorem Referred.prims (g0 : Nat) (h0 : Handle) (im : Nat) (b : Bool) : Sigc.Inv.PrimsA (Referred g0 h0 im b) where
  upd s i x g e d _ h hi _ := ⟨h.1, h.2.1, (aget_aset_isSome _ im hi).trans h.2.2⟩
  filter s i x p d ids _ h hi _ := by
    refine ⟨by rw [nullConnsList_G]; exact h.1, h.2.1, ?_⟩
    rw [nullConnsList_impls]; exact (aget_aset_isSome _ im hi).trans h.2.2
  delImpl s i x _ h _ _ hr := by
    have hne : im ≠ i := fun e => by
      rw [← e, ← refersTo, refersTo_of_aget s.G g0 im h0 h.1 h.2.1] at hr; cases hr
    refine ⟨by rw [nullConnsList_G]; exact h.1, h.2.1, ?_⟩
    rw [nullConnsList_impls]
    exact (congrArg Option.isSome (aget_adel_other _ _ _ hne)).trans h.2.2
  invalS s t _ h := h

/-- `dropHandle g` (= `delG g` when not refused) never removes the list that another handle `g0` in `G` refers to -/
theorem dropHandle_keeps_referred (s : St) (g g0 im : Nat) (h0 : Handle) (hne : g0 ≠ g)
    (hg0 : aget s.G g0 = some h0) (himpl : h0.impl = some im) :
    (aget (dropHandle s g).impls im).isSome = (aget s.impls im).isSome :=
  ((Referred.prims g0 h0 im _).dropHandle g
    (fun _ h => ⟨(aget_adel_other _ _ _ hne).trans h.1, h.2⟩) ⟨hg0, himpl, rfl⟩).2.2

end Sigc.StepOwned
