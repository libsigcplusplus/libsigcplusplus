import Sigc.Model
import Sigc.Spec
import Sigc.Lemmas.Basic
import Sigc.Lemmas.SpecPDefs
/-!
# A non-accumulated emission in the statement-level specification `S` (`Sigc.Spec`): `specCallable` and `TurnsRun`,
the counterparts of `callableAt` (`Lemmas/StepUnfold`) and `EmitRun` (`Lemmas/StepIter`); `TurnsRun` is the graph of the instrumented turns `SpecP.turnsT`
-/
namespace Sigc.StepIter
open Sigc.Model

/-- the functor the specification invokes at the turn of entry `cid` of list `i`: the entry must still be
    in the list, valid and unblocked at that moment; this is `Spec.callable` -/
def specCallable (s : Spec.LSt) (i cid : Nat) : Option Fun :=
  match (aget s.sigs i).bind (fun g => g.cells.find? (·.id = cid)) with
  | some { slot := { blocked := false, rep := some { call := true, fn := some fn } }, .. } => some fn
  | _ => none

theorem specCallable_spec : @specCallable = @Spec.callable := rfl

/-- the turns of a non-accumulated emission in `S` over the snapshot `snap`: `calls` = the functors
    invoked, in order, with the values they returned -/
inductive TurnsRun (P : Prog) (i arg : Nat) : Spec.LSt → List Nat → Nat → List (Fun × Nat) → Spec.LSt → Outcome → Nat → Prop
  | done (s : Spec.LSt) (r : Nat) : TurnsRun P i arg s [] r [] s .ok r
  | skip (s : Spec.LSt) (cid : Nat) (rest : List Nat) (r : Nat) (calls : List (Fun × Nat)) (s' : Spec.LSt) (o : Outcome) (v : Nat) :
      specCallable s i cid = none → TurnsRun P i arg s rest r calls s' o v →
      TurnsRun P i arg s (cid :: rest) r calls s' o v
  | call (f : Nat) (s : Spec.LSt) (cid : Nat) (rest : List Nat) (r : Nat) (fn : Fun) (s1 : Spec.LSt) (v1 : Nat)
      (calls : List (Fun × Nat)) (s' : Spec.LSt) (o : Outcome) (v : Nat) :
      specCallable s i cid = some fn → Spec.invokeFun f P s fn arg = some (s1, .ok, v1) →
      TurnsRun P i arg s1 rest v1 calls s' o v →
      TurnsRun P i arg s (cid :: rest) r ((fn, v1) :: calls) s' o v
  | exc (f : Nat) (s : Spec.LSt) (cid : Nat) (rest : List Nat) (r : Nat) (fn : Fun) (s1 : Spec.LSt) (v1 : Nat) :
      specCallable s i cid = some fn → Spec.invokeFun f P s fn arg = some (s1, .exc, v1) →
      TurnsRun P i arg s (cid :: rest) r [(fn, v1)] s1 .exc v1

/-- `TurnsRun` relates exactly what `SpecP.turnsT` computes, with the entry id and the argument dropped from the log -/
theorem turnsT_run (f : Nat) (P : Prog) (s : Spec.LSt) (i : Nat) (snap : List Nat) (arg r : Nat) (s' : Spec.LSt) (o : Outcome)
    (v : Nat) (l : List SpecP.Inv) (h : SpecP.turnsT f P s i snap arg r = some ((s', o, v), l)) :
    TurnsRun P i arg s snap r (l.map (fun c : SpecP.Inv => (c.fn, c.val))) s' o v :=
  SpecP.turnsT_rules P i arg
    (Q := fun s snap r y => TurnsRun P i arg s snap r (y.2.map (fun c : SpecP.Inv => (c.fn, c.val))) y.1.1 y.1.2.1 y.1.2.2)
    (fun s r => .done s r) (fun s cid rest r _ hc h => .skip s cid rest r _ _ _ _ hc h)
    (fun f s cid rest r fn s1 v hc hi => .exc f s cid rest r fn s1 v hc hi)
    (fun f s cid rest r fn s1 v _ hc hi h => .call f s cid rest r fn s1 v _ _ _ _ hc hi h) f s snap r _ h

end Sigc.StepIter
