import Sigc.Lemmas.InvPrims
import Sigc.Lemmas.Frames
/-! a projection of the state that the primitive updates cannot change (`CellBlind`, `LibBlind`; `OwnBlind` for what the
destruction of signal objects writes besides): that it has a given value is a `CellPrims` / `PrimsA` predicate, so "cascade X
leaves component F alone" is an instance of the derivations of `Sigc/Lemmas/InvPrims.lean`, for every cascade and every such
component.  At the end the instances for `G` and `S`; other components are used so seldom that their users state the
projection where they need it (`StepIter.libBlind_td`, `Emit.libBlind_err`, `Emit.epilogue_blind`) -/
namespace Sigc.Model
open Sigc.Inv

/-- `π` reads none of the fields that the cell and impl cascades write (`impls`, `C`, `K`, `ownedK`) -/
def CellBlind {γ : Type} (π : St → γ) : Prop :=
  ∀ (s : St) L C K oK, π { s with impls := L, C := C, K := K, ownedK := oK } = π s

/-- `π` reads none of the fields the four primitive updates write: those of `CellBlind`, and `S` (`invalidateTrackable`) -/
def LibBlind {γ : Type} (π : St → γ) : Prop :=
  ∀ (s : St) L C K oK S, π { s with impls := L, C := C, K := K, ownedK := oK, S := S } = π s

/-- `π` reads none of `G`, `ownedT`, `ownedG`, which the destruction of signal objects and `collect` write besides
    (on its own: `LibBlind.dropHandle` and `LibBlind.collect` ask for both) -/
def OwnBlind {γ : Type} (π : St → γ) : Prop :=
  ∀ (s : St) G oT oG, π { s with G := G, ownedT := oT, ownedG := oG } = π s

theorem LibBlind.cell {γ : Type} {π : St → γ} (h : LibBlind π) : CellBlind π := fun s L C K oK => h s L C K oK s.S

theorem CellBlind.setImpl {γ : Type} {π : St → γ} (h : CellBlind π) (s : St) (i : Nat) (im : Impl) :
    π (setImpl s i im) = π s :=
  h s _ _ _ _

theorem CellBlind.nullConnsList {γ : Type} {π : St → γ} (h : CellBlind π) (s : St) (cs : List Nat) :
    π (nullConnsList s cs) = π s :=
  foldl_frame nullConns π (fun s _ => h s _ _ _ _) cs s

theorem CellBlind.prims {γ : Type} {π : St → γ} (h : CellBlind π) (c : γ) : CellPrims (fun x => π x = c) where
  upd s _ _ _ _ _ hI _ _ := (h s _ _ _ _).trans hI
  filter s _ _ _ _ _ hI _ _ := (h.nullConnsList _ _).trans ((h s _ _ _ _).trans hI)
  delImpl s _ _ hI _ _ _ := (h.nullConnsList _ _).trans ((h s _ _ _ _).trans hI)

theorem LibBlind.nullConnsList {γ : Type} {π : St → γ} (h : LibBlind π) (s : St) (cs : List Nat) :
    π (nullConnsList s cs) = π s :=
  h.cell.nullConnsList s cs

theorem LibBlind.pred {γ : Type} {π : St → γ} (h : LibBlind π) (Q : γ → Prop) : PrimsA (fun s => Q (π s)) where
  upd s i im g e d _ hI _ _ :=
    (h s (aset s.impls i { im with cells := im.cells.map g, exec := e, deferred := d }) s.C s.K s.ownedK s.S).symm ▸ hI
  filter s i im p d _ _ hI _ _ :=
    ((h.nullConnsList _ _).trans
      (h s (aset s.impls i { im with cells := im.cells.filter p, deferred := d }) s.C s.K s.ownedK s.S)).symm ▸ hI
  delImpl s i _ _ hI _ _ _ :=
    ((h.nullConnsList _ _).trans (h s (adel s.impls i) s.C s.K s.ownedK s.S)).symm ▸ hI
  invalS s _ _ hI := (h s s.impls s.C s.K s.ownedK _).symm ▸ hI

/-- the frame lemmas are `(h.prims _).X … rfl` -/
theorem LibBlind.prims {γ : Type} {π : St → γ} (h : LibBlind π) (c : γ) : PrimsA (fun x => π x = c) := h.pred (· = c)

theorem LibBlind.dropHandle {γ : Type} {π : St → γ} (h : LibBlind π) (ho : OwnBlind π) (s : St) (g : Nat) :
    π (dropHandle s g) = π s :=
  (h.prims _).dropHandle g (fun s hI => (ho s _ s.ownedT s.ownedG).trans hI) rfl

theorem LibBlind.collect {γ : Type} {π : St → γ} (h : LibBlind π) (ho : OwnBlind π) (s : St) : π (collect s) = π s :=
  (h.prims _).collect (fun s _ hI => (ho s s.G _ s.ownedG).trans hI) (fun s _ hI => (h s s.impls s.C s.K _ s.S).trans hI)
    (fun s _ g hI _ => (h.dropHandle ho _ g).trans ((ho s s.G s.ownedT _).trans hI)) rfl

/-! `G` is written by none of the primitive updates (`LibBlind`); `S` only by `invalidateTrackable` (`CellBlind`) -/

theorem libBlind_G : LibBlind (·.G) := fun _ _ _ _ _ _ => rfl

@[simp] theorem invalidateTrackable_G (s : St) (t : Nat) : (invalidateTrackable s t).G = s.G :=
  (libBlind_G.prims _).invalidateTrackable t rfl

@[simp] theorem gcImpl_G (s : St) (i : Nat) : (gcImpl s i).G = s.G := (libBlind_G.prims _).gcImpl i rfl

theorem cellBlind_S : CellBlind (·.S) := fun _ _ _ _ _ => rfl

@[simp] theorem disconnectCell_S (s : St) (c : Nat) : (disconnectCell s c).S = s.S :=
  (cellBlind_S.prims _).disconnectCell c rfl

theorem foldl_invalidateCell_S (cs : List Nat) (s : St) : (cs.foldl invalidateCell s).S = s.S :=
  (cellBlind_S.prims _).foldl_invalidateCell cs rfl

@[simp] theorem gcImpl_S (s : St) (i : Nat) : (gcImpl s i).S = s.S := (cellBlind_S.prims _).gcImpl i rfl

end Sigc.Model
