import Sigc.Run
import Sigc.Lemmas.InvSchema
/-!
Every function of the mutual block of `Sigc.Model` (`Mono`), `runTop`, `teardown` and `runProgramWith`: a result obtained
with fuel `f` is obtained, unchanged, with every fuel `f' ≥ f`.
-/
namespace Sigc.Fuel
open Sigc.Model

/-- the information order on `Option`: a defined left side is reproduced on the right -/
def Le {α} (a b : Option α) : Prop := a ≠ none → b = a

/-- each field is `Le (X f …) (X g …)`, written out -/
structure Mono (f g : Nat) : Prop where
  invoke : ∀ P s fn arg, invokeFun f P s fn arg ≠ none → invokeFun g P s fn arg = invokeFun f P s fn arg
  body : ∀ P s ls, runBody f P s ls ≠ none → runBody g P s ls = runBody f P s ls
  line : ∀ P s l, execLine f P s l ≠ none → execLine g P s l = execLine f P s l
  emit : ∀ P s fl impl arg st, emitImpl f P s fl impl arg st ≠ none →
    emitImpl g P s fl impl arg st = emitImpl f P s fl impl arg st
  loop : ∀ P s i cur m arg r, emitLoop f P s i cur m arg r ≠ none →
    emitLoop g P s i cur m arg r = emitLoop f P s i cur m arg r
  deref : ∀ P s i it arg, deref f P s i it arg ≠ none → deref g P s i it arg = deref f P s i it arg
  acc : ∀ P s i it m arg mode k r, accLoop f P s i it m arg mode k r ≠ none →
    accLoop g P s i it m arg mode k r = accLoop f P s i it m arg mode k r
  rev : ∀ P s i it first arg r, revLoop f P s i it first arg r ≠ none →
    revLoop g P s i it first arg r = revLoop f P s i it first arg r
  walk : ∀ P s i it first m arg cs r, walkLoop f P s i it first m arg cs r ≠ none →
    walkLoop g P s i it first m arg cs r = walkLoop f P s i it first m arg cs r
  strat : ∀ P s i first m arg st, runStrat f P s i first m arg st ≠ none →
    runStrat g P s i first m arg st = runStrat f P s i first m arg st
  op : ∀ P s o, execOp f P s o ≠ none → execOp g P s o = execOp f P s o

theorem Le.refl {α} (a : Option α) : Le a a := fun _ => rfl

theorem Le.none {α} (b : Option α) : Le .none b := fun h => (h rfl).elim

/-- a call that has become more defined, under a context that scrutinises it: the motive is found by abstracting the
    two calls from the goal, so that afterwards both sides scrutinise the same term and one `split` opens both -/
@[elab_as_elim] theorem Le.elim {α} {motive : Option α → Option α → Prop} {a a' : Option α} (h : a ≠ .none → a' = a)
    (hn : ∀ b, motive .none b) (hs : motive a a) : motive a a' := by
  cases a with
  | none => exact hn a'
  | some x => rw [h (fun e => nomatch e)]; exact hs

theorem Le.ite {α} {c : Prop} [Decidable c] {a a' b b' : Option α} (ht : c → Le a a') (he : ¬c → Le b b') :
    Le (if c then a else b) (if c then a' else b') := by
  by_cases hc : c
  · rw [if_pos hc, if_pos hc]; exact ht hc
  · rw [if_neg hc, if_neg hc]; exact he hc

theorem mono_zero (g : Nat) : Mono 0 g := by
  constructor
  · intro P s fn arg h; exact absurd (by rw [invokeFun.eq_def]) h
  · intro P s ls h; exact absurd (by rw [runBody.eq_def]) h
  · intro P s l h; exact absurd (by rw [execLine.eq_def]) h
  · intro P s fl impl arg st h; exact absurd (by rw [emitImpl.eq_def]) h
  · intro P s i cur m arg r h; exact absurd (by rw [emitLoop.eq_def]) h
  · intro P s i it arg h; exact absurd (by rw [deref.eq_def]) h
  · intro P s i it m arg mode k r h; exact absurd (by rw [accLoop.eq_def]) h
  · intro P s i it first arg r h; exact absurd (by rw [revLoop.eq_def]) h
  · intro P s i it first m arg cs r h; exact absurd (by rw [walkLoop.eq_def]) h
  · intro P s i first m arg st h; exact absurd (by rw [runStrat.eq_def]) h
  · intro P s o h; exact absurd (by rw [execOp.eq_def]) h

theorem mono_succ {f g : Nat} (ih : Mono f g) : Mono (f+1) (g+1) where
  invoke P s fn arg := show Le _ _ by
    cases fn with
    | leaf fid _ | owner fid _ _ =>
      rw [invokeFun, invokeFun]
      split
      · exact Le.refl _
      · refine Le.elim (ih.body _ _ _) (fun _ => Le.none _) ?_
        split <;> exact Le.refl _
    | nest blocked inner =>
      cases inner with
      | none => rw [invokeFun, invokeFun]; exact Le.refl _
      | some g' => rw [invokeFun, invokeFun]; exact Le.ite (fun _ => Le.refl _) fun _ => ih.invoke _ _ _ _
    | fwd o _ =>
      rw [invokeFun, invokeFun]
      split
      · exact Le.refl _
      · exact ih.emit _ _ _ _ _ _
  body P s ls := show Le _ _ by
    cases ls with
    | nil => rw [runBody, runBody]; exact Le.refl _
    | cons l ls =>
      rw [runBody, runBody]
      refine Le.elim (ih.line _ _ _) (fun _ => Le.none _) ?_
      split
      · exact Le.refl _
      · exact Le.refl _
      · exact ih.body _ _ _
  line P s l := show Le _ _ by
    rw [execLine, execLine]
    refine Le.elim (ih.op _ _ _) (fun _ => Le.none _) ?_
    split <;> exact Le.refl _
  emit P s fl impl arg st := show Le _ _ by
    cases impl with
    | none => rw [emitImpl, emitImpl]; exact Le.refl _
    | some i =>
      rw [emitImpl, emitImpl]
      split
      · exact Le.refl _
      refine Le.ite (fun _ => Le.refl _) fun _ => ?_
      dsimp only [St.fresh]
      refine Le.elim (Le.ite (fun _ => ih.strat _ _ _ _ _ _ _) fun _ => ih.loop _ _ _ _ _ _ _) (fun _ => Le.none _) ?_
      exact Le.refl _
  loop P s i cur m arg r := show Le _ _ by
    rw [StepIter.emitLoop_unfold, StepIter.emitLoop_unfold]
    refine Le.ite (fun _ => Le.refl _) fun _ => ?_
    split
    · exact Le.refl _
    split
    · exact Le.refl _
    have hstep : Le (StepIter.emitStep f P s i cur arg r) (StepIter.emitStep g P s i cur arg r) := by
      unfold StepIter.emitStep
      split
      · exact Le.refl _
      · exact ih.invoke _ _ _ _
    refine Le.elim hstep (fun _ => Le.none _) ?_
    split
    · exact Le.refl _
    · exact Le.refl _
    split
    · exact Le.refl _
    split
    · exact Le.refl _
    · exact ih.loop _ _ _ _ _ _ _
  deref P s i it arg := show Le _ _ by
    rw [deref, deref]
    split
    · exact Le.refl _
    split
    · exact Le.refl _
    split
    · refine Le.ite (fun _ => Le.refl _) fun _ => Le.elim (ih.invoke _ _ _ _) (fun _ => Le.none _) ?_
      split <;> exact Le.refl _
    · exact Le.refl _
  acc P s i it m arg mode k r := show Le _ _ by
    rw [StepIter.accLoop_unfold, StepIter.accLoop_unfold]
    have adv : ∀ s it r, Le (StepIter.accAdvance f P i m arg mode k s it r) (StepIter.accAdvance g P i m arg mode k s it r) := by
      intro s it r
      unfold StepIter.accAdvance
      split
      · exact Le.refl _
      split
      · exact Le.refl _
      · exact ih.acc _ _ _ _ _ _ _ _ _
    refine Le.ite (fun _ => Le.refl _) fun _ => Le.ite (fun _ => adv _ _ _) fun _ =>
      Le.elim (ih.deref P s i it arg) (fun _ => Le.none _) ?_
    split
    · exact Le.refl _
    · exact Le.refl _
    refine Le.ite (fun _ => Le.refl _) fun _ => Le.ite (fun _ => ?_) fun _ => adv _ _ _
    refine Le.elim (ih.deref _ _ _ _ _) (fun _ => Le.none _) ?_
    split
    · exact Le.refl _
    · exact Le.refl _
    · exact adv _ _ _
  rev P s i it first arg r := show Le _ _ by
    rw [revLoop, revLoop]
    refine Le.ite (fun _ => Le.refl _) fun _ => ?_
    split
    · exact Le.refl _
    split
    · exact Le.refl _
    dsimp only
    refine Le.elim (ih.deref _ _ _ _ _) (fun _ => Le.none _) ?_
    split
    · exact Le.refl _
    · exact Le.refl _
    · exact ih.rev _ _ _ _ _ _ _
  walk P s i it first m arg cs r := show Le _ _ by
    cases cs with
    | nil => rw [walkLoop, walkLoop]; exact Le.refl _
    | cons c cs =>
      rw [walkLoop, walkLoop]
      have next := ih.walk P
      refine Le.ite (fun _ => Le.ite (fun _ => next _ _ _ _ _ _ _ _) fun _ => ?_) fun _ =>
        Le.ite (fun _ => Le.ite (fun _ => next _ _ _ _ _ _ _ _) fun _ => ?_) fun _ =>
        Le.ite (fun _ => Le.ite (fun _ => next _ _ _ _ _ _ _ _) fun _ => ?_) fun _ =>
        Le.ite (fun _ => Le.ite (fun _ => next _ _ _ _ _ _ _ _) fun _ => ?_) fun _ => next _ _ _ _ _ _ _ _
      · refine Le.elim (ih.deref P s i it arg) (fun _ => Le.none _) ?_
        split
        · exact Le.refl _
        · exact Le.refl _
        · exact next _ _ _ _ _ _ _ _
      · refine Le.elim (ih.deref P s i it arg) (fun _ => Le.none _) ?_
        split
        · exact Le.refl _
        · exact Le.refl _
        · exact next _ _ _ _ _ _ _ _
      · split
        · exact Le.refl _
        split
        · exact Le.refl _
        · exact next _ _ _ _ _ _ _ _
      · split
        · exact Le.refl _
        split
        · exact Le.refl _
        · exact next _ _ _ _ _ _ _ _
  strat P s i first m arg st := show Le _ _ by
    rw [runStrat.eq_def, runStrat.eq_def]
    dsimp only
    split
    · exact ih.acc _ _ _ _ _ _ _ _ _
    · exact ih.acc _ _ _ _ _ _ _ _ _
    · exact ih.acc _ _ _ _ _ _ _ _ _
    · exact ih.acc _ _ _ _ _ _ _ _ _
    · exact ih.acc _ _ _ _ _ _ _ _ _
    · exact ih.rev _ _ _ _ _ _ _
    · exact ih.walk _ _ _ _ _ _ _ _ _
  op P s o := show Le _ _ by
    by_cases h1 : ∃ i arg, o = .callS i arg
    · obtain ⟨i, arg, rfl⟩ := h1
      rw [execOp, execOp]
      dsimp only
      split
      · exact Le.refl _
      refine Le.ite (fun _ => Le.refl _) fun _ => Le.ite (fun _ => Le.refl _) fun _ => ?_
      split
      · refine Le.ite (fun _ => Le.refl _) fun _ => Le.elim (ih.invoke _ _ _ _) (fun _ => Le.none _) ?_
        exact Le.refl _
      · exact Le.refl _
    by_cases h2 : ∃ g' arg st t, o = .emit g' arg st t
    · obtain ⟨g', arg, st, t, rfl⟩ := h2
      rw [execOp, execOp]
      dsimp only
      split
      · exact Le.refl _
      refine Le.ite (fun _ => Le.refl _) fun _ => Le.ite (fun _ => Le.refl _) fun _ =>
        Le.elim (ih.emit _ _ _ _ _ _) (fun _ => Le.none _) (Le.refl _)
    have h1' : ∀ i arg, o ≠ .callS i arg := fun i arg e => h1 ⟨i, arg, e⟩
    have h2' : ∀ g' arg st t, o ≠ .emit g' arg st t := fun g' arg st t e => h2 ⟨g', arg, st, t, e⟩
    by_cases h3 : o = .throw_
    · subst h3; rw [execOp, execOp]; exact Le.refl _
    rw [Model.execOp_simple f P s o h1' h2' h3, Model.execOp_simple g P s o h1' h2' h3]
    exact Le.refl _

theorem mono : ∀ {f g : Nat}, f ≤ g → Mono f g
  | 0, g, _ => mono_zero g
  | f+1, 0, h => absurd h (by omega)
  | f+1, g+1, h => mono_succ (mono (Nat.le_of_succ_le_succ h))

theorem of_ne_none {α} {a b : Option α} {r : α} (hm : a ≠ none → b = a) (h : a = some r) : b = some r := by
  rw [hm (by rw [h]; exact fun e => nomatch e), h]

theorem unique_of_mono {α} {F : Nat → Option α} (hm : ∀ {f f' r}, f ≤ f' → F f = some r → F f' = some r)
    {f f' : Nat} {r r' : α} (h : F f = some r) (h' : F f' = some r') : r = r' := by
  rcases Nat.le_total f f' with hle | hle
  · exact Option.some.inj ((hm hle h).symm.trans h')
  · exact Option.some.inj (h.symm.trans (hm hle h'))

theorem invokeFun_mono {f g P s fn arg r} (hle : f ≤ g) (h : invokeFun f P s fn arg = some r) :
    invokeFun g P s fn arg = some r := of_ne_none ((mono hle).invoke P s fn arg) h
theorem runBody_mono {f g P s ls r} (hle : f ≤ g) (h : runBody f P s ls = some r) :
    runBody g P s ls = some r := of_ne_none ((mono hle).body P s ls) h
theorem execLine_mono {f g P s l r} (hle : f ≤ g) (h : execLine f P s l = some r) :
    execLine g P s l = some r := of_ne_none ((mono hle).line P s l) h
theorem emitImpl_mono {f g P s fl impl arg st r} (hle : f ≤ g) (h : emitImpl f P s fl impl arg st = some r) :
    emitImpl g P s fl impl arg st = some r := of_ne_none ((mono hle).emit P s fl impl arg st) h
theorem emitLoop_mono {f g P s i cur m arg r0 r} (hle : f ≤ g) (h : emitLoop f P s i cur m arg r0 = some r) :
    emitLoop g P s i cur m arg r0 = some r := of_ne_none ((mono hle).loop P s i cur m arg r0) h
theorem deref_mono {f g P s i it arg r} (hle : f ≤ g) (h : deref f P s i it arg = some r) :
    deref g P s i it arg = some r := of_ne_none ((mono hle).deref P s i it arg) h
theorem accLoop_mono {f g P s i it m arg mode k r0 r} (hle : f ≤ g)
    (h : accLoop f P s i it m arg mode k r0 = some r) : accLoop g P s i it m arg mode k r0 = some r :=
  of_ne_none ((mono hle).acc P s i it m arg mode k r0) h
theorem revLoop_mono {f g P s i it first arg r0 r} (hle : f ≤ g) (h : revLoop f P s i it first arg r0 = some r) :
    revLoop g P s i it first arg r0 = some r := of_ne_none ((mono hle).rev P s i it first arg r0) h
theorem walkLoop_mono {f g P s i it first m arg cs r0 r} (hle : f ≤ g)
    (h : walkLoop f P s i it first m arg cs r0 = some r) : walkLoop g P s i it first m arg cs r0 = some r :=
  of_ne_none ((mono hle).walk P s i it first m arg cs r0) h
theorem runStrat_mono {f g P s i first m arg st r} (hle : f ≤ g) (h : runStrat f P s i first m arg st = some r) :
    runStrat g P s i first m arg st = some r := of_ne_none ((mono hle).strat P s i first m arg st) h
theorem execOp_mono {f g P s o r} (hle : f ≤ g) (h : execOp f P s o = some r) :
    execOp g P s o = some r := of_ne_none ((mono hle).op P s o) h

theorem runTop_mono {f g : Nat} (hle : f ≤ g) (P : Prog) : ∀ (ls : List Line) (s r : St),
    runTop f P s ls = some r → runTop g P s ls = some r := by
  intro ls
  induction ls with
  | nil => intro s r h; simpa [runTop] using h
  | cons l ls ih =>
    intro s r h
    simp only [runTop] at h ⊢
    split at h
    · cases h
    · rename_i s1 o1 h1
      rw [execLine_mono hle h1]
      exact ih s1 r h

/-- the sequence of quiet operations that the two `teardown`s run -/
def seqOps {σ : Type} (q : σ → Op → Option σ) (s : Option σ) (ops : List Op) : Option σ :=
  ops.foldl (fun acc op => acc.bind (q · op)) s

theorem seqOps_mono {σ : Type} {q q' : σ → Op → Option σ} (hq : ∀ s o r, q s o = some r → q' s o = some r)
    (ops : List Op) : ∀ (s s' : Option σ) (r : σ), (∀ x, s = some x → s' = some x) →
      seqOps q s ops = some r → seqOps q' s' ops = some r := by
  induction ops with
  | nil => exact fun _ _ r hs h => hs r h
  | cons o ops ih =>
    intro s s' r hs h
    refine ih _ _ r ?_ h
    intro x hx
    cases s with
    | none => cases hx
    | some a => rw [hs a rfl]; exact hq a o x hx

theorem teardown_mono {f g : Nat} (hle : f ≤ g) (P : Prog) (s r : St)
    (h : teardown f P s = some r) : teardown g P s = some r := by
  have hq : ∀ s o r, Inv.tdQuiet f P s o = some r → Inv.tdQuiet g P s o = some r := by
    intro s o r h
    unfold Inv.tdQuiet at h ⊢
    cases e : execOp f P s o with
    | none => rw [e] at h; cases h
    | some p => rw [execOp_mono hle e]; rw [e] at h; exact h
  -- `Inv.tdSeq f P` is `seqOps (Inv.tdQuiet f P)`
  have seq : ∀ ops s r, Inv.tdSeq f P (some s) ops = some r → Inv.tdSeq g P (some s) ops = some r :=
    fun ops s r => seqOps_mono hq ops (some s) (some s) r fun _ => id
  rw [Inv.teardown_eq] at h ⊢
  split at h
  · cases h
  · rename_i s1 h1
    rw [seq _ _ _ h1]
    simp only [] at h ⊢
    split at h
    · cases h
    · rename_i s2 h2
      rw [seq _ _ _ h2]
      exact seq _ _ _ h


/-- `Model.runProgram` with the fuel as a parameter (`Model.runProgram = runProgramWith defaultFuel`) -/
def runProgramWith (fuel : Nat) (lines : List String) : List String :=
  let P := parseProg lines
  match runTop fuel P {} P.top with
  | none => ["MODEL-FUEL"]
  | some s =>
    match teardown fuel P s with
    | none => ["MODEL-FUEL"]
    | some s =>
      let body := (s.trace.reverse.map renderEvent) ++ [s!"0 final live={liveTotal s}"]
      match s.err with
      | none => body
      | some e => body ++ [s!"MODEL-ERROR {e}"]

theorem runProgram_eq_with (lines : List String) : Model.runProgram lines = runProgramWith defaultFuel lines := rfl

/-- an output other than the fuel notice comes from terminated runs of `runTop` and `teardown`, which the
    larger fuel repeats -/
theorem runProgramWith_mono {f g : Nat} (hle : f ≤ g) {lines : List String}
    (h : runProgramWith f lines ≠ ["MODEL-FUEL"]) : runProgramWith g lines = runProgramWith f lines := by
  unfold runProgramWith at h ⊢
  dsimp only at h ⊢
  cases h1 : runTop f (parseProg lines) {} (parseProg lines).top with
  | none => rw [h1] at h; exact absurd rfl h
  | some s =>
    rw [runTop_mono hle _ _ _ _ h1]
    rw [h1] at h
    dsimp only at h ⊢
    cases h2 : teardown f (parseProg lines) s with
    | none => rw [h2] at h; exact absurd rfl h
    | some t => rw [teardown_mono hle _ _ _ h2]

end Sigc.Fuel
