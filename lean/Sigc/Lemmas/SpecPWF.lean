import Sigc.Lemmas.SpecPOwn
/-!
# SpecPWF — well-formedness of the states of `S` and the step relation preserved by every function

`WF s`: list keys and entry ids are below `s.next`, the ids of a list are pairwise distinct, without `k2` no entry is a
marker or a zombie, without `k1` no list is dirty.  `Step s s'`: `next` does not decrease, `k1/k2` are kept, and from a
well-formed `s`: `s'` is well-formed, every list has as many emissions in progress as before (`actOf`, 0 for an absent
list), and every entry id of `s'` below `s.next` was an entry id of `s` (ids are never reused).
-/
namespace Sigc.SpecP
open Sigc.Spec
open Sigc.Model (aget aset adel amap Prog Line Op FSpec Fun SlotB SlotVar Rep Handle Flavour Strat Outcome Event
  aget_nil aget_aset_same aget_aset_other aget_amap aget_adel_same aget_adel_other aget_of_adel)

def actL (sigs : List (Nat × LSig)) (i : Nat) : Nat :=
  match aget sigs i with
  | some g => g.active
  | none => 0

def actOf (s : LSt) (i : Nat) : Nat := actL s.sigs i

def idsL (sigs : List (Nat × LSig)) (n : Nat) : Prop :=
  ∃ i g c, aget sigs i = some g ∧ c ∈ g.cells ∧ c.id = n

structure WFSig (k1 k2 : Bool) (nx : Nat) (g : LSig) : Prop where
  lt : ∀ c ∈ g.cells, c.id < nx
  nodup : (g.cells.map (·.id)).Nodup
  pure : k2 = false → ∀ c ∈ g.cells, c.marker = false ∧ c.zombie = false
  clean : k1 = false → g.dirty = false

def WFL (k1 k2 : Bool) (nx : Nat) (sigs : List (Nat × LSig)) : Prop :=
  ∀ i g, aget sigs i = some g → i < nx ∧ WFSig k1 k2 nx g

def WF (s : LSt) : Prop := WFL s.k1 s.k2 s.next s.sigs

def Step (s s' : LSt) : Prop :=
  s.next ≤ s'.next ∧ s'.k1 = s.k1 ∧ s'.k2 = s.k2 ∧
  (WF s → WF s' ∧ (∀ i, actOf s' i = actOf s i) ∧ (∀ n, n < s.next → idsL s'.sigs n → idsL s.sigs n))

theorem WF_init (k1 k2 : Bool) : WF { k1 := k1, k2 := k2 } := by
  intro i g h
  simp [aget] at h

theorem WFSig.mono {k1 k2 : Bool} {nx nx' : Nat} {g : LSig} (h : WFSig k1 k2 nx g) (hn : nx ≤ nx') :
    WFSig k1 k2 nx' g :=
  ⟨fun c hc => Nat.lt_of_lt_of_le (h.lt c hc) hn, h.nodup, h.pure, h.clean⟩

theorem WFSig.empty (k1 k2 : Bool) (nx : Nat) : WFSig k1 k2 nx {} :=
  ⟨by simp, by simp, by simp, fun _ => rfl⟩

theorem WFSig.sublist {k1 k2 : Bool} {nx : Nat} {g : LSig} (h : WFSig k1 k2 nx g) {cs : List LCell} (hs : cs.Sublist g.cells)
    (a : Nat) (d : Bool) (l : List SlotB) (hd : k1 = false → d = false) :
    WFSig k1 k2 nx { cells := cs, active := a, dirty := d, limbo := l } :=
  ⟨fun c hc => h.lt c (hs.subset hc), (hs.map _).nodup h.nodup, fun hk c hc => h.pure hk c (hs.subset hc), hd⟩

theorem WFSig.map {k1 k2 : Bool} {nx : Nat} {g : LSig} (h : WFSig k1 k2 nx g) (f : LCell → LCell) (a : Nat)
    (d : Bool) (l : List SlotB) (hd : k1 = false → d = false)
    (hf : ∀ c, (f c).id = c.id) (hm : k2 = false → ∀ c, (f c).marker = c.marker ∧ (f c).zombie = c.zombie) :
    WFSig k1 k2 nx { cells := g.cells.map f, active := a, dirty := d, limbo := l } := by
  refine ⟨fun c hc => ?_, ?_, fun hk c hc => ?_, hd⟩
  · obtain ⟨c0, hc0, rfl⟩ := List.mem_map.1 hc
    exact hf c0 ▸ h.lt c0 hc0
  · simpa only [List.map_map, Function.comp_def, hf] using h.nodup
  · obtain ⟨c0, hc0, rfl⟩ := List.mem_map.1 hc
    rw [(hm hk c0).1, (hm hk c0).2]
    exact h.pure hk c0 hc0

theorem perm_insert {α} (first : Bool) (a : α) (l : List α) : (if first then a :: l else l ++ [a]).Perm (a :: l) := by
  cases first
  · exact List.perm_append_singleton a l
  · exact .refl _

theorem WFSig.insert {k1 k2 : Bool} {nx : Nat} {g : LSig} (h : WFSig k1 k2 nx g) {cs : List LCell} {c : LCell}
    (hp : cs.Perm (c :: g.cells)) (hc : c.id = nx) (hm : k2 = false → c.marker = false ∧ c.zombie = false)
    (a : Nat) (l : List SlotB) : WFSig k1 k2 (nx + 1) { cells := cs, active := a, dirty := g.dirty, limbo := l } := by
  have hmem : ∀ x ∈ cs, x = c ∨ x ∈ g.cells := fun x hx => List.mem_cons.1 (hp.mem_iff.1 hx)
  refine ⟨fun x hx => ?_, ?_, fun hk x hx => ?_, h.clean⟩
  · rcases hmem x hx with rfl | hx
    · exact hc ▸ Nat.lt_succ_self _
    · exact Nat.lt_succ_of_lt (h.lt x hx)
  · rw [(hp.map _).nodup_iff, List.map_cons, List.nodup_cons]
    refine ⟨fun hin => ?_, h.nodup⟩
    obtain ⟨x, hx, he⟩ := List.mem_map.1 hin
    exact Nat.lt_irrefl _ (hc ▸ he ▸ h.lt x hx)
  · rcases hmem x hx with rfl | hx
    · exact hm hk
    · exact h.pure hk x hx

theorem ids_filter_sub (p : LCell → Bool) (cs : List LCell) (c : LCell) (h : c ∈ cs.filter p) : c ∈ cs :=
  (List.mem_filter.1 h).1

theorem WFSig.remove {k1 k2 : Bool} {nx : Nat} {g : LSig} (h : WFSig k1 k2 nx g) (d : Bool) (p : LCell → Bool) :
    WFSig k1 k2 nx (g.remove k1 k2 d p) := by
  unfold LSig.remove
  have hd : k1 = false → (g.dirty || (k1 && decide (g.active > 0) &&
      g.cells.any (fun c => p c && !c.zombie && !c.marker))) = false := by
    intro hk; simp [hk, h.clean hk]
  by_cases hb : (k2 && decide (g.active > 0)) = true
  · simp only [hb, if_true]
    refine WFSig.map h _ _ _ _ hd ?_ ?_
    · intro c; split <;> rfl
    · intro hk; simp [hk] at hb
  · simp only [hb]
    exact h.sublist List.filter_sublist _ _ _ hd

theorem remove_active (g : LSig) (k1 k2 d : Bool) (p : LCell → Bool) : (g.remove k1 k2 d p).active = g.active := rfl

theorem closeSig_sublist (m : Nat) (g : LSig) : (closeSig m g).cells.Sublist g.cells := by
  unfold closeSig
  dsimp only
  split <;> split <;> simp only [List.filter_filter] <;> exact List.filter_sublist

theorem WFSig.closeSig {k1 k2 : Bool} {nx : Nat} {g : LSig} (h : WFSig k1 k2 nx g) (m : Nat) :
    WFSig k1 k2 nx (closeSig m g) := by
  have hd : k1 = false → (Sigc.SpecP.closeSig m g).dirty = false := by
    intro hk
    unfold Sigc.SpecP.closeSig
    dsimp only
    split <;> split <;> first | rfl | exact h.clean hk
  exact h.sublist (closeSig_sublist m g) _ _ _ hd

theorem actL_aset (sigs : List (Nat × LSig)) (i j : Nat) (g : LSig) :
    actL (aset sigs i g) j = if j = i then g.active else actL sigs j := by
  unfold actL
  by_cases h : j = i
  · subst h; simp
  · simp [h, aget_aset_other _ _ _ _ h]

theorem actL_amap (sigs : List (Nat × LSig)) (f : LSig → LSig) (hf : ∀ g, (f g).active = g.active) (j : Nat) :
    actL (amap sigs f) j = actL sigs j := by
  unfold actL
  rw [aget_amap]
  cases aget sigs j <;> simp [hf]

theorem actL_adel (sigs : List (Nat × LSig)) (i j : Nat) (h : actL sigs i = 0) :
    actL (adel sigs i) j = actL sigs j := by
  by_cases hj : j = i
  · subst hj
    rw [h]; simp [actL]
  · simp [actL, aget_adel_other _ _ _ hj]

theorem WFL.mono {k1 k2 : Bool} {nx nx' : Nat} {sigs : List (Nat × LSig)} (h : WFL k1 k2 nx sigs) (hn : nx ≤ nx') :
    WFL k1 k2 nx' sigs :=
  fun i g hg => ⟨Nat.lt_of_lt_of_le (h i g hg).1 hn, (h i g hg).2.mono hn⟩

theorem WFL.aset {k1 k2 : Bool} {nx nx' : Nat} {sigs : List (Nat × LSig)} (h : WFL k1 k2 nx sigs) (hn : nx ≤ nx')
    {i : Nat} {g : LSig} (hi : i < nx') (hg : WFSig k1 k2 nx' g) : WFL k1 k2 nx' (aset sigs i g) := by
  intro j x hx
  by_cases hj : j = i
  · subst hj
    rw [aget_aset_same] at hx
    cases hx
    exact ⟨hi, hg⟩
  · rw [aget_aset_other _ _ _ _ hj] at hx
    exact h.mono hn j x hx

theorem idsL_aset {sigs : List (Nat × LSig)} {i : Nat} {g : LSig} {n : Nat} (h : idsL (aset sigs i g) n) :
    (∃ c ∈ g.cells, c.id = n) ∨ idsL sigs n := by
  obtain ⟨j, x, c, hx, hc, he⟩ := h
  by_cases hj : j = i
  · subst hj
    rw [aget_aset_same] at hx
    cases hx
    exact .inl ⟨c, hc, he⟩
  · rw [aget_aset_other _ _ _ _ hj] at hx
    exact .inr ⟨j, x, c, hx, hc, he⟩

theorem Step.refl (s : LSt) : Step s s :=
  ⟨Nat.le_refl _, rfl, rfl, fun h => ⟨h, fun _ => rfl, fun _ _ h => h⟩⟩

theorem Step.restores {s s' : LSt} (h : Step s s') (hw : WF s) : (∀ i, actOf s' i = actOf s i) ∧ WF s' ∧ s.next ≤ s'.next :=
  ⟨(h.2.2.2 hw).2.1, (h.2.2.2 hw).1, h.1⟩

theorem Step.trans {s s' s'' : LSt} (h1 : Step s s') (h2 : Step s' s'') : Step s s'' := by
  obtain ⟨n1, a1, b1, c1⟩ := h1
  obtain ⟨n2, a2, b2, c2⟩ := h2
  refine ⟨Nat.le_trans n1 n2, a2.trans a1, b2.trans b1, fun hw => ?_⟩
  obtain ⟨w1, e1, o1⟩ := c1 hw
  obtain ⟨w2, e2, o2⟩ := c2 w1
  exact ⟨w2, fun i => (e2 i).trans (e1 i), fun n hn hi => o1 n hn (o2 n (Nat.lt_of_lt_of_le hn n1) hi)⟩

theorem step_frame' {s s' : LSt} (hs : s'.sigs = s.sigs) (hn : s.next ≤ s'.next) (h1 : s'.k1 = s.k1) (h2 : s'.k2 = s.k2) :
    Step s s' := by
  refine ⟨hn, h1, h2, fun hw => ⟨?_, ?_, ?_⟩⟩
  · unfold WF; rw [hs, h1, h2]; exact WFL.mono hw hn
  · intro i; unfold actOf; rw [hs]
  · intro n _ h; rw [hs] at h; exact h

theorem step_fields {s s' : LSt} (d : Nat)
    (h : (s'.sigs, s'.next, s'.k1, s'.k2) = (s.sigs, s.next + d, s.k1, s.k2)) : Step s s' := by
  simp only [Prod.mk.injEq] at h
  exact step_frame' h.1 (h.2.1 ▸ Nat.le_add_right _ _) h.2.2.1 h.2.2.2

/-- `Step.trans`, later step first: in a chain written this way every step finds its source state in the goal's target -/
theorem Step.after {s s' s'' : LSt} (h2 : Step s' s'') (h1 : Step s s') : Step s s'' := Step.trans h1 h2

theorem Step.ite {s a b : LSt} {c : Prop} [Decidable c] (ha : Step s a) (hb : Step s b) :
    Step s (if c then a else b) := by
  split <;> assumption

theorem step_aset {s s' : LSt} (i : Nat) (g g' : LSig) (hg : aget s.sigs i = some g) (hs : s'.sigs = aset s.sigs i g')
    (hn : s.next ≤ s'.next) (h1 : s'.k1 = s.k1) (h2 : s'.k2 = s.k2) (ha : g'.active = g.active)
    (hw : WFSig s.k1 s.k2 s.next g → WFSig s.k1 s.k2 s'.next g')
    (hi : ∀ c ∈ g'.cells, c.id < s.next → ∃ c0 ∈ g.cells, c0.id = c.id) : Step s s' := by
  refine ⟨hn, h1, h2, fun hwf => ⟨?_, fun j => ?_, fun n hlt h => ?_⟩⟩
  · unfold WF; rw [hs, h1, h2]
    exact hwf.aset hn (Nat.lt_of_lt_of_le (hwf i g hg).1 hn) (hw (hwf i g hg).2)
  · unfold actOf; rw [hs, actL_aset, ha]
    split
    · next hj => rw [hj, actL, hg]
    · rfl
  · rw [hs] at h
    rcases idsL_aset h with ⟨c, hc, rfl⟩ | h
    · obtain ⟨c0, hc0, he⟩ := hi c hc hlt
      exact ⟨i, g, c0, hg, hc0, he⟩
    · exact h

theorem step_setSig_remove (s : LSt) (i : Nat) (g : LSig) (d : Bool) (p : LCell → Bool) (hg : aget s.sigs i = some g) :
    Step s (setSig s i (g.remove s.k1 s.k2 d p)) :=
  step_aset i g _ hg rfl (Nat.le_refl _) rfl rfl rfl (fun h => h.remove d p) (fun c hc _ => remove_ids g _ _ d p c hc)

theorem step_invalidate (s : LSt) (t : Nat) : Step s (invalidateTrackable s t) := by
  have key : ∀ i g, aget (invalidateTrackable s t).sigs i = some g →
      ∃ g0, aget s.sigs i = some g0 ∧ g0.remove s.k1 s.k2 true (fun c => c.slot.tracksObj t) = g :=
    fun i g hg => Option.map_eq_some_iff.1 ((aget_amap _ _ _).symm.trans hg)
  refine ⟨Nat.le_refl _, rfl, rfl, fun hwf => ⟨fun i g hg => ?_, fun i => actL_amap _ (LSig.remove · s.k1 s.k2 true _) (fun _ => rfl) i, ?_⟩⟩
  · obtain ⟨g0, hg0, rfl⟩ := key i g hg
    exact ⟨(hwf i g0 hg0).1, (hwf i g0 hg0).2.remove true _⟩
  · rintro n _ ⟨i, g, c, hg, hc, rfl⟩
    obtain ⟨g0, hg0, rfl⟩ := key i g hg
    obtain ⟨c0, hc0, he⟩ := remove_ids g0 _ _ true _ c hc
    exact ⟨i, g0, c0, hg0, hc0, he⟩

theorem step_releases : Releases Step where
  refl := Step.refl
  trans := Step.trans
  remove d p hg := step_setSig_remove _ _ _ d p hg
  invalidate := step_invalidate
  delSig {s i g} hg ha := by
    refine ⟨Nat.le_refl _, rfl, rfl, fun hwf => ⟨fun j x hx => hwf j x (aget_of_adel hx),
      fun j => actL_adel _ _ _ (by simp [actL, hg, ha]), ?_⟩⟩
    rintro n _ ⟨j, x, c, hx, hc', rfl⟩
    exact ⟨j, x, c, aget_of_adel hx, hc', rfl⟩
  delG _ _ := step_fields 0 rfl
  ownedT _ _ := step_fields 0 rfl
  ownedK _ _ := step_fields 0 rfl
  ownedG _ _ := step_fields 0 rfl

theorem step_disconnect (s : LSt) (p : Option Nat) :
    Step s (match p with | some cid => removeCell s cid | none => s) := by
  cases p with
  | none => exact Step.refl s
  | some cid => exact step_releases.removeCell s cid

theorem Step.invalidate_if {s a : LSt} {c : Prop} [Decidable c] {t : Nat} (h : Step s a) :
    Step s (if c then invalidateTrackable a t else a) :=
  .ite (.after (step_invalidate _ _) h) h

theorem step_updCell (s : LSt) (cid : Nat) (f : LCell → LCell) (hf : ∀ c, (f c).id = c.id)
    (hm : ∀ c, (f c).marker = c.marker ∧ (f c).zombie = c.zombie) : Step s (updCell s cid f) := by
  unfold updCell
  split
  · exact Step.refl s
  · split
    · exact Step.refl s
    · rename_i i _ g hg
      refine step_aset _ g _ hg rfl (Nat.le_refl _) rfl rfl rfl (fun h => ?_) (fun c hc _ => ?_)
      · refine WFSig.map h _ _ _ _ h.clean ?_ ?_
        · intro c; split <;> simp [hf]
        · intro _ c; split <;> simp [hm]
      · obtain ⟨c0, hc0, rfl⟩ := List.mem_map.1 hc
        refine ⟨c0, hc0, ?_⟩
        split <;> simp [hf]

theorem step_release (s : LSt) (o : Option Nat) :
    Step s (match o with | some old => gcSig s old | none => s) := by
  cases o with
  | none => exact Step.refl s
  | some old => exact step_releases.gcSig s old

/-- `ensureSig`: nothing, or a new, empty list under the key `s.next` -/
theorem step_ensureSig (s s1 : LSt) (g im : Nat) (h : ensureSig s g = some (s1, im)) : Step s s1 := by
  unfold ensureSig at h
  split at h
  · cases h
  · split at h
    · cases h; exact Step.refl s
    · cases h
      refine ⟨Nat.le_succ _, rfl, rfl, fun hwf => ⟨?_, fun j => ?_, fun n _ h => ?_⟩⟩
      · exact WFL.aset hwf (Nat.le_succ _) (Nat.lt_succ_self _) (WFSig.empty _ _ _)
      · refine (actL_aset _ _ _ _).trans ?_
        split
        · next hj =>
          subst hj
          cases hx : aget s.sigs s.next with
          | none => simp only [actOf, actL, hx]
          | some x => exact absurd (hwf _ x hx).1 (Nat.lt_irrefl _)
        · rfl
      · rcases idsL_aset h with ⟨c, hc, _⟩ | h
        · cases hc
        · exact h

theorem step_log (s : LSt) (e : Event) : Step s (s.log e) := step_fields 0 rfl

theorem step_fail (s : LSt) (m : String) : Step s (s.fail m) := by
  refine step_frame' ?_ ?_ ?_ ?_ <;> simp only [LSt.fail] <;> split <;> simp

theorem step_insertCell (s : LSt) (i : Nat) (first : Bool) (sl : SlotB) : Step s (insertCell s i first sl).1 := by
  unfold insertCell
  simp only [LSt.fresh]
  split
  · exact .after (step_fail _ _) (step_fields 1 rfl)
  · next g hg =>
    refine step_aset (s := s) i g _ hg rfl (Nat.le_succ _) rfl rfl rfl
      (fun h => h.insert (perm_insert _ _ _) rfl (fun _ => ⟨rfl, rfl⟩) _ _) (fun c hc hlt => ?_)
    rcases List.mem_cons.1 ((perm_insert _ _ _).mem_iff.1 hc) with rfl | hc
    · exact absurd hlt (Nat.lt_irrefl _)
    · exact ⟨c, hc, rfl⟩

theorem step_insert_conn (s : LSt) (i : Nat) (first : Bool) (sl : SlotB) (C : List (Nat × Option Nat)) :
    Step s { (insertCell s i first sl).1 with C := C } :=
  .after (step_fields 0 rfl) (step_insertCell s i first sl)

def StepTo {α : Type} (s : LSt) (x : Option (LSt × α)) : Prop := ∀ s' a, x = some (s', a) → Step s s'

theorem StepTo.none {α : Type} {s : LSt} : StepTo s (none : Option (LSt × α)) := fun _ _ e => nomatch e

theorem StepTo.ret {α : Type} {s t : LSt} {a : α} (h : Step s t) : StepTo s (some (t, a)) := by
  intro s' a' e; cases e; exact h

theorem StepTo.self {α : Type} {s : LSt} {a : α} : StepTo s (some (s, a)) := .ret (.refl s)

theorem StepTo.ite {α : Type} {s : LSt} {x y : Option (LSt × α)} {c : Prop} [Decidable c] (hx : StepTo s x) (hy : StepTo s y) :
    StepTo s (if c then x else y) := by
  split <;> assumption

theorem StepTo.trans {α : Type} {s s1 : LSt} {x : Option (LSt × α)} (h : Step s s1) (hx : StepTo s1 x) : StepTo s x :=
  fun s' a e => Step.trans h (hx s' a e)

end Sigc.SpecP
