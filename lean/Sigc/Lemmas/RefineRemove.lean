import Sigc.Lemmas.RefineBasic
import Sigc.Lemmas.SpecBasic
import Sigc.Lemmas.EmitTouchFold
/-!
Entries leaving their list.  The model's side in closed form is in `Sigc/Lemmas/EmitTouchFold.lean` (`nullSt`, `touchImpl`,
`Emit.touch_fold`); here the fold of `touchCell` (`disconnectCell`/`invalidateCell`) over a list of cell ids is simulated by
`LSig.remove` of the specification (`touch_sim`).  `R.lists` is how `R` is rebuilt after the lists have changed, asked from
the model's side.
-/
namespace Sigc.Refine
open Sigc.Model

theorem SameHold.refl (a : SlotB) : SameHold a a := ⟨fun _ => rfl, fun _ => rfl⟩
theorem SameHold.symm {a b : SlotB} (h : SameHold a b) : SameHold b a := ⟨fun o => (h.1 o).symm, fun k => (h.2 k).symm⟩
theorem SameHold.trans {a b c : SlotB} (h1 : SameHold a b) (h2 : SameHold b c) : SameHold a c :=
  ⟨fun o => (h1.1 o).trans (h2.1 o), fun k => (h1.2 k).trans (h2.2 k)⟩

theorem sameHold_disconnectRep (sl : SlotB) : SameHold sl.disconnectRep sl := by
  unfold SameHold SlotB.disconnectRep SlotB.holdsT SlotB.holdsK
  cases h : sl.rep with
  | none => simp [h]
  | some r => obtain ⟨cl, fn⟩ := r; cases fn <;> simp

theorem disconnectRep_none {sl : SlotB} (h : sl.rep = none) : sl.disconnectRep = sl := by
  unfold SlotB.disconnectRep; simp [h]

theorem invalidate_none {sl : SlotB} (h : sl.rep = none) : sl.invalidate = sl := by
  unfold SlotB.invalidate; simp [h]

theorem invalidate_idem (sl : SlotB) : sl.invalidate.invalidate = sl.invalidate := by
  unfold SlotB.invalidate
  cases h : sl.rep <;> simp [h]

theorem tracks_owns : ∀ (f : Fun), f.tracks ≠ [] → f.ownsT = [] ∧ f.ownsK = []
  | .leaf _ _, _ => ⟨rfl, rfl⟩
  | .fwd _ _, _ => ⟨rfl, rfl⟩
  | .nest _ none, _ => ⟨rfl, rfl⟩
  | .nest _ (some f), h => by
    have := tracks_owns f (by simpa [Fun.tracks] using h)
    simpa [Fun.ownsT, Fun.ownsK] using this
  | .owner _ _ _, h => by simp [Fun.tracks] at h

theorem sameHold_invalidate_of_tracks {sl : SlotB} {t : Nat} (h : sl.tracksObj t = true) : SameHold sl.invalidate sl := by
  unfold SlotB.tracksObj at h
  unfold SameHold SlotB.invalidate SlotB.holdsT SlotB.holdsK
  cases hr : sl.rep with
  | none => simp [hr] at h
  | some r =>
    obtain ⟨cl, fn⟩ := r
    cases fn with
    | none => simp [hr] at h
    | some f =>
      simp only [hr] at h
      have hne : f.tracks ≠ [] := by
        intro e; rw [e] at h; simp at h
      obtain ⟨h1, h2⟩ := tracks_owns f hne
      simp [h1, h2]

theorem remove_active (g : Spec.LSig) (d : Bool) (p : Spec.LCell → Bool) : (g.remove true true d p).active = g.active := rfl
theorem remove_limbo (g : Spec.LSig) (d : Bool) (p : Spec.LCell → Bool) : (g.remove true true d p).limbo = g.limbo := by
  rw [Spec.remove_known]

theorem remove_congr (g : Spec.LSig) (d : Bool) {p q : Spec.LCell → Bool}
    (h : ∀ c ∈ g.cells, c.zombie = false → c.marker = false → p c = q c)
    (h0 : g.active = 0 → ∀ c ∈ g.cells, c.zombie = false ∧ c.marker = false) :
    g.remove true true d p = g.remove true true d q := by
  rw [Spec.remove_known, Spec.remove_known]
  have hany : g.cells.any (fun c => p c && !c.zombie && !c.marker) = g.cells.any (fun c => q c && !c.zombie && !c.marker) := by
    rw [Bool.eq_iff_iff]
    simp only [List.any_eq_true, Bool.and_eq_true, Bool.not_eq_true']
    exact ⟨fun ⟨c, hc, ⟨hp, hz⟩, hm⟩ => ⟨c, hc, ⟨h c hc hz hm ▸ hp, hz⟩, hm⟩,
      fun ⟨c, hc, ⟨hq, hz⟩, hm⟩ => ⟨c, hc, ⟨(h c hc hz hm).symm ▸ hq, hz⟩, hm⟩⟩
  rw [List.map_congr_left fun c hc => Spec.zomb_congr (h c hc), hany]
  by_cases ha : g.active > 0
  · rw [if_pos ha, if_pos ha]
  · rw [if_neg ha, if_neg ha, List.filter_congr fun c hc => by
      obtain ⟨hz, hm⟩ := h0 (by omega) c hc
      rw [h c hc hz hm]]

theorem remove_noop (g : Spec.LSig) (d : Bool) {p : Spec.LCell → Bool}
    (h : ∀ c ∈ g.cells, c.zombie = false → c.marker = false → p c = false)
    (h0 : g.active = 0 → ∀ c ∈ g.cells, c.zombie = false ∧ c.marker = false) :
    g.remove true true d p = g := by
  have hz : g.cells.map (Spec.zomb d fun _ => false) = g.cells := by
    conv => rhs; rw [← List.map_id g.cells]
    exact List.map_congr_left fun _ _ => Spec.zomb_keep rfl
  have hf : g.cells.filter (fun c => !false || c.marker) = g.cells := List.filter_eq_self.2 fun _ _ => rfl
  have ha : g.cells.any (fun c => false && !c.zombie && !c.marker) = false := List.any_eq_false.2 fun _ _ => by simp
  rw [remove_congr g d (q := fun _ => false) h h0, Spec.remove_known, hz, hf, ha]
  cases g; simp

theorem SigR.quiet {im : Impl} {g : Spec.LSig} (hr : SigR im g) (hok : Emit.ImplOK 0 im) (ha : g.active = 0) :
    ∀ d ∈ g.cells, d.zombie = false ∧ d.marker = false := by
  intro d hd
  obtain ⟨c, hc, hcd⟩ := hr.cells.mem_right hd
  have hx : im.exec = 0 := by have := hok.eh; rw [hr.active] at ha; omega
  have hm := hok.no_markers hx c hc
  have hl := hok.d (hok.q1 hx) c hc hm
  rw [hcd.zombie, hcd.marker, hl]; simp

theorem CellR.live {c : Cell} {d : Spec.LCell} (h : CellR c d) : c.linked = (!d.zombie && !d.marker) := by
  rw [h.zombie, h.marker]
  cases hl : c.linked with
  | true => simp
  | false => cases hn : c.slot.rep <;> simp

/-- `hg` ties the flag `dr` of `LSig.remove` to the slot transformer `hf`; `hH`: touching a cell that is already unlinked keeps
    what its slot holds (`SameHold`), since the specification's zombie is not touched again -/
theorem sigR_touch {hf : SlotB → SlotB} {dr : Bool} (hg : ∀ sl, (if dr = true then sl.invalidate else sl.disconnectRep) = hf sl)
    (hw : Emit.Weakens hf) (hnone : ∀ sl : SlotB, sl.rep = none → hf sl = sl)
    {im : Impl} {g : Spec.LSig} (hr : SigR im g) (hok : Emit.ImplOK 0 im) (W : List Nat)
    (hH : ∀ c ∈ im.cells, c.id ∈ W → c.linked = false → SameHold (hf c.slot) c.slot) :
    SigR (touchImpl hf W im) (g.remove true true dr (fun c => W.contains c.id)) := by
  have heh : im.exec = im.holders := by have := hok.eh; omega
  by_cases hx : im.exec = 0
  · have ha : g.active = 0 := by rw [hr.active]; omega
    have hq := hr.quiet hok ha
    refine ⟨?_, ?_, ?_, ?_⟩
    · simp only [touchImpl, hx, if_true, Spec.LSig.remove, Bool.true_and, ha]
      simp only [Nat.lt_irrefl, decide_false, if_false]
      apply F2.filter hr.cells
      intro c d _ hd hcd
      rw [hcd.id, (hq d hd).2]; simp
    · rw [remove_active, Emit.touchImpl_holders]; exact hr.active
    · simp only [touchImpl, hx, if_true, Spec.LSig.remove, ha]
      simp [hr.dirty]
    · rw [remove_limbo]; exact hr.limbo
  · have ha : g.active > 0 := by rw [hr.active]; omega
    refine ⟨?_, ?_, ?_, ?_⟩
    · simp only [touchImpl, hx, if_false, Spec.LSig.remove, Bool.true_and, ha, decide_true, if_true]
      apply F2.map hr.cells
      intro c d hc _ hcd
      unfold touchC
      rw [hcd.id]
      -- per cell: touched and linked (becomes a zombie), touched and unlinked (stays marker or zombie, `SameHold` from
      -- `hH`), untouched
      by_cases hin : c.id ∈ W
      · have hcon : W.contains c.id = true := by simpa using hin
        simp only [hcon, if_true, Bool.true_and]
        cases hl : c.linked with
        | true =>
          have hlive := hcd.live
          rw [hl] at hlive
          have hz : d.zombie = false := by cases h : d.zombie <;> simp [h] at hlive ⊢
          have hm : d.marker = false := by cases h : d.marker <;> simp [h] at hlive ⊢
          have hsl := hcd.slot hz
          have hsome := hcd.lrep hl
          simp only [hz, hm, Bool.not_false, Bool.and_self, if_true]
          refine ⟨rfl, ?_, ?_, ?_, ?_, ?_⟩
          · simp only [hm]
            have := hw.isNone c.slot
            cases hn : c.slot.rep with
            | none => rw [hn] at hsome; simp at hsome
            | some r =>
              have h2 : (hf c.slot).rep.isNone = false := by rw [this, hn]; rfl
              simp [h2]
          · have := hw.isNone c.slot
            cases hn : c.slot.rep with
            | none => rw [hn] at hsome; simp at hsome
            | some r =>
              have h2 : (hf c.slot).rep.isNone = false := by rw [this, hn]; rfl
              cases h3 : (hf c.slot).rep with
              | none => rw [h3] at h2; simp at h2
              | some _ => simp
          · intro h; simp at h
          · intro _
            rw [hg, hsl]
            exact ⟨hw.empty _, SameHold.refl _⟩
          · intro h; simp at h
        | false =>
          have hlive := hcd.live
          rw [hl] at hlive
          have hskip : (!d.marker && !d.zombie) = false := by
            cases h1 : d.marker <;> cases h2 : d.zombie <;> simp [h1, h2] at hlive ⊢
          simp only [hskip, Bool.false_eq_true, if_false]
          have hiso : (hf c.slot).rep.isNone = c.slot.rep.isNone := hw.isNone _
          have hisS : (hf c.slot).rep.isSome = c.slot.rep.isSome := by
            cases h1 : (hf c.slot).rep <;> cases h2 : c.slot.rep <;> simp [h1, h2] at hiso ⊢
          refine ⟨hcd.id, ?_, ?_, ?_, ?_, ?_⟩
          · simp only [hiso]; rw [hcd.marker, hl]
          · simp only [hisS]; rw [hcd.zombie, hl]
          · intro hz
            have := hcd.slot hz
            -- an end marker: nothing changes
            have hzz := hcd.zombie
            rw [hz, hl] at hzz
            have hn : c.slot.rep = none := by
              cases h2 : c.slot.rep with
              | none => rfl
              | some _ => rw [h2] at hzz; simp at hzz
            simp only [hnone _ hn]; exact this
          · intro hz
            obtain ⟨h1, h2⟩ := hcd.zslot hz
            exact ⟨h1, (hH c hc hin hl).trans h2⟩
          · intro h; simp at h
      · have hcon : W.contains c.id = false := by simpa using hin
        simp only [hcon, Bool.false_and, Bool.false_eq_true, if_false]
        exact hcd
    · rw [remove_active, Emit.touchImpl_holders]; exact hr.active
    · simp only [touchImpl, hx, if_false, Spec.LSig.remove, Bool.true_and, ha, decide_true]
      rw [hr.dirty]
      congr 1
      apply Eq.symm
      apply F2.any hr.cells
      intro c d _ _ hcd
      rw [hcd.live, hcd.id, Bool.and_assoc]
    · rw [remove_limbo]; exact hr.limbo

theorem ptrs_null {sigs sigs' : List (Nat × Spec.LSig)} {n : Nat} (hle : SigsLe sigs n sigs') (E : List Nat)
    (hE : ∀ cid ∈ E, Gone sigs' n cid) {l m : List (Nat × Option Nat)} (h : AR (PtrR sigs n) l m) :
    AR (PtrR sigs' n) (amap l (nullE E)) m := by
  apply h.map_left
  intro k a b _ _ hab
  rcases hab with e | ⟨e, cid, e2, hgone⟩
  · subst e
    cases a with
    | none => exact Or.inl rfl
    | some c =>
      by_cases hc : c ∈ E
      · right; exact ⟨by simp [nullE, hc], c, rfl, hE c hc⟩
      · left; simp [nullE, hc]
  · subst e
    exact Or.inr ⟨rfl, cid, e2, hgone.mono (Nat.le_refl _) hle⟩

/-- Both sides replace their lists; the model also nulls the connections to the ids `E`.  Of `R` only three things are asked
    again, all of the model's side: the new lists are related; every id of the new impls below the counter was an id before;
    the ids nulled are below the counter and in no new impl.  (`AR SigR` makes the ids of the two sides the same, so no old id
    has come back in the specification's lists either, `SigsLe`, and the ids nulled are `Gone`; the clauses `C`, `K`, `ownedK`
    read `t.sigs` only through `Gone`, which is monotone.) -/
theorem R.lists {s : St} {t : Spec.LSt} (hR : R s t) {impls' : List (Nat × Impl)} {sigs' : List (Nat × Spec.LSig)}
    (hsigs : AR SigR impls' sigs')
    (hsub : ∀ p' ∈ impls', ∀ k ∈ Emit.cids p'.2, k < s.next → ∃ p ∈ s.impls, k ∈ Emit.cids p.2)
    (E : List Nat) (hE : ∀ k ∈ E, k < s.next ∧ ∀ p' ∈ impls', k ∉ Emit.cids p'.2) :
    R (nullSt E { s with impls := impls' }) { t with sigs := sigs' } :=
  have hle : SigsLe t.sigs t.next sigs' := fun cid hc hh =>
    let ⟨p', hp', hin⟩ := hasId_of_AR hsigs hh
    let ⟨_, hp, hk⟩ := hsub p' hp' cid hin (hR.next ▸ hc)
    hasId_of_impl hR.sigs hp hk
  have hgone : ∀ cid ∈ E, Gone sigs' t.next cid := fun cid hc =>
    gone_iff.2 ⟨hR.next ▸ (hE cid hc).1, fun hh => let ⟨p', hp', hin⟩ := hasId_of_AR hsigs hh; (hE cid hc).2 p' hp' hin⟩
  have hp : ∀ {l m : List (Nat × Option Nat)}, AR (PtrR t.sigs t.next) l m →
      AR (PtrR sigs' t.next) (amap l (nullE E)) m := fun h => ptrs_null hle E hgone h
  { hR with C := hp hR.C, K := hp hR.K, sigs := hsigs, ownedK := hp hR.ownedK }

theorem R.lists0 {s : St} {t : Spec.LSt} (hR : R s t) {impls' : List (Nat × Impl)} {sigs' : List (Nat × Spec.LSig)}
    (hsigs : AR SigR impls' sigs')
    (hsub : ∀ p' ∈ impls', ∀ k ∈ Emit.cids p'.2, k < s.next → ∃ p ∈ s.impls, k ∈ Emit.cids p.2) :
    R { s with impls := impls' } { t with sigs := sigs' } := by
  have := hR.lists hsigs hsub [] (fun _ h => nomatch h)
  rwa [Emit.nullSt_nil] at this

/-- one list is replaced by one whose ids below the counter were ids of it -/
theorem R.setSig {s : St} {t : Spec.LSt} (hR : R s t) {i : Nat} {im im' : Impl} {g' : Spec.LSig}
    (hi : aget s.impls i = some im) (hr : SigR im' g') (hsub : ∀ k ∈ Emit.cids im', k < s.next → k ∈ Emit.cids im) :
    R (setImpl s i im') (Spec.setSig t i g') :=
  hR.lists0 (hR.sigs.set i hr) fun p' hp' k hk hlt => by
    rcases Emit.mem_aset hp' with hp | rfl
    · exact ⟨p', hp, hk⟩
    · exact ⟨(i, im), Emit.aget_some_mem hi, hsub k hk hlt⟩

theorem touch_sim_core {hf : SlotB → SlotB} {dr : Bool} (hg : ∀ sl, (if dr = true then sl.invalidate else sl.disconnectRep) = hf sl)
    (hw : Emit.Weakens hf) (hnone : ∀ sl : SlotB, sl.rep = none → hf sl = sl)
    {s : St} {t : Spec.LSt} (hs : Emit.Inv s) (hR : R s t) (W E : List Nat)
    (hH : ∀ p ∈ s.impls, ∀ c ∈ p.2.cells, c.id ∈ W → c.linked = false → SameHold (hf c.slot) c.slot)
    (hE : ∀ cid ∈ E, (∃ p ∈ s.impls, cid ∈ Emit.cids p.2) ∧ ∀ p ∈ amap s.impls (touchImpl hf W), cid ∉ Emit.cids p.2) :
    R (nullSt E { s with impls := amap s.impls (touchImpl hf W) })
      { t with sigs := amap t.sigs (fun g => g.remove true true dr (fun c => W.contains c.id)) } := by
  refine hR.lists (hR.sigs.map _ _ fun k a b ha _ hr =>
      sigR_touch hg hw hnone hr (hs.ok k a (Emit.aget_of_mem_nodup hs.keys ha)) W (hH (k, a) ha)) (fun p' hp' k hk _ => ?_)
    E fun cid hc => ?_
  · unfold Model.amap at hp'
    obtain ⟨q, hq, rfl⟩ := List.mem_map.mp hp'
    exact ⟨q, hq, (Emit.touchImpl_ids_sub hf W q.2 k hk).1⟩
  · obtain ⟨⟨p, hp, hin⟩, her⟩ := hE cid hc
    exact ⟨(hs.lt p.1 p.2 (Emit.aget_of_mem_nodup hs.keys (show (p.1, p.2) ∈ s.impls from hp))).2 cid hin, her⟩

theorem touch_sim {hf : SlotB → SlotB} {dr : Bool} (hg : ∀ sl, (if dr = true then sl.invalidate else sl.disconnectRep) = hf sl)
    (hw : Emit.Weakens hf) (hidem : ∀ sl, hf (hf sl) = hf sl) (hnone : ∀ sl : SlotB, sl.rep = none → hf sl = sl)
    {s : St} {t : Spec.LSt} (hs : Emit.Inv s) (hR : R s t) (W : List Nat)
    (hH : ∀ p ∈ s.impls, ∀ c ∈ p.2.cells, c.id ∈ W → c.linked = false → SameHold (hf c.slot) c.slot) :
    R (W.foldl (Emit.touchCell hf) s)
      { t with sigs := amap t.sigs (fun g => g.remove true true dr (fun c => W.contains c.id)) } := by
  obtain ⟨E, hE, heq⟩ := Emit.touch_fold hw hidem W hs
  rw [heq]
  exact touch_sim_core hg hw hnone hs hR W E hH (fun cid hc => (hE cid hc).2)

end Sigc.Refine
