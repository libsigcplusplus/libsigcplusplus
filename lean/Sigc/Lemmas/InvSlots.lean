import Sigc.Lemmas.InvWF
/-!
# every slot value of the state satisfies `Q`

`SlotsAll Q S impls`: the slot value of every slot variable and of every cell satisfies `Q`; `Slots Q s` is the same on the
state (two forms because the `Q` of `TL`, `SlotTracks (LiveObj …)`, reads the state).  For a `Q` that survives what the library
does to slot values (`SlotPred Q`) this is kept by the four primitive updates, by what the library adds to the table of
impls when the cell that joins has a `Q`-slot (`SlotsAll.grow`), and by every write to `S` with slot values that come from
slot variables; if `Q` also holds of every new functor's slot, by every `Move` and every function of the interpreter
(`SlotsAll.stable`).
`InvCall.CI` is `SlotsAll CallOk`, `TrackedIn L` is `SlotsAll (SlotTracks L)`, both by unfolding.
-/
namespace Sigc.Inv
open Sigc.Model

def SlotsAll (Q : SlotB → Prop) (S : List (Nat × SlotVar)) (impls : List (Nat × Impl)) : Prop :=
  (∀ p ∈ S, Q p.2.slot) ∧ (∀ p ∈ impls, ∀ c ∈ p.2.cells, Q c.slot)

/-- `Q` survives what the library does to a slot value: weakening of the rep (`SlotLe`: same rep, disconnected,
    invalidated), the empty slot, the dummy rep `set_parent` gives an empty slot, copying -/
structure SlotPred (Q : SlotB → Prop) : Prop where
  le : ∀ {a b : SlotB}, SlotLe a b → Q b → Q a
  norep : ∀ {a : SlotB}, a.rep = none → Q a
  dummy : ∀ b : Bool, Q { blocked := b, rep := some { call := false, fn := none } }
  copy : ∀ {a : SlotB}, Q a → Q a.copy

abbrev Slots (Q : SlotB → Prop) (s : St) : Prop := SlotsAll Q s.S s.impls

namespace SlotsAll
variable {Q Q' : SlotB → Prop} {S : List (Nat × SlotVar)} {impls : List (Nat × Impl)}

theorem getS (h : SlotsAll Q S impls) {k : Nat} {v : SlotVar} (hk : aget S k = some v) : Q v.slot :=
  all_get (P := fun v : SlotVar => Q v.slot) h.1 hk

theorem cells (h : SlotsAll Q S impls) {i : Nat} {im : Impl} (hi : aget impls i = some im) :
    ∀ c ∈ im.cells, Q c.slot :=
  all_get (P := fun im : Impl => ∀ c ∈ im.cells, Q c.slot) h.2 hi

theorem mono (h : SlotsAll Q S impls) (hm : ∀ sl, Q sl → Q' sl) : SlotsAll Q' S impls :=
  ⟨fun p hp => hm _ (h.1 p hp), fun p hp c hc => hm _ (h.2 p hp c hc)⟩

theorem asetS (h : SlotsAll Q S impls) (k : Nat) {v : SlotVar} (hv : Q v.slot) : SlotsAll Q (aset S k v) impls :=
  ⟨all_aset (P := fun v : SlotVar => Q v.slot) h.1 k hv, h.2⟩

theorem adelS (h : SlotsAll Q S impls) (k : Nat) : SlotsAll Q (adel S k) impls := ⟨fun p hp => h.1 p (mem_adel hp).1, h.2⟩

theorem asetI (h : SlotsAll Q S impls) (i : Nat) {im' : Impl} (hc : ∀ c ∈ im'.cells, Q c.slot) :
    SlotsAll Q S (aset impls i im') :=
  ⟨h.1, all_aset (P := fun im : Impl => ∀ c ∈ im.cells, Q c.slot) h.2 i hc⟩

theorem adelI (h : SlotsAll Q S impls) (i : Nat) : SlotsAll Q S (adel impls i) := ⟨h.1, fun p hp => h.2 p (mem_adel hp).1⟩

theorem prims (q : SlotPred Q) : PrimsA (Slots Q) where
  upd s i im g e d _ h hi hg := by
    refine h.asetI i fun c' hc' => ?_
    obtain ⟨c, hc, rfl⟩ := List.mem_map.1 hc'
    exact q.le (hg c).2 (h.cells hi c hc)
  filter s i im p d ids _ h hi _ := by
    show SlotsAll Q (nullConnsList _ _).S (nullConnsList _ _).impls
    rw [nullConnsList_S, nullConnsList_impls]
    exact h.asetI i (fun c hc => h.cells hi c (List.mem_filter.1 hc).1)
  delImpl s i im _ h _ _ _ := by
    show SlotsAll Q (nullConnsList _ _).S (nullConnsList _ _).impls
    rw [nullConnsList_S, nullConnsList_impls]
    exact h.adelI i
  invalS s t _ h := by
    refine ⟨fun p hp => ?_, h.2⟩
    have hp' : p ∈ amap s.S (fun v => if v.slot.tracksObj t then { v with slot := v.slot.invalidate } else v) := hp
    obtain ⟨p0, hp0, rfl⟩ := mem_amap hp'
    show Q (if _ then _ else _ : SlotVar).slot
    split
    · exact q.le (Or.inr (Or.inr rfl)) (h.1 p0 hp0)
    · exact h.1 p0 hp0

section state
variable {s : St}

/-- the cell that joins has a `Q`-slot -/
theorem grow : Grow (fun c => Q c.slot) (Slots Q) where
  next _ _ h := h
  holders _ i _ _ h hi := h.asetI i (fun c hc => h.cells hi c hc)
  add _ i _ _ _ _ _ h hi _ ha hp := h.asetI i fun c' hc' => by
    rcases List.mem_cons.1 (hp.mem_iff.1 hc') with rfl | hc
    · exact ha
    · exact h.cells hi c' hc

theorem insertCell (q : SlotPred Q) (i : Nat) (first : Bool) {sl : SlotB} (hs : Q sl) (h : Slots Q s) :
    Slots Q (Model.insertCell s i first sl).fst := by
  refine grow.insertCell i first ?_ h
  unfold normSlot
  split
  · exact q.dummy _
  · exact hs

theorem ensureImpl {s1 : St} {g i : Nat} (h : Slots Q s) (he : Model.ensureImpl s g = some (s1, i)) : Slots Q s1 := by
  obtain ⟨_, _, ⟨_, rfl⟩ | ⟨_, rfl, rfl⟩⟩ := ensureImpl_cases he
  · exact h
  · exact h.asetI _ (fun c hc => by cases hc)

theorem mkFun {s' : St} {fn : Fun} {τ : Int} (h : Slots Q s) (m : MkFun s τ fn s') : Slots Q s' := by
  obtain ⟨h1, _, h2, _⟩ := m.frame
  unfold Slots; rw [h1, h2]; exact h

/-- a slot value that comes from a slot variable -/
theorem from_ (q : SlotPred Q) (h : Slots Q s) {sl : SlotB} {τ : Int} (f : SlotFrom s sl τ) : Q sl := by
  rcases f with e | ⟨i, v, hv, _, e | e⟩
  · exact q.norep e
  · exact q.le (Or.inl e) (h.getS hv)
  · exact q.le (Or.inr (Or.inl e)) (h.getS hv)

theorem sWrite (q : SlotPred Q) {S' : List (Nat × SlotVar)} (w : SWrite s S') (h : Slots Q s) :
    SlotsAll Q S' s.impls := by
  cases w with
  | one _ f => exact h.asetS _ (from_ q h f)
  | two _ _ fa _ _ fb => exact (h.asetS _ (from_ q h fa)).asetS _ (from_ q h fb)
  | del _ _ => exact h.adelS _

theorem forceDelG (q : SlotPred Q) (s : St) (g : Nat) (h : Slots Q s) : Slots Q (Inv.forceDelG s g) :=
  (prims q).dropHandle g (fun _ h => h) h

theorem collect (q : SlotPred Q) (h : Slots Q s) : Slots Q (Model.collect s) :=
  (prims q).collect' (fun _ _ _ _ h => h) (forceDelG q) h

theorem move (q : SlotPred Q) (hmade : ∀ fn, Q (SlotB.made fn)) {s' : St} (m : Move s s') (h : Slots Q s) :
    Slots Q s' := by
  cases m with
  | lib l => exact (prims q).lib l h
  | newT _ => exact h
  | delT _ => exact (prims q).invalidateTrackable _ h
  | setS w => exact (sWrite q w h :)
  | made hm => exact mkFun h hm
  | mkS hm _ hv => exact asetS (mkFun h hm) _ (by rw [hv]; exact hmade _)
  | newG _ _ _ _ => exact h
  | ensure he => exact ensureImpl h he
  | mvG _ _ => exact h
  | asgG _ _ => exact (prims q).gcOpt _ h
  | masgG _ _ _ => exact (prims q).gcOpt _ h
  | drop _ => exact forceDelG q _ _ h
  | conn _ _ hv _ => exact insertCell q _ _ (q.copy (h.getS hv)) h
  | connMv _ _ hv _ =>
    exact insertCell q _ _ (q.le (Or.inl (SlotB.move_fst_rep _)) (h.getS hv))
      (asetS h _ (q.norep (SlotB.move_snd_rep _)))
  | connfn _ _ hm he => exact insertCell q _ _ (hmade _) (ensureImpl (mkFun h hm) he)
  | setCK _ => exact h

end state

theorem stable (q : SlotPred Q) (hmade : ∀ fn, Q (SlotB.made fn)) : Stable (Slots Q) :=
  StableRel.ofPrims (prims q) (fun _ _ _ _ _ h => h)
    (fun _ i v n h hv => asetS (v := { v with incall := n }) h i (show Q v.slot from h.getS hv))
    (fun _ _ => trivial) (fun m _ => move q hmade m) (fun _ _ h => collect q h)
    (grow.emitPro fun _ => q.norep rfl) grow.dropHolder (fun s g _ h => forceDelG q s g h)

end SlotsAll

end Sigc.Inv
