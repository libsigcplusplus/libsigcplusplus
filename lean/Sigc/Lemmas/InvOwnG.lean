import Sigc.Lemmas.InvWF
/-!
# signal objects owned by functors (`ownG:`) stay named while they are owned

`OG s`: every entry `(k, g)` of `s.ownedG` names a live signal object (`aget s.G g = some h`) that is not
`pinned` (so `delG g` answers exactly `owned`), and no name is owned twice.  `OG` is preserved by every
function of the interpreter (`StableCore OG`: the schema without the harness teardown, which destroys the
named objects without asking the owners) and therefore holds in every state of every run.

The third branch of `collectStep` (`dropHandle`) is the only place where a name owned by a functor leaves `G`;
the entry has been removed from `ownedG` just before.
-/
namespace Sigc.Inv
open Sigc.Model
open Sigc.Emit (aget_aset)

/-- the `pinned` test of `delG` and of `ownG:` -/
def pinned (h : Handle) : Bool := h.everFwd && !h.fl.isTrackable

def OGI (G : List (Nat × Handle)) (oG : List (Nat × Nat)) : Prop :=
  (∀ p ∈ oG, ∃ h, aget G p.2 = some h ∧ pinned h = false) ∧
  (∀ p ∈ oG, ∀ q ∈ oG, p.2 = q.2 → p = q)

def OG (s : St) : Prop := OGI s.G s.ownedG

theorem OG.init : OG {} := ⟨fun _ hp => (by cases hp), fun _ hp => (by cases hp)⟩

abbrev GKeep : List (Nat × Handle) → List (Nat × Handle) → Prop := GExt (fun h => (h.everFwd, h.fl))

theorem OGI.keep {G G' : List (Nat × Handle)} {oG : List (Nat × Nat)} (h : OGI G oG) (hk : GKeep G G') :
    OGI G' oG := by
  refine ⟨fun p hp => ?_, h.2⟩
  obtain ⟨hd, hg, hpin⟩ := h.1 p hp
  obtain ⟨hd', hg', e⟩ := hk _ _ hg
  obtain ⟨e1, e2⟩ := Prod.mk.inj e
  refine ⟨hd', hg', ?_⟩
  unfold pinned at *
  rw [e1, e2]; exact hpin

theorem not_named {oG : List (Nat × Nat)} {g : Nat} (hn : oG.any (fun p => p.2 = g) = false) :
    ∀ p ∈ oG, p.2 ≠ g := by
  intro p hp e
  have : oG.any (fun p => p.2 = g) = true := List.any_eq_true.2 ⟨p, hp, by simpa using e⟩
  rw [hn] at this; cases this

theorem OGI.adel {G : List (Nat × Handle)} {oG : List (Nat × Nat)} {g : Nat} (h : OGI G oG)
    (hn : oG.any (fun p => p.2 = g) = false) : OGI (adel G g) oG := by
  refine ⟨fun p hp => ?_, h.2⟩
  obtain ⟨hd, hg, hpin⟩ := h.1 p hp
  exact ⟨hd, by rw [aget_adel_other _ _ _ (not_named hn p hp)]; exact hg, hpin⟩

theorem OGI.sub {G : List (Nat × Handle)} {oG oG' : List (Nat × Nat)} (h : OGI G oG)
    (hs : ∀ p ∈ oG', p ∈ oG) : OGI G oG' :=
  ⟨fun p hp => h.1 p (hs p hp), fun p hp q hq e => h.2 p (hs p hp) q (hs q hq) e⟩

theorem OGI.cons {G : List (Nat × Handle)} {oG : List (Nat × Nat)} {k g : Nat} {hd : Handle} (h : OGI G oG)
    (hg : aget G g = some hd) (hp : pinned hd = false) (hn : oG.any (fun p => p.2 = g) = false) :
    OGI G ((k, g) :: oG) := by
  refine ⟨fun p hp' => ?_, fun p hp' q hq' e => ?_⟩
  · rcases List.mem_cons.1 hp' with e | e
    · subst e; exact ⟨hd, hg, hp⟩
    · exact h.1 p e
  · rcases List.mem_cons.1 hp' with e1 | e1 <;> rcases List.mem_cons.1 hq' with e2 | e2
    · rw [e1, e2]
    · subst e1; exact absurd e.symm (not_named hn q e2)
    · subst e2; exact absurd e (not_named hn p e1)
    · exact h.2 p e1 q e2 e

/-- after the entry of owner `k` has left `ownedG`, the name it owned is owned by nobody -/
theorem OGI.filter_unnamed {G : List (Nat × Handle)} {oG : List (Nat × Nat)} {k g : Nat} (h : OGI G oG)
    (hm : (k, g) ∈ oG) : (oG.filter (fun q => q.1 ≠ k)).any (fun p => p.2 = g) = false := by
  cases hc : (oG.filter (fun q => q.1 ≠ k)).any (fun p => p.2 = g) with
  | false => rfl
  | true =>
    obtain ⟨p, hp, e⟩ := List.any_eq_true.1 hc
    obtain ⟨hp1, hp2⟩ := List.mem_filter.1 hp
    have e' : p.2 = g := by simpa using e
    have := h.2 p hp1 (k, g) hm e'
    subst this
    simp at hp2

theorem OG.congr {s s' : St} (hG : s'.G = s.G) (hO : s'.ownedG = s.ownedG) (h : OG s) : OG s' := by
  unfold OG; rw [hG, hO]; exact h

theorem OG.prims : PrimsA OG :=
  LibBlind.pred (π := fun s : St => (s.G, s.ownedG)) (fun _ _ _ _ _ _ => rfl) (fun p => OGI p.1 p.2)

theorem invalidateTrackable_ownedG (s : St) (t : Nat) : (invalidateTrackable s t).ownedG = s.ownedG :=
  (LibBlind.prims (π := (·.ownedG)) (fun _ _ _ _ _ _ => rfl) _).invalidateTrackable t rfl

theorem OG.fail {s : St} (m : String) (h : OG s) : OG (s.fail m) := by
  unfold St.fail; split <;> exact h

theorem OG.ensureImpl {s s1 : St} {g i : Nat} (h : OG s) (he : ensureImpl s g = some (s1, i)) : OG s1 := by
  obtain ⟨_, _, _, ho, hk⟩ := ensureImpl_frame he
  unfold OG; rw [ho]; exact OGI.keep h (hk _ fun _ _ => rfl)

theorem OG.insertCell {s : St} (i : Nat) (first : Bool) (sl : SlotB) (h : OG s) :
    OG (insertCell s i first sl).fst := by
  unfold Model.insertCell
  simp only [St.fresh]
  split
  · exact OG.fail _ h
  · exact h

theorem OG.mkFun {s s' : St} {fn : Fun} (h : OG s) {τ : Int} (m : MkFun s τ fn s') : OG s' := by
  cases m with
  | plain _ => exact h
  | @fwd g hd hg hno =>
    refine ⟨fun p hp => ?_, h.2⟩
    obtain ⟨hd', hg', hpin⟩ := h.1 p hp
    show ∃ h, aget (aset s.G g _) p.2 = some h ∧ pinned h = false
    rw [aget_aset]
    split
    · rename_i e
      refine ⟨_, rfl, ?_⟩
      have hany : s.ownedG.any (fun p => p.2 = g) = true :=
        List.any_eq_true.2 ⟨p, hp, by simpa using e⟩
      rw [hany] at hno
      simp only [pinned, Bool.true_and]
      simpa using hno
    · exact ⟨hd', hg', hpin⟩
  | ownT _ _ => exact h
  | ownK _ _ => exact h
  | ownG _ hg hpin hno => exact OGI.cons h hg hpin hno

/-- not `OG.prims.dropHandle`: its premise about the removal of `g` from `G` is for every state and cannot carry `hn` -/
theorem OG.dropHandle {s : St} {g : Nat} (h : OG s) (hn : s.ownedG.any (fun p => p.2 = g) = false) :
    OG (dropHandle s g) := by
  unfold Model.dropHandle
  split
  · exact h
  · simp only [gcOpt_eq]
    refine OG.prims.gcOpt _ ?_
    split
    · exact OGI.adel (OG.prims.invalidateTrackable _ h) (by rw [invalidateTrackable_ownedG]; exact hn)
    · exact OGI.adel h hn

theorem OG.collectG {s : St} {k g : Nat} (h : OG s) (hm : (k, g) ∈ s.ownedG) :
    OG (Model.dropHandle { s with ownedG := s.ownedG.filter (fun q => q.1 ≠ k) } g) :=
  OG.dropHandle (s := { s with ownedG := s.ownedG.filter (fun q => q.1 ≠ k) })
    (OGI.sub h (fun _ hp => (List.mem_filter.1 hp).1)) (OGI.filter_unnamed h hm)

theorem OG.collect {s : St} (h : OG s) : OG (collect s) :=
  OG.prims.collect (fun _ _ h => h) (fun _ _ h => h) (fun _ _ _ hs hm => OG.collectG hs hm) h

theorem ogi_gcImpl {s : St} {i : Nat} (h : OGI s.G s.ownedG) :
    OGI (gcImpl s i).G (gcImpl s i).ownedG := OG.prims.gcImpl i h

theorem OG.move {s s' : St} (m : Move s s') (h : OG s) : OG s' := by
  cases m with
  | lib l => exact OG.prims.lib l h
  | newT _ => exact h
  | delT _ => exact OG.prims.invalidateTrackable _ h
  | setS _ => exact h
  | made hm => exact OG.mkFun h hm
  | mkS hm _ _ => exact (OG.mkFun h hm :)
  | newG _ _ hg _ => exact OGI.keep h (GExt.aset_fresh _ hg)
  | ensure he => exact OG.ensureImpl h he
  | mvG hi hj =>
    exact OGI.keep h (GExt.trans (GExt.setImpl (fun _ _ => rfl) hi none)
      (GExt.aset_fresh _ ((aget_aset_other _ _ _ _ (ne_of_aget hi hj)).trans hj)))
  | asgG hj _ => exact OG.prims.gcOpt _ (OGI.keep h (GExt.setImpl (fun _ _ => rfl) hj _))
  | masgG hj hi hne =>
    exact OG.prims.gcOpt _ (OGI.keep h (GExt.trans (GExt.setImpl (fun _ _ => rfl) hj _)
      (GExt.setImpl (fun _ _ => rfl) ((aget_aset_other _ _ _ _ (Ne.symm hne)).trans hi) none)))
  | drop ho => exact OG.dropHandle h ho
  | conn _ _ _ _ => exact OG.insertCell _ _ _ h
  | connMv _ _ _ _ => exact OG.insertCell _ _ _ h
  | connfn _ _ hm he => exact OG.insertCell _ _ _ (OG.ensureImpl (OG.mkFun h hm) he)
  | setCK _ => exact h

/-- `OG` reads `G` and `ownedG` only: the fields closed by `h` write neither; no `forceDel`, which breaks `OG` (header) -/
theorem OG.stable : StableCore OG where
  log _ _ _ h := h
  fail s m _ h := OG.fail m h
  depth _ _ _ h := h
  steps _ _ _ h := h
  incall _ _ _ _ _ h _ := h
  simple _ _ _ _ _ h hs := stepSimple_preserved' OG.move hs h
  collect s _ h := OG.collect h
  pro _ _ _ _ h _ := h
  erase _ i m _ h := OG.prims.eraseCell i m h
  unref _ i _ h := OG.prims.unrefExec i h
  drop s i _ h := by unfold dropHolder; split <;> exact h
  gc _ i _ h := OG.prims.gcImpl i h

theorem OG.reachable (f : Nat) (P : Prog) (s : St) (h : runTop f P {} P.top = some s) : OG s :=
  OG.stable.runTop OG.init f P s h

theorem OG.delG_owned {s : St} (h : OG s) {p : Nat × Nat} (hp : p ∈ s.ownedG) :
    stepSimple s (.delG p.2) = some (s, "owned") := by
  obtain ⟨hd, hg, hpin⟩ := h.1 p hp
  have hany : s.ownedG.any (fun q => q.2 = p.2) = true := List.any_eq_true.2 ⟨p, hp, by simp⟩
  unfold pinned at hpin
  simp only [stepSimple, hg, hpin, hany]
  simp

end Sigc.Inv
