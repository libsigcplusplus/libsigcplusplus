import Sigc.Lemmas.SpecPWFSimple
import Sigc.Lemmas.SpecPEx
/-!
# SpecPWFMutual — every function of the mutual block of `S` is a `Step` (induction on fuel)
-/
namespace Sigc.SpecP
open Sigc.Spec
open Sigc.Model (aget aset adel amap Prog Line Op FSpec Fun SlotB SlotVar Rep Handle Flavour Strat Outcome Event
  aget_nil aget_aset_same aget_aset_other aget_amap aget_adel_same aget_adel_other)

theorem WF_enter (s : LSt) (i : Nat) (g : LSig) (hw : WF s) (hg : aget s.sigs i = some g) : WF (enter s i g) := by
  refine WFL.aset hw (Nat.le_succ _) (Nat.lt_succ_of_lt (hw i g hg).1) ?_
  have h := (hw i g hg).2
  split
  · -- with `k2` the end marker is one more entry, with the next id
    next hk => exact h.insert (List.perm_append_singleton _ _) (by rfl) (fun e => by rw [hk] at e; cases e) _ _
  · exact (h.mono (Nat.le_succ _)).sublist (.refl _) _ _ _ h.clean

theorem actOf_enter (s : LSt) (i j : Nat) (g : LSig) :
    actOf (enter s i g) j = if j = i then g.active + 1 else actOf s j := by
  simp only [actOf, enter, setSig, actL_aset]

theorem ids_enter (s : LSt) (i : Nat) (g : LSig) (hg : aget s.sigs i = some g) (n : Nat)
    (h : idsL (enter s i g).sigs n) : idsL s.sigs n ∨ (s.k2 = true ∧ n = s.next) := by
  rcases idsL_aset h with ⟨c, hc, rfl⟩ | h
  · dsimp only at hc
    split at hc
    · next hk =>
      rcases List.mem_append.1 hc with hc | hc
      · exact .inl ⟨i, g, c, hg, hc, rfl⟩
      · cases List.mem_singleton.1 hc
        exact .inr ⟨hk, rfl⟩
    · exact .inl ⟨i, g, c, hg, hc, rfl⟩
  · exact .inl h

/-- the bracket of an emission: if the body is a `Step` from `enter s i g`, the whole emission is a `Step`
    from `s` — in particular `active` of the emitted list is back to its value -/
theorem step_emit_bracket (s s2 : LSt) (i : Nat) (g : LSig) (hg : aget s.sigs i = some g)
    (hb : Step (enter s i g) s2) : Step s (epi i s.next s2) := by
  obtain ⟨hn, hk1, hk2, hrest⟩ := hb
  have hn' : s.next ≤ s2.next := Nat.le_trans (Nat.le_succ _) hn
  -- the emitted list is still there, with one more emission in progress than at the start
  have hact : WF s → actL s2.sigs i = g.active + 1 := fun hw =>
    ((hrest (WF_enter s i g hw hg)).2.1 i).trans ((actOf_enter s i i g).trans (if_pos rfl))
  unfold epi
  cases hg2 : aget s2.sigs i with
  | none =>
    refine .after (step_fail _ _) ⟨hn', hk1, hk2, fun hw => ?_⟩
    have := hact hw
    rw [actL, hg2] at this
    cases this
  | some g2 =>
    refine .after (step_releases.collect _) (.after (step_releases.gcSig _ _) ⟨hn', hk1, hk2, fun hw => ?_⟩)
    obtain ⟨hw2, ha, hi⟩ := hrest (WF_enter s i g hw hg)
    refine ⟨WFL.aset hw2 (Nat.le_refl _) (hw2 i g2 hg2).1 ((hw2 i g2 hg2).2.closeSig _), fun j => ?_, fun n hlt h => ?_⟩
    · refine (actL_aset _ _ _ _).trans ?_
      split
      · next hj =>
        have := hact hw
        simp only [actL, hg2] at this
        simp only [closeSig_act, this, hj, actOf, actL, hg, Nat.add_sub_cancel]
      · next hj => exact (ha j).trans ((actOf_enter s i j g).trans (if_neg hj))
    · have h2 : idsL s2.sigs n := by
        rcases idsL_aset h with ⟨c, hc, he⟩ | h
        · exact ⟨i, g2, c, hg2, (closeSig_sublist _ _).subset hc, he⟩
        · exact h
      rcases ids_enter s i g hg n (hi n (Nat.lt_succ_of_lt hlt) h2) with h | ⟨_, rfl⟩
      · exact h
      · exact absurd hlt (Nat.lt_irrefl _)

structure AllStep (f : Nat) : Prop where
  invokeFun : ∀ P s fn arg s' o v, Spec.invokeFun f P s fn arg = some (s', o, v) → Step s s'
  runBody : ∀ P s ls s' o, Spec.runBody f P s ls = some (s', o) → Step s s'
  execLine : ∀ P s l s' o, Spec.execLine f P s l = some (s', o) → Step s s'
  emitSig : ∀ P s fl impl arg strat s' o v, Spec.emitSig f P s fl impl arg strat = some (s', o, v) → Step s s'
  turns : ∀ P s i snap arg r s' o v, Spec.turns f P s i snap arg r = some (s', o, v) → Step s s'
  deref : ∀ P s i snap it arg s' o it', Spec.deref f P s i snap it arg = some (s', o, it') → Step s s'
  accLoop : ∀ P s i snap it arg mode k r s' o v, Spec.accLoop f P s i snap it arg mode k r = some (s', o, v) → Step s s'
  revLoop : ∀ P s i snap it arg r s' o v, Spec.revLoop f P s i snap it arg r = some (s', o, v) → Step s s'
  walkLoop : ∀ P s i snap it arg cs r s' o v, Spec.walkLoop f P s i snap it arg cs r = some (s', o, v) → Step s s'
  runStrat : ∀ P s i snap arg strat s' o v, Spec.runStrat f P s i snap arg strat = some (s', o, v) → Step s s'
  execOp : ∀ P s op s' e, Spec.execOp f P s op = some (s', e) → Step s s'

theorem allStep_zero : AllStep 0 := by
  constructor <;> intros <;> rename_i h
  · simp [Spec.invokeFun] at h
  · simp [Spec.runBody] at h
  · simp [Spec.execLine] at h
  · simp [Spec.emitSig] at h
  · simp [Spec.turns] at h
  · simp [Spec.deref] at h
  · simp [Spec.accLoop] at h
  · simp [Spec.revLoop] at h
  · simp [Spec.walkLoop] at h
  · simp [Spec.runStrat] at h
  · simp [Spec.execOp] at h

/-- one dereference inside a loop of an accumulator; `K` is how the loop goes on -/
theorem stepTo_deref {f : Nat} (ih : AllStep f) (P : Prog) (s : LSt) (i : Nat) (snap : List Nat) (it : It) (arg r : Nat)
    (K : LSt → It → Option (LSt × Outcome × Nat)) (hK : ∀ s1 it1, StepTo s1 (K s1 it1)) :
    StepTo s (match Spec.deref f P s i snap it arg with
      | none => none
      | some (s1, .exc, _) => some (s1, .exc, r)
      | some (s1, .ok, it1) => K s1 it1) := by
  split
  · exact .none
  · next hd => exact .ret (ih.deref _ _ _ _ _ _ _ _ _ hd)
  · next hd => exact .trans (ih.deref _ _ _ _ _ _ _ _ _ hd) (hK _ _)

theorem step_invokeFun (f : Nat) (ih : AllStep f) (P : Prog) (s : LSt) (fn : Fun) (arg : Nat) :
    StepTo s (Spec.invokeFun (f+1) P s fn arg) := by
  rw [Spec.invokeFun.eq_def]
  cases fn with
  | leaf fid ts | owner fid ts ks =>
    dsimp only
    split
    · exact .ret (step_log _ _)
    · split
      · exact .none
      · next s1 o hb =>
        exact .ret (.trans (.after (ih.runBody _ _ _ _ _ hb) (step_fields 0 rfl)) (step_fields 0 rfl))
  | nest blocked inner =>
    dsimp only
    split
    · exact .self
    · exact .ite .self (fun _ _ h => ih.invokeFun _ _ _ _ _ _ _ h)
  | fwd ob ts =>
    dsimp only
    split
    · exact .ret (step_fail _ _)
    · exact fun _ _ h => ih.emitSig _ _ _ _ _ _ _ _ _ h

theorem step_runBody (f : Nat) (ih : AllStep f) (P : Prog) (s : LSt) (ls : List Line) :
    StepTo s (Spec.runBody (f+1) P s ls) := by
  cases ls with
  | nil => rw [Spec.runBody]; exact .self
  | cons l ls =>
    rw [Spec.runBody]
    split
    · exact .none
    · next hl => exact .ret (ih.execLine _ _ _ _ _ hl)
    · next hl => exact .trans (ih.execLine _ _ _ _ _ hl) (fun _ _ h => ih.runBody _ _ _ _ _ h)

theorem step_execLine (f : Nat) (ih : AllStep f) (P : Prog) (s : LSt) (l : Line) :
    StepTo s (Spec.execLine (f+1) P s l) := by
  rw [Spec.execLine]
  split
  · exact .none
  all_goals
    next hop =>
    exact .ret (.after (step_releases.collect _) (.after (step_log _ _) (.after (ih.execOp _ _ _ _ _ hop) (step_fields 0 rfl))))

theorem step_body (f : Nat) (ih : AllStep f) (P : Prog) (s : LSt) (fl : Flavour) (i : Nat) (snap : List Nat) (arg : Nat)
    (strat : Strat) (s' : LSt) (o : Outcome) (v : Nat) (h : body f P s fl i snap arg strat = some (s', o, v)) :
    Step s s' := by
  unfold body at h
  split at h
  · exact ih.runStrat _ _ _ _ _ _ _ _ _ h
  · exact ih.turns _ _ _ _ _ _ _ _ _ h

theorem step_emitSig (f : Nat) (ih : AllStep f) (P : Prog) (s : LSt) (fl : Flavour) (impl : Option Nat) (arg : Nat)
    (strat : Strat) : StepTo s (Spec.emitSig (f+1) P s fl impl arg strat) := by
  cases impl with
  | none => rw [Spec.emitSig]; exact .self
  | some i =>
    cases hg : aget s.sigs i with
    | none =>
      rw [Spec.emitSig]
      simp only [hg]
      exact .ret (step_fail _ _)
    | some g =>
      by_cases hk : (s.k2 && !fl.isAcc && g.cells.isEmpty) = true
      · rw [Spec.emitSig]
        simp only [hg, hk, if_true]
        exact .self
      · rw [emitSig_eq f P s fl i arg strat g hg (by simpa using hk)]
        cases hb : body f P (enter s i g) fl i (snapOf s.k2 fl g) arg strat with
        | none => exact .none
        | some x => exact .ret (step_emit_bracket s x.1 i g hg (step_body f ih P _ fl i _ arg strat x.1 x.2.1 x.2.2 hb))

theorem step_turns (f : Nat) (ih : AllStep f) (P : Prog) (s : LSt) (i : Nat) (snap : List Nat) (arg r : Nat) :
    StepTo s (Spec.turns (f+1) P s i snap arg r) := by
  cases snap with
  | nil => rw [Spec.turns]; exact .self
  | cons cid rest =>
    rw [turns_cons]
    have hrest : ∀ s1 v, StepTo s1 (Spec.turns f P s1 i rest arg v) := fun _ _ _ _ h => ih.turns _ _ _ _ _ _ _ _ _ h
    cases callable s i cid with
    | none => exact hrest _ _
    | some fn =>
      dsimp only
      split
      · exact .none
      · next hi => exact .ret (ih.invokeFun _ _ _ _ _ _ _ hi)
      · next hi => exact .trans (ih.invokeFun _ _ _ _ _ _ _ hi) (hrest _ _)

theorem step_deref (f : Nat) (ih : AllStep f) (P : Prog) (s : LSt) (i : Nat) (snap : List Nat) (it : It) (arg : Nat) :
    StepTo s (Spec.deref (f+1) P s i snap it arg) := by
  rw [deref_eq]
  split
  · exact .self
  · split
    · exact .self
    · refine .ite .self ?_
      split
      · exact .none
      · next hi => exact .ret (ih.invokeFun _ _ _ _ _ _ _ hi)
      · next hi => exact .ret (ih.invokeFun _ _ _ _ _ _ _ hi)

theorem step_accLoop (f : Nat) (ih : AllStep f) (P : Prog) (s : LSt) (i : Nat) (snap : List Nat) (it : It)
    (arg mode k r : Nat) : StepTo s (Spec.accLoop (f+1) P s i snap it arg mode k r) := by
  have hloop : ∀ s1 it1 r1, StepTo s1 (Spec.accLoop f P s1 i snap it1 arg mode k r1) :=
    fun _ _ _ _ _ h => ih.accLoop _ _ _ _ _ _ _ _ _ _ _ _ h
  rw [Spec.accLoop]
  refine .ite .self (.ite (hloop _ _ _) (stepTo_deref ih _ _ _ _ _ _ _ _ fun s1 it1 => ?_))
  dsimp only
  exact .ite .self (.ite (stepTo_deref ih _ _ _ _ _ _ _ _ fun _ _ => hloop _ _ _) (hloop _ _ _))

theorem step_revLoop (f : Nat) (ih : AllStep f) (P : Prog) (s : LSt) (i : Nat) (snap : List Nat) (it : It)
    (arg r : Nat) : StepTo s (Spec.revLoop (f+1) P s i snap it arg r) := by
  rw [Spec.revLoop]
  exact .ite .self (stepTo_deref ih _ _ _ _ _ _ _ _ fun _ _ _ _ h => ih.revLoop _ _ _ _ _ _ _ _ _ _ h)

theorem step_walkLoop (f : Nat) (ih : AllStep f) (P : Prog) (s : LSt) (i : Nat) (snap : List Nat) (it : It)
    (arg : Nat) (cs : List Char) (r : Nat) : StepTo s (Spec.walkLoop (f+1) P s i snap it arg cs r) := by
  cases cs with
  | nil => rw [Spec.walkLoop]; exact .self
  | cons c cs =>
    have hloop : ∀ s1 it1 r1, StepTo s1 (Spec.walkLoop f P s1 i snap it1 arg cs r1) :=
      fun _ _ _ _ _ h => ih.walkLoop _ _ _ _ _ _ _ _ _ _ _ h
    rw [Spec.walkLoop]
    -- 'd' and 'c' dereference in place, 'i' and 'x' move, any other letter does nothing
    exact .ite (.ite (hloop _ _ _) (stepTo_deref ih _ _ _ _ _ _ _ _ fun _ _ => hloop _ _ _))
      (.ite (.ite (hloop _ _ _) (stepTo_deref ih _ _ _ _ _ _ _ _ fun _ _ => hloop _ _ _))
        (.ite (.ite (hloop _ _ _) (hloop _ _ _)) (.ite (.ite (hloop _ _ _) (hloop _ _ _)) (hloop _ _ _))))

theorem step_runStrat (f : Nat) (ih : AllStep f) (P : Prog) (s : LSt) (i : Nat) (snap : List Nat) (arg : Nat)
    (strat : Strat) : StepTo s (Spec.runStrat (f+1) P s i snap arg strat) := by
  rw [Spec.runStrat.eq_def]
  cases strat
  case rev => exact fun _ _ h => ih.revLoop _ _ _ _ _ _ _ _ _ _ h
  case walk => exact fun _ _ h => ih.walkLoop _ _ _ _ _ _ _ _ _ _ _ h
  all_goals exact fun _ _ h => ih.accLoop _ _ _ _ _ _ _ _ _ _ _ _ h

theorem step_execOp (f : Nat) (ih : AllStep f) (P : Prog) (s : LSt) (op : Op) :
    StepTo s (Spec.execOp (f+1) P s op) := by
  rw [Spec.execOp.eq_def]
  dsimp only
  split
  · -- callS: the slot variable is marked busy for the time of the call
    split
    · exact .self
    · refine .ite .self (.ite .self ?_)
      split
      · refine .ite .self ?_
        split
        · exact .none
        · next s1 o1 r1 hi =>
          split
          all_goals
            refine .ret (.trans (.after (ih.invokeFun _ _ _ _ _ _ _ hi) (step_fields 0 rfl)) ?_)
            split
            · exact step_fields 0 rfl
            · exact step_fail _ _
      · exact .self
  · -- emit
    split
    · exact .self
    · refine .ite .self (.ite .self ?_)
      split
      · exact .none
      · next he => exact .ite (.ret (ih.emitSig _ _ _ _ _ _ _ _ _ he)) (.ret (ih.emitSig _ _ _ _ _ _ _ _ _ he))
      · next he => exact .ret (ih.emitSig _ _ _ _ _ _ _ _ _ he)
  · exact .self
  · split
    · exact .self
    · split
      · next hs => exact .ret (stepTo_stepSimple _ _ _ _ hs)
      · exact .self

theorem allStep : ∀ f, AllStep f := by
  intro f
  induction f with
  | zero => exact allStep_zero
  | succ f ih =>
    exact {
      invokeFun := fun P s fn arg s' o v => step_invokeFun f ih P s fn arg s' (o, v)
      runBody := step_runBody f ih
      execLine := step_execLine f ih
      emitSig := fun P s fl impl arg strat s' o v => step_emitSig f ih P s fl impl arg strat s' (o, v)
      turns := fun P s i snap arg r s' o v => step_turns f ih P s i snap arg r s' (o, v)
      deref := fun P s i snap it arg s' o it' => step_deref f ih P s i snap it arg s' (o, it')
      accLoop := fun P s i snap it arg mode k r s' o v => step_accLoop f ih P s i snap it arg mode k r s' (o, v)
      revLoop := fun P s i snap it arg r s' o v => step_revLoop f ih P s i snap it arg r s' (o, v)
      walkLoop := fun P s i snap it arg cs r s' o v => step_walkLoop f ih P s i snap it arg cs r s' (o, v)
      runStrat := fun P s i snap arg strat s' o v => step_runStrat f ih P s i snap arg strat s' (o, v)
      execOp := step_execOp f ih }

theorem step_runTop (f : Nat) (P : Prog) : ∀ (ls : List Line) (s s' : LSt), Spec.runTop f P s ls = some s' → Step s s' := by
  intro ls
  induction ls with
  | nil =>
    intro s s' h
    simp only [Spec.runTop, Option.some.injEq] at h
    rw [← h]; exact Step.refl _
  | cons l ls ihl =>
    intro s s' h
    simp only [Spec.runTop] at h
    split at h
    · simp at h
    · rename_i s1 o hl
      exact Step.trans ((allStep f).execLine _ _ _ _ _ hl) (ihl s1 s' h)

theorem WF_single (s : LSt) (i : Nat) (g : LSig) (hs : s.sigs = [(i, g)]) (hi : i < s.next)
    (hw : WFSig s.k1 s.k2 s.next g) : WF s := by
  intro j x hx
  rw [hs] at hx
  simp only [aget] at hx
  split at hx
  · cases hx; rename_i h; subst h; exact ⟨hi, hw⟩
  · cases hx

theorem exS_WF : WF exS :=
  WF_single exS 1 exSig rfl (by decide) ⟨by decide, by decide, fun _ => by decide, fun _ => rfl⟩

theorem exS2_WF : WF exS2 :=
  WF_single exS2 1 exSig2 rfl (by decide) ⟨by decide, by decide, fun _ => by decide, fun _ => rfl⟩

end Sigc.SpecP
