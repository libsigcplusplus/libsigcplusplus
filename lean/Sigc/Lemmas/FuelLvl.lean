import Sigc.Lemmas.InvHandle
import Sigc.Lemmas.EmitDefs
/-!
The level invariant.  The recursion guard of the operation language: a forwarder (`Fun.fwd`, `make_slot()`) can only be connected to
a signal object of a strictly higher `lvl` than the one it forwards to.  `LvlInv` states this for every functor
held in a slot variable (bounded by the variable's `taint`) and in a slot list (bounded by the `lvl` of the
signal objects that share the list); `Bnd s i L` is the same bound for one slot list `i`, which is what an
emission of that list relies on while it runs (the list may lose all its signal objects meanwhile).

`Sub s s'` — "`s'` has nothing that `s` had not": the signal objects, slot-variable functors and cell functors
of `s'` come from `s` (or are empty slots, or signal objects of a fresh identity; the slot list of a signal object of
`s'`, fresh or not, is that of one of `s` with the same level).  `LvlInv` and `Bnd`
are inherited along `Sub`, and every destructive step of the model is a `Sub` step: the four primitive updates
of `Sigc.Inv.Prims` (`sub_prims`), hence every library cascade built from them, `collect`, the prologue and
the epilogue of an emission and of a direct slot call.

The operations that run no user code are taken move by move (`JK.move`, over `Model.Move`): a move records the
taint of the variable a slot value comes from, the level of the signal object that holds an impl id, and the
level up to which a functor made by `mkFun` forwards.
-/
namespace Sigc.Fuel
open Sigc.Model

def fnOf (sl : SlotB) : Option Fun :=
  match sl.rep with
  | some r => r.fn
  | none => none

/-- the signal object `fn` finally forwards to (if any) was allocated before `n` and every signal object with
    that identity has a level below `ℓ` -/
def FunLt (n : Nat) (G : List (Nat × Handle)) (fn : Fun) (ℓ : Int) : Prop :=
  ∀ o ts, Emit.funTarget fn = some (o, ts) → o < n ∧ ∀ p ∈ G, p.2.obj = o → (p.2.lvl : Int) < ℓ

def SlotLt (n : Nat) (G : List (Nat × Handle)) (sl : SlotB) (ℓ : Int) : Prop :=
  ∀ fn, fnOf sl = some fn → FunLt n G fn ℓ

def Bnd (s : St) (i L : Nat) : Prop :=
  (∀ im, aget s.impls i = some im → ∀ c ∈ im.cells, SlotLt s.next s.G c.slot L) ∧
  (∀ p ∈ s.G, p.2.impl = some i → p.2.lvl ≤ L)

/-- `slots`: `taint` is the highest level the variable may forward to, inclusive (`-1`, hence `Int`, for none); `FunLt` is
    a strict bound, hence `v.taint + 1` -/
structure LvlInv (s : St) : Prop where
  objlt : ∀ p ∈ s.G, p.2.obj < s.next
  objuniq : ∀ p ∈ s.G, ∀ q ∈ s.G, p.2.obj = q.2.obj → p.2.lvl = q.2.lvl
  impllt : ∀ p ∈ s.G, ∀ i, p.2.impl = some i → i < s.next
  slots : ∀ i v, aget s.S i = some v → SlotLt s.next s.G v.slot (v.taint + 1)
  impls : ∀ p ∈ s.G, ∀ i, p.2.impl = some i → Bnd s i p.2.lvl

/-- the invariant carried through the interpreter: `LvlInv`, and for `k = some (i, L)` also the bound `L` of
    the slot list `i` whose emission is in progress (`J` the invariant, `K` its index, which `Fuel.emit_term` sets where
    the loops of an emission start and no function of the block changes) -/
def JK (k : Option (Nat × Nat)) (s : St) : Prop :=
  LvlInv s ∧ ∀ i L, k = some (i, L) → Bnd s i L ∧ i < s.next

theorem LvlInv.init : LvlInv ({} : St) := by
  refine ⟨?_, ?_, ?_, ?_, ?_⟩
  · intro p hp; cases hp
  · intro p hp; cases hp
  · intro p hp; cases hp
  · intro i v h; cases h
  · intro p hp; cases hp

theorem JK.init : JK none ({} : St) := ⟨LvlInv.init, fun _ _ h => by cases h⟩

structure Sub (s s' : St) : Prop where
  next : s.next ≤ s'.next
  /-- the identity of a signal object of `s'` is that of a signal object of `s` with the same level, or fresh -/
  Gobj : ∀ q ∈ s'.G, (∃ p ∈ s.G, p.2.obj = q.2.obj ∧ p.2.lvl = q.2.lvl) ∨
    (s.next ≤ q.2.obj ∧ q.2.obj < s'.next ∧ ∀ q' ∈ s'.G, q'.2.obj = q.2.obj → q'.2.lvl = q.2.lvl)
  /-- the slot list of a signal object of `s'` is that of a signal object of `s` with the same level -/
  Gimpl : ∀ q ∈ s'.G, q.2.impl = none ∨ ∃ p ∈ s.G, p.2.impl = q.2.impl ∧ p.2.lvl = q.2.lvl
  S : ∀ i v', aget s'.S i = some v' →
    fnOf v'.slot = none ∨ ∃ j v, aget s.S j = some v ∧ v.taint ≤ v'.taint ∧ fnOf v'.slot = fnOf v.slot
  impls : ∀ i im', aget s'.impls i = some im' →
    ∃ im, aget s.impls i = some im ∧
      ∀ c' ∈ im'.cells, fnOf c'.slot = none ∨ ∃ c ∈ im.cells, fnOf c'.slot = fnOf c.slot

theorem Sub.refl (s : St) : Sub s s :=
  ⟨Nat.le_refl _, fun q hq => Or.inl ⟨q, hq, rfl, rfl⟩, fun q hq => Or.inr ⟨q, hq, rfl, rfl⟩,
   fun i v h => Or.inr ⟨i, v, h, Int.le_refl _, rfl⟩,
   fun _ im h => ⟨im, h, fun c hc => Or.inr ⟨c, hc, rfl⟩⟩⟩

theorem Sub.trans {a b c : St} (h1 : Sub a b) (h2 : Sub b c) : Sub a c := by
  refine ⟨Nat.le_trans h1.next h2.next, ?_, ?_, ?_, ?_⟩
  · intro q hq
    rcases h2.Gobj q hq with ⟨p, hp, ho, hl⟩ | ⟨h3, h4, h5⟩
    · rcases h1.Gobj p hp with ⟨p0, hp0, ho0, hl0⟩ | ⟨h3, h4, h5⟩
      · exact Or.inl ⟨p0, hp0, ho0.trans ho, hl0.trans hl⟩
      · refine Or.inr ⟨ho ▸ h3, ?_, ?_⟩
        · have := h2.next; omega
        · intro q' hq' hqo
          rcases h2.Gobj q' hq' with ⟨p', hp', ho', hl'⟩ | ⟨h3', _, _⟩
          · rw [← hl', ← hl]
            exact h5 p' hp' (by rw [ho', hqo, ho])
          · omega
    · exact Or.inr ⟨Nat.le_trans h1.next h3, h4, h5⟩
  · intro q hq
    rcases h2.Gimpl q hq with e | ⟨p, hp, hi, hl⟩
    · exact Or.inl e
    · rcases h1.Gimpl p hp with e | ⟨p0, hp0, hi0, hl0⟩
      · exact Or.inl (hi ▸ e)
      · exact Or.inr ⟨p0, hp0, hi0.trans hi, hl0.trans hl⟩
  · intro i v'' h
    rcases h2.S i v'' h with e | ⟨j, v', hj, ht, hf⟩
    · exact Or.inl e
    · rcases h1.S j v' hj with e | ⟨j0, v, hj0, ht0, hf0⟩
      · exact Or.inl (hf.trans e)
      · exact Or.inr ⟨j0, v, hj0, Int.le_trans ht0 ht, hf.trans hf0⟩
  · intro i im'' h
    obtain ⟨im', hi', hc'⟩ := h2.impls i im'' h
    obtain ⟨im, hi, hc⟩ := h1.impls i im' hi'
    refine ⟨im, hi, ?_⟩
    intro c'' hc''
    rcases hc' c'' hc'' with e | ⟨c', hm', hf'⟩
    · exact Or.inl e
    · rcases hc c' hm' with e | ⟨c0, hm0, hf0⟩
      · exact Or.inl (hf'.trans e)
      · exact Or.inr ⟨c0, hm0, hf'.trans hf0⟩

theorem Sub.congr {a x y : St} (h : Sub a x) (hn : y.next = x.next) (hG : y.G = x.G) (hS : y.S = x.S)
    (hI : y.impls = x.impls) : Sub a y := by
  refine ⟨hn ▸ h.next, ?_, ?_, ?_, ?_⟩
  · intro q hq; rw [hG] at hq; rw [hn, hG]; exact h.Gobj q hq
  · intro q hq; rw [hG] at hq; exact h.Gimpl q hq
  · intro i v hv; rw [hS] at hv; exact h.S i v hv
  · intro i im hi; rw [hI] at hi; exact h.impls i im hi

theorem FunLt.mono {n : Nat} {G : List (Nat × Handle)} {fn : Fun} {a b : Int} (h : FunLt n G fn a) (hab : a ≤ b) :
    FunLt n G fn b := fun o ts ht =>
  ⟨(h o ts ht).1, fun p hp ho => Int.lt_of_lt_of_le ((h o ts ht).2 p hp ho) hab⟩

/-- `FunLt` only looks at the `(obj, lvl)` pairs of the signal objects -/
theorem FunLt.congrG {n n' : Nat} {G G' : List (Nat × Handle)} {fn : Fun} {ℓ : Int} (hn : n ≤ n')
    (hG : ∀ q ∈ G', (∃ p ∈ G, p.2.obj = q.2.obj ∧ p.2.lvl = q.2.lvl) ∨ n ≤ q.2.obj)
    (h : FunLt n G fn ℓ) : FunLt n' G' fn ℓ := by
  intro o ts ht
  obtain ⟨h1, h2⟩ := h o ts ht
  refine ⟨Nat.lt_of_lt_of_le h1 hn, ?_⟩
  intro q hq hqo
  rcases hG q hq with ⟨p, hp, ho, hl⟩ | h3
  · rw [← hl]; exact h2 p hp (ho.trans hqo)
  · omega

theorem FunLt.sub {s s' : St} (h : Sub s s') {fn : Fun} {ℓ : Int} (hf : FunLt s.next s.G fn ℓ) :
    FunLt s'.next s'.G fn ℓ :=
  hf.congrG h.next fun q hq => (h.Gobj q hq).imp id And.left

theorem Bnd.sub {s s' : St} (h : Sub s s') {i L : Nat} (hb : Bnd s i L) : Bnd s' i L := by
  refine ⟨?_, ?_⟩
  · intro im' hi' c' hc' fn hfn
    obtain ⟨im, hi, hc⟩ := h.impls i im' hi'
    rcases hc c' hc' with e | ⟨c, hm, hf⟩
    · rw [e] at hfn; cases hfn
    · exact FunLt.sub h (hb.1 im hi c hm fn (hf ▸ hfn))
  · intro q hq hqi
    rcases h.Gimpl q hq with e | ⟨p, hp, hi, hl⟩
    · rw [e] at hqi; cases hqi
    · rw [← hl]; exact hb.2 p hp (hi.trans hqi)

theorem LvlInv.sub {s s' : St} (h : Sub s s') (hI : LvlInv s) : LvlInv s' := by
  refine ⟨?_, ?_, ?_, ?_, ?_⟩
  · intro q hq
    rcases h.Gobj q hq with ⟨p, hp, ho, _⟩ | ⟨_, h4, _⟩
    · rw [← ho]; exact Nat.lt_of_lt_of_le (hI.objlt p hp) h.next
    · exact h4
  · intro q hq q' hq' ho
    rcases h.Gobj q hq with ⟨p, hp, hpo, hpl⟩ | ⟨h3, _, h5⟩
    · rcases h.Gobj q' hq' with ⟨p', hp', hpo', hpl'⟩ | ⟨h3', _, _⟩
      · rw [← hpl, ← hpl']; exact hI.objuniq p hp p' hp' (by rw [hpo, hpo', ho])
      · have := hI.objlt p hp; omega
    · exact (h5 q' hq' ho.symm).symm
  · intro q hq i hqi
    rcases h.Gimpl q hq with e | ⟨p, hp, hi, _⟩
    · rw [e] at hqi; cases hqi
    · exact Nat.lt_of_lt_of_le (hI.impllt p hp i (hi.trans hqi)) h.next
  · intro i v' hv' fn hfn
    rcases h.S i v' hv' with e | ⟨j, v, hj, ht, hf⟩
    · rw [e] at hfn; cases hfn
    · exact FunLt.sub h ((hI.slots j v hj fn (hf ▸ hfn)).mono (by omega))
  · intro q hq i hqi
    rcases h.Gimpl q hq with e | ⟨p, hp, hi, hl⟩
    · rw [e] at hqi; cases hqi
    · rw [← hl]; exact Bnd.sub h (hI.impls p hp i (hi.trans hqi))

theorem JK.sub {k : Option (Nat × Nat)} {s s' : St} (h : Sub s s') (hJ : JK k s) : JK k s' :=
  ⟨hJ.1.sub h, fun i L hk => ⟨Bnd.sub h (hJ.2 i L hk).1, Nat.lt_of_lt_of_le (hJ.2 i L hk).2 h.next⟩⟩

theorem fnOf_of_slotLe {a b : SlotB} (h : Sigc.Inv.SlotLe a b) : fnOf a = none ∨ fnOf a = fnOf b := by
  rcases h with h | h | h
  · right; simp only [fnOf, h]
  · right
    simp only [fnOf, h, SlotB.disconnectRep]
    cases hb : b.rep <;> simp [hb]
  · left
    simp only [fnOf, h, SlotB.invalidate]
    cases hb : b.rep <;> simp [hb]

theorem Sub.ofS {x : St} {S' : List (Nat × SlotVar)}
    (h : ∀ i v', aget S' i = some v' →
      fnOf v'.slot = none ∨ ∃ j v, aget x.S j = some v ∧ v.taint ≤ v'.taint ∧ fnOf v'.slot = fnOf v.slot) :
    Sub x { x with S := S' } :=
  { Sub.refl x with S := h }

theorem Sub.ofG {x : St} {G' : List (Nat × Handle)} {n : Nat} (hn : x.next ≤ n)
    (hG : ∀ r ∈ G', r ∈ x.G ∨
      (((∃ p ∈ x.G, p.2.obj = r.2.obj ∧ p.2.lvl = r.2.lvl) ∨
        (x.next ≤ r.2.obj ∧ r.2.obj < n ∧ ∀ r' ∈ G', r'.2.obj = r.2.obj → r'.2.lvl = r.2.lvl)) ∧
       (r.2.impl = none ∨ ∃ p ∈ x.G, p.2.impl = r.2.impl ∧ p.2.lvl = r.2.lvl))) :
    Sub x { x with G := G', next := n } := by
  refine { Sub.refl x with next := hn, Gobj := ?_, Gimpl := ?_ }
  · intro r hr
    rcases hG r hr with e | ⟨e, _⟩
    · exact Or.inl ⟨r, e, rfl, rfl⟩
    · exact e
  · intro r hr
    rcases hG r hr with e | ⟨_, e⟩
    · exact Or.inr ⟨r, e, rfl, rfl⟩
    · exact e

theorem Sub.setImpl {s : St} {i : Nat} {im im' : Impl} (hi : aget s.impls i = some im)
    (hc : ∀ c' ∈ im'.cells, fnOf c'.slot = none ∨ ∃ c ∈ im.cells, fnOf c'.slot = fnOf c.slot) :
    Sub s (setImpl s i im') := by
  refine { Sub.refl s with impls := ?_ }
  intro j jm hj
  simp only [Sigc.Inv.setImpl_impls, Emit.aget_aset] at hj
  split at hj
  · rename_i e; subst e; cases hj; exact ⟨im, hi, hc⟩
  · exact ⟨jm, hj, fun c hc => Or.inr ⟨c, hc, rfl⟩⟩

theorem sub_prims (a : St) : Sigc.Inv.PrimsA (Sub a) where
  upd s i im g e d _ h hi hg := by
    refine h.trans (Sub.setImpl hi ?_)
    intro c' hc'
    simp only [List.mem_map] at hc'
    obtain ⟨c, hc, rfl⟩ := hc'
    rcases fnOf_of_slotLe (hg c).2 with e | e
    · exact Or.inl e
    · exact Or.inr ⟨c, hc, e⟩
  filter s i im p d ids _ h hi _ := by
    refine (h.trans (Sub.setImpl (im' := { im with cells := im.cells.filter p, deferred := d }) hi ?_)).congr
      (by simp) (by simp) (by simp) (by simp)
    intro c' hc'
    exact Or.inr ⟨c', (List.mem_filter.mp hc').1, rfl⟩
  delImpl s i im _ h _ _ _ := by
    refine (h.trans ({ Sub.refl s with impls := ?_ } : Sub s { s with impls := adel s.impls i })).congr
      (by simp) (by simp) (by simp) (by simp)
    intro j jm hj
    simp only [Emit.aget_adel] at hj
    split at hj
    · cases hj
    · exact ⟨jm, hj, fun c hc => Or.inr ⟨c, hc, rfl⟩⟩
  invalS s t _ h := by
    refine h.trans (Sub.ofS ?_)
    intro j v' hv'
    simp only [aget_amap] at hv'
    cases hv : aget s.S j with
    | none => rw [hv] at hv'; cases hv'
    | some v =>
      rw [hv] at hv'
      simp only [Option.map_some, Option.some.injEq] at hv'
      subst hv'
      split
      · left
        simp only [fnOf, SlotB.invalidate]
        cases hb : v.slot.rep <;> simp [hb]
      · exact Or.inr ⟨j, v, hv, Int.le_refl _, rfl⟩

section
variable {a x : St}

theorem sub_next (h : Sub a x) {n : Nat} (hn : x.next ≤ n) : Sub a { x with next := n } :=
  h.trans { Sub.refl x with next := hn, Gobj := fun q hq => Or.inl ⟨q, hq, rfl, rfl⟩ }

theorem sub_log (h : Sub a x) (e : Event) : Sub a (x.log e) := h.congr rfl rfl rfl rfl
theorem sub_fail (h : Sub a x) (m : String) : Sub a (x.fail m) := by
  unfold St.fail; split
  · exact h.congr rfl rfl rfl rfl
  · exact h
theorem sub_eraseCell (h : Sub a x) (i c : Nat) : Sub a (eraseCell x i c) := (sub_prims a).eraseCell i c h
theorem sub_unrefExec (h : Sub a x) (i : Nat) : Sub a (unrefExec x i) := (sub_prims a).unrefExec i h
theorem sub_gcImpl (h : Sub a x) (i : Nat) : Sub a (gcImpl x i) := (sub_prims a).gcImpl i h
theorem sub_invalidateTrackable (h : Sub a x) (t : Nat) : Sub a (invalidateTrackable x t) :=
  (sub_prims a).invalidateTrackable t h
theorem sub_delG (h : Sub a x) (g : Nat) : Sub a { x with G := adel x.G g } :=
  h.trans (Sub.ofG (Nat.le_refl _) fun _ hr => Or.inl (mem_adel hr).1)

theorem sub_forceDelG (h : Sub a x) (g : Nat) : Sub a (Sigc.Inv.forceDelG x g) :=
  (sub_prims a).dropHandle g (fun _ h => sub_delG h g) h

theorem sub_collect (h : Sub a x) : Sub a (collect x) :=
  (sub_prims a).collect' (fun _ _ _ _ h => h.congr rfl rfl rfl rfl) (fun _ g h => sub_forceDelG h g) h

theorem sub_dropHolder (h : Sub a x) (i : Nat) : Sub a (Sigc.Inv.dropHolder x i) := by
  unfold Sigc.Inv.dropHolder
  split
  · exact h
  · rename_i im hi
    exact h.trans (Sub.setImpl hi (fun c hc => Or.inr ⟨c, hc, rfl⟩))

theorem sub_emitEpi (h : Sub a x) (i m : Nat) : Sub a (Sigc.Inv.emitEpi x i m) := by
  unfold Sigc.Inv.emitEpi
  split
  · exact sub_fail h _
  · refine sub_collect (sub_gcImpl (sub_dropHolder (sub_unrefExec ?_ _) _) _)
    split
    · exact sub_eraseCell h _ _
    · exact sub_fail h _

theorem sub_emitPro (h : Sub a x) {i : Nat} {im : Impl} (hi : aget x.impls i = some im) :
    Sub a (Sigc.Inv.emitPro x i im) := by
  refine h.trans ((sub_next (Sub.refl x) (Nat.le_succ _)).trans (Sub.setImpl (s := x.fresh.2) hi ?_))
  intro c' hc'
  simp only [List.mem_append, List.mem_singleton] at hc'
  rcases hc' with hc' | rfl
  · exact Or.inr ⟨c', hc', rfl⟩
  · exact Or.inl rfl

theorem sub_setS (h : Sub a x) (i : Nat) (v' : SlotVar)
    (hv : fnOf v'.slot = none ∨ ∃ j v, aget x.S j = some v ∧ v.taint ≤ v'.taint ∧ fnOf v'.slot = fnOf v.slot) :
    Sub a { x with S := aset x.S i v' } := by
  refine h.trans (Sub.ofS ?_)
  intro j w hw
  simp only [Emit.aget_aset] at hw
  split at hw
  · cases hw; exact hv
  · exact Or.inr ⟨j, w, hw, Int.le_refl _, rfl⟩

theorem sub_delS (h : Sub a x) (i : Nat) : Sub a { x with S := adel x.S i } := by
  refine h.trans (Sub.ofS ?_)
  intro j w hw
  simp only [Emit.aget_adel] at hw
  split at hw
  · cases hw
  · exact Or.inr ⟨j, w, hw, Int.le_refl _, rfl⟩

end

theorem SlotLt.congrG {n n' : Nat} {G G' : List (Nat × Handle)} {sl : SlotB} {ℓ : Int} (hn : n ≤ n')
    (hG : ∀ q ∈ G', (∃ p ∈ G, p.2.obj = q.2.obj ∧ p.2.lvl = q.2.lvl) ∨ n ≤ q.2.obj)
    (h : SlotLt n G sl ℓ) : SlotLt n' G' sl ℓ := fun fn hfn => (h fn hfn).congrG hn hG

theorem SlotLt.mono {n : Nat} {G : List (Nat × Handle)} {sl : SlotB} {a b : Int} (h : SlotLt n G sl a) (hab : a ≤ b) :
    SlotLt n G sl b := fun fn hfn => (h fn hfn).mono hab

theorem SlotLt.of_none {n : Nat} {G : List (Nat × Handle)} {sl : SlotB} {ℓ : Int} (h : fnOf sl = none) :
    SlotLt n G sl ℓ := fun fn hfn => by rw [h] at hfn; cases hfn

theorem JK.setS {k : Option (Nat × Nat)} {s : St} (hJ : JK k s) (i : Nat) (v' : SlotVar)
    (hv : SlotLt s.next s.G v'.slot (v'.taint + 1)) : JK k { s with S := aset s.S i v' } := by
  refine ⟨⟨hJ.1.objlt, hJ.1.objuniq, hJ.1.impllt, ?_, fun p hp j hj => hJ.1.impls p hp j hj⟩,
    fun j L hk => hJ.2 j L hk⟩
  intro j w hw
  simp only [Emit.aget_aset] at hw
  split at hw
  · cases hw; exact hv
  · exact hJ.1.slots j w hw

theorem fnOf_congr {a b : SlotB} (h : a.rep = b.rep) : fnOf a = fnOf b := by unfold fnOf; rw [h]

theorem fnOf_copy (sl : SlotB) : fnOf sl.copy = none ∨ fnOf sl.copy = fnOf sl :=
  sl.copy_rep.imp (fun e => by unfold fnOf; rw [e]) fnOf_congr

/-- `mkFun` is a `Sub` step, and its functor forwards at most to the level it declares -/
theorem sub_mkFun {s s' : St} {fn : Fun} {t : Int} (hI : LvlInv s) (m : MkFun s t fn s') :
    Sub s s' ∧ FunLt s'.next s'.G fn (t + 1) := by
  have none : ∀ {n G fn} (ℓ : Int), Emit.funTarget fn = none → FunLt n G fn ℓ :=
    fun ℓ h o ts e => by rw [h] at e; cases e
  cases m with
  | plain _ h =>
    refine ⟨Sub.refl s, ?_⟩
    rcases h with ⟨fid, ts, rfl⟩ | ⟨i, v, hv, rfl, ht⟩
    · exact none _ rfl
    · cases hr : v.slot.copy.rep with
      | none => exact none _ rfl
      | some r =>
        cases hf : r.fn with
        | none => exact none _ (by simp [hf, Emit.funTarget])
        | some f =>
          have e : fnOf v.slot.copy = some f := by simp only [fnOf, hr, hf]
          have hsl := (hI.slots i v hv).mono (Int.add_le_add_right ht 1)
          intro o ts h
          simp only [Option.bind, hf, Emit.funTarget] at h
          rcases fnOf_copy v.slot with e' | e'
          · rw [e'] at e; cases e
          · exact hsl f (e' ▸ e) o ts h
  | @fwd g h hg _ hl =>
    have hmem : (g, h) ∈ s.G := mem_of_aget hg
    refine ⟨Sub.ofG (n := s.next) (Nat.le_refl _) ?_, ?_⟩
    · intro q hq
      rcases (mem_aset hq).symm with rfl | e
      · exact Or.inr ⟨Or.inl ⟨(g, h), hmem, rfl, rfl⟩, Or.inr ⟨(g, h), hmem, rfl, rfl⟩⟩
      · exact Or.inl e
    · intro o ts ht
      simp only [Emit.funTarget, Option.some.injEq, Prod.mk.injEq] at ht
      obtain ⟨rfl, _⟩ := ht
      refine ⟨hI.objlt _ hmem, ?_⟩
      intro q hq hqo
      have : q.2.lvl = h.lvl := by
        rcases (mem_aset hq).symm with e | e
        · subst e; rfl
        · exact hI.objuniq q e (g, h) hmem hqo
      rw [this]; omega
  | ownT fid _ => exact ⟨(Sub.refl s).congr rfl rfl rfl rfl, none _ rfl⟩
  | ownK fid _ => exact ⟨(sub_next (Sub.refl s) (Nat.le_succ _)).congr rfl rfl rfl rfl, none _ rfl⟩
  | ownG fid _ _ _ => exact ⟨(sub_next (Sub.refl s) (Nat.le_succ _)).congr rfl rfl rfl rfl, none _ rfl⟩

theorem same_pairs (G : List (Nat × Handle)) : ∀ q ∈ G, (∃ p ∈ G, p.2.obj = q.2.obj ∧ p.2.lvl = q.2.lvl) ∨ n ≤ q.2.obj :=
  fun q hq => Or.inl ⟨q, hq, rfl, rfl⟩

theorem Bnd.setImpl {s : St} {i j L n : Nat} {im' : Impl} (hn : s.next ≤ n) (hb : Bnd s j L)
    (hc : j = i → ∀ c ∈ im'.cells, SlotLt n s.G c.slot L) :
    Bnd (Model.setImpl { s with next := n } i im') j L := by
  refine ⟨?_, hb.2⟩
  intro jm hj c hcm
  simp only [Sigc.Inv.setImpl_impls, Emit.aget_aset] at hj
  split at hj
  · rename_i e; cases hj; exact hc e c hcm
  · exact (hb.1 jm hj c hcm).congrG hn (same_pairs _)

theorem JK.setImpl {k : Option (Nat × Nat)} {s : St} {i n : Nat} {im' : Impl} (hJ : JK k s) (hn : s.next ≤ n)
    (hc : ∀ L, Bnd s i L → ∀ c ∈ im'.cells, SlotLt n s.G c.slot L) :
    JK k (Model.setImpl { s with next := n } i im') := by
  refine ⟨⟨?_, hJ.1.objuniq, ?_, ?_, ?_⟩, ?_⟩
  · intro p hp; exact Nat.lt_of_lt_of_le (hJ.1.objlt p hp) hn
  · intro p hp j hj; exact Nat.lt_of_lt_of_le (hJ.1.impllt p hp j hj) hn
  · intro j v hv; exact (hJ.1.slots j v hv).congrG hn (same_pairs _)
  · intro p hp j hj
    exact Bnd.setImpl hn (hJ.1.impls p hp j hj) (fun e => hc _ (e ▸ hJ.1.impls p hp j hj))
  · intro j L hk
    exact ⟨Bnd.setImpl hn (hJ.2 j L hk).1 (fun e => hc _ (e ▸ (hJ.2 j L hk).1)),
      Nat.lt_of_lt_of_le (hJ.2 j L hk).2 hn⟩

/-- `signal_impl::insert`: the new cell's functor forwards below the level of a signal object of the list -/
theorem JK.insertCell {k : Option (Nat × Nat)} {s : St} {i : Nat} (hJ : JK k s) (first : Bool) {sl : SlotB}
    {p : Nat × Handle} (hp : p ∈ s.G) (hi : p.2.impl = some i) (hsl : SlotLt s.next s.G sl p.2.lvl) :
    JK k (insertCell s i first sl).1 := by
  unfold Model.insertCell
  simp only [St.fresh]
  split
  · exact JK.sub (sub_fail (sub_next (Sub.refl s) (Nat.le_succ _)) _) hJ
  · rename_i im him
    refine JK.setImpl hJ (Nat.le_succ _) ?_
    intro L hb c hc
    have hcell : ∀ c ∈ im.cells, SlotLt (s.next + 1) s.G c.slot L := fun c hc =>
      (hb.1 im him c hc).congrG (Nat.le_succ _) (same_pairs _)
    have hnew : SlotLt (s.next + 1) s.G (match sl.rep with
        | none => { sl with rep := some { call := false, fn := none } }
        | some _ => sl) L := by
      have h1 : SlotLt (s.next + 1) s.G sl L :=
        (hsl.congrG (Nat.le_succ _) (same_pairs _)).mono (by have := hb.2 p hp hi; omega)
      cases hr : sl.rep with
      | none => exact SlotLt.of_none (by simp [fnOf])
      | some r => simpa [hr] using h1
    cases first
    · simp only [Bool.false_eq_true, if_false, List.mem_append, List.mem_singleton] at hc
      rcases hc with hc | rfl
      · exact hcell c hc
      · exact hnew
    · simp only [if_true, List.mem_cons] at hc
      rcases hc with rfl | hc
      · exact hnew
      · exact hcell c hc

/-- `signal_base::impl()`: the slot list of the signal object named `g`, created on first use -/
theorem JK.ensureImpl {k : Option (Nat × Nat)} {s s1 : St} {g im : Nat} (hJ : JK k s)
    (he : ensureImpl s g = some (s1, im)) :
    JK k s1 ∧ ∃ h, aget s.G g = some h ∧ aget s1.G g = some { h with impl := some im } ∧
      s.next ≤ s1.next ∧ s1.S = s.S ∧ (∀ g', g' ≠ g → aget s1.G g' = aget s.G g') ∧
      (∀ q ∈ s1.G, ∃ p ∈ s.G, p.2.obj = q.2.obj ∧ p.2.lvl = q.2.lvl) := by
  obtain ⟨h, hg, ⟨hi, rfl⟩ | ⟨hi, rfl, rfl⟩⟩ := ensureImpl_cases he
  · refine ⟨hJ, h, hg, ?_, Nat.le_refl _, rfl, fun _ _ => rfl, fun q hq => ⟨q, hq, rfl, rfl⟩⟩
    rw [hg]; congr 1
    cases h; simp only at hi; subst hi; rfl
  · have hmem : (g, h) ∈ s.G := mem_of_aget hg
    -- the signal objects keep their `(obj, lvl)`; only `g` gets the fresh slot list
    have hG : ∀ q ∈ aset s.G g { h with impl := some s.next },
        (q = (g, { h with impl := some s.next })) ∨ q ∈ s.G := fun q hq => (mem_aset hq).symm
    have hp2 : ∀ q ∈ aset s.G g { h with impl := some s.next },
        ∃ p ∈ s.G, p.2.obj = q.2.obj ∧ p.2.lvl = q.2.lvl := by
      intro q hq
      rcases hG q hq with rfl | e
      · exact ⟨(g, h), hmem, rfl, rfl⟩
      · exact ⟨q, e, rfl, rfl⟩
    refine ⟨?_, h, hg, by simp, Nat.le_succ _, rfl, fun g' hg' => by simp [Emit.aget_aset, hg'], hp2⟩
    have hpairs : ∀ q ∈ aset s.G g { h with impl := some s.next },
        (∃ p ∈ s.G, p.2.obj = q.2.obj ∧ p.2.lvl = q.2.lvl) ∨ s.next ≤ q.2.obj := fun q hq => Or.inl (hp2 q hq)
    have hold : ∀ q ∈ aset s.G g { h with impl := some s.next }, ∀ j, q.2.impl = some j → j ≠ s.next →
        q ∈ s.G := by
      intro q hq j hj hne
      rcases hG q hq with rfl | e
      · simp only [Option.some.injEq] at hj; exact absurd hj.symm hne
      · exact e
    have hbnd : ∀ j L, j < s.next → Bnd s j L →
        Bnd { s with next := s.next + 1, impls := aset s.impls s.next {},
                     G := aset s.G g { h with impl := some s.next } } j L := by
      intro j L hj hb
      refine ⟨?_, ?_⟩
      · intro jm hjm c hc
        simp only [Emit.aget_aset] at hjm
        split at hjm
        · omega
        · exact (hb.1 jm hjm c hc).congrG (Nat.le_succ _) hpairs
      · intro q hq hqj
        exact hb.2 q (hold q hq j hqj (by omega)) hqj
    refine ⟨⟨?_, ?_, ?_, ?_, ?_⟩, ?_⟩
    · intro q hq
      obtain ⟨p, hp, hpo, _⟩ := hp2 q hq
      rw [← hpo]
      exact Nat.lt_succ_of_lt (hJ.1.objlt p hp)
    · intro q hq q' hq' ho
      obtain ⟨p, hp, hpo, hpl⟩ := hp2 q hq
      obtain ⟨p', hp', hpo', hpl'⟩ := hp2 q' hq'
      rw [← hpl, ← hpl']
      exact hJ.1.objuniq p hp p' hp' (by rw [hpo, hpo', ho])
    · intro q hq j hj
      rcases hG q hq with rfl | e
      · simp only [Option.some.injEq] at hj; subst hj; exact Nat.lt_succ_self _
      · exact Nat.lt_succ_of_lt (hJ.1.impllt q e j hj)
    · intro j v hv
      exact (hJ.1.slots j v hv).congrG (Nat.le_succ _) hpairs
    · intro q hq j hj
      by_cases hjn : j = s.next
      · subst hjn
        -- the fresh list: no cells, and `g` is the only signal object that has it
        refine ⟨?_, ?_⟩
        · intro jm hjm c hc
          simp only [Emit.aget_aset, if_true, Option.some.injEq] at hjm
          subst hjm; cases hc
        · intro q' hq' hj'
          have hq'g : ∀ r ∈ aset s.G g { h with impl := some s.next }, r.2.impl = some s.next →
              r = (g, { h with impl := some s.next }) := by
            intro r hr hri
            rcases hG r hr with rfl | e
            · rfl
            · exact absurd (hJ.1.impllt r e _ hri) (Nat.lt_irrefl _)
          rw [hq'g q hq hj, hq'g q' hq' hj']
          exact Nat.le_refl _
      · have hqs := hold q hq j hj hjn
        exact hbnd j q.2.lvl (hJ.1.impllt q hqs j hj) (hJ.1.impls q hqs j hj)
    · intro j L hk
      exact ⟨hbnd j L (hJ.2 j L hk).2 (hJ.2 j L hk).1, Nat.lt_succ_of_lt (hJ.2 j L hk).2⟩

theorem fnOf_blocked (sl : SlotB) (b : Bool) : fnOf { sl with blocked := b } = fnOf sl := rfl
theorem fnOf_rep (b : Bool) (sl : SlotB) : fnOf { blocked := b, rep := sl.rep } = fnOf sl := rfl

theorem fnOf_disconnectRep (sl : SlotB) : fnOf sl.disconnectRep = fnOf sl := by
  simp only [fnOf, SlotB.disconnectRep]
  cases h : sl.rep <;> simp [h]

theorem fnOf_move_fst (sl : SlotB) : fnOf sl.move.1 = fnOf sl := fnOf_congr sl.move_fst_rep

theorem fnOf_move_snd (sl : SlotB) : fnOf sl.move.2 = none := by unfold fnOf; rw [sl.move_snd_rep]

theorem sub_setConn' {a x : St} (h : Sub a x) (k : Nat) (p : Option Nat) :
    Sub a { x with C := aset x.C k p } := h.congr rfl rfl rfl rfl

theorem src_of_slotFrom {s : St} {sl : SlotB} {t : Int} (h : SlotFrom s sl t) :
    fnOf sl = none ∨ ∃ j v, aget s.S j = some v ∧ v.taint ≤ t ∧ fnOf sl = fnOf v.slot := by
  rcases h with e | ⟨i, v, hv, ht, e | e⟩
  · exact Or.inl (by unfold fnOf; rw [e])
  · exact Or.inr ⟨i, v, hv, ht, fnOf_congr e⟩
  · exact Or.inr ⟨i, v, hv, ht, (fnOf_congr e).trans (fnOf_disconnectRep _)⟩

/-- a write to `S` from slot variables, at no lower taint, takes nothing above its level -/
theorem sub_swrite {s : St} {S' : List (Nat × SlotVar)} (w : SWrite s S') : Sub s { s with S := S' } := by
  cases w with
  | one _ h => exact sub_setS (Sub.refl s) _ _ (src_of_slotFrom h)
  | two _ _ ha _ _ hb =>
    refine Sub.ofS ?_
    intro a w hw
    simp only [Emit.aget_aset] at hw
    split at hw
    · cases hw; exact src_of_slotFrom hb
    · split at hw
      · cases hw; exact src_of_slotFrom ha
      · exact Or.inr ⟨a, w, hw, Int.le_refl _, rfl⟩
  | del _ _ => exact sub_delS (Sub.refl s) _

section
variable {k : Option (Nat × Nat)} {s : St}

theorem JK.addHandle {x : St} (hJ : JK k x) (j : Nat) (q : Handle) {n : Nat} (hn : x.next ≤ n)
    (ho1 : x.next ≤ q.obj) (ho2 : q.obj < n)
    (himpl : q.impl = none ∨ ∃ p ∈ x.G, p.2.impl = q.impl ∧ p.2.lvl = q.lvl) :
    JK k { x with G := aset x.G j q, next := n } := by
  refine JK.sub (Sub.ofG hn ?_) hJ
  intro r hr
  rcases (mem_aset hr).symm with rfl | e
  · refine Or.inr ⟨Or.inr ⟨ho1, ho2, fun r' hr' ho => ?_⟩, himpl⟩
    rcases (mem_aset hr').symm with rfl | e
    · rfl
    · have := hJ.1.objlt r' e; dsimp only at ho; omega
  · exact Or.inl e

/-- `signal_base(signal_base&&)`: the source keeps its identity without slot list, the destination is new -/
theorem JK.moveHandle {x : St} (hJ : JK k x) {i j : Nat} {h0 : Handle} (hi : aget x.G i = some h0) (q : Handle)
    {n : Nat} (hn : x.next ≤ n) (ho1 : x.next ≤ q.obj) (ho2 : q.obj < n) (hq : q.impl = h0.impl) (hl : q.lvl = h0.lvl) :
    JK k { x with G := aset (aset x.G i { h0 with impl := none }) j q, next := n } := by
  have hmem : (i, h0) ∈ x.G := mem_of_aget hi
  refine JK.sub (Sub.ofG hn ?_) hJ
  intro r hr
  rcases (mem_aset hr).symm with rfl | e
  · refine Or.inr ⟨Or.inr ⟨ho1, ho2, ?_⟩, ?_⟩
    · intro r' hr' ho
      rcases (mem_aset hr').symm with rfl | e'
      · rfl
      · rcases (mem_aset e').symm with rfl | e''
        · exfalso; have := hJ.1.objlt _ hmem; simp only [] at ho this; omega
        · exfalso; have := hJ.1.objlt r' e''; simp only [] at ho this; omega
    · cases hc : h0.impl with
      | none => left; rw [hq, hc]
      | some im => right; exact ⟨(i, h0), hmem, hq.symm, hl.symm⟩
  · rcases (mem_aset e).symm with rfl | e'
    · exact Or.inr ⟨Or.inl ⟨(i, h0), hmem, rfl, rfl⟩, Or.inl rfl⟩
    · exact Or.inl e'

/-- `signal_base::operator=(signal_base&&)`: the destination takes the slot list of the source -/
theorem JK.stealImpl {x : St} (hJ : JK k x) {j i : Nat} {d h : Handle} (hd : aget x.G j = some d)
    (hh : aget x.G i = some h) (hl : d.lvl = h.lvl) :
    JK k { x with G := aset (aset x.G j { d with impl := h.impl }) i { h with impl := none } } := by
  have hmd : (j, d) ∈ x.G := mem_of_aget hd
  have hmh : (i, h) ∈ x.G := mem_of_aget hh
  refine JK.sub (Sub.ofG (n := x.next) (Nat.le_refl _) ?_) hJ
  intro r hr
  rcases (mem_aset hr).symm with rfl | e
  · exact Or.inr ⟨Or.inl ⟨(i, h), hmh, rfl, rfl⟩, Or.inl rfl⟩
  · rcases (mem_aset e).symm with rfl | e'
    · refine Or.inr ⟨Or.inl ⟨(j, d), hmd, rfl, rfl⟩, ?_⟩
      cases hc : h.impl with
      | none => exact Or.inl rfl
      | some im => exact Or.inr ⟨(i, h), hmh, hc, hl.symm⟩
    · exact Or.inl e'

theorem SlotLt.of_fnOf {n : Nat} {G : List (Nat × Handle)} {sl sl' : SlotB} {ℓ : Int}
    (h : fnOf sl' = none ∨ fnOf sl' = fnOf sl) (hs : SlotLt n G sl ℓ) : SlotLt n G sl' ℓ := by
  intro fn hfn
  rcases h with e | e
  · rw [e] at hfn; cases hfn
  · exact hs fn (e ▸ hfn)

end

theorem held_mem {G : List (Nat × Handle)} {o : Option Nat} {ℓ : Nat} (h : HeldAt G o ℓ) :
    o = none ∨ ∃ p ∈ G, p.2.impl = o ∧ p.2.lvl = ℓ := by
  cases o with
  | none => exact Or.inl rfl
  | some i =>
    obtain ⟨g, hd, hg, hi, hl⟩ := h i rfl
    exact Or.inr ⟨(g, hd), mem_of_aget hg, hi, hl⟩

theorem JK.gcOpt {k : Option (Nat × Nat)} {x : St} (hJ : JK k x) (old : Option Nat) : JK k (gcOpt x old) :=
  JK.sub ((sub_prims x).gcOpt old (Sub.refl x)) hJ

/-- every move but `mkS`, `ensure`, `conn`, `connMv`, `connfn` is a `Sub` step: the library cascades whatever they
    remove, the writes to `S` and `G` because of the taint or level the move records.  Of those five, `conn`, `connMv`,
    `connfn` keep `JK` by the inequality the move records, `mkS` by the level `MkFun` declares for its functor
    (`sub_mkFun`), and `ensure` adds a list without cells, held by one signal object -/
theorem JK.move {k : Option (Nat × Nat)} {s s' : St} (m : Move s s') (hJ : JK k s) : JK k s' := by
  have two : s.next ≤ s.next + 1 + 1 := Nat.le_succ_of_le (Nat.le_succ _)
  cases m with
  | lib m => exact JK.sub ((sub_prims s).lib m (Sub.refl s)) hJ
  | newT _ => exact JK.sub ((sub_next (Sub.refl s) (Nat.le_succ _)).congr rfl rfl rfl rfl) hJ
  | delT _ => exact JK.sub (sub_invalidateTrackable (by exact (Sub.refl s).congr rfl rfl rfl rfl) _) hJ
  | setS w => exact JK.sub (sub_swrite w) hJ
  | made m => exact JK.sub (sub_mkFun hJ.1 m).1 hJ
  | mkS m _ hv =>
    obtain ⟨h1, h2⟩ := sub_mkFun hJ.1 m
    exact JK.setS (JK.sub h1 hJ) _ _ (fun fn' e => by rw [hv] at e; cases e; exact h2)
  | newG fl lvl _ hh =>
    exact JK.addHandle hJ _ _ two (Nat.le_refl _) (Nat.lt_succ_of_le (Nat.le_succ _)) (held_mem hh)
  | ensure he => exact (JK.ensureImpl hJ he).1
  | mvG hi _ =>
    exact JK.moveHandle hJ hi _ two (Nat.le_refl _) (Nat.lt_succ_of_le (Nat.le_succ _)) rfl rfl
  | asgG hd hh =>
    refine (JK.sub (Sub.ofG (n := s.next) (Nat.le_refl _) ?_) hJ).gcOpt _
    intro r hr
    rcases (mem_aset hr).symm with rfl | e
    · exact Or.inr ⟨Or.inl ⟨_, mem_of_aget hd, rfl, rfl⟩, held_mem hh⟩
    · exact Or.inl e
  | masgG hd hh _ hl => exact (JK.stealImpl hJ hd hh hl).gcOpt _
  | drop _ _ => exact JK.sub (sub_forceDelG (Sub.refl s) _) hJ
  | conn c first hv hh ht =>
    obtain ⟨g, hd, hg, hi, rfl⟩ := hh _ rfl
    exact JK.sub (sub_setConn' (Sub.refl _) _ _) (JK.insertCell hJ first (mem_of_aget hg) hi
      (SlotLt.of_fnOf (fnOf_copy _) ((hJ.1.slots _ _ hv).mono ht)))
  | connMv c first hv hh ht =>
    obtain ⟨g, hd, hg, hi, rfl⟩ := hh _ rfl
    exact JK.sub (sub_setConn' (Sub.refl _) _ _)
      (JK.insertCell (JK.sub (sub_setS (Sub.refl _) _ _ (Or.inl (fnOf_move_snd _))) hJ) first
        (mem_of_aget hg) hi (SlotLt.of_fnOf (Or.inr (fnOf_move_fst _)) ((hJ.1.slots _ _ hv).mono ht)))
  | connfn c first m he hg ht =>
    obtain ⟨h1, h2⟩ := sub_mkFun hJ.1 m
    obtain ⟨h', hg', hl'⟩ := m.lvl hg
    obtain ⟨hJ1, h0, hg0, hg1, hn, hS, hoth, hpairs⟩ := JK.ensureImpl (JK.sub h1 hJ) he
    cases hg'.symm.trans hg0
    refine JK.sub (sub_setConn' (Sub.refl _) _ _) (JK.insertCell hJ1 first (mem_of_aget hg1) rfl ?_)
    intro fn' hfn'
    cases hfn'
    exact (h2.mono (by dsimp only; rw [hl']; exact ht)).congrG hn (fun q hq => Or.inl (hpairs q hq))
  | setCK _ => exact JK.sub ((Sub.refl s).congr rfl rfl rfl rfl) hJ

theorem JK.callPro {k : Option (Nat × Nat)} {s : St} {i : Nat} {v : SlotVar} (hJ : JK k s) (hv : aget s.S i = some v) :
    JK k (Sigc.Inv.callPro s i v) :=
  JK.sub (sub_setS (Sub.refl s) _ _ (Or.inr ⟨_, _, hv, Int.le_refl _, rfl⟩)) hJ

theorem JK.callEpi {k : Option (Nat × Nat)} {s : St} (i : Nat) (hJ : JK k s) : JK k (Sigc.Inv.callEpi s i) := by
  unfold Sigc.Inv.callEpi
  split
  · rename_i v2 hv2
    exact JK.sub (sub_setS (Sub.refl s) _ _ (Or.inr ⟨_, _, hv2, Int.le_refl _, rfl⟩)) hJ
  · exact JK.sub (sub_fail (Sub.refl s) _) hJ

end Sigc.Fuel
