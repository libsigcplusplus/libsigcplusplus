import Sigc.Spec
import Sigc.Lemmas.StepSlots
/-! The operations on slot variables are executed alike by the mechanism model `P` and the specification `S`
    (`Sigc.Spec`): `slotOp_sim`, for every relation between the two states that survives a common write to `S` and
    `mkFun` (`SlotRel`).  Its instances: equality of the fields these operations read (`agree_slotRel`, for
    `C15.spec_agrees_on_slot_ops`) and the simulation relation of `Sigc.Refine` (`Refine.step_slotOp`). -/
namespace Sigc.StepSlots
open Sigc.Model

theorem spec_mkFun_agrees (l : Spec.LSt) (s : St) (hS : l.S = s.S) (hT : l.T = s.T) (hG : l.G = s.G)
    (hK : l.K = s.K) (hN : l.next = s.next) (hO : l.ownedG = s.ownedG) (b : Bool) (spec : FSpec) :
    (match Spec.mkFun l b spec with
     | .error e => Except.error e
     | .ok (fn, l') => Except.ok (fn, l'.S)) =
    (match mkFun s b spec with
     | .error e => Except.error e
     | .ok (fn, s') => Except.ok (fn, s'.S)) := by
  cases spec with
  | fn fid => simp only [Spec.mkFun.eq_def, mkFun.eq_def, hS]
  | mem fid t | bref fid t | ownT fid t => simp only [Spec.mkFun.eq_def, mkFun.eq_def, hT]; cases aget s.T t <;> simp only [hS]
  | trk fid t1 t2 =>
    simp only [Spec.mkFun.eq_def, mkFun.eq_def, hT]
    cases aget s.T t1 with
    | none => rfl
    | some o1 =>
      cases t2 with
      | none => simp only [hS]
      | some t2 => simp only []; cases aget s.T t2 <;> simp only [hS]
  | nest sv =>
    simp only [Spec.mkFun.eq_def, mkFun.eq_def, hS]
    cases aget s.S sv with
    | none => rfl
    | some v =>
      cases hb : (!b && v.isVoid) <;> simp only [hb, Bool.false_eq_true, if_false, if_true, hS]
      rfl
  | fwd g =>
    simp only [Spec.mkFun.eq_def, mkFun.eq_def, hG, hO]
    cases aget s.G g with
    | none => rfl
    | some h =>
      cases hb : (h.fl.isVoid != b) <;> simp only [hb, Bool.false_eq_true, if_false, if_true]
      cases h2 : (!h.fl.isTrackable && s.ownedG.any fun p => decide (p.snd = g)) <;>
        simp only [Bool.false_eq_true, if_false, if_true, hS]
  | ownK fid k =>
    simp only [Spec.mkFun.eq_def, mkFun.eq_def, hK, hN, Spec.LSt.fresh, St.fresh]
    cases aget s.K k <;> simp only [hS]
  | ownG fid g =>
    simp only [Spec.mkFun.eq_def, mkFun.eq_def, hG, hO, hN, Spec.LSt.fresh, St.fresh]
    cases aget s.G g with
    | none => rfl
    | some h =>
      cases h1 : (h.everFwd && !h.fl.isTrackable) <;> simp only [h1, Bool.false_eq_true, if_false, if_true]
      cases h2 : (s.ownedG.any fun p => decide (p.snd = g)) <;> simp only [Bool.false_eq_true, if_false, if_true, hS]
  | bad => rfl

theorem spec_specTaint_agrees (l : Spec.LSt) (s : St) (hS : l.S = s.S) (hG : l.G = s.G) (spec : FSpec) :
    Spec.specTaint l spec = specTaint s spec := by
  cases spec <;> simp only [Spec.specTaint, specTaint, hS, hG] <;> rfl

variable {Q Q' : St → Spec.LSt → Prop}

/-- `mkFun` on both sides: the same refusal, or the same functor and related states -/
def FunQ (Q' : St → Spec.LSt → Prop) : Except String (Fun × St) → Except String (Fun × Spec.LSt) → Prop
  | .ok (fn, s'), .ok (fn', t') => fn' = fn ∧ Q' s' t'
  | .error e, .error e' => e' = e
  | _, _ => False

/-- a step on both sides: the same answer and related states -/
def AnsQ (Q' : St → Spec.LSt → Prop) : Option (St × String) → Option (Spec.LSt × String) → Prop
  | some (s', r), some (t', r') => Q' s' t' ∧ r' = r
  | none, none => True
  | _, _ => False

/-- what a relation must satisfy for the slot-variable operations to respect it: `Q` before, `Q'` after -/
structure SlotRel (Q Q' : St → Spec.LSt → Prop) : Prop where
  S : ∀ {s t}, Q' s t → t.S = s.S
  weak : ∀ {s t}, Q s t → Q' s t
  updS : ∀ {s t}, Q' s t → ∀ x, Q' { s with S := x } { t with S := x }
  taint : ∀ {s t}, Q s t → ∀ spec, Spec.specTaint t spec = specTaint s spec
  made : ∀ {s t}, Q s t → ∀ b spec, FunQ Q' (mkFun s b spec) (Spec.mkFun t b spec)

theorem AnsQ.same {s : St} {t : Spec.LSt} (h : Q' s t) (r : String) : AnsQ Q' (some (s, r)) (some (t, r)) := ⟨h, rfl⟩

theorem AnsQ.ite {c : Prop} [Decidable c] {a b : Option (St × String)} {a' b' : Option (Spec.LSt × String)}
    (h1 : c → AnsQ Q' a a') (h2 : ¬ c → AnsQ Q' b b') : AnsQ Q' (if c then a else b) (if c then a' else b') := by
  split
  · exact h1 ‹_›
  · exact h2 ‹_›

/-- `mkS`, `setS` after their guards -/
theorem AnsQ.mk (hQ : SlotRel Q Q') {s : St} {t : Spec.LSt} (h : Q s t) (b : Bool) (spec : FSpec) (i : Nat) (V : Fun → SlotVar) :
    AnsQ Q' (match mkFun s b spec with
             | .error e => some (s, e)
             | .ok (fn, s') => some ({ s' with S := aset s'.S i (V fn) }, "ok"))
            (match Spec.mkFun t b spec with
             | .error e => some (t, e)
             | .ok (fn, t') => some ({ t' with S := aset t'.S i (V fn) }, "ok")) := by
  have hm := hQ.made h b spec
  rcases h1 : mkFun s b spec with e1 | ⟨f1, s1⟩ <;> rcases h2 : Spec.mkFun t b spec with e2 | ⟨f2, t1⟩ <;>
    rw [h1, h2] at hm
  · cases (hm : e2 = e1); exact .same (hQ.weak h) _
  · exact hm.elim
  · exact hm.elim
  · obtain ⟨rfl, h'⟩ := (hm : f2 = f1 ∧ Q' s1 t1)
    dsimp only
    rw [hQ.S h']
    exact ⟨hQ.updS h' _, rfl⟩

theorem slotOp_sim (hQ : SlotRel Q Q') {s : St} {t : Spec.LSt} (h : Q s t) (op : Op) (ws : List Nat)
    (hw : slotWrites op = some ws) : AnsQ Q' (stepSimple s op) (Spec.stepSimple t op) := by
  have same : ∀ r, AnsQ Q' (some (s, r)) (some (t, r)) := .same (hQ.weak h)
  have put : ∀ x r, AnsQ Q' (some ({ s with S := x }, r)) (some ({ t with S := x }, r)) :=
    fun x r => ⟨hQ.updS (hQ.weak h) x, rfl⟩
  cases op <;> cases hw <;> dsimp only [stepSimple, Spec.stepSimple] <;> rw [hQ.S (hQ.weak h)]
  case mkS i ty spec =>
    rw [hQ.taint h]
    cases aget s.S i with
    | some v => exact same _
    | none => exact .ite (fun _ => same _) fun _ => .mk hQ h _ spec i _
  case setS i spec =>
    rw [hQ.taint h]
    cases aget s.S i with
    | none => exact same _
    | some d => exact .ite (fun _ => same _) fun _ => .mk hQ h _ spec i _
  case mkS0 i ty =>
    cases aget s.S i with
    | some v => exact same _
    | none => exact .ite (fun _ => same _) fun _ => put _ _
  case cpS j i =>
    cases aget s.S i with
    | none => exact same _
    | some v => cases aget s.S j <;> first | exact same _ | exact put _ _
  case mvS j i =>
    cases aget s.S i with
    | none => exact same _
    | some v =>
      cases aget s.S j with
      | some w => exact same _
      | none => exact .ite (fun _ => same _) fun _ => put _ _
  case asgS j i =>
    cases aget s.S j <;> cases aget s.S i
    case some.some d v => exact .ite (fun _ => same _) fun _ => .ite (fun _ => same _) fun _ => put _ _
    all_goals exact same _
  case masgS j i =>
    cases aget s.S j <;> cases aget s.S i
    case some.some d v =>
      exact .ite (fun _ => same _) fun _ => .ite (fun _ => same _) fun _ =>
        .ite (fun _ => put _ _) fun _ => .ite (fun _ => put _ _) fun _ => put _ _
    all_goals exact same _
  case delS i =>
    cases aget s.S i with
    | none => exact same _
    | some d => exact .ite (fun _ => same _) fun _ => put _ _
  case discS i | blockS i b =>
    cases aget s.S i <;> first | exact same _ | exact put _ _
  case blockedSq i | emptySq i =>
    cases aget s.S i <;> exact same _

/-- equality of what the operations on slot variables read -/
theorem agree_slotRel :
    SlotRel (fun s l => l.S = s.S ∧ l.T = s.T ∧ l.G = s.G ∧ l.K = s.K ∧ l.next = s.next ∧ l.ownedG = s.ownedG)
      (fun s l => l.S = s.S) where
  S h := h
  weak h := h.1
  updS _ _ := rfl
  taint h := spec_specTaint_agrees _ _ h.1 h.2.2.1
  made {s l} h b spec := by
    have hm := spec_mkFun_agrees l s h.1 h.2.1 h.2.2.1 h.2.2.2.1 h.2.2.2.2.1 h.2.2.2.2.2 b spec
    rcases h1 : mkFun s b spec with e1 | p1 <;> rcases h2 : Spec.mkFun l b spec with e2 | p2 <;> rw [h1, h2] at hm
    · exact Except.error.inj hm
    · cases hm
    · cases hm
    · obtain ⟨f1, s1⟩ := p1
      obtain ⟨f2, l1⟩ := p2
      simp only [Except.ok.injEq, Prod.mk.injEq] at hm
      exact hm

end Sigc.StepSlots
