import Sigc.SlotGLemmasInval
/-!
  Everything the `SlotG` model does to a state, for *all* states, said once, as chains of elementary changes (the
  model's `runTrace`, the text of a run, is not meant).  `Chg`: the eight elementary changes of a
  teardown, each with what the model knows where it makes it; `Tr`: their chains, with the rule `bracket` for
  `notify_slot_rep_invalidated` and `delete_rep_with_check` (a representation is invalidated first and has lost its
  functor, or is gone, later).  `GChg`/`Gr`: the four changes of an allocation and their chains.  The chains carry a
  footprint: `ex`, the representations that may be invalidated and keep their functor (`disconnect()` by name); `wr`,
  the slot variables that may be written and not only erased; `fl`, whether the fuel may run out; `c0`, the
  connection whose registration may appear.  Every function of the model is gone through once (`destroyRep_tr` …
  `newRep_gr`, `apply_does`: an operation is an allocation followed by a teardown); what no change can do, no chain
  can: `Tr.mono`, `Tr.keeps`, `Tr.pres`, `Tr.frame`, `Gr.grow`, `Gr.keeps`, `Gr.frame`.  The walk takes `G fl s`: with
  `fl` it speaks of every state and every fuel, without it of a state within `RepBound`, where `mu s`, `nu s <
  fuel s` — so the same walk is the proof that the fuel never runs out (`run_no_err`).  `Frame` (registrations only
  disappear) comes first; at the end the two results about runs that need no invariant: `run_inv` (identities stay
  below `nextRep`, `err` stays `false`) and `NF.foldl_nf`.
-/
namespace Sigc.SlotG
open NF

variable {ex wr : Nat → Prop} {fl : Prop} {c0 : Option Nat}

theorem unbindFun_slots (r : Nat) (f : Fun) (s : State) : (unbindFun r f s).slots = s.slots := by
  rcases unbindFun_cases r f s with ⟨-, -, h⟩ | ⟨t, -, -, h⟩ | ⟨v, -, -, h⟩ <;> rw [h]
  · exact slots_trkRemove t r s
  · exact slots_unsetParentIf v r s

/-- the tail of `notify_slot_rep_invalidated`: `if (notifier) self_->destroy();` -/
def notifyTail (r : Nat) (s2 : State) : State :=
  if (s2.reps r).isSome then destroyRep (fuel s2) r s2 else s2

theorem notifyInv_zero (r : Nat) (s : State) : notifyInv 0 r s = { s with err := true } := rfl

theorem notifyInv_succ (k r : Nat) (s : State) : notifyInv (k + 1) r s =
    match s.reps r with
    | none => s
    | some R =>
      notifyTail r (match R.parent with
        | none => s.setRep r (some { R with call := false, parent := none })
        | some p => notifyInv k p (s.setRep r (some { R with call := false, parent := none }))) := rfl

/-- one turn of the loop of `trkNotify` -/
def trkStep (t : Nat) (s : State) (e : Nat × Bool) : State :=
  if entryActive s t e.1 then notifyInv (fuel s) e.1 s else s

theorem trkNotify_eq (t : Nat) (s : State) : trkNotify t s =
    match s.trks t with
    | none => s
    | some T =>
      (T.entries.foldl (trkStep t) (s.setTrk t (some { T with clearing := true }))).setTrk t (some ⟨[], false⟩) :=
  rfl

theorem bindFun_slots (r f s) : (bindFun r f s).slots = s.slots := by
  rcases bindFun_cases r f s with ⟨-, -, h⟩ | ⟨t, -, -, h⟩ | ⟨v, -, -, h⟩ <;> rw [h]
  · exact slots_trkAdd t r s
  · exact slots_setParentIfNone v r s
theorem bindFunX_slots (e r f s) : (bindFunX e r f s).slots = s.slots := by
  unfold bindFunX; split
  · rfl
  · exact bindFun_slots _ _ _

/-- What a step does at most to the registrations of connections; `c0` is the connection the operation itself
    (re)binds, if any.  `regs` speaks of valid representations on both sides because that is what `connected()`
    tests: `connected_stays` reads "connected after the step" as "connected before" off it. -/
structure Frame (c0 : Option Nat) (s s' : State) : Prop where
  regs : ∀ x X' c, s'.reps x = some X' → c ∈ X'.cbs → some c ≠ c0 → X'.call = true →
    ∃ X, s.reps x = some X ∧ c ∈ X.cbs ∧ X.call = true
  conns : ∀ c, some c ≠ c0 → s'.conns c = s.conns c ∨ s'.conns c = some none ∨ s'.conns c = none

theorem Frame.refl (c0 : Option Nat) (s : State) : Frame c0 s s :=
  ⟨fun _ X' _ h hc _ hcall => ⟨X', h, hc, hcall⟩, fun _ _ => .inl rfl⟩

theorem Frame.trans {c0 : Option Nat} {s s1 s2 : State} (h1 : Frame c0 s s1) (h2 : Frame c0 s1 s2) :
    Frame c0 s s2 := by
  constructor
  · intro x X2 c hx hc hne hcall
    obtain ⟨X1, hX1, hc1, hcall1⟩ := h2.regs x X2 c hx hc hne hcall
    exact h1.regs x X1 c hX1 hc1 hne hcall1
  · intro c hne
    rcases h2.conns c hne with h | h
    · rw [h]; exact h1.conns c hne
    · exact .inr h

theorem frame_of_sub {c0 : Option Nat} {s s' : State}
    (hr : ∀ x X', s'.reps x = some X' → (∀ c, c ∈ X'.cbs → some c = c0) ∨
      ∃ X, s.reps x = some X ∧ (∀ c, c ∈ X'.cbs → some c ≠ c0 → c ∈ X.cbs) ∧ (X'.call = true → X.call = true))
    (hc : ∀ c, some c ≠ c0 → s'.conns c = s.conns c ∨ s'.conns c = some none ∨ s'.conns c = none) :
    Frame c0 s s' := by
  refine ⟨?_, hc⟩
  intro x X' c hx hm hne hcall
  rcases hr x X' hx with h | ⟨X, hX, h1, h2⟩
  · exact absurd (h c hm) hne
  · exact ⟨X, hX, h1 c hm hne, h2 hcall⟩

theorem frame_of_eq {s s' : State} (hr : s'.reps = s.reps) (hc : s'.conns = s.conns) (c0 : Option Nat) :
    Frame c0 s s' := by
  refine frame_of_sub ?_ ?_
  · intro x X' hx; rw [hr] at hx; exact .inr ⟨X', hx, fun _ h _ => h, fun h => h⟩
  · intro c _; rw [hc]; exact .inl rfl

theorem frame_setSlot (s : State) (v : Nat) (o : Option SVar) (c0 : Option Nat) : Frame c0 s (s.setSlot v o) :=
  frame_of_eq (s' := s.setSlot v o) (setSlot_reps s v o) (conns_setSlot s v o) c0

theorem frame_setTrk (s : State) (t : Nat) (o : Option Trk) (c0 : Option Nat) : Frame c0 s (s.setTrk t o) :=
  frame_of_eq (s' := s.setTrk t o) (setTrk_reps s t o) (conns_setTrk s t o) c0

theorem frame_modRep (s : State) (n : Nat) (g : Rep → Rep) (c0 : Option Nat)
    (hg1 : ∀ N c, c ∈ (g N).cbs → some c ≠ c0 → c ∈ N.cbs) (hg2 : ∀ N, (g N).call = true → N.call = true) :
    Frame c0 s (s.modRep n g) := by
  refine frame_of_sub ?_ fun c _ => by rw [conns_modRep]; exact .inl rfl
  intro x X' hx
  obtain ⟨X, hX, ⟨-, rfl⟩ | ⟨-, rfl⟩⟩ := reps_of_mod (reps_modRep s n g) hx
  · exact .inr ⟨X', hX, fun _ h _ => h, fun h => h⟩
  · exact .inr ⟨X, hX, hg1 X, hg2 X⟩

theorem frame_weakNotify (r : Nat) (s : State) (c0 : Option Nat) : Frame c0 s (weakNotify r s) := by
  refine frame_of_sub ?_ ?_
  · intro x X' hx
    rw [reps_weakNotify] at hx
    by_cases hxr : x = r
    · subst hxr; simp only [if_true, Option.map_eq_some_iff] at hx
      obtain ⟨X, -, rfl⟩ := hx
      left; intro c hc; simp at hc
    · rw [if_neg hxr] at hx; exact .inr ⟨X', hx, fun _ h _ => h, fun h => h⟩
  · intro c _
    cases hq : s.reps r with
    | none => left; rw [weakNotify_none hq]
    | some Q =>
      rw [conns_weakNotify r s Q hq]
      split
      · cases hcc : s.conns c with
        | none => left; rfl
        | some p => right; left; rfl
      · exact .inl rfl

theorem frame_setRep_none (s : State) (q : Nat) (c0 : Option Nat) : Frame c0 s (s.setRep q none) := by
  refine frame_of_sub ?_ (fun _ _ => .inl rfl)
  intro x X' hx
  rw [reps_setRep] at hx
  split at hx
  · cases hx
  · exact .inr ⟨X', hx, fun _ h _ => h, fun h => h⟩

theorem frame_eraseRep {s : State} (q : Nat) (c0 : Option Nat) : Frame c0 s (eraseRep q s) :=
  (frame_weakNotify q s c0).trans (frame_setRep_none _ q c0)

theorem slotAddCb_eq (v c : Nat) (s : State) : slotAddCb v c s =
    match repOf s v with
    | none => s
    | some r => s.modRep r fun R => { R with cbs := R.cbs ++ [c] } := rfl
theorem slotRemCb_eq (v c : Nat) (s : State) : slotRemCb v c s =
    match repOf s v with
    | none => s
    | some r => s.modRep r fun R => { R with cbs := R.cbs.erase c } := rfl


theorem frame_allocRep_empty (R : Rep) (hR : R.cbs = []) (s : State) (c0 : Option Nat) :
    Frame c0 s (allocRep R s) := by
  refine frame_of_sub ?_ ?_
  · intro x X' hx
    rw [reps_allocRep] at hx
    split at hx
    · cases hx; left; intro c hc; rw [hR] at hc; simp at hc
    · exact .inr ⟨X', hx, fun _ h _ => h, fun h => h⟩
  · intro c _; exact .inl rfl

theorem frame_setConn (s : State) (c : Nat) (o : Option (Option Nat)) : Frame (some c) s (s.setConn c o) := by
  refine frame_of_sub ?_ ?_
  · intro x X' hx; rw [setConn_reps] at hx; exact .inr ⟨X', hx, fun _ h _ => h, fun h => h⟩
  · intro c' hne
    have : c' ≠ c := fun h => hne (by rw [h])
    rw [conns_setConn, if_neg this]; exact .inl rfl

theorem frame_slotAddCb (v c : Nat) (s : State) : Frame (some c) s (slotAddCb v c s) := by
  rw [slotAddCb_eq]
  split
  · exact Frame.refl _ s
  · refine frame_modRep _ _ _ _ (fun N c' hc' hne => (List.mem_append.mp hc').resolve_right fun h => hne ?_)
      fun _ h => h
    rw [List.mem_singleton.mp h]

theorem frame_slotRemCb (v c : Nat) (s : State) (c0 : Option Nat) : Frame c0 s (slotRemCb v c s) := by
  rw [slotRemCb_eq]
  split
  · exact Frame.refl _ s
  · exact frame_modRep _ _ _ _ (fun _ _ hc' _ => List.mem_of_mem_erase hc') fun _ h => h

/-- the connection an operation (re)binds -/
def boundConn : Op → Option Nat
  | .connS c _ | .newC c | .cpC c _ | .asgC c _ | .delC c => some c
  | _ => none


theorem frame_setRep_drop {s : State} {r : Nat} {R R' : Rep} (hR : s.reps r = some R) (hc : R'.cbs = R.cbs)
    (hcall : R'.call = true → R.call = true) (c0 : Option Nat) : Frame c0 s (s.setRep r (some R')) := by
  refine frame_of_sub (fun x X' hx => ?_) (fun _ _ => .inl rfl)
  rw [reps_setRep] at hx; split at hx
  · cases hx; subst_vars; exact .inr ⟨R, hR, fun c h _ => hc ▸ h, hcall⟩
  · exact .inr ⟨X', hx, fun _ h _ => h, id⟩

theorem frame_unbindFun (r : Nat) (f : Fun) (s : State) (c0 : Option Nat) : Frame c0 s (unbindFun r f s) := by
  rcases unbindFun_cases r f s with ⟨-, -, h⟩ | ⟨t, -, -, h⟩ | ⟨v, -, -, h⟩ <;> rw [h]
  · exact .refl ..
  · exact frame_of_eq (reps_trkRemove ..) (conns_trkRemove ..) c0
  · rw [unsetParentIf_eq]; split
    · exact .refl ..
    · exact frame_modRep _ _ _ c0 (fun N c h _ => by unfold clearPar at h; split at h <;> exact h)
        (fun N h => by unfold clearPar at h; split at h <;> exact h)

theorem frame_dropFn {s : State} {r : Nat} {R : Rep} (f : Fun) (hR : s.reps r = some R) (c0 : Option Nat) :
    Frame c0 s (dropFnF r R f s) := by
  unfold dropFnF
  exact Frame.trans (frame_setRep_drop (R' := { R with call := false }) hR rfl (fun h => by cases h) c0)
    (Frame.trans (frame_unbindFun ..) (frame_modRep _ _ _ c0 (fun _ _ h _ => h) (fun _ h => h)))

theorem frame_killConn (c : Nat) (s : State) (c0 : Option Nat) : Frame c0 s (killConn c s) := by
  unfold killConn
  refine Frame.trans (s1 := match connTarget s c with | none => s | some v => slotRemCb v c s) ?_ ?_
  · split
    · exact .refl ..
    · exact frame_slotRemCb ..
  · refine frame_of_sub (fun x X' hx => .inr ⟨X', hx, fun _ h _ => h, id⟩) fun c' _ => ?_
    rw [conns_setConn]; split
    · exact .inr (.inr rfl)
    · exact .inl rfl

theorem frame_setParentIfNone (v r : Nat) (s : State) (c0 : Option Nat) : Frame c0 s (setParentIfNone v r s) := by
  rw [setParentIfNone_eq]; split
  · exact .refl ..
  · exact frame_modRep _ _ _ c0 (fun N c h _ => by rw [setPar_cbs] at h; exact h)
      (fun N h => by rw [setPar_call] at h; exact h)

theorem frame_bindFun (r : Nat) (f : Fun) (s : State) (c0 : Option Nat) : Frame c0 s (bindFun r f s) := by
  rcases bindFun_cases r f s with ⟨-, -, h⟩ | ⟨t, -, -, h⟩ | ⟨v, -, -, h⟩ <;> rw [h]
  · exact .refl ..
  · exact frame_of_eq (reps_trkAdd ..) (conns_trkAdd ..) c0
  · exact frame_setParentIfNone ..

theorem frame_bindFunX (e : Bool) (r : Nat) (f : Fun) (s : State) (c0 : Option Nat) :
    Frame c0 s (bindFunX e r f s) := by
  unfold bindFunX; split
  · exact .refl ..
  · exact frame_bindFun ..

/-- one elementary change, with what is known where the model makes it.  `ex`: the representations that may be
    invalidated and keep their functor (`disconnect()` by name); `wr`: the variables that may be written -/
inductive Chg (ex wr : Nat → Prop) (fl : Prop) (c0 : Option Nat) : State → State → Prop
  | regs {s s' : State} : SameFns s s' → s'.slots = s.slots → Frame c0 s s' → Chg ex wr fl c0 s s'
  | erase (s : State) (v : Nat) : Chg ex wr fl c0 s (s.setSlot v none)
  | write (s : State) {v : Nat} (o : Option SVar) : wr v → Chg ex wr fl c0 s (s.setSlot v o)
  | dropFn {s : State} {r : Nat} {R : Rep} {f : Fun} : s.reps r = some R → R.fn = some f →
      Chg ex wr fl c0 s (dropFnF r R f s)
  | inval {s : State} {r : Nat} {R : Rep} : s.reps r = some R → R.fn = none →
      Chg ex wr fl c0 s (s.setRep r (some { R with call := false }))
  | disc {s : State} {r : Nat} {R : Rep} : s.reps r = some R → ex r → Chg ex wr fl c0 s (clrParF r R s)
  | free (s : State) (r : Nat) : Chg ex wr fl c0 s (s.setRep r none)
  | fail (s : State) : fl → Chg ex wr fl c0 s { s with err := true }

/-- chains of changes; `bracket`: `r` is invalidated first and has lost its functor (or is gone) later -/
inductive Tr (ex wr : Nat → Prop) (fl : Prop) (c0 : Option Nat) : State → State → Prop
  | refl (s : State) : Tr ex wr fl c0 s s
  | step {s s1 s2 : State} : Chg ex wr fl c0 s s1 → Tr ex wr fl c0 s1 s2 → Tr ex wr fl c0 s s2
  | bracket {s s1 s2 : State} {r : Nat} {R : Rep} : s.reps r = some R → Tr ex wr fl c0 (clrParF r R s) s1 →
      (∀ X, s1.reps r = some X → X.fn = none) → Tr ex wr fl c0 s1 s2 → Tr ex wr fl c0 s s2

namespace Tr
theorem one {s s' : State} (c : Chg ex wr fl c0 s s') : Tr ex wr fl c0 s s' := .step c (.refl _)

theorem trans {a b c : State} (h1 : Tr ex wr fl c0 a b) (h2 : Tr ex wr fl c0 b c) : Tr ex wr fl c0 a c := by
  induction h1 with
  | refl => exact h2
  | step c _ ih => exact .step c (ih h2)
  | bracket hR t1 hp _ _ ih => exact .bracket hR t1 hp (ih h2)

end Tr

theorem Chg.mono {s s' : State} (c : Chg ex wr fl c0 s s') : Mono ex s s' := by
  cases c with
  | regs h _ _ => exact .of_same h
  | erase | write | fail => exact .of_eq rfl
  | dropFn hR hf => exact (mono_dropFn ex s _ _ _).1
  | @inval r R hR hf =>
    intro x X' hx
    rw [reps_setRep] at hx
    split at hx
    · cases hx; exact .inl hf
    · exact .inr (.inr ⟨X', hx, rfl, rfl⟩)
  | @disc r R hR he =>
    intro x X' hx
    rw [clrParF, reps_setRep] at hx
    split at hx
    · rename_i h; exact .inr (.inl (h ▸ he))
    · exact .inr (.inr ⟨X', hx, rfl, rfl⟩)
  | free => exact mono_setRep_none _ _ _

theorem Tr.mono {s s' : State} (t : Tr ex wr fl c0 s s') : Mono ex s s' := by
  induction t with
  | refl => exact Mono.refl _ _
  | step c _ ih => exact c.mono.trans ih
  | @bracket s s1 s2 r R hR _ hp _ ih1 ih2 =>
    refine Mono.trans (fun x X' hx => ?_) ih2
    by_cases hxr : x = r
    · subst hxr; exact .inl (hp X' hx)
    · rcases ih1 x X' hx with g | g | ⟨X, hX, g⟩
      · exact .inl g
      · exact .inr (.inl g)
      · rw [clrParF, reps_setRep, if_neg hxr] at hX; exact .inr (.inr ⟨X, hX, g⟩)

theorem Chg.keeps {s s' : State} (c : Chg ex wr fl c0 s s') {v : Nat} {V' : SVar} (hw : ¬ wr v)
    (h : s'.slots v = some V') : s.slots v = some V' := by
  cases c with
  | regs _ hs _ => rw [← hs]; exact h
  | erase w =>
    rw [slots_setSlot] at h
    split at h
    · cases h
    · exact h
  | @write w o hv =>
    rw [slots_setSlot] at h
    split at h
    · rename_i e; exact absurd (e ▸ hv) hw
    · exact h
  | dropFn hR hf => rw [dropFnF, slots_modRep, unbindFun_slots] at h; exact h
  | inval | disc | free | fail => exact h

theorem Tr.keeps {s s' : State} (t : Tr ex wr fl c0 s s') {v : Nat} {V' : SVar} (hw : ¬ wr v)
    (h : s'.slots v = some V') : s.slots v = some V' := by
  induction t with
  | refl => exact h
  | step c _ ih => exact c.keeps hw (ih h)
  | bracket _ _ _ _ ih1 ih2 => exact ih1 (ih2 h)

theorem Chg.frame {s s' : State} (c : Chg ex wr fl c0 s s') : Frame c0 s s' := by
  cases c with
  | regs _ _ h => exact h
  | erase | write => exact frame_setSlot ..
  | dropFn hR hf => exact frame_dropFn _ hR c0
  | @inval r R hR _ => exact frame_setRep_drop (R' := { R with call := false }) hR rfl (fun h => by cases h) c0
  | @disc r R hR _ =>
    exact frame_setRep_drop (R' := { R with call := false, parent := none }) hR rfl (fun h => by cases h) c0
  | free => exact frame_setRep_none ..
  | fail => exact frame_of_eq (s := s) (s' := { s with err := true }) rfl rfl c0

theorem Tr.frame {s s' : State} (t : Tr ex wr fl c0 s s') : Frame c0 s s' := by
  induction t with
  | refl => exact .refl ..
  | step c _ ih => exact c.frame.trans ih
  | @bracket s s1 s2 r R hR _ _ _ ih1 ih2 =>
    exact ((frame_setRep_drop (R' := { R with call := false, parent := none }) hR rfl (fun h => by cases h)
      _).trans ih1).trans ih2

theorem Tr.erases {s s' : State} (t : Tr ex noEx fl c0 s s') : ∀ v V', s'.slots v = some V' → s.slots v = some V' :=
  fun _ _ => t.keeps id

theorem Chg.pres {s s' : State} (c : Chg ex wr fl c0 s s') (hb : RepBound s) :
    RepBound s' ∧ (¬ fl → s'.err = s.err) := by
  cases c with
  | regs h _ _ => exact ⟨(h.pres hb).1, fun _ => h.err⟩
  | erase | write => exact ⟨hb, fun _ => rfl⟩
  | dropFn hR hf => exact ⟨(pres_dropFn _ _ _ _ hR hb).1, fun _ => dropFn_err ..⟩
  | inval hR _ => exact ⟨(pres_setRep_some _ _ _ (by rw [hR]; rfl) hb).1, fun _ => rfl⟩
  | disc hR _ => exact ⟨(pres_clrPar _ _ _ hR hb).1, fun _ => rfl⟩
  | free => exact ⟨(pres_setRep_none _ _ hb).1, fun _ => rfl⟩
  | fail h => exact ⟨hb, fun n => absurd h n⟩

theorem Tr.pres {s s' : State} (t : Tr ex wr fl c0 s s') (hb : RepBound s) :
    RepBound s' ∧ (¬ fl → s'.err = s.err) := by
  induction t with
  | refl => exact ⟨hb, fun _ => rfl⟩
  | step c _ ih => exact ⟨(ih (c.pres hb).1).1, fun n => ((ih (c.pres hb).1).2 n).trans ((c.pres hb).2 n)⟩
  | bracket hR _ _ _ ih1 ih2 =>
    have h0 := pres_clrPar _ _ _ hR hb
    exact ⟨(ih2 (ih1 h0.1).1).1, fun n => (((ih2 (ih1 h0.1).1).2 n).trans ((ih1 h0.1).2 n)).trans h0.2⟩

/-- one elementary change of an allocation; `wr`: the variables that may be written -/
inductive GChg (wr : Nat → Prop) (c0 : Option Nat) : State → State → Prop
  | regs {s s' : State} : SameFns s s' → s'.slots = s.slots → Frame c0 s s' → GChg wr c0 s s'
  | write (s : State) {v : Nat} (o : Option SVar) : wr v → GChg wr c0 s (s.setSlot v o)
  | alloc (s : State) (R : Rep) : (R.call = false → R.fn = none) → R.cbs = [] → GChg wr c0 s (allocRep R s)
  | storeFn {s : State} {n : Nat} (f : Fun) : (∀ N, s.reps n = some N → N.call = true) →
      GChg wr c0 s (s.modRep n fun N => { N with fn := some f })

inductive Gr (wr : Nat → Prop) (c0 : Option Nat) : State → State → Prop
  | refl (s : State) : Gr wr c0 s s
  | step {s s1 s2 : State} : GChg wr c0 s s1 → Gr wr c0 s1 s2 → Gr wr c0 s s2

namespace Gr

theorem one {s s' : State} (c : GChg wr c0 s s') : Gr wr c0 s s' := .step c (.refl _)

theorem trans {a b c : State} (h1 : Gr wr c0 a b) (h2 : Gr wr c0 b c) : Gr wr c0 a c := by
  induction h1 with
  | refl => exact h2
  | step c _ ih => exact .step c (ih h2)

end Gr

theorem GChg.frame {s s' : State} (c : GChg wr c0 s s') : Frame c0 s s' := by
  cases c with
  | regs _ _ h => exact h
  | write => exact frame_setSlot ..
  | alloc R _ h => exact frame_allocRep_empty R h s c0
  | storeFn f _ => exact frame_modRep _ _ _ c0 (fun _ _ h _ => h) (fun _ h => h)

theorem Gr.frame {s s' : State} (t : Gr wr c0 s s') : Frame c0 s s' := by
  induction t with
  | refl s => exact .refl ..
  | step c _ ih => exact c.frame.trans ih

theorem GChg.grow {s s' : State} (c : GChg wr c0 s s') (ex : Nat → Prop) : Grow ex s s' := by
  cases c with
  | regs h _ _ => exact .of_same h
  | write => exact grow_setSlot ..
  | alloc R h _ => exact grow_allocRep _ _ _ h
  | @storeFn n f hn =>
    refine ⟨fun x X' hx hc => ?_, Nat.le_of_eq (nextRep_modRep ..).symm, fun x _ => ?_⟩
    · rw [reps_modRep] at hx
      split at hx
      · obtain ⟨N, hN, rfl⟩ := Option.map_eq_some_iff.mp hx
        subst_vars
        rw [show N.call = true from hn N hN] at hc; cases hc
      · exact .inr (.inr ⟨X', hx, hc, rfl⟩)
    · rw [reps_modRep]; split
      · rw [Option.map_map]; rfl
      · rfl

theorem GChg.keeps {s s' : State} (c : GChg wr c0 s s') :
    Pres s s' ∧ ∀ v, ¬ wr v → s'.slots v = s.slots v := by
  cases c with
  | regs h hs _ => exact ⟨h.pres, fun v _ => by rw [hs]⟩
  | @write v o hv =>
    exact ⟨pres_setSlot _ _ _, fun w hw => by rw [slots_setSlot, if_neg fun (e : w = v) => hw (by rw [e]; exact hv)]⟩
  | alloc R h _ => exact ⟨pres_allocRep _ _, fun _ _ => rfl⟩
  | storeFn f hn => exact ⟨pres_modRep _ _ _, fun _ _ => by rw [slots_modRep]⟩

theorem Gr.grow {s s' : State} (t : Gr wr c0 s s') (ex : Nat → Prop) : Grow ex s s' := by
  induction t with
  | refl s => exact ⟨(Mono.refl _ _).inval, .refl _⟩
  | step c _ ih => exact (c.grow ex).trans ih

theorem Gr.keeps {s s' : State} (t : Gr wr c0 s s') :
    Pres s s' ∧ ∀ v, ¬ wr v → s'.slots v = s.slots v := by
  induction t with
  | refl s => exact ⟨.refl _, fun _ _ => rfl⟩
  | step c _ ih => exact ⟨c.keeps.1.trans ih.1, fun v hv => (ih.2 v hv).trans (c.keeps.2 v hv)⟩

theorem gr_ite (c : Prop) [Decidable c] (s A B : State) (hA : c → Gr wr c0 s A) (hB : ¬ c → Gr wr c0 s B) :
    Gr wr c0 s (if c then A else B) := by
  split
  · exact hA ‹_›
  · exact hB ‹_›

theorem nest_gr (s : State) {c : Bool} (hc : c = true) {s2 : State}
    (h12 : Gr wr c0 (allocRep ⟨c, none, none, []⟩ s) s2) (fid dd j : Nat) :
    Gr wr c0 s (nestFinish s.nextRep fid dd j s2) := by
  have hself : ((allocRep ⟨c, none, none, []⟩ s).reps s.nextRep).map (·.call) = some true := by
    show ((if s.nextRep = s.nextRep then some (⟨c, none, none, []⟩ : Rep) else s.reps s.nextRep).map
      (·.call)) = some true
    simp [hc]
  refine (Gr.step (.alloc _ _ (fun _ => rfl) rfl) h12).trans (.step (.storeFn _ fun N hN => ?_)
    (.one (.regs (SameFns.setParentIfNone ..) (slots_setParentIfNone ..) (frame_setParentIfNone ..))))
  have := (h12.grow noEx).2.2 s.nextRep (Nat.lt_succ_self _)
  rw [hN, hself] at this
  simpa using this

theorem cloneRepD_gr (ha : ∀ v, anonBase ≤ v → wr v) (e : Bool) : ∀ (d r : Nat) (s : State),
    (∀ R, s.reps r = some R → R.call = true) → Gr wr c0 s (cloneRepD e d r s) := by
  intro d
  induction d with
  | zero =>
    intro r s hv
    rw [cloneRepD]
    split
    · exact .one (.alloc _ _ (fun _ => rfl) rfl)
    · rename_i R hR
      split
      · exact .one (.alloc _ _ (fun _ => rfl) rfl)
      · exact .one (.alloc _ _ (fun _ => rfl) rfl)
      · exact .step (.alloc _ _ (fun h => by simp [hv R hR] at h) rfl) (.one (.regs (SameFns.bindFunX ..) (bindFunX_slots ..) (frame_bindFunX ..)))
  | succ d' ih =>
    intro r s hv
    rw [cloneRepD]
    split
    · exact .one (.alloc _ _ (fun _ => rfl) rfl)
    · rename_i R hR
      split
      · exact .one (.alloc _ _ (fun _ => rfl) rfl)
      · simp only []
        refine nest_gr s (hv R hR) ?_ _ _ _
        have hj := ha _ (Nat.le_add_right anonBase s.nextRep)
        split
        · exact .one (.write _ _ hj)
        · split
          · exact .one (.write _ _ hj)
          · rename_i q _
            apply gr_ite
            · intro _; exact .one (.write _ _ hj)
            · intro hc
              refine (ih q _ ?_).trans (.one (.write _ _ hj))
              intro Q hQ
              simp only [hQ] at hc
              simpa using hc
      · exact .step (.alloc _ _ (fun h => by simp [hv R hR] at h) rfl) (.one (.regs (SameFns.bindFunX ..) (bindFunX_slots ..) (frame_bindFunX ..)))

theorem cloneRep_gr (ha : ∀ v, anonBase ≤ v → wr v) (r : Nat) (s : State)
    (hv : ∀ R, s.reps r = some R → R.call = true) : Gr wr c0 s (cloneRep r s) := cloneRepD_gr ha _ _ r s hv

theorem newRep_gr (ha : ∀ v, anonBase ≤ v → wr v) (f : Fun) (s : State) : Gr wr c0 s (newRep f s) := by
  unfold newRep
  split
  · simp only []
    have hj := ha _ (Nat.le_add_right anonBase s.nextRep)
    split
    · exact nest_gr s rfl (.one (.write _ _ hj)) _ _ _
    · split
      · exact nest_gr s rfl (.one (.write _ _ hj)) _ _ _
      · rename_i q _
        apply gr_ite
        · intro _; exact nest_gr s rfl (.one (.write _ _ hj)) _ _ _
        · intro hc
          refine nest_gr s rfl ((cloneRepD_gr ha _ _ q _ ?_).trans (.one (.write _ _ hj))) _ _ _
          intro Q hQ
          simp only [hQ] at hc
          simpa using hc
  · exact .step (.alloc _ _ (fun h => by simp at h) rfl) (.one (.regs (SameFns.bindFun ..) (bindFun_slots ..) (frame_bindFun ..)))

/-! `G fl s`: the fuel argument may fail (`fl`), or `s` satisfies the bound from which `mu s`, `nu s < fuel s` follow. -/

def G (fl : Prop) (s : State) : Prop := fl ∨ RepBound s

theorem G.to {s s' : State} (g : G fl s) (t : Tr ex wr fl c0 s s') : G fl s' := g.imp_right fun hb => (t.pres hb).1

theorem Tr.seq {s s1 s2 : State} (g : G fl s) (a : Tr ex wr fl c0 s s1) (b : G fl s1 → Tr ex wr fl c0 s1 s2) :
    Tr ex wr fl c0 s s2 := a.trans (b (g.to a))

theorem regs_tr {s s' : State} (h : SameFns s s') (hs : s'.slots = s.slots) (hf : Frame c0 s s') : Tr ex wr fl c0 s s' :=
  .one (.regs h hs hf)

theorem weakNotify_tr (r : Nat) (s : State) : Tr ex wr fl c0 s (weakNotify r s) :=
  regs_tr (SameFns.weakNotify ..) (slots_weakNotify ..) (frame_weakNotify ..)

theorem eraseRep_tr (q : Nat) (s : State) : Tr ex wr fl c0 s (eraseRep q s) :=
  (weakNotify_tr q s).trans (.one (.free _ _))

theorem destroyRep_tail {k r : Nat} {s : State} {R : Rep} {f : Fun}
    (ih : ∀ r', Tr ex wr fl c0 (dropFnF r R f s) (destroyRep k r' (dropFnF r R f s)))
    (hR : s.reps r = some R) (hf : R.fn = some f) :
    Tr ex wr fl c0 (dropFnF r R f s) (destroyRep (k + 1) r s) := by
  rw [destroyRep_succ]; simp only [hR, hf]
  split
  · split
    · exact .refl _
    · split
      · exact .refl _
      · exact regs_tr (SameFns.killConn ..) (slots_killConn ..) (frame_killConn ..)
  · split
    · exact .refl _
    · split
      · exact .refl _
      · split
        · exact .one (.erase _ _)
        · exact ((ih _).trans (eraseRep_tr _ _)).trans (.one (.erase _ _))

/-- every unfolding that recurses has cleared one functor first -/
theorem destroyRep_tr : ∀ (k r : Nat) (s : State), (fl ∨ (RepBound s ∧ mu s < k)) →
    Tr ex wr fl c0 s (destroyRep k r s)
  | 0, _, s, g => .one (.fail s (g.resolve_right fun h => Nat.not_lt_zero _ h.2))
  | k + 1, r, s, g => by
    cases hR : s.reps r with
    | none => rw [destroyRep]; simp only [hR]; exact .refl _
    | some R =>
      cases hf : R.fn with
      | none =>
        have c := Chg.inval (ex := ex) (wr := wr) (fl := fl) (c0 := c0) hR hf
        rw [destroyRep]; simp only [hR, hf] at c ⊢; exact .one c
      | some f =>
        refine .step (.dropFn hR hf) (destroyRep_tail (fun r' => destroyRep_tr k r' _ (g.imp_right ?_)) hR hf)
        intro ⟨hb, hm⟩
        have := mu_dropFn r R f s hb hR hf
        exact ⟨(pres_dropFn r R f s hR hb).1, by omega⟩

theorem destroyRep_fuel_tr (r : Nat) {s : State} (g : G fl s) : Tr ex wr fl c0 s (destroyRep (fuel s) r s) :=
  destroyRep_tr _ r s (g.imp_right fun hb => ⟨hb, mu_lt_fuel s⟩)

theorem deleteRep_tr (r : Nat) {s : State} (g : G fl s) : Tr ex wr fl c0 s (deleteRep r s) :=
  (destroyRep_fuel_tr r g).trans (eraseRep_tr r _)

/-- for `k + 1`: with fuel 0 `destroyRep` sets `err` and keeps the functor (`fuel s = s.nextRep + 2` is a successor) -/
theorem destroyRep_noFn (k r : Nat) (s : State) : ∀ X', (destroyRep (k + 1) r s).reps r = some X' → X'.fn = none := by
  intro X' hX'
  cases hR : s.reps r with
  | none => rw [destroyRep] at hX'; simp only [hR] at hX'; cases hX'
  | some R =>
    cases hf : R.fn with
    | none =>
      rw [destroyRep] at hX'; simp only [hR, hf, reps_setRep, if_true] at hX'
      cases hX'; rfl
    | some f =>
      rcases (destroyRep_tail (ex := noEx) (wr := noEx) (fl := True) (c0 := none)
        (fun r' => destroyRep_tr k r' _ (.inl trivial)) hR hf).mono r X' hX' with g | g | ⟨X, hX, -, g⟩
      · exact g
      · exact absurd g id
      · rw [← g]; exact (mono_dropFn noEx s r R f).2 X hX

theorem notifyTail_tr (r : Nat) {s : State} (g : G fl s) : Tr ex wr fl c0 s (notifyTail r s) := by
  unfold notifyTail; split
  · exact destroyRep_fuel_tr r g
  · exact .refl _

theorem notifyTail_noFn (r : Nat) (s : State) : ∀ X, (notifyTail r s).reps r = some X → X.fn = none := by
  intro X hX
  unfold notifyTail at hX
  split at hX
  · exact destroyRep_noFn _ r _ X hX
  · rename_i hn; rw [hX] at hn; exact absurd rfl hn

theorem notifyInv_noFn (k r : Nat) (s : State) : ∀ X, (notifyInv (k + 1) r s).reps r = some X → X.fn = none := by
  intro X hX
  rw [notifyInv_succ] at hX
  cases hR : s.reps r with
  | none => simp only [hR] at hX; cases hX
  | some R => simp only [hR] at hX; exact notifyTail_noFn r _ X hX

/-- every unfolding that recurses has cleared one parent first -/
theorem notifyInv_tr : ∀ (k r : Nat) (s : State), (fl ∨ (RepBound s ∧ nu s < k)) → Tr ex wr fl c0 s (notifyInv k r s)
  | 0, _, s, g => .one (.fail s (g.resolve_right fun h => Nat.not_lt_zero _ h.2))
  | k + 1, r, s, g => by
    rw [notifyInv_succ]
    cases hR : s.reps r with
    | none => exact .refl _
    | some R =>
      have g1 : G fl (clrParF r R s) := g.imp_right fun h => (pres_clrPar r R s hR h.1).1
      have h1 : Tr ex wr fl c0 (clrParF r R s) (match R.parent with
          | none => clrParF r R s
          | some p => notifyInv k p (clrParF r R s)) := by
        cases hp : R.parent with
        | none => exact .refl _
        | some p =>
          refine notifyInv_tr k p _ (g.imp_right fun ⟨hb, hm⟩ => ⟨(pres_clrPar r R s hR hb).1, ?_⟩)
          have := nu_clrPar r R s p hb hR hp
          omega
      exact .bracket hR (h1.trans (notifyTail_tr r (g1.to h1))) (notifyTail_noFn r _) (.refl _)

theorem notifyInv_fuel_tr (r : Nat) {s : State} (g : G fl s) : Tr ex wr fl c0 s (notifyInv (fuel s) r s) :=
  notifyInv_tr _ r s (g.imp_right fun hb => ⟨hb, nu_lt_fuel s⟩)

theorem modSlot_tr {s : State} {v : Nat} (hv : wr v) (g : SVar → SVar) : Tr ex wr fl c0 s (s.modSlot v g) := by
  unfold State.modSlot; split
  · exact .one (.write _ _ hv)
  · exact .refl _

theorem repDisconnect_tail {r : Nat} {s : State} {R : Rep} (hR : s.reps r = some R) (g : G fl s) :
    Tr ex wr fl c0 (clrParF r R s) (repDisconnect r s) := by
  unfold repDisconnect; simp only [hR]
  split
  · exact .refl _
  · exact notifyInv_fuel_tr _ (g.imp_right fun hb => (pres_clrPar r R s hR hb).1)

/-- `disconnect()`: the bracket is left open — `r` keeps its functor -/
theorem repDisconnect_tr {r : Nat} (he : ex r) {s : State} (g : G fl s) : Tr ex wr fl c0 s (repDisconnect r s) := by
  cases hR : s.reps r with
  | none => unfold repDisconnect; simp only [hR]; exact .refl _
  | some R => exact .step (.disc hR he) (repDisconnect_tail hR g)

/-- `delete_rep_with_check()`: the bracket is closed — `r` is gone at the end -/
theorem deleteRepWithCheck_tr {v : Nat} (hv : wr v) {s : State} (g : G fl s) :
    Tr ex wr fl c0 s (deleteRepWithCheck v s) := by
  unfold deleteRepWithCheck; split
  · exact .refl _
  · rename_i r _
    simp only []
    cases hR : s.reps r with
    | none =>
      have : repDisconnect r s = s := by unfold repDisconnect; simp only [hR]
      rw [this, hR]; exact .refl _
    | some R =>
      have h1 := repDisconnect_tail (ex := ex) (wr := wr) (c0 := c0) hR g
      have g1 : G fl (repDisconnect r s) := G.to (g.imp_right fun hb => (pres_clrPar r R s hR hb).1) h1
      refine .bracket hR (.trans h1 ?_) ?_ (.refl _)
      · split
        · exact Tr.seq g1 ((modSlot_tr hv _).trans (weakNotify_tr ..))
            (deleteRep_tr _)
        · exact .refl _
      · intro X hX
        split at hX
        · rw [deleteRep_gone] at hX; cases hX
        · rename_i hn; rw [hX] at hn; exact absurd rfl hn

theorem exchangeRep_tr {d : Nat} (hd : wr d) (n : Nat) {s : State} (g : G fl s) :
    Tr ex wr fl c0 s (exchangeRep d n s) := by
  unfold exchangeRep; split
  · exact modSlot_tr hd _
  · simp only []
    refine Tr.seq g ?_ (deleteRep_tr _)
    refine .trans ?_ (weakNotify_tr ..)
    refine .trans ?_ (modSlot_tr hd _)
    exact regs_tr (SameFns.modRep _ _ _ (fun _ => rfl) (fun _ => rfl)) (slots_modRep ..)
      (frame_modRep _ _ _ _ (fun _ _ h _ => h) (fun _ h => h))

theorem trkFold_tr (t : Nat) : ∀ (l : List (Nat × Bool)) {s : State}, G fl s → Tr ex wr fl c0 s (l.foldl (trkStep t) s)
  | [], s, _ => .refl s
  | e :: l, s, g => by
    refine Tr.seq g ?_ (trkFold_tr t l)
    unfold trkStep; split
    · exact notifyInv_fuel_tr _ g
    · exact .refl _

theorem trkNotify_tr (t : Nat) {s : State} (g : G fl s) : Tr ex wr fl c0 s (trkNotify t s) := by
  rw [trkNotify_eq]; split
  · exact .refl _
  · refine .trans (Tr.seq g ?_ (trkFold_tr t _)) (regs_tr (.of_reps rfl rfl rfl) rfl (frame_setTrk ..))
    exact regs_tr (.of_reps rfl rfl rfl) rfl (frame_setTrk ..)

/-- what an operation does (`apply_does`) -/
def Does (ex wr : Nat → Prop) (fl : Prop) (c0 : Option Nat) (s s' : State) : Prop :=
  ∃ s1, Gr wr c0 s s1 ∧ Tr ex wr fl c0 s1 s'

theorem Does.tr {s s' : State} (t : Tr ex wr fl c0 s s') : Does ex wr fl c0 s s' := ⟨s, .refl _, t⟩
theorem Does.gr {s s' : State} (h : Gr wr c0 s s') : Does ex wr fl c0 s s' := ⟨s', h, .refl _⟩
theorem Does.mk {s s1 s' : State} (g : G fl s) (h : Gr wr c0 s s1) (t : G fl s1 → Tr ex wr fl c0 s1 s') :
    Does ex wr fl c0 s s' := ⟨s1, h, t (g.imp_right fun hb => (h.keeps.1 hb).1)⟩

theorem modSlot_gr {s : State} {v : Nat} (hv : wr v) (g : SVar → SVar) : Gr wr c0 s (s.modSlot v g) := by
  unfold State.modSlot; split
  · exact .one (.write _ _ hv)
  · exact .refl _

theorem slots_slotAddCb (v c : Nat) (s : State) : (slotAddCb v c s).slots = s.slots := by
  unfold slotAddCb; split
  · rfl
  · exact slots_modRep ..
theorem slots_slotRemCb (v c : Nat) (s : State) : (slotRemCb v c s).slots = s.slots := by
  unfold slotRemCb; split
  · rfl
  · exact slots_modRep ..

/-- `~weak_raw_ptr`, first step: the connection leaves the list of the representation it is registered on -/
theorem detach_tr (c : Nat) (s : State) :
    Tr ex wr fl c0 s (match connTarget s c with | none => s | some v => slotRemCb v c s) := by
  split
  · exact .refl _
  · exact regs_tr (SameFns.slotRemCb ..) (slots_slotRemCb ..) (frame_slotRemCb ..)

/-- `connection(slot_base&)`: the connection points to `v` and is registered on its representation -/
theorem connect_tr (c v : Nat) (s : State) :
    Tr ex wr fl (some c) s (slotAddCb v c (s.setConn c (some (some v)))) :=
  .trans (b := s.setConn c (some (some v))) (regs_tr (.of_reps rfl rfl rfl) rfl (frame_setConn s c _))
    (regs_tr (SameFns.slotAddCb ..) (slots_slotAddCb ..) (frame_slotAddCb v c _))

theorem Does.spec {s s' : State} (h : Does ex wr fl c0 s s') :
    (RepBound s → RepBound s' ∧ (¬ fl → s'.err = s.err)) ∧ Inval ex s s' ∧ Frame c0 s s' := by
  obtain ⟨s1, h1, h2⟩ := h
  refine ⟨fun hb => ?_, (h1.grow ex).1.trans h2.mono.inval, h1.frame.trans h2.frame⟩
  have a := h1.keeps.1 hb
  have b := h2.pres a.1
  exact ⟨b.1, fun n => (b.2 n).trans a.2⟩

theorem apply_does {fl : Prop} (op : Op) {s : State} (g : G fl s) :
    Does (fun x => discTarget s op = some x) (fun _ => True) fl (boundConn op) s (apply op s) := by
  have ha : ∀ v : Nat, anonBase ≤ v → True := fun _ _ => trivial
  cases op <;> dsimp only [apply]
  case newT t => exact .tr (regs_tr (.of_reps rfl rfl rfl) rfl (frame_setTrk ..))
  case delT t => exact .tr ((trkNotify_tr t g).trans (regs_tr (.of_reps rfl rfl rfl) rfl (frame_setTrk ..)))
  case notifyT t => exact .tr (trkNotify_tr t g)
  case mkS v f => exact .gr ((newRep_gr ha f s).trans (.one (.write _ _ trivial)))
  case mkS0 v => exact .gr (.one (.write _ _ trivial))
  case cpS j i =>
    split
    · exact .tr (.refl _)
    · rename_i X hX
      split
      · exact .gr (.one (.write _ _ trivial))
      · rename_i r hr
        split
        · exact .gr (.one (.write _ _ trivial))
        · rename_i he
          exact .gr ((cloneRep_gr ha r s (valid_of_nonempty hX hr he)).trans (.one (.write _ _ trivial)))
  case mvS j i =>
    split
    · exact .tr (.refl _)
    · rename_i X hX
      split
      · exact .gr (.one (.write _ _ trivial))
      · rename_i r hr
        split
        · split
          · exact .gr (.one (.write _ _ trivial))
          · rename_i he
            exact .gr ((cloneRep_gr ha r s (valid_of_nonempty hX hr he)).trans (.one (.write _ _ trivial)))
        · exact .tr ((weakNotify_tr ..).trans (.step (.write _ _ trivial) (.one (.write _ _ trivial))))
  case asgS d x =>
    split
    · exact .tr (.refl _)
    · rename_i X hX
      split
      · exact .tr (modSlot_tr trivial _)
      · split
        · exact .tr (deleteRepWithCheck_tr trivial g)
        · rename_i he
          split
          · exact .tr (.refl _)
          · rename_i r hr
            exact .mk g ((cloneRep_gr ha r s (valid_of_nonempty hX hr he)).trans (modSlot_gr trivial _))
              (exchangeRep_tr trivial _)
  case masgS d x =>
    split
    · exact .tr (.refl _)
    · rename_i X hX
      split
      · exact .tr (modSlot_tr trivial _)
      · split
        · exact .tr (deleteRepWithCheck_tr trivial g)
        · rename_i he
          split
          · exact .tr (.refl _)
          · rename_i r hr
            split
            · refine .mk g ((modSlot_gr trivial _).trans (cloneRep_gr ha r _ fun R hR => ?_)) (exchangeRep_tr trivial _)
              rw [reps_modSlot] at hR
              exact valid_of_nonempty hX hr he R hR
            · exact .tr (Tr.seq g ((modSlot_tr trivial _).trans ((weakNotify_tr ..).trans (.one (.write _ _ trivial))))
                (exchangeRep_tr trivial _))
  case setS d f =>
    exact .mk g ((newRep_gr ha f s).trans (modSlot_gr trivial _)) (exchangeRep_tr trivial _)
  case clrS d =>
    split
    · exact .tr (modSlot_tr trivial _)
    · exact .tr (deleteRepWithCheck_tr trivial g)
  case delS v =>
    split
    · exact .tr (.one (.erase _ _))
    · exact .tr ((deleteRep_tr _ g).trans (.one (.erase _ _)))
  case discS v =>
    split
    · exact .tr (.refl _)
    · rename_i r hr
      exact .tr (repDisconnect_tr (show repOf s v = some r from hr) g)
  case blockS v b => exact .tr (modSlot_tr trivial _)
  case unblockS v => exact .tr (modSlot_tr trivial _)
  case connS c v => exact .tr (connect_tr c v s)
  case newC c => exact .tr (regs_tr (.of_reps rfl rfl rfl) rfl (frame_setConn s c _))
  case cpC j i =>
    split
    · exact .tr (regs_tr (.of_reps rfl rfl rfl) rfl (frame_setConn s j _))
    · exact .tr (connect_tr j _ s)
  case asgC d x =>
    split
    · exact .tr ((detach_tr d s).trans (regs_tr (.of_reps rfl rfl rfl) rfl (frame_setConn _ d _)))
    · exact .tr ((detach_tr d s).trans (connect_tr d _ _))
  case delC c => exact .tr (regs_tr (SameFns.killConn c s) (slots_killConn c s) (frame_killConn ..))
  case discC c =>
    split
    · exact .tr (.refl _)
    · rename_i v hv
      split
      · exact .tr (.refl _)
      · rename_i r hr
        refine .tr (repDisconnect_tr ?_ g)
        show (match connTarget s c with | some v => repOf s v | none => none) = some r
        rw [hv]; exact hr
  case blockC c b =>
    split
    · exact .tr (.refl _)
    · rename_i v hv
      exact .tr (modSlot_tr trivial _)
  case unblockC c =>
    split
    · exact .tr (.refl _)
    · rename_i v hv
      exact .tr (modSlot_tr trivial _)
  all_goals exact .tr (.refl _)

theorem pres_foldl {α : Type} (f : State → α → State) (hf : ∀ s a, Pres s (f s a)) :
    ∀ (l : List α) (s : State), Pres s (l.foldl f s)
  | [], s => Pres.refl s
  | a :: l, s => (hf s a).trans (pres_foldl f hf l (f s a))

theorem pres_stepState (op : Op) (s : State) : Pres s (stepState op s) := by
  rcases stepState_cases op s with h | ⟨-, -, h⟩ <;> rw [h]
  · exact Pres.refl _
  · exact fun hb => have h := (apply_does (fl := False) op (.inr hb)).spec.1 hb; ⟨h.1, h.2 id⟩

theorem step_repBound (op : Op) (s : State) : RepBound s → RepBound (stepState op s) :=
  fun hb => (pres_stepState op s hb).1

theorem step_no_err (op : Op) (s : State) : RepBound s → s.err = false → (stepState op s).err = false :=
  fun hb he => (pres_stepState op s hb).2.trans he

theorem run_inv (ops : List Op) : RepBound (run ops) ∧ (run ops).err = false :=
  pres_foldl (fun s op => stepState op s) (fun s op => pres_stepState op s) ops State.init
    (fun _ h => nomatch h)

theorem run_repBound (ops : List Op) : RepBound (run ops) := (run_inv ops).1

theorem run_no_err (ops : List Op) : (run ops).err = false := (run_inv ops).2

namespace NF

theorem apply_inval (s : State) (op : Op) : Inval (fun x => discTarget s op = some x) s (apply op s) :=
  (apply_does (fl := True) op (.inl trivial)).spec.2.1

/-- the invariant along a run: an invalid representation has no functor, or is in `D`, or `disconnect()` is called
    on it later -/
theorem foldl_nf : ∀ (ops : List Op) (s : State) (D : Nat → Prop),
    (∀ r R, s.reps r = some R → R.call = false → R.fn = none ∨ D r) →
    ∀ r R, (ops.foldl (fun s op => stepState op s) s).reps r = some R → R.call = false →
      R.fn = none ∨ D r ∨ disconnectedBy s ops r = true := by
  intro ops
  induction ops with
  | nil => intro s D h r R hR hc; rcases h r R hR hc with g | g; exact .inl g; exact .inr (.inl g)
  | cons op ops ih =>
    intro s D h r R hR hc
    simp only [List.foldl_cons] at hR
    have step : ∀ x X, (stepState op s).reps x = some X → X.call = false →
        X.fn = none ∨ (D x ∨ (!s.err && (check s op).isNone && discTarget s op == some x) = true) := by
      intro x X hX hXc
      rcases stepState_cases op s with he | ⟨herr, hck, he⟩
      · rw [he] at hX
        rcases h x X hX hXc with g | g
        · exact .inl g
        · exact .inr (.inl g)
      · rw [he] at hX
        rcases apply_inval s op x X hX hXc with g | g | ⟨X0, hX0, g1, g2⟩
        · exact .inl g
        · exact .inr (.inr (by simp [herr, hck, g]))
        · rcases h x X0 hX0 g1 with g | g
          · exact .inl (by rw [← g2]; exact g)
          · exact .inr (.inl g)
    rcases ih (stepState op s) _ step r R hR hc with g | (g | g) | g
    · exact .inl g
    · exact .inr (.inl g)
    · exact .inr (.inr (by simp [disconnectedBy, g]))
    · exact .inr (.inr (by simp [disconnectedBy, g]))

end NF
end Sigc.SlotG
