import Sigc.SlotGLemmasCasc
/-!
  Connections and their registrations (the part `RegOk` of `Inv`: a representation that carries a registration is
  stored in the variable the connection points to — the library notifies the observers of an old representation
  before it deletes it).  `inv_of_regs`, `inv_rereg`, `inv_setConn_none`: `Inv` after a change of `conns` and `cbs`.
  The death of a connection object owned by a functor (`killConn` = `~connection`) deregisters through the slot
  variable's current representation; it preserves `Inv` and stays inside `Casc`.
-/
namespace Sigc.SlotG

theorem not_registered {s : State} (h : Inv s) {c : Nat} (hc : ∀ v, s.conns c ≠ some (some v))
    {r : Nat} {R : Rep} (hR : s.reps r = some R) : c ∉ R.cbs := by
  intro hm
  obtain ⟨v, hv, -⟩ := h.regOk.bwd hR hm
  exact hc v hv

/-- creating, nulling or destroying a connection object that points nowhere: only the clauses that read `conns`
    see it -/
theorem inv_setConn_none {s : State} (h : Inv s) {c : Nat} (hc : ∀ w, s.conns c ≠ some (some w))
    (o : Option (Option Nat)) (ho : (o = none ∧ ¬ OwnedC s c) ∨ o = some none) : Inv (s.setConn c o) :=
  { h with
    connReg := fun c' v hcv => by
      rw [conns_setConn] at hcv
      by_cases hcc : c' = c
      · rw [if_pos hcc] at hcv
        rcases ho with ⟨rfl, -⟩ | rfl <;> cases hcv
      · rw [if_neg hcc] at hcv; exact h.connReg c' v hcv
    cbsConn := fun r R c' hR hm => by
      obtain ⟨v, hv, hor⟩ := h.cbsConn r R c' hR hm
      refine ⟨v, ?_, hor⟩
      rw [conns_setConn, if_neg]
      · exact hv
      · intro hcc; rw [hcc] at hv; exact hc v hv
    ownCOk := fun r R fid c' hR hf => by
      rw [conns_setConn]
      by_cases hcc : c' = c
      · rw [if_pos hcc]
        rcases ho with ⟨-, hno⟩ | rfl
        · exact absurd ⟨r, R, _, hR, hf, by rw [hcc]; rfl⟩ hno
        · exact ⟨_, rfl⟩
      · rw [if_neg hcc]; exact h.ownCOk r R fid c' hR hf }

theorem inv_of_regs {s s' : State} (h : Inv s) (hsl : s'.slots = s.slots) (htr : s'.trks = s.trks)
    (hnx : s'.nextRep = s.nextRep)
    (hpar : ∀ x, (s'.reps x).map Rep.parent = (s.reps x).map Rep.parent)
    (hfn : ∀ x, (s'.reps x).map Rep.fn = (s.reps x).map Rep.fn) (hreg : RegOk s')
    (connDom : ∀ c p, s.conns c = some p → (∃ p', s'.conns c = some p') ∨ ¬ OwnedC s c) : Inv s' := by
  refine .of (h.exOk.congr hsl hnx fun x => ?_) hreg (h.parOk.congr (repOf_congr hsl) hfn hpar)
    (h.trkOk.congr htr hfn)
    (h.fnOk.mono (fun v V hV _ => ⟨V, by rw [hsl]; exact hV⟩)
      (fun c p hp ho => (connDom c p hp).resolve_right fun hno => hno ho) (FnFrom.of_map_eq hfn).1)
  have := congrArg (Option.map fun _ => ()) (hfn x)
  rwa [Option.map_map, Option.map_map] at this

/-- Changing the registration of one connection `c` — which points at `v` or nowhere — on the representation `r`
    of `v`: the new list `l` differs from the old one at most in `c`, and `c` is on it iff it now points at `v`;
    otherwise `c` is nulled or — unless a functor owns it — gone. -/
theorem inv_rereg {s : State} (h : Inv s) {c v r : Nat} {R : Rep} (hr : repOf s v = some r)
    (hR : s.reps r = some R) (hc : ∀ w, s.conns c = some (some w) → w = v) {l : List Nat} (hnd : l.Nodup)
    (hl : ∀ c', c' ≠ c → (c' ∈ l ↔ c' ∈ R.cbs)) {o : Option (Option Nat)}
    (ho : (o = some (some v) ∧ c ∈ l) ∨ ((o = some none ∨ (o = none ∧ ¬ OwnedC s c)) ∧ c ∉ l)) :
    Inv ((s.setRep r (some { R with cbs := l })).setConn c o) := by
  -- a registration of `c` is on `r`
  have hcr : ∀ {x X}, s.reps x = some X → c ∈ X.cbs → x = r := by
    intro x X hX hm
    obtain ⟨w, hw1, hw2⟩ := h.regOk.bwd hX hm
    rw [hc w hw1, hr] at hw2
    exact (Option.some.inj hw2).symm
  have hreps : ∀ x, ((s.setRep r (some { R with cbs := l })).setConn c o).reps x =
      if x = r then some { R with cbs := l } else s.reps x := fun _ => rfl
  have hconns : ∀ c', ((s.setRep r (some { R with cbs := l })).setConn c o).conns c' =
      if c' = c then o else s.conns c' := fun _ => rfl
  have hmap : ∀ {α} (p : Rep → α), p { R with cbs := l } = p R → ∀ x,
      (((s.setRep r (some { R with cbs := l })).setConn c o).reps x).map p = (s.reps x).map p := by
    intro α p hp x
    rw [hreps]
    by_cases hx : x = r
    · rw [if_pos hx, hx, hR]; exact congrArg some hp
    · rw [if_neg hx]
  refine inv_of_regs h rfl rfl rfl (hmap _ rfl) (hmap _ rfl) ⟨?_, ?_, ?_⟩ ?_
  · intro c' v' hcv
    rw [hconns] at hcv
    by_cases hcc : c' = c
    · rw [if_pos hcc] at hcv
      rcases ho with ⟨ho, hm⟩ | ⟨ho | ⟨ho, -⟩, -⟩
      · rw [ho] at hcv; cases hcv
        exact ⟨r, _, hr, by rw [hreps, if_pos rfl], hcc ▸ hm⟩
      · rw [ho] at hcv; cases hcv
      · rw [ho] at hcv; cases hcv
    · rw [if_neg hcc] at hcv
      obtain ⟨x, X, hx, hX, hm⟩ := h.regOk.fwd hcv
      by_cases hxr : x = r
      · rw [hxr, hR] at hX; cases hX
        exact ⟨r, _, hxr ▸ hx, by rw [hreps, if_pos rfl], (hl c' hcc).mpr hm⟩
      · exact ⟨x, X, hx, by rw [hreps, if_neg hxr]; exact hX, hm⟩
  · intro x X' c' hX' hm
    rw [hreps] at hX'
    show ∃ v, (if c' = c then o else s.conns c') = some (some v) ∧ repOf s v = some x
    by_cases hxr : x = r
    · rw [if_pos hxr] at hX'; cases hX'
      rw [hxr]
      by_cases hcc : c' = c
      · rw [if_pos hcc]
        rcases ho with ⟨ho, -⟩ | ⟨-, hn⟩
        · exact ⟨v, ho, hr⟩
        · exact absurd (hcc ▸ hm) hn
      · rw [if_neg hcc]; exact h.regOk.bwd hR ((hl c' hcc).mp hm)
    · rw [if_neg hxr] at hX'
      rw [if_neg (fun (hcc : c' = c) => hxr (hcr hX' (hcc ▸ hm)))]
      exact h.regOk.bwd hX' hm
  · intro x X' hX'
    rw [hreps] at hX'
    by_cases hxr : x = r
    · rw [if_pos hxr] at hX'; cases hX'; exact hnd
    · rw [if_neg hxr] at hX'; exact h.cbsNodup x X' hX'
  · intro c' p hp
    rw [hconns]
    by_cases hcc : c' = c
    · rw [if_pos hcc]
      rcases ho with ⟨ho, -⟩ | ⟨ho | ⟨-, hno⟩, -⟩
      · exact .inl ⟨_, ho⟩
      · exact .inl ⟨_, ho⟩
      · exact .inr (hcc ▸ hno)
    · rw [if_neg hcc]; exact .inl ⟨p, hp⟩

theorem reps_killConn_of (c : Nat) (s : State) (x : Nat) (X' : Rep) (h : (killConn c s).reps x = some X') :
    ∃ X, s.reps x = some X ∧ X'.call = X.call ∧ X'.parent = X.parent ∧ X'.fn = X.fn ∧
      (X'.cbs = X.cbs ∨ X'.cbs = X.cbs.erase c) := by
  rw [killConn_eq] at h
  split at h
  · split at h
    · exact ⟨X', h, rfl, rfl, rfl, .inl rfl⟩
    · simp only [slotg_simp] at h
      split at h
      · rw [Option.map_eq_some_iff] at h
        obtain ⟨X, hX, rfl⟩ := h
        exact ⟨X, hX, rfl, rfl, rfl, .inr rfl⟩
      · exact ⟨X', h, rfl, rfl, rfl, .inl rfl⟩
  · exact ⟨X', h, rfl, rfl, rfl, .inl rfl⟩

theorem reps_killConn_to (c : Nat) (s : State) (x : Nat) (X : Rep) (h : s.reps x = some X) :
    ∃ X', (killConn c s).reps x = some X' := by
  rw [killConn_eq]
  split
  · split
    · exact ⟨X, h⟩
    · simp only [slotg_simp]
      split
      · exact ⟨_, by rw [h]; rfl⟩
      · exact ⟨X, h⟩
  · exact ⟨X, h⟩

theorem inv_killConn {s : State} (h : Inv s) {c : Nat} (hno : ¬ OwnedC s c) : Inv (killConn c s) := by
  rw [killConn_eq]
  cases hc : s.conns c with
  | none => exact inv_setConn_none h (by rw [hc]; nofun) none (.inl ⟨rfl, hno⟩)
  | some o =>
    cases o with
    | none => exact inv_setConn_none h (by rw [hc]; nofun) none (.inl ⟨rfl, hno⟩)
    | some v =>
      obtain ⟨r, R, hr, hR, hm⟩ := h.regOk.fwd hc
      have hnd := h.cbsNodup r R hR
      simp only [hr]
      rw [modRep_of_rep hR]
      exact inv_rereg h hr hR (fun w hw => by rw [hc] at hw; cases hw; rfl) (hnd.erase c)
        (fun c' hcc => List.mem_erase_of_ne hcc) (.inr ⟨.inr ⟨rfl, hno⟩, fun hm' => (hnd.mem_erase_iff.mp hm').1 rfl⟩)

theorem casc_killConn {s s3 : State} (hc : Casc s s3) {c : Nat} (ho : OwnedC s c) : Casc s (killConn c s3) := by
  constructor
  · rw [nextRep_killConn]; exact hc.nextRep
  · intro x X' hx
    obtain ⟨X3, hX3, h1, h2, h3, h4⟩ := reps_killConn_of c s3 x X' hx
    obtain ⟨X, hX, g1, g2, g3, g4⟩ := hc.reps x X3 hX3
    refine ⟨X, hX, by rw [h3]; exact g1, by rw [h2]; exact g2, by rw [h1]; exact g3, ?_⟩
    intro a ha
    rcases h4 with h4 | h4
    · rw [h4] at ha; exact g4 a ha
    · rw [h4] at ha; exact g4 a (List.mem_of_mem_erase ha)
  · intro v V' hv; rw [slots_killConn] at hv; exact hc.slots v V' hv
  · intro v hv; rw [slots_killConn]; exact hc.slotsKeep v hv
  · intro x
    rw [conns_killConn]
    by_cases hxc : x = c
    · subst hxc; rw [if_pos rfl]; exact .inr (.inr ⟨rfl, ho⟩)
    · rw [if_neg hxc]; exact hc.conns x
  · intro t; rw [trks_killConn]; exact hc.trkDom t
  · intro t T' x ht hx; rw [trks_killConn] at ht; exact hc.trkEnt t T' x ht hx
  · intro t T' x ht hx; rw [trks_killConn] at ht; exact hc.trkFlags t T' x ht hx
  · intro t T' ht; rw [trks_killConn] at ht; exact hc.trkClr t T' ht
  · intro v r hv
    rcases hc.killed v r hv with hk | ⟨hk1, hk2⟩
    · exact .inl (by rw [repOf_killConn]; exact hk)
    · refine .inr ⟨by rw [slots_killConn]; exact hk1, ?_⟩
      cases hx : (killConn c s3).reps r with
      | none => rfl
      | some X' => obtain ⟨X3, hX3, -⟩ := reps_killConn_of c s3 r X' hx; rw [hk2] at hX3; cases hX3
  · intro x X hx hor
    obtain ⟨X3, hX3⟩ := hc.orphanKeep x X hx hor
    exact reps_killConn_to c s3 x X3 hX3
  · intro he; rw [err_killConn]; exact hc.err he

end Sigc.SlotG
