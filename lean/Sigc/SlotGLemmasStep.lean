import Sigc.SlotGLemmasOps
/-!
  The allocation of one representation (nothing about `step`/`stepState`: `stepState_cases` is in `SlotGLemmas`,
  `step_wf` in `SlotGLemmasFrame`): for a functor that may be instantiated (`FunOk`) allocating and binding
  (`allocBind`) preserves `Inv`; `fresh_parts`: what holds before the bind visit has registered the functor.
-/
namespace Sigc.SlotG

/-- the functor may be instantiated in `s` (what `specCheck` tests, and what holds for a functor that is already
    stored in a representation) -/
structure FunOk (s : State) (f : Fun) : Prop where
  trk : ∀ t, f.trk = some t → ∃ T, s.trks t = some T
  ref : ∀ v, f.ref = some v → v < anonBase ∧ (∃ V, s.slots v = some V) ∧ ¬ Owned s v
  own : ∀ v, f.owns = some v → v < anonBase ∧ (∃ V, s.slots v = some V) ∧ ¬ Pinned s v
  flat : ∀ fid v d, f ≠ .nest fid v d
  conn : ∀ c, f.ownsC = some c → ∃ p, s.conns c = some p

/-- `new typed_slot_rep(functor)` / `clone()`: allocate `s.nextRep`, bind -/
def allocBind (c : Bool) (f : Fun) (s : State) : State :=
  bindFun s.nextRep f (allocRep ⟨c, none, some f, []⟩ s)

theorem fresh_entries {s : State} (hI : Inv s) (hidle0 : Idle s) (t : Nat) (T : Trk) (b : Bool)
    (ht : s.trks t = some T) : (s.nextRep, b) ∉ T.entries := by
  intro hxb
  have hb : b = true := by
    cases b with
    | true => rfl
    | false => exact absurd hxb ((hidle0 t T ht).2 _)
  subst hb
  obtain ⟨R, f, hR, -⟩ := hI.trkEnt t T _ ht hxb
  exact absurd (hI.repBound _ R hR) (Nat.lt_irrefl _)

theorem orphan_next {s : State} (hI : Inv s) (w : Nat) : repOf s w ≠ some s.nextRep := by
  intro h
  obtain ⟨R, hR⟩ := hI.repAlive w _ h
  exact absurd (hI.repBound _ R hR) (Nat.lt_irrefl _)

theorem mem_addEntry (n x : Nat) (b : Bool) (T : Trk) :
    (x, b) ∈ (addEntry n T).entries ↔ ((x, b) ∈ T.entries ∨ (T.clearing = false ∧ x = n ∧ b = true)) := by
  unfold addEntry; split <;> simp_all
theorem addEntry_nodup (n : Nat) (T : Trk) (h : (T.entries.map Prod.fst).Nodup)
    (hn : ∀ b, (n, b) ∉ T.entries) : ((addEntry n T).entries.map Prod.fst).Nodup := by
  unfold addEntry; split
  · exact h
  · simp only [List.map_append, List.map_cons, List.map_nil]
    rw [List.nodup_append]
    refine ⟨h, by simp, ?_⟩
    intro a ha b hb; simp at hb; subst hb; intro hab; subst hab
    obtain ⟨⟨x, y⟩, hxy, hx⟩ := List.mem_map.mp ha
    simp only at hx; subst hx; exact hn y hxy
theorem addEntry_clearing (n : Nat) (T : Trk) : (addEntry n T).clearing = T.clearing := by
  unfold addEntry; split <;> rfl

theorem bindFun_fn (r fid : Nat) (s : State) : bindFun r (.fn fid) s = s := rfl
theorem bindFun_mem (r fid t : Nat) (s : State) : bindFun r (.mem fid t) s = trkAdd t r s := rfl
theorem bindFun_own_some (r fid v t : Nat) (s : State) : bindFun r (.own fid v (some t)) s = trkAdd t r s := rfl
theorem bindFun_own_none (r fid v : Nat) (s : State) : bindFun r (.own fid v none) s = s := rfl

/-- `set_parent`: the representation `q` in the variable that the functor of `n` visits gets parent `n`, if it has none -/
theorem inv_setPar {s : State} (h : Inv s) {n q v : Nat} {N : Rep} {f : Fun} (hn : s.reps n = some N)
    (hf : N.fn = some f) (hfr : f.ref = some v) (hq : repOf s v = some q) : Inv (s.modRep q (setPar n)) := by
  have hm := reps_modRep s q (setPar n)
  have hfn := map_reps_of_mod Rep.fn hm fun X _ => setPar_fn n X
  refine .of (h.exOk.congr (slots_modRep ..) (nextRep_modRep ..) (map_reps_of_mod _ hm fun _ _ => rfl))
    (h.regOk.congr (repOf_modRep s q _) (conns_modRep ..) (map_reps_of_mod _ hm fun X _ => setPar_cbs n X)) ?_
    (h.trkOk.congr (trks_modRep ..) hfn)
    (h.fnOk.congr (fun _ => by rw [slots_modRep]) (fun _ => by rw [conns_modRep]) hfn)
  intro x X' p w hX' hpar hw
  rw [repOf_modRep] at hw
  -- the old parent, or `n`, whose functor visits `v`
  have : ∃ P f', s.reps p = some P ∧ P.fn = some f' ∧ f'.ref = some w := by
    obtain ⟨X, hX, ⟨-, rfl⟩ | ⟨hxq, rfl⟩⟩ := reps_of_mod hm hX'
    · exact h.parentOk x X' p w hX hpar hw
    · rw [setPar_parent] at hpar
      split at hpar
      · cases hpar
        exact ⟨N, f, hn, hf, by rw [hfr, h.repUniq w v x hw (hxq ▸ hq)]⟩
      · exact h.parentOk x X p w hX hpar hw
  obtain ⟨P, f', hP, hPf, hfr'⟩ := this
  obtain ⟨P', hP', hPf'⟩ := (FnFrom.of_map_eq hfn).2 p P f' hP hPf
  exact ⟨P', f', hP', hPf', hfr'⟩

/-- Filling in a representation that so far is absent or bare (no parent, no functor, no registration), with a
    functor that meets the clauses about functor kinds: everything but the functor's entry in a trackable's list,
    which `bindFun` adds. -/
theorem fresh_parts {s : State} (h : Inv s) {n : Nat} (c : Bool) {fo : Option Fun} (hlt : n < s.nextRep)
    (hbare : ∀ N, s.reps n = some N → N.parent = none ∧ N.fn = none ∧ N.cbs = [])
    (href : ∀ fid v, fo = some (.sref fid v) → v < anonBase ∧ (∃ V, s.slots v = some V) ∧ ¬ Owned s v)
    (hown : ∀ fid v t, fo = some (.own fid v t) → v < anonBase ∧ (∃ V, s.slots v = some V) ∧ ¬ Pinned s v)
    (hnest : ∀ fid v d, fo = some (.nest fid v d) → v = anonBase + n ∧ ∃ V, s.slots v = some V)
    (hconn : ∀ fid c', fo = some (.ownc fid c') → ∃ p, s.conns c' = some p) :
    ExOk (s.setRep n (some ⟨c, none, fo, []⟩)) ∧ RegOk (s.setRep n (some ⟨c, none, fo, []⟩)) ∧
      ParOk (s.setRep n (some ⟨c, none, fo, []⟩)) ∧ FnOk (s.setRep n (some ⟨c, none, fo, []⟩)) ∧
      ((∀ f, fo = some f → f.trk = none) → TrkOk (s.setRep n (some ⟨c, none, fo, []⟩))) := by
  -- a representation afterwards is the new one or an old one
  have hnew : ∀ {x X}, (s.setRep n (some ⟨c, none, fo, []⟩)).reps x = some X →
      (x = n ∧ X = ⟨c, none, fo, []⟩) ∨ s.reps x = some X := by
    intro x X hX
    rw [reps_setRep] at hX
    by_cases hx : x = n
    · rw [if_pos hx] at hX; exact .inl ⟨hx, (Option.some.inj hX).symm⟩
    · rw [if_neg hx] at hX; exact .inr hX
  -- an old representation is still there, with its registrations and its functor
  have hold : ∀ {x X}, s.reps x = some X → ∃ X', (s.setRep n (some ⟨c, none, fo, []⟩)).reps x = some X' ∧
      X'.cbs = X.cbs ∧ ∀ f, X.fn = some f → X'.fn = some f := by
    intro x X hX
    rw [reps_setRep]
    by_cases hx : x = n
    · rw [if_pos hx]
      obtain ⟨-, h2, h3⟩ := hbare X (hx ▸ hX)
      exact ⟨_, rfl, h3.symm, fun f hf => by rw [h2] at hf; cases hf⟩
    · rw [if_neg hx]; exact ⟨X, hX, rfl, fun _ hf => hf⟩
  -- the new functor owns no variable that an `sref` functor refers to
  have hnown : ∀ {f v}, fo = some f → f.owns = some v → v < anonBase → ¬ Pinned s v := by
    intro f v hf hfo hv
    cases f with
    | own fid w t => cases hfo; exact (hown fid v t hf).2.2
    | nest fid w d => cases hfo; have := (hnest fid v d hf).1; omega
    | _ => cases hfo
  refine ⟨⟨?_, h.repUniq, h.anonBound, ?_⟩, ⟨fun hcv => ?_, fun hR hm => ?_, fun r R hR => ?_⟩, ?_, ⟨?_, ?_, ?_, ?_⟩,
    fun htrk => ⟨?_, ?_, h.trkNodup⟩⟩
  · intro v r hr
    obtain ⟨R, hR⟩ := h.repAlive v r hr
    obtain ⟨R', hR', -⟩ := hold hR
    exact ⟨R', hR'⟩
  · intro r R hR
    rcases hnew hR with ⟨hr, -⟩ | hR
    · rw [hr]; exact hlt
    · exact h.repBound r R hR
  · obtain ⟨r, R, hr, hR, hm⟩ := h.regOk.fwd hcv
    obtain ⟨R', hR', hcbs, -⟩ := hold hR
    exact ⟨r, R', hr, hR', hcbs ▸ hm⟩
  · rcases hnew hR with ⟨-, rfl⟩ | hR
    · cases hm
    · exact h.regOk.bwd hR hm
  · rcases hnew hR with ⟨-, rfl⟩ | hR
    · exact List.nodup_nil
    · exact h.cbsNodup r R hR
  · intro r R p v hR hp hv
    rcases hnew hR with ⟨-, rfl⟩ | hR
    · cases hp
    · obtain ⟨P, f, hP, hPf, hfr⟩ := h.parentOk r R p v hR hp hv
      obtain ⟨P', hP', -, hfn⟩ := hold hP
      exact ⟨P', f, hP', hfn f hPf, hfr⟩
  · intro r R fid v hR hRf
    have key : v < anonBase ∧ (∃ V, s.slots v = some V) ∧ ¬ Owned s v ∧ (Pinned s v ∨ r = n) := by
      rcases hnew hR with ⟨hr, rfl⟩ | hR
      · obtain ⟨g1, g2, g3⟩ := href fid v hRf
        exact ⟨g1, g2, g3, .inr hr⟩
      · obtain ⟨g1, g2, g3⟩ := h.refOk r R fid v hR hRf
        exact ⟨g1, g2, g3, .inl ⟨r, R, fid, hR, hRf⟩⟩
    refine ⟨key.1, key.2.1, ?_⟩
    rintro ⟨x, X, f, hX, hXf, ho⟩
    rcases hnew hX with ⟨-, rfl⟩ | hX
    · rcases key.2.2.2 with hpin | hr
      · exact hnown hXf ho key.1 hpin
      · rcases hnew hR with ⟨-, rfl⟩ | hR
        · rw [hRf] at hXf; cases hXf; cases ho
        · obtain ⟨-, h2, -⟩ := hbare R (hr ▸ hR)
          rw [h2] at hRf; cases hRf
    · exact key.2.2.1 ⟨x, X, f, hX, hXf, ho⟩
  · intro r R fid v t hR hRf
    rcases hnew hR with ⟨-, rfl⟩ | hR
    · exact ⟨(hown fid v t hRf).1, (hown fid v t hRf).2.1⟩
    · exact h.ownOk r R fid v t hR hRf
  · intro r R fid v d hR hRf
    rcases hnew hR with ⟨hr, rfl⟩ | hR
    · rw [hr]; exact hnest fid v d hRf
    · exact h.nestOk r R fid v d hR hRf
  · intro r R fid c' hR hRf
    rcases hnew hR with ⟨-, rfl⟩ | hR
    · exact hconn fid c' hRf
    · exact h.ownCOk r R fid c' hR hRf
  · intro r R f t hR hRf ht
    rcases hnew hR with ⟨-, rfl⟩ | hR
    · rw [htrk f hRf] at ht; cases ht
    · exact h.trkReg r R f t hR hRf ht
  · intro t T r hT hm
    obtain ⟨R, f, hR, hRf, ht⟩ := h.trkEnt t T r hT hm
    obtain ⟨R', hR', -, hfn⟩ := hold hR
    exact ⟨R', f, hR', hfn f hRf, ht⟩

/-- the allocation of `s.nextRep` with a functor that may be instantiated: `fresh_parts` for the state whose
    `nextRep` has been advanced -/
theorem alloc_parts {s : State} (h : Inv s) (c : Bool) {fo : Option Fun} (hf : ∀ f, fo = some f → FunOk s f) :
    ExOk (allocRep ⟨c, none, fo, []⟩ s) ∧ RegOk (allocRep ⟨c, none, fo, []⟩ s) ∧
      ParOk (allocRep ⟨c, none, fo, []⟩ s) ∧ FnOk (allocRep ⟨c, none, fo, []⟩ s) ∧
      ((∀ f, fo = some f → f.trk = none) → TrkOk (allocRep ⟨c, none, fo, []⟩ s)) :=
  have h1 : Inv { s with nextRep := s.nextRep + 1 } :=
    { h with
      anonBound := fun v V hV hle => Nat.lt_succ_of_lt (h.anonBound v V hV hle)
      repBound := fun r R hR => Nat.lt_succ_of_lt (h.repBound r R hR) }
  fresh_parts h1 c (Nat.lt_succ_self _) (fun N hN => absurd (h.repBound _ N hN) (Nat.lt_irrefl _))
    (fun _ v e => (hf _ e).ref v rfl) (fun _ v _ e => (hf _ e).own v rfl)
    (fun fid v d e => absurd rfl ((hf _ e).flat fid v d)) (fun _ c' e => (hf _ e).conn c' rfl)

/-- allocating a representation that is not bound: without functor (it is filled in later), or with one that has
    no trackable to register on -/
theorem inv_allocRep {s : State} (h : Inv s) (c : Bool) {fo : Option Fun}
    (hf : ∀ f, fo = some f → FunOk s f ∧ f.trk = none) : Inv (allocRep ⟨c, none, fo, []⟩ s) :=
  have ⟨he, hr, hp, hfn, ht⟩ := alloc_parts h c fun f e => (hf f e).1
  .of he hr hp (ht fun f e => (hf f e).2) hfn

theorem inv_allocBind {s : State} (h : Inv s) (hidle : Idle s) (c : Bool) {f : Fun} (hf : FunOk s f) :
    Inv (allocBind c f s) := by
  obtain ⟨hex, hreg, hpar, hfn, htrk'⟩ := alloc_parts (fo := some f) h c fun _ e => by cases e; exact hf
  have hold : ∀ x X, s.reps x = some X → (allocRep ⟨c, none, some f, []⟩ s).reps x = some X := by
    intro x X hX
    rw [reps_allocRep, if_neg (Nat.ne_of_lt (h.repBound x X hX))]; exact hX
  have hself : (allocRep ⟨c, none, some f, []⟩ s).reps s.nextRep = some ⟨c, none, some f, []⟩ := by
    rw [reps_allocRep, if_pos rfl]
  have htrk : f.trk = none → TrkOk (allocRep ⟨c, none, some f, []⟩ s) := fun hft =>
    htrk' fun _ e => by cases e; exact hft
  unfold allocBind
  rcases bindFun_cases s.nextRep f (allocRep ⟨c, none, some f, []⟩ s) with
    ⟨hft, -, he⟩ | ⟨t, hft, -, he⟩ | ⟨v, hfr, hft, he⟩ <;> rw [he]
  · exact .of hex hreg hpar (htrk hft) hfn
  · obtain ⟨T, hT⟩ := hf.trk t hft
    have hrf : ∀ x, ((trkAdd t s.nextRep (allocRep ⟨c, none, some f, []⟩ s)).reps x).map Rep.fn =
        ((allocRep ⟨c, none, some f, []⟩ s).reps x).map Rep.fn := fun _ => by rw [reps_trkAdd]
    refine .of (hex.congr (slots_trkAdd ..) (nextRep_trkAdd ..) fun _ => by rw [reps_trkAdd])
      (hreg.congr (repOf_trkAdd _ _ _) (conns_trkAdd ..) fun _ => by rw [reps_trkAdd])
      (hpar.congr (repOf_trkAdd _ _ _) hrf fun _ => by rw [reps_trkAdd]) ⟨?reg, ?ent, ?nodup⟩
      (hfn.congr (fun _ => by rw [slots_trkAdd]) (fun _ => by rw [conns_trkAdd]) hrf)
    case reg =>
      intro x X f' t' hX hXf hft'
      rw [reps_trkAdd, reps_allocRep] at hX
      rw [trks_trkAdd, trks_allocRep]
      split at hX
      · cases hX; cases hXf; rw [hft] at hft'; cases hft'
        rw [if_pos rfl, hT]
        exact ⟨_, rfl, (mem_addEntry ..).mpr (.inr ⟨(hidle t T hT).1, ‹_›, rfl⟩)⟩
      · obtain ⟨T0, hT0, hm⟩ := h.trkReg x X f' t' hX hXf hft'
        rw [hT0]; split
        · exact ⟨_, rfl, (mem_addEntry ..).mpr (.inl hm)⟩
        · exact ⟨T0, rfl, hm⟩
    case ent =>
      intro t' T' x hT' hm
      rw [trks_trkAdd, trks_allocRep] at hT'
      rw [reps_trkAdd]
      have : (∃ T0, s.trks t' = some T0 ∧ (x, true) ∈ T0.entries) ∨ (t' = t ∧ x = s.nextRep) := by
        split at hT'
        · obtain ⟨T0, hT0, rfl⟩ := Option.map_eq_some_iff.mp hT'
          rcases (mem_addEntry ..).mp hm with hm0 | ⟨-, hx, -⟩
          · exact .inl ⟨T0, hT0, hm0⟩
          · exact .inr ⟨‹_›, hx⟩
        · exact .inl ⟨T', hT', hm⟩
      rcases this with ⟨T0, hT0, hm0⟩ | ⟨rfl, rfl⟩
      · obtain ⟨X, f', hX, hXf⟩ := h.trkEnt t' T0 x hT0 hm0
        exact ⟨X, f', hold x X hX, hXf⟩
      · exact ⟨_, f, hself, rfl, hft⟩
    case nodup =>
      intro t' T' hT'
      rw [trks_trkAdd, trks_allocRep] at hT'
      split at hT'
      · obtain ⟨T0, hT0, rfl⟩ := Option.map_eq_some_iff.mp hT'
        exact addEntry_nodup _ T0 (h.trkNodup t' T0 hT0) fun b => fresh_entries h hidle t' T0 b hT0
      · exact h.trkNodup t' T' hT'
  · have h1 : Inv (allocRep ⟨c, none, some f, []⟩ s) := .of hex hreg hpar (htrk hft) hfn
    rw [setParentIfNone_eq, repOf_allocRep]
    cases hq : repOf s v with
    | none => exact h1
    | some q => exact inv_setPar h1 hself rfl hfr (by rw [repOf_allocRep]; exact hq)

end Sigc.SlotG
