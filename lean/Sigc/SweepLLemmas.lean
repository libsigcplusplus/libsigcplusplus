import Sigc.SweepL
import Sigc.ListLemmas
/-!
  Lemmas about `Sigc/SweepL.lean`, the list and its counters (`find` and `cnt` are `List.find?` and `List.countP`:
  `find_eq`, `cnt_eq`); the invariant `Base` (unique names, names recorded, the `live` counter counts the cells), the
  pending-disconnection predicate `Pend`, `Same`, and the two outcomes of `discUnder` (`discUnder_cases`), of which
  `dtor` is a run while `exec_count_ > 0` (`dtor_eq`).
-/
namespace Sigc.SweepL

/-- number of cells holding functor `f` -/
def cnt (f : Nat) : List Cell → Nat
  | [] => 0
  | c :: cs => (if c.kind.fid = some f then 1 else 0) + cnt f cs

theorem find_eq (i : Nat) (cs : List Cell) : find i cs = cs.find? (fun c => c.id == i) := by
  induction cs with
  | nil => rfl
  | cons x xs ih => by_cases hx : x.id = i <;> simp [find, hx, ih]

theorem find_some {i : Nat} {cs : List Cell} {c : Cell} (h : find i cs = some c) : c ∈ cs ∧ c.id = i := by
  rw [find_eq] at h
  exact ⟨List.mem_of_find?_eq_some h, by simpa using List.find?_some h⟩

theorem find_none {i : Nat} {cs : List Cell} (h : find i cs = none) : ∀ c ∈ cs, c.id ≠ i := by
  rw [find_eq] at h
  simpa using List.find?_eq_none.1 h

theorem find_isSome_of_mem {i : Nat} {cs : List Cell} {c : Cell} (hm : c ∈ cs) (hi : c.id = i) :
    ∃ c', find i cs = some c' := by
  cases h : find i cs with
  | some c' => exact ⟨c', rfl⟩
  | none => exact absurd hi (find_none h c hm)

theorem ids_cons (c : Cell) (cs : List Cell) : ids (c :: cs) = c.id :: ids cs := rfl

theorem mem_ids {i : Nat} {cs : List Cell} : i ∈ ids cs ↔ ∃ c ∈ cs, c.id = i := by
  simp [ids]

theorem find_of_mem_ids {i : Nat} {cs : List Cell} (h : i ∈ ids cs) : ∃ c, find i cs = some c :=
  let ⟨_, hc, hi⟩ := mem_ids.1 h
  find_isSome_of_mem hc hi

theorem find_unique {i : Nat} {cs : List Cell} {c c' : Cell} (hn : (ids cs).Nodup)
    (h : find i cs = some c) (hm : c' ∈ cs) (hi : c'.id = i) : c' = c :=
  eq_of_map_eq hn hm (find_some h).1 (hi.trans (find_some h).2.symm)

theorem ids_map {F : Cell → Cell} (hF : ∀ c, (F c).id = c.id) (cs : List Cell) : ids (cs.map F) = ids cs := by
  unfold ids; rw [List.map_map]; exact List.map_congr_left fun c _ => hF c

theorem cnt_eq (f : Nat) (cs : List Cell) : cnt f cs = cs.countP (fun c => c.kind.fid == some f) := by
  induction cs with
  | nil => rfl
  | cons x xs ih => by_cases hx : x.kind.fid = some f <;> simp [cnt, hx, ih] <;> omega

theorem cnt_append (f : Nat) (xs ys : List Cell) : cnt f (xs ++ ys) = cnt f xs + cnt f ys := by
  simp only [cnt_eq, List.countP_append]

theorem cnt_map {F : Cell → Cell} (hF : ∀ c, (F c).kind = c.kind) (f : Nat) (cs : List Cell) :
    cnt f (cs.map F) = cnt f cs := by
  simp only [cnt_eq, List.countP_map]; congr 1; funext c; simp [hF]

theorem ids_setDisc (i : Nat) (cs : List Cell) : ids (setDisc i cs) = ids cs :=
  ids_map (fun c => by split <;> rfl) cs

theorem length_setDisc (i : Nat) (cs : List Cell) : (setDisc i cs).length = cs.length := by
  simp [setDisc]

theorem mem_setDisc {i : Nat} {cs : List Cell} {c : Cell} (h : c ∈ setDisc i cs) :
    (c ∈ cs ∧ c.id ≠ i) ∨ (c.conn = false ∧ c.id = i ∧ ∃ c0 ∈ cs, c = { c0 with conn := false }) := by
  simp only [setDisc, List.mem_map] at h
  obtain ⟨c0, hm, rfl⟩ := h
  by_cases hi : c0.id = i
  · rw [if_pos hi]; exact Or.inr ⟨rfl, hi, c0, hm, rfl⟩
  · rw [if_neg hi]; exact Or.inl ⟨hm, hi⟩

theorem conn_setDisc (i : Nat) (cs : List Cell) : ∀ c ∈ setDisc i cs, c.id = i → c.conn = false := by
  intro c hc hi
  rcases mem_setDisc hc with ⟨_, hne⟩ | ⟨hcon, _⟩
  · exact absurd hi hne
  · exact hcon

theorem cnt_setDisc (f i : Nat) (cs : List Cell) : cnt f (setDisc i cs) = cnt f cs :=
  cnt_map (fun c => by split <;> rfl) f cs

theorem remove_eq_filter (i : Nat) (cs : List Cell) : remove i cs = cs.filter (fun c => c.id ≠ i) := by
  induction cs with
  | nil => rfl
  | cons x xs ih => by_cases hx : x.id = i <;> simp [remove, hx, ih]

theorem mem_remove {i : Nat} {cs : List Cell} {c : Cell} : c ∈ remove i cs ↔ c ∈ cs ∧ c.id ≠ i := by
  simp [remove_eq_filter]

theorem length_remove_lt {i : Nat} {cs : List Cell} {c : Cell} (h : find i cs = some c) :
    (remove i cs).length < cs.length := by
  rw [remove_eq_filter, List.length_filter_lt_length_iff_exists]
  exact ⟨c, (find_some h).1, by simp [(find_some h).2]⟩

theorem cnt_remove {f i : Nat} {cs : List Cell} {c : Cell} (hn : (ids cs).Nodup) (h : find i cs = some c) :
    cnt f cs = cnt f (remove i cs) + (if c.kind.fid = some f then 1 else 0) := by
  induction cs with
  | nil => simp [find] at h
  | cons x xs ih =>
    simp only [ids_cons, List.nodup_cons] at hn
    simp only [find] at h
    split at h
    · rename_i hx
      cases h
      have hno : ∀ c' ∈ xs, c'.id ≠ i := fun c' hc' hi => hn.1 (mem_ids.2 ⟨c', hc', hi.trans hx.symm⟩)
      rw [remove_eq_filter, List.filter_cons_of_neg (by simp [hx]), List.filter_eq_self.2 (by simpa using hno)]
      exact Nat.add_comm ..
    · rename_i hx
      rw [show remove i (x :: xs) = x :: remove i xs by simp only [remove, hx, ↓reduceIte]]
      simp only [cnt]
      rw [ih hn.2 h, Nat.add_assoc]

theorem decLive_apply (kd : Kind) (live : Nat → Nat) (f : Nat) :
    decLive kd live f = live f - (if kd.fid = some f then 1 else 0) := by
  unfold decLive
  cases hk : kd.fid with
  | none => simp
  | some g =>
    simp only
    by_cases hfg : f = g
    · subst hfg; simp
    · simp [hfg, Ne.symm hfg]

theorem incLive_apply (kd : Kind) (live : Nat → Nat) (f : Nat) :
    incLive kd live f = live f + (if kd.fid = some f then 1 else 0) := by
  unfold incLive
  cases hk : kd.fid with
  | none => simp
  | some g =>
    simp only
    by_cases hfg : f = g
    · subst hfg; simp
    · simp [hfg, Ne.symm hfg]

theorem ids_addOwned (k v : Nat) (cs : List Cell) : ids (addOwned k v cs) = ids cs :=
  ids_map (fun c => by split <;> rfl) cs

theorem cnt_addOwned (f k v : Nat) (cs : List Cell) : cnt f (addOwned k v cs) = cnt f cs :=
  cnt_map (fun c => by split <;> rfl) f cs

theorem mem_addOwned {k v : Nat} {cs : List Cell} {c : Cell} (h : c ∈ addOwned k v cs) :
    ∃ c0 ∈ cs, c0.id = c.id ∧ c0.conn = c.conn ∧ (∀ w ∈ c0.owned, w ∈ c.owned) ∧ (c.id = k → v ∈ c.owned) := by
  simp only [addOwned, List.mem_map] at h
  obtain ⟨c0, hm, rfl⟩ := h
  refine ⟨c0, hm, ?_⟩
  split
  · exact ⟨rfl, rfl, fun w hw => List.mem_append_left _ hw, fun _ => by simp⟩
  · rename_i hk
    exact ⟨rfl, rfl, fun w hw => hw, fun h => absurd h hk⟩

structure Base (s : State) : Prop where
  nodup : (ids s.cells).Nodup
  used : ∀ c ∈ s.cells, c.id ∈ s.used
  live : ∀ f, s.live f = cnt f s.cells

/-- every disconnected cell of the list is known to a pending sweep: `deferred_` is set, or the running pass of
    `sweep()` has it still ahead (`todo`) -/
def Pend (todo : List Nat) (s : State) : Prop :=
  ∀ c ∈ s.cells, c.conn = false → s.deferred = true ∨ c.id ∈ todo

/-- the fields that `discUnder`, `dtor`, `eraseCell`, `sweepIds`, `sweep` and `destroyAll` leave as they found them -/
structure Same (s s' : State) : Prop where
  exec : s'.exec = s.exec
  marks : s'.marks = s.marks
  used : s'.used = s.used
  owners : s'.owners = s.owners
  out : s'.out = s.out

structure Frame (s s' : State) : Prop where
  marks : s'.marks = s.marks
  used : s'.used = s.used
  owners : s'.owners = s.owners
  out : s'.out = s.out

theorem Same.refl {s : State} : Same s s := ⟨rfl, rfl, rfl, rfl, rfl⟩
theorem Same.trans {a b c : State} (h1 : Same a b) (h2 : Same b c) : Same a c :=
  ⟨h2.exec.trans h1.exec, h2.marks.trans h1.marks, h2.used.trans h1.used, h2.owners.trans h1.owners,
   h2.out.trans h1.out⟩

theorem Base.congr {s s' : State} (hb : Base s) (h1 : s'.cells = s.cells) (h2 : s'.used = s.used)
    (h3 : s'.live = s.live) : Base s' :=
  ⟨by rw [h1]; exact hb.nodup, by rw [h1, h2]; exact hb.used, by rw [h1, h3]; exact hb.live⟩

theorem Pend.congr {todo : List Nat} {s s' : State} (hp : Pend todo s) (h1 : s'.cells = s.cells)
    (h2 : s'.deferred = s.deferred) : Pend todo s' := by
  intro c hc hcon; rw [h2]; rw [h1] at hc; exact hp c hc hcon

theorem Pend.tail {i : Nat} {todo : List Nat} {s : State} (hp : Pend (i :: todo) s)
    (hi : ∀ c ∈ s.cells, c.id = i → c.conn = true) : Pend todo s := by
  intro c hc hcon
  refine (hp c hc hcon).imp_right fun h => ?_
  cases h with
  | head => rw [hi c hc rfl] at hcon; cases hcon
  | tail _ h' => exact h'

theorem setDisc_base {i : Nat} {s : State} (hb : Base s) (d : Bool) :
    Base { s with cells := setDisc i s.cells, deferred := d } := by
  refine ⟨?_, ?_, ?_⟩
  · simpa [ids_setDisc] using hb.nodup
  · intro c hc
    rcases mem_setDisc hc with h | ⟨_, _, c0, hm, rfl⟩
    · exact hb.used c h.1
    · exact hb.used c0 hm
  · intro f; simpa [cnt_setDisc] using hb.live f

theorem remove_base {i : Nat} {s : State} {c : Cell} (hb : Base s) (hf : find i s.cells = some c) :
    Base { s with cells := remove i s.cells, live := decLive c.kind s.live } := by
  refine ⟨?_, ?_, ?_⟩
  · refine hb.nodup.sublist ?_
    rw [remove_eq_filter]; exact List.filter_sublist.map _
  · intro c' hc'; exact hb.used c' (mem_remove.1 hc').1
  · intro f
    show decLive c.kind s.live f = cnt f (remove i s.cells)
    rw [decLive_apply, hb.live f, cnt_remove hb.nodup hf, Nat.add_sub_cancel]

theorem discUnder_cases (i : Nat) (s : State) {C : State → Prop} (h0 : C s)
    (h1 : C { s with cells := setDisc i s.cells, deferred := true }) : C (discUnder i s) := by
  unfold discUnder; split
  · split
    · exact h1
    · exact h0
  · exact h0

theorem discUnder_defer_or (i : Nat) (s : State) :
    (discUnder i s).deferred = true ∨ discUnder i s = s :=
  discUnder_cases i s (C := fun s' => s'.deferred = true ∨ s' = s) (Or.inr rfl) (Or.inl rfl)

theorem discUnder_frame (i : Nat) (s : State) :
    Same s (discUnder i s) ∧ (discUnder i s).err = s.err ∧ (discUnder i s).live = s.live ∧
    (discUnder i s).cells.length = s.cells.length :=
  discUnder_cases i s
    (C := fun s' => Same s s' ∧ s'.err = s.err ∧ s'.live = s.live ∧ s'.cells.length = s.cells.length)
    ⟨Same.refl, rfl, rfl, rfl⟩ ⟨⟨rfl, rfl, rfl, rfl, rfl⟩, rfl, rfl, length_setDisc ..⟩

theorem discUnder_pend (i : Nat) (todo : List Nat) {s : State} (hp : Pend todo s) : Pend todo (discUnder i s) :=
  discUnder_cases i s hp fun _ _ _ => Or.inl rfl

theorem ids_discUnder (i : Nat) (s : State) : ids (discUnder i s).cells = ids s.cells :=
  discUnder_cases i s (C := fun s' => ids s'.cells = ids s.cells) rfl (ids_setDisc i s.cells)

theorem dtor_eq (owned : List Nat) (s : State) (he : s.exec ≠ 0) :
    dtor owned s = owned.foldl (fun s v => discUnder v s) s := by
  induction owned generalizing s with
  | nil => rfl
  | cons v vs ih =>
    simp only [dtor, List.foldl_cons, he, ↓reduceIte]
    exact ih _ (by rw [(discUnder_frame v s).1.exec]; exact he)

theorem dtor_frame (owned : List Nat) (s : State) (he : s.exec ≠ 0) :
    Same s (dtor owned s) ∧ (dtor owned s).err = s.err ∧ (dtor owned s).live = s.live ∧
    (dtor owned s).cells.length = s.cells.length := by
  rw [dtor_eq owned s he]
  refine foldl_invariant
    (C := fun b => Same s b ∧ b.err = s.err ∧ b.live = s.live ∧ b.cells.length = s.cells.length)
    (fun b i ⟨h1, h2, h3, h4⟩ => ?_) owned s ⟨Same.refl, rfl, rfl, rfl⟩
  obtain ⟨k1, k2, k3, k4⟩ := discUnder_frame i b
  exact ⟨h1.trans k1, k2.trans h2, k3.trans h3, k4.trans h4⟩

end Sigc.SweepL
