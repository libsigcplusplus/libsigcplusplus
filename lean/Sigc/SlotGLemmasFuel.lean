import Sigc.SlotGLemmas
/-!
  `SlotG`: what the proof that the cascades never run out of fuel (`run_no_err` in `Sigc/SlotGLemmasTrace.lean`)
  counts and keeps.

  * `mu s` = number of allocated representations that still hold a functor; every unfolding of `destroyRep`
    that recurses has cleared one functor first, so `mu s < k` suffices for `destroyRep k r s`.
  * `nu s` = number of allocated representations that have a parent; every unfolding of `notifyInv` that
    recurses has cleared one parent first, so `nu s < k` suffices for `notifyInv k r s`.
  * both measures are `≤ s.nextRep < fuel s`.

  `SameFns s s'`: the building blocks that neither allocate nor destroy keep `call_` and functor of every
  representation.  `Pres s s'`: the bound on representation identities and `err` stay.
-/
namespace Sigc.SlotG

/-- `Inv.repBound`, for states of which no more is known -/
def RepBound (s : State) : Prop := ∀ r, (s.reps r).isSome → r < s.nextRep

-- field equations of `SlotGLemmas` under `simp`, for the proofs about fuel
attribute [simp] setSlot_reps setRep_err setTrk_reps setTrk_err setConn_reps
@[simp] theorem setSlot_nextRep (s : State) (v o) : (s.setSlot v o).nextRep = s.nextRep := nextRep_setSlot s v o
@[simp] theorem setSlot_err (s : State) (v o) : (s.setSlot v o).err = s.err := err_setSlot s v o
@[simp] theorem setTrk_nextRep (s : State) (v o) : (s.setTrk v o).nextRep = s.nextRep := nextRep_setTrk s v o
@[simp] theorem setConn_nextRep (s : State) (v o) : (s.setConn v o).nextRep = s.nextRep := nextRep_setConn s v o
@[simp] theorem setConn_err (s : State) (v o) : (s.setConn v o).err = s.err := err_setConn s v o
@[simp] theorem setRep_nextRep (s : State) (v o) : (s.setRep v o).nextRep = s.nextRep := nextRep_setRep s v o
@[simp] theorem nullConns_reps (s : State) (cs) : (nullConns cs s).reps = s.reps := rfl
@[simp] theorem nullConns_nextRep (s : State) (cs) : (nullConns cs s).nextRep = s.nextRep := rfl
@[simp] theorem nullConns_err (s : State) (cs) : (nullConns cs s).err = s.err := rfl

structure SameFns (s s' : State) : Prop where
  nextRep : s'.nextRep = s.nextRep
  err : s'.err = s.err
  call : ∀ x, (s'.reps x).map (·.call) = (s.reps x).map (·.call)
  fn : ∀ x, (s'.reps x).map (·.fn) = (s.reps x).map (·.fn)

namespace SameFns

theorem refl (s : State) : SameFns s s := ⟨rfl, rfl, fun _ => rfl, fun _ => rfl⟩

theorem trans {a b c : State} (h1 : SameFns a b) (h2 : SameFns b c) : SameFns a c :=
  ⟨h2.nextRep.trans h1.nextRep, h2.err.trans h1.err, fun x => (h2.call x).trans (h1.call x),
    fun x => (h2.fn x).trans (h1.fn x)⟩

theorem of_reps {s s' : State} (hn : s'.nextRep = s.nextRep) (he : s'.err = s.err) (hr : s'.reps = s.reps) :
    SameFns s s' :=
  ⟨hn, he, fun _ => by rw [hr], fun _ => by rw [hr]⟩

theorem isSome {s s' : State} (h : SameFns s s') (x : Nat) : (s'.reps x).isSome = (s.reps x).isSome := by
  have := congrArg Option.isSome (h.call x)
  rwa [Option.isSome_map, Option.isSome_map] at this

theorem modRep (s : State) (r : Nat) (g : Rep → Rep) (hc : ∀ Q, (g Q).call = Q.call) (hf : ∀ Q, (g Q).fn = Q.fn) :
    SameFns s (s.modRep r g) := by
  refine ⟨nextRep_modRep .., err_modRep .., fun x => ?_, fun x => ?_⟩ <;> rw [reps_modRep] <;> split
  · rw [Option.map_map]; exact congrArg (Option.map · _) (funext hc)
  · rfl
  · rw [Option.map_map]; exact congrArg (Option.map · _) (funext hf)
  · rfl

theorem setParentIfNone (v r : Nat) (s : State) : SameFns s (setParentIfNone v r s) := by
  unfold SlotG.setParentIfNone
  split
  · exact refl _
  · apply modRep <;> (intro Q; split <;> rfl)

theorem unsetParentIf (v r : Nat) (s : State) : SameFns s (unsetParentIf v r s) := by
  unfold SlotG.unsetParentIf
  split
  · exact refl _
  · apply modRep <;> (intro Q; split <;> rfl)

theorem trkAdd (t r : Nat) (s : State) : SameFns s (trkAdd t r s) :=
  of_reps (nextRep_trkAdd ..) (err_trkAdd ..) (reps_trkAdd ..)

theorem trkRemove (t r : Nat) (s : State) : SameFns s (trkRemove t r s) :=
  of_reps (nextRep_trkRemove ..) (err_trkRemove ..) (reps_trkRemove ..)

theorem bindFun (r : Nat) (f : Fun) (s : State) : SameFns s (bindFun r f s) := by
  rcases bindFun_cases r f s with ⟨-, -, h⟩ | ⟨t, -, -, h⟩ | ⟨v, -, -, h⟩ <;> rw [h]
  · exact refl _
  · exact trkAdd ..
  · exact setParentIfNone ..

theorem unbindFun (r : Nat) (f : Fun) (s : State) : SameFns s (unbindFun r f s) := by
  rcases unbindFun_cases r f s with ⟨-, -, h⟩ | ⟨t, -, -, h⟩ | ⟨v, -, -, h⟩ <;> rw [h]
  · exact refl _
  · exact trkRemove ..
  · exact unsetParentIf ..

theorem bindFunX (e : Bool) (r : Nat) (f : Fun) (s : State) : SameFns s (bindFunX e r f s) := by
  unfold SlotG.bindFunX
  split
  · exact refl _
  · exact bindFun ..

theorem setRep {s : State} {r : Nat} {R : Rep} (hR : s.reps r = some R) (R' : Rep) (hc : R'.call = R.call)
    (hf : R'.fn = R.fn) : SameFns s (s.setRep r (some R')) := by
  refine ⟨rfl, rfl, fun x => ?_, fun x => ?_⟩ <;> rw [reps_setRep] <;> split
  · subst x; rw [hR]; exact congrArg some hc
  · rfl
  · subst x; rw [hR]; exact congrArg some hf
  · rfl

theorem weakNotify (r : Nat) (s : State) : SameFns s (weakNotify r s) := by
  unfold SlotG.weakNotify
  split
  · exact refl _
  · rename_i R hR
    exact trans (b := nullConns R.cbs s) (of_reps rfl rfl rfl)
      (setRep (s := nullConns R.cbs s) hR { R with cbs := [] } rfl rfl)

theorem slotAddCb (v c : Nat) (s : State) : SameFns s (slotAddCb v c s) := by
  unfold SlotG.slotAddCb
  split
  · exact refl _
  · exact modRep _ _ _ (fun _ => rfl) (fun _ => rfl)

theorem slotRemCb (v c : Nat) (s : State) : SameFns s (slotRemCb v c s) := by
  unfold SlotG.slotRemCb
  split
  · exact refl _
  · exact modRep _ _ _ (fun _ => rfl) (fun _ => rfl)

theorem killConn (c : Nat) (s : State) : SameFns s (killConn c s) := by
  unfold SlotG.killConn
  refine trans (b := match connTarget s c with | none => s | some v => SlotG.slotRemCb v c s) ?_
    (of_reps rfl rfl rfl)
  split
  · exact refl _
  · exact slotRemCb ..

end SameFns

theorem countP_range_point (p p' : Nat → Bool) (r : Nat) :
    ∀ n, r < n → p r = true → p' r = false → (∀ x, x ≠ r → p' x = p x) →
      (List.range n).countP p' + 1 = (List.range n).countP p
  | 0, h, _, _, _ => absurd h (Nat.not_lt_zero _)
  | n + 1, hr, hp, hp', h => by
    rw [List.range_succ, List.countP_append, List.countP_append, List.countP_singleton, List.countP_singleton]
    by_cases hrn : r = n
    · subst hrn
      have e : (List.range r).countP p' = (List.range r).countP p :=
        List.countP_congr fun x hx => by rw [h x (Nat.ne_of_lt (List.mem_range.1 hx))]
      rw [e, hp, hp']; rfl
    · rw [h n (fun e => hrn e.symm),
        ← countP_range_point p p' r n (Nat.lt_of_le_of_ne (Nat.le_of_lt_succ hr) hrn) hp hp' h]
      exact Nat.add_right_comm _ _ _

def hasFn (s : State) (x : Nat) : Bool := ((s.reps x).map (·.fn)).join.isSome
def hasPar (s : State) (x : Nat) : Bool := ((s.reps x).map (·.parent)).join.isSome

def mu (s : State) : Nat := (List.range s.nextRep).countP (hasFn s)
def nu (s : State) : Nat := (List.range s.nextRep).countP (hasPar s)

theorem mu_lt_fuel (s : State) : mu s < fuel s :=
  Nat.lt_of_le_of_lt (List.countP_le_length (p := hasFn s)) (by rw [List.length_range]; exact Nat.lt_add_of_pos_right (by decide))

theorem nu_lt_fuel (s : State) : nu s < fuel s :=
  Nat.lt_of_le_of_lt (List.countP_le_length (p := hasPar s)) (by rw [List.length_range]; exact Nat.lt_add_of_pos_right (by decide))

/-- `s'` keeps the bound on representation identities and the `err` flag of `s`.  An implication, not a
    conjunction: a cascade keeps `err` because its fuel exceeds `mu`/`nu`, which are below `fuel s` only on a
    state that satisfies the bound. -/
def Pres (s s' : State) : Prop := RepBound s → RepBound s' ∧ s'.err = s.err

theorem Pres.refl (s : State) : Pres s s := fun h => ⟨h, rfl⟩

theorem Pres.trans {a b c : State} (h1 : Pres a b) (h2 : Pres b c) : Pres a c := fun h =>
  have ⟨hb, e1⟩ := h1 h
  have ⟨hc, e2⟩ := h2 hb
  ⟨hc, e2.trans e1⟩

theorem Pres.of_sub {s s' : State} (hn : s'.nextRep = s.nextRep) (he : s'.err = s.err)
    (hd : ∀ x, (s'.reps x).isSome → (s.reps x).isSome) : Pres s s' := fun h =>
  ⟨fun x hx => by rw [hn]; exact h x (hd x hx), he⟩

theorem SameFns.pres {s s' : State} (h : SameFns s s') : Pres s s' :=
  Pres.of_sub h.nextRep h.err fun x hx => by rwa [← h.isSome]

theorem pres_setSlot (s : State) (v o) : Pres s (s.setSlot v o) :=
  Pres.of_sub rfl rfl (fun _ h => h)
theorem pres_modRep (s : State) (r g) : Pres s (s.modRep r g) :=
  Pres.of_sub (nextRep_modRep ..) (err_modRep ..) fun x h => by
    rw [reps_modRep] at h
    split at h
    · rwa [Option.isSome_map] at h
    · exact h
theorem pres_setRep_none (s : State) (r) : Pres s (s.setRep r none) :=
  Pres.of_sub rfl rfl fun x h => by
    rw [reps_setRep] at h
    split at h
    · cases h
    · exact h
theorem pres_setRep_some (s : State) (r R) (h : (s.reps r).isSome) : Pres s (s.setRep r (some R)) :=
  Pres.of_sub rfl rfl fun x hx => by
    rw [reps_setRep] at hx
    split at hx
    · subst x; exact h
    · exact hx

@[simp] theorem dropFn_nextRep (r R f s) : (dropFnF r R f s).nextRep = s.nextRep :=
  (nextRep_modRep ..).trans (SameFns.unbindFun ..).nextRep
@[simp] theorem dropFn_err (r R f s) : (dropFnF r R f s).err = s.err :=
  (err_modRep ..).trans (SameFns.unbindFun ..).err
theorem pres_dropFn (r R f s) (hR : s.reps r = some R) : Pres s (dropFnF r R f s) :=
  (pres_setRep_some s r _ (by rw [hR]; rfl)).trans ((SameFns.unbindFun ..).pres.trans (pres_modRep _ _ _))

theorem hasFn_dropFn (r R f s x) : hasFn (dropFnF r R f s) x = if x = r then false else hasFn s x := by
  unfold dropFnF hasFn
  rw [reps_modRep]
  split
  · cases (SlotG.unbindFun r f (s.setRep r (some { R with call := false }))).reps x <;> rfl
  · rename_i hx
    rw [(SameFns.unbindFun ..).fn x, reps_setRep, if_neg hx]

theorem mu_dropFn (r R f s) (hb : RepBound s) (hR : s.reps r = some R) (hf : R.fn = some f) :
    mu (dropFnF r R f s) + 1 = mu s := by
  unfold mu
  rw [dropFn_nextRep]
  apply countP_range_point (hasFn s) (hasFn (dropFnF r R f s)) r _ (hb r (by rw [hR]; rfl))
  · rw [hasFn, hR]; exact congrArg (·.isSome) hf
  · rw [hasFn_dropFn, if_pos rfl]
  · intro x hx; rw [hasFn_dropFn, if_neg hx]

/-- the state after `notify_slot_rep_invalidated` / `disconnect` has reset `call_` and `parent_` of `r` -/
def clrParF (r : Nat) (R : Rep) (s : State) : State :=
  s.setRep r (some { R with call := false, parent := none })

theorem pres_clrPar (r R s) (hR : s.reps r = some R) : Pres s (clrParF r R s) :=
  pres_setRep_some s r _ (by rw [hR]; rfl)

theorem nu_clrPar (r R s p) (hb : RepBound s) (hR : s.reps r = some R) (hp : R.parent = some p) :
    nu (clrParF r R s) + 1 = nu s := by
  apply countP_range_point (hasPar s) (hasPar (clrParF r R s)) r _ (hb r (by rw [hR]; rfl))
  · rw [hasPar, hR]; exact congrArg (·.isSome) hp
  · rw [hasPar, clrParF, reps_setRep, if_pos rfl]; rfl
  · intro x hx; rw [hasPar, clrParF, reps_setRep, if_neg hx]; rfl

theorem pres_allocRep (R : Rep) (s : State) : Pres s (allocRep R s) := fun hb =>
  ⟨fun x hx => by
    show x < s.nextRep + 1
    have hx' : ((if x = s.nextRep then some R else s.reps x)).isSome := hx
    split at hx'
    · omega
    · exact Nat.lt_succ_of_lt (hb x hx'), rfl⟩

end Sigc.SlotG
