import Sigc.SweepLLemmas
/-!
  Lemmas about `Sigc/SweepL.lean`, **inside a holder scope** (`exec_count_ > 0`): what is disconnected stays
  disconnected (`NoConn`, `DescL`), and the death of an owner functor disconnects what it owned (`Own`); `Scope` holds
  of `discUnder`, of `dtor` (a fold of `discUnder` there: `dtor_eq`, `discAll_spec`), `eraseCell`, `sweepIds`, `sweep`
  and `unref`.  `Own` can only break where a cell leaves the list: it is re-proved in `eraseCell_spec` and in the
  branch of `clear_spec` that swaps the list out.
-/
namespace Sigc.SweepL

/-- no connected cell of the list is named `k` -/
def NoConn (k : Nat) (s : State) : Prop := ∀ c ∈ s.cells, c.id = k → c.conn = false

/-- every cell of `cs'` descends from a cell of `cs` -/
def DescL (cs cs' : List Cell) : Prop :=
  ∀ c' ∈ cs', ∃ c ∈ cs, c.id = c'.id ∧ c.owned = c'.owned ∧ (c'.conn = true → c.conn = true)

theorem DescL.refl (cs : List Cell) : DescL cs cs := fun c hc => ⟨c, hc, rfl, rfl, id⟩

theorem DescL.trans {a b c : List Cell} (h1 : DescL a b) (h2 : DescL b c) : DescL a c := by
  intro z hz
  obtain ⟨y, hy, e1, e2, e3⟩ := h2 z hz
  obtain ⟨x, hx, f1, f2, f3⟩ := h1 y hy
  exact ⟨x, hx, f1.trans e1, f2.trans e2, fun h => f3 (e3 h)⟩

theorem DescL.noConn {cs cs' : List Cell} (h : DescL cs cs') {k : Nat}
    (hn : ∀ c ∈ cs, c.id = k → c.conn = false) : ∀ c ∈ cs', c.id = k → c.conn = false := by
  intro c' hc' hid
  obtain ⟨c, hc, e1, _, e3⟩ := h c' hc'
  cases hcon : c'.conn with
  | false => rfl
  | true =>
    have := hn c hc (e1.trans hid)
    rw [e3 hcon] at this; cases this

theorem descL_setDisc (i : Nat) (cs : List Cell) : DescL cs (setDisc i cs) := by
  intro c' hc'
  rcases mem_setDisc hc' with ⟨hm, _⟩ | ⟨hcon, _, c0, hm, rfl⟩
  · exact ⟨c', hm, rfl, rfl, id⟩
  · exact ⟨c0, hm, rfl, rfl, fun h => by simp at h⟩

theorem descL_remove (i : Nat) (cs : List Cell) : DescL cs (remove i cs) :=
  fun c' hc' => ⟨c', (mem_remove.1 hc').1, rfl, rfl, id⟩

/-- the `own` edges of the cells in the list are in their owned lists -/
def Held (s : State) : Prop := ∀ e ∈ s.edges, ∀ c ∈ s.cells, c.id = e.1 → e.2 ∈ c.owned

theorem Held.desc {s s' : State} (h : Held s) (he : s'.edges = s.edges) (hd : DescL s.cells s'.cells) :
    Held s' := by
  intro e hein c' hc' hid
  obtain ⟨c, hc, e1, e2, _⟩ := hd c' hc'
  rw [← e2]; exact h e (he ▸ hein) c hc (e1.trans hid)

/-- ownership: both ends of an edge are names that were given; a living owner holds the edge in its owned list;
    **a dead owner's owned cells are not connected** -/
structure Own (s : State) : Prop where
  known : ∀ e ∈ s.edges, e.1 ∈ s.used ∧ e.2 ∈ s.used
  held : Held s
  released : ∀ e ∈ s.edges, (∀ c ∈ s.cells, c.id ≠ e.1) → NoConn e.2 s

/-- what code inside a holder scope does to the list: cells are disconnected and erased, none appears, and
    the death of an owner is answered at once (`own`) -/
structure Rel (s s' : State) : Prop where
  edges : s'.edges = s.edges
  used : s'.used = s.used
  desc : DescL s.cells s'.cells
  own : Own s → Own s'

/-- a step that erases nothing -/
theorem Rel.of_ids {s s' : State} (he : s'.edges = s.edges) (hu : s'.used = s.used)
    (hd : DescL s.cells s'.cells) (hi : ids s'.cells = ids s.cells) : Rel s s' := by
  refine ⟨he, hu, hd, fun h => ⟨fun e hein => by rw [hu]; exact h.known e (he ▸ hein), h.held.desc he hd,
    fun e hein hg => hd.noConn (h.released e (he ▸ hein) fun c hc hid => ?_)⟩⟩
  obtain ⟨c', hc', hid'⟩ := mem_ids.1 (hi ▸ mem_ids.2 ⟨c, hc, hid⟩)
  exact hg c' hc' hid'

theorem Rel.of_cells {s s' : State} (hc : s'.cells = s.cells) (he : s'.edges = s.edges) (hu : s'.used = s.used) :
    Rel s s' :=
  Rel.of_ids he hu (hc ▸ DescL.refl _) (by rw [hc])

theorem Rel.refl (s : State) : Rel s s := Rel.of_cells rfl rfl rfl

theorem Own.congr {s s' : State} (h : Own s) (hc : s'.cells = s.cells) (he : s'.edges = s.edges)
    (hu : s'.used = s.used) : Own s' :=
  (Rel.of_cells hc he hu).own h

theorem Rel.trans {a b c : State} (h1 : Rel a b) (h2 : Rel b c) : Rel a c :=
  ⟨h2.edges.trans h1.edges, h2.used.trans h1.used, h1.desc.trans h2.desc, fun h => h2.own (h1.own h)⟩

theorem Rel.congr {a b a' b' : State} (r : Rel a b) (h1 : a'.cells = a.cells) (h2 : a'.edges = a.edges)
    (h3 : a'.used = a.used) (k1 : b'.cells = b.cells) (k2 : b'.edges = b.edges) (k3 : b'.used = b.used) :
    Rel a' b' :=
  ((Rel.of_cells h1.symm h2.symm h3.symm).trans r).trans (Rel.of_cells k1 k2 k3)

/-- what a primitive running while `exec_count_ > 0` keeps: it disconnects and erases, nothing else -/
structure Scope (s s' : State) : Prop where
  same : Same s s'
  err : s'.err = s.err
  base : Base s'
  rel : Rel s s'
  len : s'.cells.length ≤ s.cells.length

theorem Scope.refl {s : State} (hb : Base s) : Scope s s := ⟨Same.refl, rfl, hb, Rel.refl s, Nat.le_refl _⟩

theorem Scope.trans {a b c : State} (h1 : Scope a b) (h2 : Scope b c) : Scope a c :=
  ⟨h1.same.trans h2.same, h2.err.trans h1.err, h2.base, h1.rel.trans h2.rel, Nat.le_trans h2.len h1.len⟩

theorem rel_setDisc (i : Nat) {s s' : State} (he : s'.edges = s.edges) (hu : s'.used = s.used)
    (hc : s'.cells = setDisc i s.cells) : Rel s s' :=
  Rel.of_ids he hu (hc ▸ descL_setDisc i s.cells) (hc ▸ ids_setDisc i s.cells)

theorem discUnder_scope (i : Nat) {s : State} (hb : Base s) : Scope s (discUnder i s) :=
  discUnder_cases i s (Scope.refl hb)
    ⟨⟨rfl, rfl, rfl, rfl, rfl⟩, rfl, setDisc_base hb true, rel_setDisc i rfl rfl rfl, Nat.le_of_eq (length_setDisc ..)⟩

theorem noConn_discUnder (i : Nat) {s : State} (hb : Base s) : NoConn i (discUnder i s) := by
  unfold discUnder
  cases hf : find i s.cells with
  | none => intro c hc hi; exact absurd hi (find_none hf c hc)
  | some c0 =>
    simp only
    by_cases hc0 : c0.conn = true
    · rw [if_pos hc0]; exact conn_setDisc i s.cells
    · rw [if_neg hc0]
      intro c hc hi
      have := find_unique hb.nodup hf hc hi
      subst this
      simpa using hc0

/-- a run of `discUnder`s (`~Holder`, the loop of `clear()`): every cell it names is disconnected after it -/
theorem discAll_spec (is todo : List Nat) {s : State} (hb : Base s) (hp : Pend todo s) :
    Scope s (is.foldl (fun s i => discUnder i s) s) ∧ Pend todo (is.foldl (fun s i => discUnder i s) s) ∧
    (∀ i ∈ is, NoConn i (is.foldl (fun s i => discUnder i s) s)) ∧
    ids (is.foldl (fun s i => discUnder i s) s).cells = ids s.cells := by
  induction is generalizing s with
  | nil => exact ⟨Scope.refl hb, hp, fun i hi => (nomatch hi), rfl⟩
  | cons j js ih =>
    have h1 := discUnder_scope j hb
    obtain ⟨h2, hp2, hn2, hi2⟩ := ih h1.base (discUnder_pend j todo hp)
    refine ⟨h1.trans h2, hp2, fun i hi => ?_, hi2.trans (ids_discUnder j s)⟩
    cases hi with
    | head => exact h2.rel.desc.noConn (noConn_discUnder _ hb)
    | tail _ hi' => exact hn2 i hi'

/-- erasing cell `i` (found, with `deferred_` already set if it had to be disconnected first) inside a pass that
    has `i` still ahead; the destructor of its functor disconnects what it owned -/
theorem eraseCell_spec (i : Nat) (todo : List Nat) (s : State) (c : Cell) (hb : Base s)
    (hf : find i s.cells = some c) (hp : Pend (i :: todo) s) (he : s.exec ≠ 0) :
    Scope s (eraseCell i s) ∧ Pend todo (eraseCell i s) ∧ (eraseCell i s).cells.length < s.cells.length := by
  unfold eraseCell
  rw [hf]
  simp only
  generalize hs1 : ({ s with cells := remove i s.cells, live := decLive c.kind s.live } : State) = s1
  have hcells : s1.cells = remove i s.cells := by subst hs1; rfl
  have hedges : s1.edges = s.edges := by subst hs1; rfl
  have hused : s1.used = s.used := by subst hs1; rfl
  have hb1 : Base s1 := by subst hs1; exact remove_base hb hf
  have hp1 : Pend todo s1 := by
    subst hs1
    refine Pend.tail (fun c' hc' hcon => hp c' (mem_remove.1 hc').1 hcon) fun c' hc' hi => ?_
    exact absurd hi (mem_remove.1 hc').2
  rw [dtor_eq c.owned s1 (by subst hs1; exact he)]
  obtain ⟨sc, hp2, hn2, hi2⟩ := discAll_spec c.owned todo hb1 hp1
  generalize c.owned.foldl (fun s v => discUnder v s) s1 = s2 at sc hp2 hn2 hi2
  have hlen : s1.cells.length < s.cells.length := hcells ▸ length_remove_lt hf
  have hd : DescL s.cells s2.cells := (hcells ▸ descL_remove i s.cells).trans sc.rel.desc
  have he2 := sc.rel.edges.trans hedges
  have hu2 := sc.rel.used.trans hused
  refine ⟨⟨?_, ?_, sc.base, ⟨he2, hu2, hd, fun ho => ⟨?_, ho.held.desc he2 hd, ?_⟩⟩, ?_⟩, hp2, ?_⟩
  · subst hs1; exact ⟨sc.same.exec, sc.same.marks, sc.same.used, sc.same.owners, sc.same.out⟩
  · subst hs1; exact sc.err
  · intro e hein; rw [hu2]; exact ho.known e (he2 ▸ hein)
  · -- the owner that has just died had its edges in `c.owned`; any other dead owner was dead before
    intro e hein hgone
    by_cases hei : e.1 = i
    · exact hn2 e.2 (ho.held e (he2 ▸ hein) c (find_some hf).1 ((find_some hf).2.trans hei.symm))
    · refine hd.noConn (ho.released e (he2 ▸ hein) fun c0 hc0 hid0 => ?_)
      have : e.1 ∈ ids s2.cells := by
        rw [hi2, hcells]; exact mem_ids.2 ⟨c0, mem_remove.2 ⟨hc0, fun h => hei (hid0.symm.trans h)⟩, hid0⟩
      obtain ⟨c', hc', hid'⟩ := mem_ids.1 this
      exact hgone c' hc' hid'
  · have := sc.len; omega
  · have := sc.len; omega

/-- one pass of `sweep()` keeps `Pend`, with the rest of the snapshot as `todo`; if it ends with `deferred_` set though
    it started clear, it has erased a cell -/
theorem sweepIds_spec (is : List Nat) (s : State) (hb : Base s) (hp : Pend is s) (he : s.exec ≠ 0) :
    Scope s (sweepIds is s) ∧ Pend [] (sweepIds is s) ∧
    ((sweepIds is s).deferred = true → s.deferred = true ∨ (sweepIds is s).cells.length < s.cells.length) := by
  induction is generalizing s with
  | nil => exact ⟨Scope.refl hb, hp, Or.inl⟩
  | cons i is ih =>
    simp only [sweepIds]
    cases hf : find i s.cells with
    | none => exact ih s hb (hp.tail fun c hc hi => absurd hi (find_none hf c hc)) he
    | some c =>
      simp only
      by_cases hemp : c.isEmpty = true
      · simp only [hemp, ↓reduceIte]
        -- `(*i).disconnect()`, then `erase`
        rw [show (if c.conn = true then { s with cells := setDisc i s.cells, deferred := true } else s) =
          discUnder i s by simp only [discUnder, hf]]
        have h1 := discUnder_scope i hb
        obtain ⟨c1, hf1⟩ : ∃ c1, find i (discUnder i s).cells = some c1 :=
          find_of_mem_ids (by rw [ids_discUnder]; exact mem_ids.2 ⟨c, find_some hf⟩)
        have he1 : (discUnder i s).exec ≠ 0 := by rw [h1.same.exec]; exact he
        obtain ⟨h2, hp2, hlt⟩ := eraseCell_spec i is _ c1 h1.base hf1 (discUnder_pend i _ hp) he1
        obtain ⟨h3, hp3, -⟩ := ih _ h2.base hp2 (by rw [h2.same.exec]; exact he1)
        exact ⟨(h1.trans h2).trans h3, hp3, fun _ => Or.inr (by have := h1.len; have := h3.len; omega)⟩
      · simp only [hemp]
        -- a cell that is not `empty()` is connected: the pass may drop `i` from `todo`
        refine ih s hb (hp.tail fun c' hc' hi => ?_) he
        cases find_unique hb.nodup hf hc' hi
        simp [Cell.isEmpty] at hemp
        exact hemp.1

/-- the chain of sweeps: fuel `cells.length + 1` suffices, because a pass that leaves `deferred_` set has erased a cell -/
theorem sweep_spec (n : Nat) (s : State) (hn : s.cells.length < n) (hb : Base s) (hm : s.marks = 0) :
    Scope s (sweep n s) ∧ Pend [] (sweep n s) ∧ ((sweep n s).exec = 0 → (sweep n s).deferred = false) := by
  induction n generalizing s with
  | zero => omega
  | succ n ih =>
    simp only [sweep]
    rw [if_neg (show ¬ (s.marks ≠ 0) by simp [hm])]
    obtain ⟨sc, hp2, hdef⟩ := sweepIds_spec (ids s.cells) { s with exec := s.exec + 1, deferred := false }
      (hb.congr rfl rfl rfl) (fun c hc _ => Or.inr (mem_ids.2 ⟨c, hc, rfl⟩)) (Nat.succ_ne_zero _)
    generalize sweepIds (ids s.cells) { s with exec := s.exec + 1, deferred := false } = s2 at sc hp2 hdef ⊢
    -- the pass ran one level deeper; seen from `s` it is a step inside the scope `s` is in
    have sw : Scope s { s2 with exec := s2.exec - 1 } :=
      ⟨⟨by show s2.exec - 1 = s.exec; rw [sc.same.exec]; exact Nat.add_sub_cancel .., sc.same.marks, sc.same.used,
        sc.same.owners, sc.same.out⟩, sc.err, sc.base.congr rfl rfl rfl, sc.rel.congr rfl rfl rfl rfl rfl rfl, sc.len⟩
    split
    · rename_i hcond
      have hlt : s2.cells.length < n := by
        rcases hdef hcond.2 with h | h
        · cases h
        · exact Nat.lt_of_lt_of_le h (Nat.le_of_lt_succ hn)
      obtain ⟨sw', hp', hq⟩ := ih { s2 with exec := s2.exec - 1 } hlt sw.base (sw.same.marks.trans hm)
      exact ⟨sw.trans sw', hp', hq⟩
    · rename_i hcond
      exact ⟨sw, hp2.congr rfl rfl, fun h0 => Bool.eq_false_iff.2 fun hd => hcond ⟨h0, hd⟩⟩

/-- seen from the state with `exec_count_` already decremented, `unreference_exec()` is a `Scope` step -/
theorem unref_spec (s : State) (hb : Base s) (hp : Pend [] s) (hm : s.marks ≤ s.exec - 1) :
    Scope { s with exec := s.exec - 1 } (unref s) ∧ Pend [] (unref s) ∧
      ((unref s).exec = 0 → (unref s).deferred = false) := by
  have hb1 : Base { s with exec := s.exec - 1 } := hb.congr rfl rfl rfl
  simp only [unref]
  split
  · rename_i hcond
    exact sweep_spec (s.cells.length + 1) { s with exec := s.exec - 1 } (Nat.lt_succ_self _) hb1
      (by have := hcond.1; simp only at this ⊢; omega)
  · rename_i hcond
    exact ⟨Scope.refl hb1, hp.congr rfl rfl, fun h0 => Bool.eq_false_iff.2 fun hd => hcond ⟨h0, hd⟩⟩

end Sigc.SweepL
