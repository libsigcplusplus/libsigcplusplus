import Sigc.SlotGLemmasConn
/-!
  The elementary steps on slot variables and representations — `notify_callbacks()` of a representation, writing a
  variable (`inv_setSlot`), freeing a representation or a variable, replacing the representation a variable stores
  and freeing the old one (`swapVar`) — preserve `Inv`; the Boolean scans of the model mean what the propositions
  of `Inv` say (`anyRep_iff`, `ownedBy_iff`, `ownedCBy_iff`, `pinned_iff`); the cascades of the `SlotG` model
  preserve `Inv` and stay inside `Casc`: `destroyRep_spec`, `notifyInv_spec` — by induction on a fuel above `mu s`,
  `nu s`, as `fuel s` is — and `trkFold_spec`, by induction on the entries of a trackable, none of which it leaves
  active.
-/
namespace Sigc.SlotG

@[slotg_simp high] theorem repOf_modSlot_blocked (s : State) (k : Nat) (b : Bool) (v : Nat) :
    repOf (s.modSlot k (fun V => { V with blocked := b })) v = repOf s v := by
  rw [repOf_modSlot]
  by_cases h : v = k
  · subst h; simp only [if_true, repOf]; cases s.slots v <;> simp
  · simp only [h, if_false]

@[slotg_simp high] theorem repOf_modSlot_rep (s : State) (k : Nat) (o : Option Nat) (v : Nat) :
    repOf (s.modSlot k (fun V => { V with rep := o })) v =
      if v = k then (if (s.slots v).isSome then o else none) else repOf s v := by
  rw [repOf_modSlot]
  by_cases h : v = k
  · subst h; simp only [if_true]; cases s.slots v <;> simp
  · simp only [h, if_false]

/-- `notify_callbacks()` of a representation: the registered connections are nulled, the list is gone -/
theorem inv_weakNotify {s : State} (h : Inv s) (r : Nat) : Inv (weakNotify r s) := by
  cases hr : s.reps r with
  | none => rw [weakNotify_none hr]; exact h
  | some R =>
    have hc := conns_weakNotify r s R hr
    have hfn := map_reps_of_mod Rep.fn (reps_weakNotify r s) fun _ _ => rfl
    have g := h.regOk
    refine .of
      (h.exOk.congr (slots_weakNotify ..) (nextRep_weakNotify ..)
        (map_reps_of_mod _ (reps_weakNotify r s) fun _ _ => rfl))
      ⟨fun {c w} hcw => ?fwd, fun {x X' c} hX' hm => ?bwd, fun x X' hX' => ?nodup⟩
      (h.parOk.congr (repOf_weakNotify r s) hfn (map_reps_of_mod _ (reps_weakNotify r s) fun _ _ => rfl))
      (h.trkOk.congr (trks_weakNotify ..) hfn)
      (h.fnOk.congr (fun _ => by rw [slots_weakNotify]) (fun c => by rw [hc]; split <;> simp) hfn)
    case fwd =>
      rw [hc] at hcw
      split at hcw
      · cases hx : s.conns c <;> rw [hx] at hcw <;> cases hcw
      · rename_i hm
        obtain ⟨x, X, hx, hX, hmX⟩ := g.fwd hcw
        have hxr : x ≠ r := fun he => by subst he; rw [hr] at hX; cases hX; exact hm hmX
        exact ⟨x, X, (repOf_weakNotify r s w).trans hx, by rw [reps_weakNotify, if_neg hxr]; exact hX, hmX⟩
    case bwd =>
      -- a representation that still has registrations is another one than `r`, and unchanged
      obtain ⟨X, hX, ⟨hxr, rfl⟩ | ⟨-, rfl⟩⟩ := reps_of_mod (reps_weakNotify r s) hX'
      · obtain ⟨w, hw, hx⟩ := g.bwd hX hm
        refine ⟨w, ?_, (repOf_weakNotify r s w).trans hx⟩
        rw [hc, if_neg fun hmR => hxr (g.uniq hX hr hm hmR)]; exact hw
      · cases hm
    case nodup =>
      obtain ⟨X, hX, ⟨-, rfl⟩ | ⟨-, rfl⟩⟩ := reps_of_mod (reps_weakNotify r s) hX'
      · exact g.nodup x X' hX
      · exact List.nodup_nil

theorem var_lt {s : State} (h : Inv s) {w : Nat} {V : SVar} (hV : s.slots w = some V) :
    w < anonBase + s.nextRep := by
  by_cases hw : anonBase ≤ w
  · exact h.anonBound w V hV hw
  · omega

/-- the variable `d` may take the representation `n`: it is stored nowhere (hence carries no registration), and if
    it has a parent, that parent's functor visits `d` -/
structure Adoptable (s : State) (d n : Nat) : Prop where
  orphan : Orphan s n
  rep : ∃ N, s.reps n = some N ∧
    ∀ p, N.parent = some p → ∃ P f, s.reps p = some P ∧ P.fn = some f ∧ f.ref = some d

theorem Adoptable.of_noParent {s : State} {n : Nat} {N : Rep} (ho : Orphan s n) (hn : s.reps n = some N)
    (hp : N.parent = none) (d : Nat) : Adoptable s d n :=
  ⟨ho, N, hn, fun p hpp => by rw [hp] at hpp; cases hpp⟩

theorem regOk_setSlot {s : State} (h : RegOk s) {d : Nat} {V' : SVar}
    (hd : ∀ q, repOf s d = some q → V'.rep = some q ∨ ∃ Q, s.reps q = some Q ∧ Q.cbs = []) :
    RegOk (s.setSlot d (some V')) := by
  have keep : ∀ {x X c w}, s.reps x = some X → c ∈ X.cbs → repOf s w = some x →
      repOf (s.setSlot d (some V')) w = some x := by
    intro x X c w hX hm hw
    rw [repOf_setSlot]
    split
    · rename_i hwd; subst hwd
      refine (hd x hw).resolve_right fun ⟨Q, hQ, hQc⟩ => ?_
      rw [hX] at hQ; cases hQ; rw [hQc] at hm; cases hm
    · exact hw
  refine ⟨fun hcv => ?_, fun hX hm => ?_, h.nodup⟩
  · obtain ⟨x, X, hx, hX, hm⟩ := h.fwd hcv
    exact ⟨x, X, keep hX hm hx, hX, hm⟩
  · obtain ⟨w, hw, hx⟩ := h.bwd hX hm
    exact ⟨w, hw, keep hX hm hx⟩

/-- Writing a variable (a new one, or an old one with a new `rep_` or `blocked_`).  What it stores afterwards it
    stored before or may take (`Adoptable`); what it no longer stores carries no registration and is stored nowhere
    afterwards. -/
theorem inv_setSlot {s : State} (h : Inv s) {d : Nat} {V' : SVar} (hb : d < anonBase + s.nextRep)
    (hn : ∀ n, V'.rep = some n → repOf s d = some n ∨ Adoptable s d n)
    (hd : ∀ q, repOf s d = some q → V'.rep = some q ∨ ∃ Q, s.reps q = some Q ∧ Q.cbs = []) :
    Inv (s.setSlot d (some V')) ∧
      ∀ q, repOf s d = some q → V'.rep ≠ some q → Orphan (s.setSlot d (some V')) q := by
  have hsub : ∀ w x, repOf (s.setSlot d (some V')) w = some x →
      (w = d ∧ V'.rep = some x) ∨ (w ≠ d ∧ repOf s w = some x) := by
    intro w x hw
    by_cases hwd : w = d
    · rw [repOf_setSlot, if_pos hwd] at hw; exact .inl ⟨hwd, hw⟩
    · rw [repOf_setSlot, if_neg hwd] at hw; exact .inr ⟨hwd, hw⟩
  refine ⟨.of ⟨?_, ?_, ?_, h.repBound⟩ (regOk_setSlot h.regOk hd) ?par (h.trkOk.congr rfl fun _ => rfl)
    (h.fnOk.mono (fun v V hV _ => ?dom) (fun c p hp _ => ⟨p, hp⟩) fun _ X f hX hf => ⟨X, hX, hf⟩), ?orph⟩
  · intro w x hw
    rcases hsub w x hw with ⟨-, he⟩ | ⟨-, hw0⟩
    · rcases hn x he with h0 | ⟨-, N, hN, -⟩
      · exact h.repAlive d x h0
      · exact ⟨N, hN⟩
    · exact h.repAlive w x hw0
  · intro w1 w2 x h1 h2
    -- a representation that `d` newly stores was stored nowhere
    have key : ∀ w, V'.rep = some x → w ≠ d → repOf s w ≠ some x := fun w he hwd hw =>
      (hn x he).elim (fun h0 => hwd (h.repUniq w d x hw h0)) fun ⟨ho, _⟩ => ho w hw
    rcases hsub w1 x h1 with ⟨e1, he⟩ | ⟨n1, h1'⟩ <;> rcases hsub w2 x h2 with ⟨e2, he'⟩ | ⟨n2, h2'⟩
    · rw [e1, e2]
    · exact absurd h2' (key w2 he n2)
    · exact absurd h1' (key w1 he' n1)
    · exact h.repUniq w1 w2 x h1' h2'
  · intro w V hV hle
    rw [slots_setSlot] at hV
    by_cases hw : w = d
    · rw [hw]; exact hb
    · rw [if_neg hw] at hV; exact h.anonBound w V hV hle
  case par =>
    intro x X p w hX hpar hw
    rcases hsub w x hw with ⟨rfl, he⟩ | ⟨-, hw0⟩
    · rcases hn x he with h0 | ⟨-, N, hN, hp⟩
      · exact h.parentOk x X p w hX hpar h0
      · rw [show s.reps x = some X from hX] at hN; cases hN
        exact hp p hpar
    · exact h.parentOk x X p w hX hpar hw0
  case dom =>
    rw [slots_setSlot]
    by_cases hv : v = d
    · rw [if_pos hv]; exact ⟨V', rfl⟩
    · rw [if_neg hv]; exact ⟨V, hV⟩
  case orph =>
    intro q hq hne w hw
    rcases hsub w q hw with ⟨-, he⟩ | ⟨hwd, hw0⟩
    · exact hne he
    · exact hwd (h.repUniq w d q hw0 hq)

theorem repOf_setSlot_keep {s : State} {v : Nat} {V' : SVar} (hr : V'.rep = repOf s v) :
    repOf (s.setSlot v (some V')) = repOf s := by
  funext w
  rw [repOf_setSlot]
  by_cases hw : w = v
  · rw [if_pos hw, hw]; exact hr
  · rw [if_neg hw]

theorem inv_setSlot_keepRep {s : State} (h : Inv s) {v : Nat} {V' : SVar} (hr : V'.rep = repOf s v)
    (hb : v < anonBase + s.nextRep) : Inv (s.setSlot v (some V')) :=
  (inv_setSlot h hb (fun n e => .inl (by rw [← hr]; exact e)) fun q hq => .inl (by rw [hr]; exact hq)).1

/-- `rep_ = o`: nothing (`nullptr`), or a representation `d` may take -/
theorem inv_setVarRep {s : State} (h : Inv s) {d : Nat} {o : Option Nat}
    (hn : ∀ n, o = some n → Adoptable s d n)
    (hd : ∀ q, repOf s d = some q → ∃ Q, s.reps q = some Q ∧ Q.cbs = []) :
    Inv (s.modSlot d fun D => { D with rep := o }) ∧
      ∀ q, repOf s d = some q → Orphan (s.modSlot d fun D => { D with rep := o }) q := by
  cases hD : s.slots d with
  | none => rw [modSlot_of_dead hD]; exact ⟨h, fun q hq => by rw [repOf_of_dead hD] at hq; cases hq⟩
  | some D =>
    rw [modSlot_of_slot hD]
    obtain ⟨hI, ho⟩ := inv_setSlot (V' := { D with rep := o }) h (var_lt h hD) (fun n e => .inr (hn n e))
      fun q hq => .inr (hd q hq)
    exact ⟨hI, fun q hq => ho q hq fun e => (hn q e).1 d hq⟩

/-- `old_rep_->notify_callbacks()` and `rep_ = o`, in either order -/
theorem inv_notifySetVarRep {s : State} (h : Inv s) {d q : Nat} {Q : Rep} {o : Option Nat}
    (hq : repOf s d = some q) (hQ : s.reps q = some Q)
    (hn : ∀ n, o = some n → Adoptable s d n) :
    Inv ((weakNotify q s).modSlot d fun D => { D with rep := o }) ∧
      Orphan ((weakNotify q s).modSlot d fun D => { D with rep := o }) q ∧
      ((weakNotify q s).modSlot d fun D => { D with rep := o }).reps q = some { Q with cbs := [] } := by
  have hfn := map_reps_of_mod Rep.fn (reps_weakNotify q s) fun _ _ => rfl
  have hQ1 : (weakNotify q s).reps q = some { Q with cbs := [] } := by
    rw [reps_weakNotify, if_pos rfl, hQ]; rfl
  have hrep1 := repOf_weakNotify q s
  obtain ⟨hI2, horq⟩ := inv_setVarRep (d := d) (o := o) (inv_weakNotify h q)
    (fun n e => by
      obtain ⟨ho, N, hN, hp⟩ := hn n e
      have hnq : n ≠ q := fun h => ho d (h ▸ hq)
      refine ⟨fun w => by rw [hrep1]; exact ho w, N, by rw [reps_weakNotify, if_neg hnq]; exact hN, fun p hpp => ?_⟩
      obtain ⟨P, f, hP, hPf, hfr⟩ := hp p hpp
      obtain ⟨P', hP', hPf'⟩ := (FnFrom.of_map_eq hfn).2 p P f hP hPf
      exact ⟨P', f, hP', hPf', hfr⟩)
    (fun q' hq' => by rw [hrep1, hq] at hq'; cases hq'; exact ⟨_, hQ1, rfl⟩)
  exact ⟨hI2, horq q (by rw [hrep1]; exact hq), by rw [reps_modSlot]; exact hQ1⟩

theorem inv_freeRep {s : State} (h : Inv s) {q : Nat} {Q : Rep} (ho : Orphan s q) (hq : s.reps q = some Q)
    (hfn : Q.fn = none) : Inv (s.setRep q none) := by
  have hfwd : ∀ x X, (s.setRep q none).reps x = some X → s.reps x = some X := by
    intro x X hX; rw [reps_setRep] at hX; split at hX
    · cases hX
    · exact hX
  -- a representation that a variable stores stays
  have hbwd : ∀ {x X v}, s.reps x = some X → repOf s v = some x → (s.setRep q none).reps x = some X := by
    intro x X v hX hv; rw [reps_setRep, if_neg fun (he : x = q) => ho v (he ▸ hv)]; exact hX
  have hfun : ∀ x X f, s.reps x = some X → X.fn = some f → ∃ X', (s.setRep q none).reps x = some X' ∧ X'.fn = some f := by
    intro x X f hX hXf
    refine ⟨X, ?_, hXf⟩
    rw [reps_setRep, if_neg fun he => ?_]; exact hX
    subst he; rw [hq] at hX; cases hX; rw [hfn] at hXf; cases hXf
  have hfrom : FnFrom s (s.setRep q none) := fun x X f hX hXf => ⟨X, hfwd x X hX, hXf⟩
  refine .of ⟨fun v r hv => ?_, h.repUniq, h.anonBound, fun x X hX => h.repBound x X (hfwd x X hX)⟩
    ⟨fun hcv => ?_, fun hX => h.regOk.bwd (hfwd _ _ hX), fun x X hX => h.cbsNodup x X (hfwd x X hX)⟩
    (h.parOk.mono (fun _ _ hw => hw) (fun x X hX => ⟨X, hfwd x X hX, .inl rfl⟩)
      fun x X f _ hX hXf _ => hfun x X f hX hXf)
    (h.trkOk.mono rfl hfrom fun x X f _ hX hXf _ => hfun x X f hX hXf)
    (h.fnOk.mono (fun v V hV _ => ⟨V, hV⟩) (fun c p hp _ => ⟨p, hp⟩) hfrom)
  · obtain ⟨R, hR⟩ := h.repAlive v r hv
    exact ⟨R, hbwd hR hv⟩
  · obtain ⟨r, R, hr, hR, hm⟩ := h.regOk.fwd hcv
    exact ⟨r, R, hr, hbwd hR hr, hm⟩

theorem inv_kill0 {s : State} (h : Inv s) {v : Nat} (hv : repOf s v = none)
    (hno : ¬ Owned s v) (hnp : ¬ Pinned s v) : Inv (s.setSlot v none) := by
  have hrep : ∀ w, repOf (s.setSlot v none) w = repOf s w := by
    intro w; rw [repOf_setSlot]; split
    · rename_i hw; rw [hw, hv]; rfl
    · rfl
  have hsl : ∀ w V, (s.setSlot v none).slots w = some V → s.slots w = some V := by
    intro w V hV; rw [slots_setSlot] at hV; split at hV
    · cases hV
    · exact hV
  refine .of ⟨fun w r hw => h.repAlive w r (by rw [← hrep]; exact hw),
      fun w1 w2 r h1 h2 => h.repUniq w1 w2 r (by rw [← hrep]; exact h1) (by rw [← hrep]; exact h2),
      fun w V hV => h.anonBound w V (hsl w V hV), h.repBound⟩
    (h.regOk.congr hrep rfl fun _ => rfl) (h.parOk.congr hrep (fun _ => rfl) fun _ => rfl)
    (h.trkOk.congr rfl fun _ => rfl)
    (h.fnOk.mono ?_ (fun c p hp _ => ⟨p, hp⟩) fun _ X f hX hf => ⟨X, hX, hf⟩)
  intro w V hV hor
  have hwv : w ≠ v := fun he => by subst he; exact hor.elim hnp hno
  exact ⟨V, by rw [slots_setSlot, if_neg hwv]; exact hV⟩

theorem modSlot_setRep (s : State) (v : Nat) (g : SVar → SVar) (r : Nat) (o : Option Rep) :
    (s.setRep r o).modSlot v g = (s.modSlot v g).setRep r o := by
  unfold State.modSlot
  rw [slots_setRep]
  cases s.slots v <;> rfl

theorem setSlot_modSlot (s : State) (v : Nat) (g : SVar → SVar) (o : Option SVar) :
    (s.modSlot v g).setSlot v o = s.setSlot v o := by
  unfold State.modSlot
  cases s.slots v with
  | none => rfl
  | some V =>
    simp only [State.setSlot]
    congr 1; funext x; by_cases hx : x = v <;> simp [hx]

theorem inv_eraseOrphan {s : State} (h : Inv s) {q : Nat} {Q : Rep} (ho : Orphan s q)
    (hq : s.reps q = some Q) (hfn : Q.fn = none) : Inv (eraseRep q s) := by
  unfold eraseRep
  exact inv_freeRep (Q := { Q with cbs := [] }) (inv_weakNotify h q) (fun w => by rw [repOf_weakNotify]; exact ho w)
    (by rw [reps_weakNotify, if_pos rfl, hq]; rfl) hfn

/-- `~trackable` of the old representation `q` (notify the weak pointers), free it, store `o` in the variable -/
def swapVar (v q : Nat) (o : Option Nat) (s : State) : State :=
  ((weakNotify q s).setRep q none).modSlot v fun V => { V with rep := o }

theorem deleteRep_modSlot (v q : Nat) (o : Option Nat) (s : State) :
    (deleteRep q s).modSlot v (fun V => { V with rep := o }) = swapVar v q o (destroyRep (fuel s) q s) := rfl

@[slotg_simp] theorem reps_swapVar (v q : Nat) (o : Option Nat) (s : State) (x : Nat) :
    (swapVar v q o s).reps x = if x = q then none else s.reps x := by
  unfold swapVar; simp only [slotg_simp]; grind
@[slotg_simp] theorem slots_swapVar (v q : Nat) (o : Option Nat) (s : State) (x : Nat) :
    (swapVar v q o s).slots x = if x = v then (s.slots x).map (fun V => { V with rep := o }) else s.slots x := by
  unfold swapVar; simp only [slotg_simp]
@[slotg_simp] theorem repOf_swapVar (v q : Nat) (o : Option Nat) (s : State) (w : Nat) :
    repOf (swapVar v q o s) w = if w = v then (if (s.slots w).isSome then o else none) else repOf s w := by
  simp only [repOf, slots_swapVar]
  by_cases h : w = v
  · simp only [h, if_true]; cases s.slots v <;> simp
  · simp only [h, if_false]
@[slotg_simp] theorem trks_swapVar (v q : Nat) (o : Option Nat) (s : State) : (swapVar v q o s).trks = s.trks := by
  unfold swapVar; simp only [slotg_simp]
@[slotg_simp] theorem err_swapVar (v q : Nat) (o : Option Nat) (s : State) : (swapVar v q o s).err = s.err := by
  unfold swapVar; simp only [slotg_simp]

theorem inv_swapVar {s : State} (h : Inv s) {v q : Nat} {Q : Rep}
    (hv : repOf s v = some q) (hq : s.reps q = some Q) (hfn : Q.fn = none) :
    Inv (swapVar v q none s) := by
  -- notify, let go of the representation, free it
  obtain ⟨h2, ho2, hq2⟩ := inv_notifySetVarRep (o := none) h hv hq fun _ e => nomatch e
  unfold swapVar
  rw [modSlot_setRep]
  exact inv_freeRep h2 ho2 hq2 hfn

theorem inv_killVar {s : State} (h : Inv s) {v r' : Nat} {R' : Rep} (hv : repOf s v = some r')
    (hr : s.reps r' = some R') (hfn : R'.fn = none) (hno : ¬ Owned s v) (hnp : ¬ Pinned s v) :
    Inv ((eraseRep r' s).setSlot v none) := by
  have hsub : ∀ x X, (swapVar v r' none s).reps x = some X → s.reps x = some X := by
    intro x X hX
    rw [reps_swapVar] at hX; split at hX
    · cases hX
    · exact hX
  have := inv_kill0 (inv_swapVar h hv hr hfn) (v := v) (by rw [repOf_swapVar, if_pos rfl]; split <;> rfl)
    (fun ⟨x, X, f, hX, hf, ho⟩ => hno ⟨x, X, f, hsub x X hX, hf, ho⟩)
    (fun ⟨x, X, fid, hX, hf⟩ => hnp ⟨x, X, fid, hsub x X hX, hf⟩)
  rwa [swapVar, setSlot_modSlot] at this

theorem casc_killVar {s s3 : State} (hc : Casc s s3) {v r' : Nat} {R' : Rep} (ho : Owned s v)
    (hrep : repOf s3 v = some r') (hr : s3.reps r' = some R') : Casc s ((eraseRep r' s3).setSlot v none) where
  nextRep := by rw [nextRep_setSlot, nextRep_eraseRep]; exact hc.nextRep
  reps x X' hx := by
    rw [setSlot_reps, reps_eraseRep] at hx; split at hx
    · cases hx
    · exact hc.reps x X' hx
  slots w V' hw := by
    rw [slots_setSlot, slots_eraseRep] at hw; split at hw
    · cases hw
    · exact hc.slots w V' hw
  slotsKeep w hw := by
    rw [slots_setSlot, if_neg (fun he : w = v => hw (he ▸ ho)), slots_eraseRep]; exact hc.slotsKeep w hw
  conns c := by
    rw [conns_setSlot, conns_eraseRep r' s3 R' hr]
    split
    · -- a connection registered on `r'` is nulled
      rcases hc.conns c with h5c | ⟨h5c, w, hw⟩ | ⟨h5c, ho'⟩
      · cases hcc : s3.conns c with
        | none => left; rw [← h5c, hcc]; rfl
        | some o =>
          cases o with
          | none => left; rw [← h5c, hcc]; rfl
          | some w => right; left; exact ⟨rfl, w, by rw [← h5c, hcc]⟩
      · rw [h5c]; right; left; exact ⟨rfl, w, hw⟩
      · rw [h5c]; right; right; exact ⟨rfl, ho'⟩
    · exact hc.conns c
  trkDom t := by rw [trks_setSlot, trks_eraseRep]; exact hc.trkDom t
  trkEnt t T' x ht hx := by rw [trks_setSlot, trks_eraseRep] at ht; exact hc.trkEnt t T' x ht hx
  trkFlags t T' x ht hx := by rw [trks_setSlot, trks_eraseRep] at ht; exact hc.trkFlags t T' x ht hx
  trkClr t T' ht := by rw [trks_setSlot, trks_eraseRep] at ht; exact hc.trkClr t T' ht
  killed w x hw := by
    rcases hc.killed w x hw with hk | ⟨hk1, hk2⟩
    · by_cases hwv : w = v
      · subst hwv; rw [hrep] at hk; cases hk
        exact .inr ⟨by rw [slots_setSlot, if_pos rfl], by rw [setSlot_reps, reps_eraseRep, if_pos rfl]⟩
      · exact .inl (by rw [repOf_setSlot, if_neg hwv, repOf_eraseRep]; exact hk)
    · exact .inr ⟨by rw [slots_setSlot, slots_eraseRep]; split <;> trivial,
        by rw [setSlot_reps, reps_eraseRep]; split <;> trivial⟩
  orphanKeep x X hx ho' := by
    obtain ⟨X3, hX3⟩ := hc.orphanKeep x X hx ho'
    have hxr : x ≠ r' := fun he => by
      obtain ⟨V, hV, hVr⟩ := repOf_eq.mp hrep
      exact ho' v (repOf_eq.mpr ⟨V, hc.slots v V hV, he ▸ hVr⟩)
    exact ⟨X3, by rw [setSlot_reps, reps_eraseRep, if_neg hxr]; exact hX3⟩
  err he := by rw [err_setSlot, err_eraseRep]; exact hc.err he

theorem casc_kill0 {s s3 : State} (hc : Casc s s3) {v : Nat} (ho : Owned s v)
    (hrep : repOf s3 v = none) : Casc s (s3.setSlot v none) where
  nextRep := hc.nextRep
  reps := hc.reps
  slots w V' hw := by
    rw [slots_setSlot] at hw; split at hw
    · cases hw
    · exact hc.slots w V' hw
  slotsKeep w hw := by
    rw [slots_setSlot, if_neg (fun he : w = v => hw (he ▸ ho))]; exact hc.slotsKeep w hw
  conns := hc.conns
  trkDom := hc.trkDom
  trkEnt := hc.trkEnt
  trkFlags := hc.trkFlags
  trkClr := hc.trkClr
  killed w x hw := by
    rcases hc.killed w x hw with hk | ⟨hk1, hk2⟩
    · have hwv : w ≠ v := fun he => by rw [he, hrep] at hk; cases hk
      exact .inl (by rw [repOf_setSlot, if_neg hwv]; exact hk)
    · exact .inr ⟨by rw [slots_setSlot]; split <;> trivial, hk2⟩
  orphanKeep := hc.orphanKeep
  err := hc.err

theorem anyRep_iff {s : State} (hb : ∀ r R, s.reps r = some R → r < s.nextRep) (p : Nat → Rep → Bool) :
    anyRep s p = true ↔ ∃ r R, s.reps r = some R ∧ p r R = true := by
  unfold anyRep
  rw [List.any_eq_true]
  constructor
  · rintro ⟨r, _, hr⟩
    cases hR : s.reps r with
    | none => simp [hR] at hr
    | some R => exact ⟨r, R, hR, by simpa [hR] using hr⟩
  · rintro ⟨r, R, hR, hp⟩
    exact ⟨r, List.mem_range.mpr (hb r R hR), by simpa [hR] using hp⟩

theorem ownedBy_iff {s : State} (hb : ∀ r R, s.reps r = some R → r < s.nextRep) (v : Nat) :
    ownedBy s v = true ↔ Owned s v := by
  unfold ownedBy Owned
  rw [anyRep_iff hb]
  have key : ∀ R : Rep, R.ownsVar v = true ↔ ∃ f, R.fn = some f ∧ f.owns = some v := fun R => by
    unfold Rep.ownsVar; cases R.fn <;> simp
  simp only [key]
  exact ⟨fun ⟨r, R, hR, f, h⟩ => ⟨r, R, f, hR, h⟩, fun ⟨r, R, f, hR, h⟩ => ⟨r, R, hR, f, h⟩⟩

theorem ownedCBy_iff {s : State} (hb : ∀ r R, s.reps r = some R → r < s.nextRep) (c : Nat) :
    ownedCBy s c = true ↔ OwnedC s c := by
  unfold ownedCBy OwnedC
  rw [anyRep_iff hb]
  have key : ∀ R : Rep, R.ownsConn c = true ↔ ∃ f, R.fn = some f ∧ f.ownsC = some c := fun R => by
    unfold Rep.ownsConn; cases R.fn <;> simp
  simp only [key]
  exact ⟨fun ⟨r, R, hR, f, h⟩ => ⟨r, R, f, hR, h⟩, fun ⟨r, R, f, hR, h⟩ => ⟨r, R, hR, f, h⟩⟩

theorem refs_iff (R : Rep) (v : Nat) : R.refs v = true ↔ ∃ fid, R.fn = some (.sref fid v) := by
  unfold Rep.refs
  split
  · rename_i fid v' hf; simp [hf]
  · rename_i hn
    simp only [Bool.false_eq_true, false_iff]
    exact fun ⟨fid, hf⟩ => hn fid v hf

theorem pinned_iff {s : State} (hb : ∀ r R, s.reps r = some R → r < s.nextRep) (v : Nat) :
    pinned s v = true ↔ Pinned s v := by
  unfold pinned Pinned
  rw [anyRep_iff hb]
  simp only [refs_iff]
  exact ⟨fun ⟨r, R, hR, fid, h⟩ => ⟨r, R, fid, hR, h⟩, fun ⟨r, R, fid, hR, h⟩ => ⟨r, R, hR, fid, h⟩⟩

theorem inv_err {s : State} (h : Inv s) (b : Bool) : Inv { s with err := b } :=
  ⟨h.repAlive, h.repUniq, h.connReg, h.cbsConn, h.regUniq, h.cbsNodup, h.parentOk, h.trkReg, h.trkEnt, h.trkNodup,
   h.refOk, h.ownOk, h.nestOk, h.anonBound, h.repBound, h.regHeld, h.ownCOk⟩

theorem Inv.bound {s : State} (h : Inv s) : RepBound s := fun x hx => by
  obtain ⟨X, hX⟩ := Option.isSome_iff_exists.mp hx
  exact h.repBound x X hX

/-- `destroyRep` keeps the invariant and only does what cascades do (that it leaves `r` without functor holds of
    every state: `destroyRep_noFn`) -/
theorem destroyRep_spec : ∀ (k r : Nat) (s : State), Inv s → mu s < k →
    Casc s (destroyRep k r s) ∧ Inv (destroyRep k r s) := by
  intro k
  induction k with
  | zero =>
    intro r s h hm
    exact absurd hm (Nat.not_lt_zero _)
  | succ k ih =>
    intro r s h hm
    rw [destroyRep_succ]
    cases hr : s.reps r with
    | none => exact ⟨Casc.refl s, h⟩
    | some R =>
      simp only []
      cases hf : R.fn with
      | none =>
        exact ⟨casc_setRep_same hr (.inr rfl) (.inl rfl) (.inl (by simp [hf])) (fun _ hc => hc),
          inv_setRep_same h hr rfl (by simp [hf]) rfl⟩
      | some f =>
        simp only []
        have hI2 : Inv (dropFnF r R f s) := inv_dropFn h hr hf
        have hC2 : Casc s (dropFnF r R f s) := casc_dropFn hr
        have hm2 : mu (dropFnF r R f s) < k := by have := mu_dropFn r R f s h.bound hr hf; omega
        generalize dropFnF r R f s = s2 at hI2 hC2 hm2 ⊢
        cases ho : f.owns with
        | none =>
          simp only []
          cases hoc : f.ownsC with
          | none => exact ⟨hC2, hI2⟩
          | some c =>
            simp only []
            have hOwnC : OwnedC s c := ⟨r, R, f, hr, hf, hoc⟩
            by_cases hob : ownedCBy s2 c = true
            · rw [if_pos hob]; exact ⟨hC2, hI2⟩
            · rw [if_neg hob]
              have hNO2 : ¬ OwnedC s2 c := fun hh =>
                hob ((ownedCBy_iff hI2.repBound c).mpr hh)
              exact ⟨casc_killConn hC2 hOwnC, inv_killConn hI2 hNO2⟩
        | some w =>
          simp only []
          have hOwn : Owned s w := ⟨r, R, f, hr, hf, ho⟩
          have hNP : ¬ Pinned s w := by
            rintro ⟨x, X, fid, hx, hfx⟩
            exact (h.refOk x X fid w hx hfx).2.2 hOwn
          by_cases hob : ownedBy s2 w = true
          · rw [if_pos hob]; exact ⟨hC2, hI2⟩
          · rw [if_neg hob]
            have hNO2 : ¬ Owned s2 w := fun hh =>
              hob ((ownedBy_iff hI2.repBound w).mpr hh)
            have hNP2 : ¬ Pinned s2 w := fun hh => hNP (hC2.pinned hh)
            cases hs : s2.slots w with
            | none => exact ⟨hC2, hI2⟩
            | some V =>
              simp only []
              cases hvr : V.rep with
              | none =>
                have hrep : repOf s2 w = none := by simp [repOf, hs, hvr]
                exact ⟨casc_kill0 hC2 hOwn hrep, inv_kill0 hI2 hrep hNO2 hNP2⟩
              | some r' =>
                simp only []
                have hrep : repOf s2 w = some r' := by simp [repOf, hs, hvr]
                obtain ⟨hC3, hI3⟩ := ih r' s2 hI2 hm2
                -- `w` still holds `r'` after the nested cascade
                have hs3 : (destroyRep k r' s2).slots w = s2.slots w :=
                  hC3.slotsKeep w hNO2
                have hrep3 : repOf (destroyRep k r' s2) w = some r' := by
                  simp [repOf, hs3, hs, hvr]
                obtain ⟨R3, hR3⟩ := hI3.repAlive w r' hrep3
                -- `k > 0` since `mu s2 < k`: `destroyRep_noFn` speaks of positive fuel
                obtain ⟨k', rfl⟩ : ∃ k', k = k' + 1 := ⟨k - 1, by omega⟩
                exact ⟨casc_killVar (hC2.trans hC3) hOwn hrep3 hR3,
                  inv_killVar hI3 hrep3 hR3 (destroyRep_noFn k' r' s2 R3 hR3) (fun hh => hNO2 (hC3.owned hh))
                    fun hh => hNP2 (hC3.pinned hh)⟩

theorem notifyTail_spec {s : State} (h : Inv s) (r : Nat) : Casc s (notifyTail r s) ∧ Inv (notifyTail r s) := by
  unfold notifyTail
  split
  · exact destroyRep_spec (fuel s) r s h (mu_lt_fuel s)
  · exact ⟨Casc.refl s, h⟩

theorem notifyInv_spec : ∀ (k r : Nat) (s : State), Inv s → nu s < k →
    Casc s (notifyInv k r s) ∧ Inv (notifyInv k r s) := by
  intro k
  induction k with
  | zero => intro r s _ hm; exact absurd hm (Nat.not_lt_zero _)
  | succ k ih =>
    intro r s h hm
    rw [notifyInv_succ]
    cases hr : s.reps r with
    | none => exact ⟨Casc.refl s, h⟩
    | some R =>
      simp only []
      have hI1 := inv_setRep_noParent h hr false
      have hC1 := casc_setRep_noParent hr
      cases hp : R.parent with
      | none =>
        obtain ⟨hC3, hI3⟩ := notifyTail_spec hI1 r
        exact ⟨hC1.trans hC3, hI3⟩
      | some p =>
        have := nu_clrPar r R s p h.bound hr hp
        unfold clrParF at this
        obtain ⟨hC2, hI2⟩ := ih p _ hI1 (by omega)
        obtain ⟨hC3, hI3⟩ := notifyTail_spec hI2 r
        exact ⟨hC1.trans (hC2.trans hC3), hI3⟩

theorem entryActive_iff (s : State) (t r : Nat) :
    entryActive s t r = true ↔ ∃ T, s.trks t = some T ∧ (r, true) ∈ T.entries := by
  unfold entryActive
  split <;> simp_all

theorem trkFold_spec (t : Nat) : ∀ (l : List (Nat × Bool)) (s : State), Inv s →
    Casc s (l.foldl (trkStep t) s) ∧ Inv (l.foldl (trkStep t) s) ∧
      ∀ e ∈ l, entryActive (l.foldl (trkStep t) s) t e.1 = false := by
  intro l
  induction l with
  | nil => intro s h; exact ⟨Casc.refl s, h, by simp⟩
  | cons e l ih =>
    intro s h
    simp only [List.foldl_cons]
    have step : Casc s (trkStep t s e) ∧ Inv (trkStep t s e) ∧ entryActive (trkStep t s e) t e.1 = false := by
      unfold trkStep
      by_cases ha : entryActive s t e.1 = true
      · simp only [ha, if_true]
        obtain ⟨hC, hI⟩ := notifyInv_spec (fuel s) e.1 s h (nu_lt_fuel s)
        refine ⟨hC, hI, ?_⟩
        cases hact : entryActive (notifyInv (fuel s) e.1 s) t e.1 with
        | false => rfl
        | true =>
          obtain ⟨T, hT, hm⟩ := (entryActive_iff _ _ _).mp hact
          obtain ⟨R', f, hR', hf, -⟩ := hI.trkEnt t T e.1 hT hm
          have := notifyInv_noFn _ e.1 s R' hR'
          simp [hf] at this
      · simp only [ha]
        exact ⟨Casc.refl s, h, by simpa using ha⟩
    obtain ⟨hC1, hI1, hA1⟩ := step
    obtain ⟨hC2, hI2, hA2⟩ := ih _ hI1
    refine ⟨hC1.trans hC2, hI2, ?_⟩
    intro e' he'
    rcases List.mem_cons.mp he' with rfl | hm
    · cases hact : entryActive (l.foldl (trkStep t) (trkStep t s e')) t e'.1 with
      | false => rfl
      | true =>
        obtain ⟨T, hT, hm⟩ := (entryActive_iff _ _ _).mp hact
        obtain ⟨T1, hT1, hm1⟩ := hC2.trkEnt t T e'.1 hT hm
        have : entryActive (trkStep t s e') t e'.1 = true := (entryActive_iff _ _ _).mpr ⟨T1, hT1, hm1⟩
        rw [hA1] at this; exact absurd this (by simp)
    · exact hA2 e' hm

end Sigc.SlotG
