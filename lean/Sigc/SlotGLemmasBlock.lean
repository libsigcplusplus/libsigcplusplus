import Sigc.SlotGLemmasTrace
/-!
  What the `SlotG` model does to the slot-variable entries — `rep_` and the `blocked_` flag, hence `Blk` — for *all*
  states (no reachability hypothesis), and the branches of the copy, move and assignment operations as equations
  (`apply_cpS`, `apply_mvS`, `apply_asg_same`, `_empty`, `_valid`).  A cascade
  never modifies an entry, it only erases entries (`Tr.erases`); allocation leaves the program's variables alone
  (`Gr.keeps`); `deleteRepWithCheck` and `exchangeRep` touch one entry and keep its `blocked` flag, and the representation
  `deleteRepWithCheck` found in the variable is gone afterwards (`deleteRepWithCheck_gone`).  The blocking
  theorems of `Sigc/Props/SlotG.lean` read these off the branch of `apply` they are in.  The `Blk` lemmas on how `slots`
  and `nextRep` read after an update repeat those of `SlotGLemmas` for `simp`.  At the end: the queries
  (`blocked_query`, `blockedC_query`, `Op.isQuery`), and the states `exA` … `exF` with the examples that show the
  hypotheses of the blocking theorems can be met; `Sigc/Props/SlotG.lean` repeats each example under the theorem it
  belongs to.
-/
namespace Sigc.SlotG
namespace Blk

@[simp] theorem setRep_slots (s : State) (r o) : (s.setRep r o).slots = s.slots := slots_setRep s r o
@[simp] theorem setTrk_slots (s : State) (r o) : (s.setTrk r o).slots = s.slots := slots_setTrk s r o
@[simp] theorem setConn_slots (s : State) (r o) : (s.setConn r o).slots = s.slots := slots_setConn s r o
theorem setSlot_slots (s : State) (v : Nat) (o : Option SVar) (w : Nat) :
    (s.setSlot v o).slots w = if w = v then o else s.slots w := slots_setSlot s v o w
@[simp] theorem modSlot_nextRep (s : State) (v g) : (s.modSlot v g).nextRep = s.nextRep := nextRep_modSlot s v g
@[simp] theorem allocRep_slots (R s) : (allocRep R s).slots = s.slots := slots_allocRep R s
@[simp] theorem allocRep_nextRep (R s) : (allocRep R s).nextRep = s.nextRep + 1 := nextRep_allocRep R s
@[simp] theorem nullConns_slots (cs s) : (nullConns cs s).slots = s.slots := rfl

theorem cloneRep_slots (r : Nat) (s : State) (hv : ∀ R, s.reps r = some R → R.call = true) (w : Nat)
    (hw : w < anonBase) : (cloneRep r s).slots w = s.slots w :=
  (cloneRep_gr (wr := (anonBase ≤ ·)) (c0 := none) (fun _ h => h) r s hv).keeps.2 w (Nat.not_le_of_lt hw)

theorem newRep_slots (f : Fun) (s : State) (w : Nat) (hw : w < anonBase) :
    (newRep f s).slots w = s.slots w :=
  (newRep_gr (wr := (anonBase ≤ ·)) (c0 := none) (fun _ h => h) f s).keeps.2 w (Nat.not_le_of_lt hw)

end Blk
open Blk

theorem destroyRep_slots_mono : ∀ k r s v V', (destroyRep k r s).slots v = some V' → s.slots v = some V' :=
  fun k r s => (destroyRep_tr (ex := NF.noEx) (fl := True) (c0 := none) k r s (.inl trivial)).erases

theorem deleteRep_slots_mono : ∀ r s v V', (deleteRep r s).slots v = some V' → s.slots v = some V' :=
  fun r _ => (deleteRep_tr (ex := NF.noEx) (fl := True) (c0 := none) r (.inl trivial)).erases

theorem notifyInv_slots_mono : ∀ k r s v V', (notifyInv k r s).slots v = some V' → s.slots v = some V' :=
  fun k r s => (notifyInv_tr (ex := NF.noEx) (fl := True) (c0 := none) k r s (.inl trivial)).erases

theorem repDisconnect_slots_mono : ∀ r s v V', (repDisconnect r s).slots v = some V' → s.slots v = some V' :=
  fun _ _ => (repDisconnect_tr (ex := fun _ => True) (fl := True) (c0 := none) trivial (.inl trivial)).erases

theorem trkNotify_slots_mono : ∀ t s v V', (trkNotify t s).slots v = some V' → s.slots v = some V' :=
  fun t _ => (trkNotify_tr (ex := NF.noEx) (fl := True) (c0 := none) t (.inl trivial)).erases

namespace Blk

theorem of_modSlot {s s' : State} {v : Nat} {g : SVar → SVar}
    (h : ∀ w W', s'.slots w = some W' → (s.modSlot v g).slots w = some W') {w : Nat}
    {W' : SVar} (hW' : s'.slots w = some W') :
    ∃ W, s.slots w = some W ∧ (w ≠ v → W' = W) ∧ (w = v → W' = g W) := by
  have h1 := h w W' hW'
  rw [slots_modSlot] at h1
  split at h1
  · rename_i hw
    obtain ⟨W, hW, rfl⟩ := Option.map_eq_some_iff.mp h1
    exact ⟨W, hW, fun h => absurd hw h, fun _ => rfl⟩
  · rename_i hw
    exact ⟨W', h1, fun _ => rfl, fun h => absurd h hw⟩

/-- `delete_rep_with_check` on `v`: other variables are only erased; `v` itself, if it survives, keeps its
    `blocked` flag and either lost its representation or (the representation died during `disconnect()`)
    is completely unchanged. -/
theorem deleteRepWithCheck_slots (v : Nat) (s : State) (w : Nat) (W' : SVar)
    (h : (deleteRepWithCheck v s).slots w = some W') :
    ∃ W, s.slots w = some W ∧ W'.blocked = W.blocked ∧ (w ≠ v → W' = W) ∧
      (w = v → W'.rep = none ∨ (W' = W ∧ ∃ r, W.rep = some r ∧ (deleteRepWithCheck v s).reps r = none)) := by
  unfold deleteRepWithCheck at h ⊢
  split at h
  · rename_i hr
    refine ⟨W', h, rfl, fun _ => rfl, fun hw => .inl ?_⟩
    subst hw
    simpa only [repOf, h] using hr
  · rename_i r hr
    simp only [] at h ⊢
    split at h
    · obtain ⟨W, hW, h1, h2⟩ := of_modSlot
        (fun w W' hw => by rw [← slots_weakNotify]; exact deleteRep_slots_mono _ _ w W' hw) h
      refine ⟨W, repDisconnect_slots_mono _ _ _ _ hW, ?_, h1, fun hw => .inl (by rw [h2 hw])⟩
      by_cases hw : w = v
      · rw [h2 hw]
      · rw [h1 hw]
    · rename_i hs
      have hW := repDisconnect_slots_mono _ _ _ _ h
      refine ⟨W', hW, rfl, fun _ => rfl, fun hw => .inr ⟨rfl, r, ?_, ?_⟩⟩
      · subst hw; simpa only [repOf, hW] using hr
      · rw [if_neg hs]; exact Option.not_isSome_iff_eq_none.mp hs

/-- the tail of both assignment operators: other variables are only erased; the destination, if it survives,
    keeps its flag and holds the new representation -/
theorem exchangeRep_slots (d n : Nat) (s : State) (w : Nat) (W' : SVar)
    (h : (exchangeRep d n s).slots w = some W') :
    ∃ W, s.slots w = some W ∧ W'.blocked = W.blocked ∧ (w ≠ d → W' = W) ∧ (w = d → W'.rep = some n) := by
  have hm : ∃ s0 : State, s0.slots = s.slots ∧ ∀ w W', (exchangeRep d n s).slots w = some W' →
      (s0.modSlot d fun D => { D with rep := some n }).slots w = some W' := by
    unfold exchangeRep
    split
    · exact ⟨s, rfl, fun _ _ h => h⟩
    · exact ⟨_, slots_modRep _ _ _, fun w W' hw => by
        rw [← slots_weakNotify]; exact deleteRep_slots_mono _ _ w W' hw⟩
  obtain ⟨s0, hs0, hm⟩ := hm
  obtain ⟨W, hW, h1, h2⟩ := of_modSlot hm h
  refine ⟨W, hs0 ▸ hW, ?_, h1, fun hw => by rw [h2 hw]⟩
  by_cases hw : w = d
  · rw [h2 hw]
  · rw [h1 hw]

theorem deleteRepWithCheck_dest {s : State} {d : Nat} {D : SVar} (hD : s.slots d = some D) :
    (∀ D', (deleteRepWithCheck d s).slots d = some D' →
      D'.blocked = D.blocked ∧
      (D'.rep = none ∨ (D' = D ∧ ∃ r, D.rep = some r ∧ (deleteRepWithCheck d s).reps r = none))) ∧
    (∀ w W', w ≠ d → (deleteRepWithCheck d s).slots w = some W' → s.slots w = some W') := by
  refine ⟨fun D' hD' => ?_, fun w W' hw h => ?_⟩
  · obtain ⟨W, h1, h2, _, h4⟩ := deleteRepWithCheck_slots d s d D' hD'
    cases hD.symm.trans h1
    exact ⟨h2, h4 rfl⟩
  · obtain ⟨W, h1, _, h3, _⟩ := deleteRepWithCheck_slots d s w W' h
    rw [h3 hw]; exact h1

/-- the representation `delete_rep_with_check()` found in the variable is gone afterwards -/
theorem deleteRepWithCheck_gone (v : Nat) (s : State) :
    ∀ r, repOf s v = some r → (deleteRepWithCheck v s).reps r = none := by
  intro r hr
  unfold deleteRepWithCheck
  simp only [hr]
  split
  · exact NF.deleteRep_gone ..
  · rename_i hn; exact Option.not_isSome_iff_eq_none.mp hn

theorem exchangeRep_dest {s0 : State} {d n : Nat} {b : Bool} (h0 : ∀ D0, s0.slots d = some D0 → D0.blocked = b)
    {D' : SVar} (h : (exchangeRep d n s0).slots d = some D') : D'.blocked = b ∧ D'.rep = some n := by
  obtain ⟨W, h1, h2, _, h4⟩ := exchangeRep_slots _ _ _ _ _ h
  exact ⟨h2.trans (h0 W h1), h4 rfl⟩

theorem exchangeRep_other {s0 : State} {d n w : Nat} (hw : w ≠ d) {W' : SVar}
    (h : (exchangeRep d n s0).slots w = some W') : s0.slots w = some W' := by
  obtain ⟨W, h1, _, h3, _⟩ := exchangeRep_slots _ _ _ _ _ h
  rw [h3 hw]; exact h1

theorem blocked_of_modSlot {s : State} {d : Nat} {b : Bool} {D0 : SVar}
    (h : (s.modSlot d fun D => { D with blocked := b }).slots d = some D0) : D0.blocked = b := by
  rw [slots_modSlot, if_pos rfl] at h
  obtain ⟨D, -, rfl⟩ := Option.map_eq_some_iff.mp h
  rfl

theorem setBlocked_spec (s : State) (v : Nat) (b : Bool) (V : SVar) (hV : s.slots v = some V) :
    (s.modSlot v fun V => { V with blocked := b }).slots v = some { V with blocked := b } ∧
    blockedVar (s.modSlot v fun V => { V with blocked := b }) v = b ∧
    repOf (s.modSlot v fun V => { V with blocked := b }) v = repOf s v ∧
    (∀ w, w ≠ v → (s.modSlot v fun V => { V with blocked := b }).slots w = s.slots w) ∧
    (s.modSlot v fun V => { V with blocked := b }).reps = s.reps ∧
    (s.modSlot v fun V => { V with blocked := b }).trks = s.trks ∧
    (s.modSlot v fun V => { V with blocked := b }).conns = s.conns := by
  have h1 : (s.modSlot v fun V => { V with blocked := b }).slots v = some { V with blocked := b } := by
    rw [slots_modSlot, if_pos rfl, hV]; rfl
  refine ⟨h1, ?_, ?_, fun w hw => ?_, reps_modSlot .., trks_modSlot .., conns_modSlot ..⟩
  · simp only [blockedVar, h1]
  · simp only [repOf, h1, hV]
  · rw [slots_modSlot, if_neg hw]

theorem blockedVar_setSlot (s : State) (j : Nat) (V : SVar) : blockedVar (s.setSlot j (some V)) j = V.blocked := by
  simp only [blockedVar, slots_setSlot, if_true]

theorem named2 {a b : Nat} (h : (a < anonBase ∧ b < anonBase)) : a < anonBase ∧ b < anonBase := h

theorem named_of_check {s : State} {op : Op} {a b : Nat} (h : check s op = none) (hn : op.names.1 = [a, b]) :
    a < anonBase ∧ b < anonBase := by
  simpa [Op.named, hn] using (check_named h).1

theorem rep_of_nonempty {s : State} {x : Nat} {X : SVar} (hX : s.slots x = some X)
    (he : emptyVar s x = false) : ∃ r, X.rep = some r := by
  cases hr : X.rep with
  | none => simp [emptyVar, repObj, repOf, hX, hr] at he
  | some r => exact ⟨r, rfl⟩

theorem apply_cpS {s : State} {i : Nat} {X : SVar} (hX : s.slots i = some X) (j : Nat) :
    apply (.cpS j i) s = match X.rep with
      | none => s.setSlot j (some ⟨none, X.blocked⟩)
      | some r => if emptyVar s i then s.setSlot j (some ⟨none, false⟩)
        else (cloneRep r s).setSlot j (some ⟨some s.nextRep, X.blocked⟩) := by
  unfold apply; simp only [hX]; rfl

theorem apply_mvS {s : State} {i : Nat} {X : SVar} (hX : s.slots i = some X) (j : Nat) :
    apply (.mvS j i) s = match X.rep with
      | none => s.setSlot j (some ⟨none, X.blocked⟩)
      | some r => if hasParent s i then apply (.cpS j i) s
        else ((weakNotify r s).setSlot i (some ⟨none, false⟩)).setSlot j (some ⟨some r, X.blocked⟩) := by
  unfold apply; simp only [hX]; cases X.rep <;> rfl

theorem apply_asg_same {s : State} {d x : Nat} {X : SVar} (hX : s.slots x = some X) (hr : repOf s d = repOf s x) :
    apply (.asgS d x) s = s.modSlot d (fun D => { D with blocked := X.blocked }) ∧
    apply (.masgS d x) s = s.modSlot d (fun D => { D with blocked := X.blocked }) := by
  have e : (repOf s d == X.rep) = true := by rw [hr, repOf_of_slot hX]; exact beq_self_eq_true _
  constructor <;> (unfold apply; simp only [hX, e, if_true])

theorem apply_asg_empty {s : State} {d x : Nat} {X : SVar} (hX : s.slots x = some X)
    (hr : repOf s d ≠ repOf s x) (he : emptyVar s x = true) :
    apply (.asgS d x) s = deleteRepWithCheck d s ∧ apply (.masgS d x) s = deleteRepWithCheck d s := by
  have e : (repOf s d == X.rep) = false := by rw [← repOf_of_slot hX]; exact beq_false_of_ne hr
  constructor <;> (unfold apply; simp only [hX, e, he, if_true, Bool.false_eq_true, if_false])

theorem apply_asg_valid {s : State} {d x r : Nat} {X : SVar} (hX : s.slots x = some X)
    (hr : repOf s d ≠ repOf s x) (he : emptyVar s x = false) (hXr : X.rep = some r) :
    apply (.asgS d x) s =
      exchangeRep d s.nextRep ((cloneRep r s).modSlot d fun D => { D with blocked := X.blocked }) ∧
    apply (.masgS d x) s =
      if hasParent s x then
        exchangeRep d s.nextRep (cloneRep r (s.modSlot d fun D => { D with blocked := X.blocked }))
      else exchangeRep d r
        ((weakNotify r (s.modSlot d fun D => { D with blocked := X.blocked })).setSlot x (some ⟨none, false⟩)) := by
  have e : (repOf s d == some r) = false := by rw [← hXr, ← repOf_of_slot hX]; exact beq_false_of_ne hr
  constructor <;> (unfold apply; simp only [hX, hXr, e, he, Bool.false_eq_true, if_false])

end Blk

/-- `S1 = F(1)` blocked, its rep's parent = the rep of `S2 = bind(F2(2), ref(S1))`; `S3` rep-less -/
def Blk.exA : State := run [.mkS 1 (.fn 1), .mkS 2 (.sref 2 1), .blockS 1 true, .mkS0 3]
/-- `S1 = F(1)` blocked, no parent; `S2` rep-less, unblocked -/
def Blk.exB : State := run [.mkS 1 (.fn 1), .blockS 1 true, .mkS0 2]
/-- `S1` blocked and invalidated (`disconnect()`), still holding its representation -/
def Blk.exC : State := run [.mkS 1 (.fn 1), .blockS 1 true, .discS 1]
/-- two rep-less variables, `S2` blocked -/
def Blk.exD : State := run [.mkS0 1, .mkS0 2, .blockS 2 true]
/-- `S1 = F(1)` blocked, with connection `C1`; `C2` is an empty connection -/
def Blk.exE : State := run [.mkS 1 (.fn 1), .connS 1 1, .blockS 1 true, .newC 2]
/-- `S1 = F(1)`, `S2 = F(2)` blocked -/
def Blk.exF : State := run [.mkS 1 (.fn 1), .mkS 2 (.fn 2), .blockS 2 true]

example : check exA (.blockS 1 false) = none ∧ blockedVar exA 1 = true ∧
    blockedVar (apply (.blockS 1 false) exA) 1 = false := by decide +kernel

example : check exA (.unblockS 1) = none ∧ blockedVar exA 1 = true ∧
    blockedVar (apply (.unblockS 1) exA) 1 = false := by decide +kernel

example : connTarget exE 1 = some 1 ∧ exE.slots 1 = some ⟨some 0, true⟩ ∧
    blockedVar (apply (.blockC 1 false) exE) 1 = false ∧
    connTarget exE 2 = none ∧ check exE (.blockC 2 true) = none := by decide +kernel

example : connTarget exE 1 = some 1 ∧ exE.slots 1 = some ⟨some 0, true⟩ ∧
    blockedVar (apply (.unblockC 1) exE) 1 = false ∧
    connTarget exE 2 = none ∧ check exE (.unblockC 2) = none := by decide +kernel

theorem blocked_query (s : State) (v : Nat) :
    result s (.blockedS v) = b2s (blockedVar s v) ∧ apply (.blockedS v) s = s := ⟨rfl, rfl⟩

example : check exA (.blockedS 1) = none ∧ blockedVar exA 1 = true ∧ blockedVar exA 2 = false := by decide +kernel

/-- `connection::blocked()` -/
theorem blockedC_query (s : State) (c : Nat) :
    result s (.blockedC c) = (match connTarget s c with | some v => b2s (blockedVar s v) | none => "0") ∧
    apply (.blockedC c) s = s := ⟨rfl, rfl⟩

def Op.isQuery : Op → Bool
  | .blockedS _ | .emptyS _ | .boolS _ | .parentS _ | .callS _ _
  | .connectedC _ | .emptyC _ | .blockedC _ | .live _ => true
  | _ => false

example : Op.isQuery (.callS 1 2) = true ∧ Op.isQuery (.blockS 1 true) = false := by decide

-- a blocked, non-empty source: the flag is copied
example : exA.slots 1 = some ⟨some 0, true⟩ ∧ check exA (.cpS 4 1) = none ∧ emptyVar exA 1 = false ∧
    blockedVar (apply (.cpS 4 1) exA) 4 = true := by decide +kernel
-- a blocked, invalidated source: the copy is the default slot
example : exC.slots 1 = some ⟨some 0, true⟩ ∧ check exC (.cpS 4 1) = none ∧ emptyVar exC 1 = true ∧
    blockedVar (apply (.cpS 4 1) exC) 4 = false := by decide +kernel
-- a blocked, rep-less source: the flag is copied
example : exD.slots 2 = some ⟨none, true⟩ ∧ check exD (.cpS 4 2) = none ∧
    blockedVar (apply (.cpS 4 2) exD) 4 = true := by decide +kernel

-- move construction: (a) rep-less source, (b) source with a parent (cloned), (c) really moved
example : exD.slots 2 = some ⟨none, true⟩ ∧ check exD (.mvS 4 2) = none ∧ repOf exD 2 = none ∧
    (apply (.mvS 4 2) exD).slots 4 = some ⟨none, true⟩ := by decide +kernel
example : exA.slots 1 = some ⟨some 0, true⟩ ∧ check exA (.mvS 4 1) = none ∧ hasParent exA 1 = true ∧
    emptyVar exA 1 = false ∧ (apply (.mvS 4 1) exA).slots 1 = some ⟨some 0, true⟩ ∧
    (apply (.mvS 4 1) exA).slots 4 = some ⟨some 2, true⟩ := by decide +kernel
example : exB.slots 1 = some ⟨some 0, true⟩ ∧ check exB (.mvS 4 1) = none ∧ hasParent exB 1 = false ∧
    (apply (.mvS 4 1) exB).slots 4 = some ⟨some 0, true⟩ ∧
    (apply (.mvS 4 1) exB).slots 1 = some ⟨none, false⟩ := by decide +kernel

-- copy assignment: (a) same representation
example : check exD (.asgS 1 2) = none ∧ repOf exD 1 = repOf exD 2 ∧
    (apply (.asgS 1 2) exD).slots 1 = some ⟨none, true⟩ := by decide +kernel
-- (b): the destination stays blocked although the (empty) source is unblocked
example : check exB (.asgS 1 2) = none ∧ repOf exB 1 ≠ repOf exB 2 ∧ emptyVar exB 2 = true ∧
    exB.slots 2 = some ⟨none, false⟩ ∧ (apply (.asgS 1 2) exB).slots 1 = some ⟨none, true⟩ := by decide +kernel
-- (c)
example : check exF (.asgS 1 2) = none ∧ repOf exF 1 ≠ repOf exF 2 ∧ emptyVar exF 2 = false ∧
    exF.slots 1 = some ⟨some 0, false⟩ ∧ (apply (.asgS 1 2) exF).slots 1 = some ⟨some 2, true⟩ ∧
    (apply (.asgS 1 2) exF).slots 2 = some ⟨some 1, true⟩ := by decide +kernel

-- move assignment: (a), (b), (c1) clone branch, (c2) really-move branch
example : check exD (.masgS 1 2) = none ∧ repOf exD 1 = repOf exD 2 ∧
    (apply (.masgS 1 2) exD).slots 1 = some ⟨none, true⟩ := by decide +kernel
example : check exB (.masgS 1 2) = none ∧ repOf exB 1 ≠ repOf exB 2 ∧ emptyVar exB 2 = true ∧
    (apply (.masgS 1 2) exB).slots 1 = some ⟨none, true⟩ := by decide +kernel
example : check exA (.masgS 3 1) = none ∧ repOf exA 3 ≠ repOf exA 1 ∧ emptyVar exA 1 = false ∧
    hasParent exA 1 = true ∧ (apply (.masgS 3 1) exA).slots 3 = some ⟨some 2, true⟩ ∧
    (apply (.masgS 3 1) exA).slots 1 = some ⟨some 0, true⟩ := by decide +kernel
example : check exB (.masgS 2 1) = none ∧ repOf exB 2 ≠ repOf exB 1 ∧ emptyVar exB 1 = false ∧
    hasParent exB 1 = false ∧ (apply (.masgS 2 1) exB).slots 2 = some ⟨some 0, true⟩ ∧
    (apply (.masgS 2 1) exB).slots 1 = some ⟨none, false⟩ := by decide +kernel

example : check exB (.setS 1 (.fn 5)) = none ∧ blockedVar exB 1 = true ∧
    (apply (.setS 1 (.fn 5)) exB).slots 1 = some ⟨some 1, false⟩ := by decide +kernel

-- rep-less and blocked: unblocked
example : exD.slots 2 = some ⟨none, true⟩ ∧ repOf exD 2 = none ∧ check exD (.clrS 2) = none ∧
    (apply (.clrS 2) exD).slots 2 = some ⟨none, false⟩ := by decide +kernel
-- with a representation and blocked: stays blocked
example : exB.slots 1 = some ⟨some 0, true⟩ ∧ repOf exB 1 ≠ none ∧ check exB (.clrS 1) = none ∧
    (apply (.clrS 1) exB).slots 1 = some ⟨none, true⟩ := by decide +kernel

-- blocked but not empty: no call; after `unblock` the same call runs `F(1)`
example : blockedVar exA 1 = true ∧ emptyVar exA 1 = false ∧ (callVar exA maxDepth 1 7).2 = 0 ∧
    (callVar (apply (.unblockS 1) exA) maxDepth 1 7).2 = 17 := by decide +kernel
-- empty but not blocked
example : blockedVar exA 3 = false ∧ emptyVar exA 3 = true ∧ (callVar exA maxDepth 3 7).2 = 0 := by decide +kernel

example : blockedVar exA 1 = true ∧ blockedVar (apply (.blockS 2 true) exA) 1 = true ∧
    blockedVar (apply (.blockS 2 true) exA) 2 = true := by decide +kernel

end Sigc.SlotG
