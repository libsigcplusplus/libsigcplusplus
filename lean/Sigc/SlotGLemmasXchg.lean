import Sigc.SlotGLemmasStep
/-!
  Replacing the representation stored in a variable and deleting the old one (`replaceRep_spec`): the common tail of
  both assignment operators and of `setS` (`exchangeRep`), and `delete_rep_with_check()`.  `Unstored`: a state in
  which one representation is stored nowhere (such states come from `SlotGLemmasUnstored`).  The exchange
  (`exchange_spec`) preserves `WF` — for every state: the variable refers to
  the new representation before the old one is deleted, so whatever that deletion destroys (the parent of the old
  representation, the source of the assignment, the variable itself) detaches from the representation it finds in
  the variable.
-/
namespace Sigc.SlotG

theorem exchangeRep_eq (d n : Nat) (s : State) : exchangeRep d n s =
    match repOf s d with
    | none => s.modSlot d fun D => { D with rep := some n }
    | some q =>
      deleteRep q (weakNotify q ((s.modRep n fun N => { N with parent := match s.reps q with
          | some Q => Q.parent
          | none => none }).modSlot d fun D => { D with rep := some n })) := rfl

theorem weakNotify_modSlot (q v : Nat) (g : SVar → SVar) (s : State) :
    weakNotify q (s.modSlot v g) = (weakNotify q s).modSlot v g := by
  cases hq : s.reps q with
  | none =>
    rw [weakNotify_none hq, weakNotify_none (by rw [reps_modSlot]; exact hq)]
  | some Q =>
    have hq' : (s.modSlot v g).reps q = some Q := by rw [reps_modSlot]; exact hq
    apply State.ext'
    · funext x; simp only [slotg_simp]
    · funext x; simp only [slotg_simp]
    · simp only [slotg_simp]
    · funext c; rw [conns_weakNotify q _ Q hq', conns_modSlot, conns_modSlot, conns_weakNotify q s Q hq]
    · simp only [slotg_simp]
    · simp only [slotg_simp]

/-- The variable `d` stores `o` — nothing, or a representation it may take (`Adoptable`) — instead of `q`; the
    observers of `q` are told (`notify_callbacks()`), then `q` is deleted.  `q` is stored nowhere by then, so the
    cascade its destruction may start finds it in no variable. -/
theorem replaceRep_spec {s : State} (hI : Inv s) (hi : Idle s) {d q : Nat} {o : Option Nat} (hq : repOf s d = some q)
    (hheld : ∀ r R, s.reps r = some R → (∃ w, repOf s w = some r) ∨ o = some r)
    (hn : ∀ n, o = some n → Adoptable s d n) :
    WF (deleteRep q (weakNotify q (s.modSlot d fun D => { D with rep := o }))) := by
  obtain ⟨Q, hQ⟩ := hI.repAlive d q hq
  -- `rep_ = o; old_rep_->notify_callbacks();` — the two steps commute
  rw [weakNotify_modSlot]
  obtain ⟨hI2, horq, hQ2⟩ := inv_notifySetVarRep (o := o) hI hq hQ hn
  have hi2 : Idle ((weakNotify q s).modSlot d fun D => { D with rep := o }) :=
    idle_of_trks hi (by rw [trks_modSlot, trks_weakNotify])
  generalize hs2 : (weakNotify q s).modSlot d (fun D => { D with rep := o }) = s2 at hI2 horq hQ2 hi2 ⊢
  rw [deleteRep_eq]
  obtain ⟨hC3, hI3⟩ := destroyRep_spec (fuel s2) q s2 hI2 (mu_lt_fuel s2)
  obtain ⟨Q3, hQ3⟩ := hC3.orphanKeep q _ hQ2 horq
  have horq3 : Orphan (destroyRep (fuel s2) q s2) q := by
    intro w hw
    obtain ⟨V, hV, hVr⟩ := repOf_eq.mp hw
    exact horq w (repOf_eq.mpr ⟨V, hC3.slots w V hV, hVr⟩)
  refine ⟨inv_eraseOrphan hI3 horq3 hQ3 (destroyRep_noFn _ q s2 Q3 hQ3), idle_of_trks (idle_casc hC3 hi2) (trks_eraseRep ..), ?_⟩
  · intro x X hX
    rw [reps_eraseRep] at hX
    by_cases hxq : x = q
    · rw [if_pos hxq] at hX; cases hX
    · rw [if_neg hxq] at hX
      obtain ⟨X2, hX2, -⟩ := hC3.reps x X hX
      rw [← hs2, reps_modSlot, reps_weakNotify, if_neg hxq] at hX2
      -- `x` is stored in `s2`: where it was, or in `d`
      have : ∃ w, repOf s2 w = some x := by
        rcases hheld x X2 hX2 with ⟨w, hw⟩ | he'
        · have hwd : w ≠ d := fun h => hxq (by rw [h, hq] at hw; exact (Option.some.inj hw).symm)
          exact ⟨w, by rw [← hs2, repOf_modSlot_rep, if_neg hwd, repOf_weakNotify]; exact hw⟩
        · obtain ⟨D, hD, -⟩ := repOf_eq.mp hq
          exact ⟨d, by rw [← hs2, repOf_modSlot_rep, if_pos rfl, slots_weakNotify, hD, he']; rfl⟩
      obtain ⟨w, hw⟩ := this
      rcases hC3.killed w x hw with hk | ⟨-, hk⟩
      · exact ⟨w, by rw [repOf_eraseRep]; exact hk⟩
      · rw [hk] at hX; cases hX

/-- `sN` is well-formed but for the representation `n` (record `N`, no parent), which is stored nowhere (and so
    carries no registration, by `Inv.regHeld`); it has the program variables of `s`.  (For a functor that binds a
    slot by value `sN` also has the representations of the bound copies, stored in anonymous variables.) -/
structure Unstored (s sN : State) (n : Nat) (N : Rep) : Prop where
  inv : Inv sN
  idle : Idle sN
  held : ∀ r R, sN.reps r = some R → (∃ w, repOf sN w = some r) ∨ r = n
  self : sN.reps n = some N
  par : N.parent = none
  orph : Orphan sN n
  aliveS : ∀ w, w < anonBase → (sN.slots w).isSome = (s.slots w).isSome

/-- **the exchange keeps the state well-formed**: a variable takes the unstored representation in exchange for its
    old one.  No side condition on what the old representation owns or whose child it is. -/
theorem exchange_spec {s0 s : State} {n : Nat} {N : Rep} (hU : Unstored s0 s n N) {d : Nat}
    (hd : (s0.slots d).isSome = true) (hnm : d < anonBase) : WF (exchangeRep d n s) := by
  obtain ⟨hI, hidle, hheld, hn, hnp, horph, halive⟩ := hU
  have hd : ∃ D, s.slots d = some D := Option.isSome_iff_exists.mp (by rw [halive d hnm]; exact hd)
  rw [exchangeRep_eq]
  cases hq : repOf s d with
  | none =>
    refine ⟨(inv_setVarRep hI (fun _ e => by cases e; exact .of_noParent horph hn hnp d)
      fun q hq' => by rw [hq] at hq'; cases hq').1, idle_of_trks hidle (trks_modSlot ..), ?_⟩
    obtain ⟨D, hD⟩ := hd
    intro r R hR; rw [reps_modSlot] at hR
    rcases hheld r R hR with ⟨w, hw⟩ | rfl
    · have hwd : w ≠ d := fun h => by rw [h, hq] at hw; cases hw
      exact ⟨w, by rw [repOf_modSlot_rep, if_neg hwd]; exact hw⟩
    · exact ⟨d, by rw [repOf_modSlot_rep, if_pos rfl, hD]; rfl⟩
  | some q =>
    obtain ⟨Q, hQ⟩ := hI.repAlive d q hq
    simp only [hQ]
    -- the new representation, stored nowhere, inherits the parent of the old one
    have hI1 : Inv (s.modRep n fun N => { N with parent := Q.parent }) :=
      inv_modRep hI n fun _ _ => ⟨rfl, rfl, .inr (.inr horph)⟩
    have hm := reps_modRep s n fun N => { N with parent := Q.parent }
    exact replaceRep_spec (o := some n) hI1 (idle_of_trks hidle (trks_modRep ..))
      (by rw [repOf_modRep]; exact hq)
      (fun r R hR => by
        obtain ⟨R0, hR0, -⟩ := reps_of_mod hm hR
        rcases hheld r R0 hR0 with ⟨w, hw⟩ | h
        · exact .inl ⟨w, by rw [repOf_modRep]; exact hw⟩
        · exact .inr (by rw [h]))
      (fun n' e => by
        cases e
        refine ⟨fun w => by rw [repOf_modRep]; exact horph w, { N with parent := Q.parent },
          by rw [hm, if_pos rfl, hn]; rfl, fun p hp => ?_⟩
        obtain ⟨P, f, hP, hPf, hfr⟩ := hI.parentOk q Q p d hQ hp hq
        obtain ⟨P', hP', hPf'⟩ :=
          (FnFrom.of_map_eq (map_reps_of_mod Rep.fn hm fun _ _ => rfl)).2 p P f hP hPf
        exact ⟨P', f, hP', hPf', hfr⟩)

/-- **`delete_rep_with_check()` keeps the state well-formed, for every variable** — also one whose representation
    stores the functor that keeps the variable itself alive (finding F12): the variable has let go of the
    representation before it is deleted, so the representation is freed exactly once -/
theorem deleteRepWithCheck_spec {s : State} (hw : WF s) (v : Nat) (hnm : v < anonBase) :
    WF (deleteRepWithCheck v s) := by
  have hI := hw.inv
  unfold deleteRepWithCheck
  cases hv : repOf s v with
  | none => exact hw
  | some r =>
    simp only []
    -- the representation of a program variable survives `disconnect()`
    have hv1 : repOf (repDisconnect r s) v = some r := by
      simp only [repOf, repDisconnect_slot hI hv hnm]; exact hv
    obtain ⟨hC1, hI1⟩ := repDisconnect_spec hI r
    obtain ⟨R1, hR1⟩ := hI1.repAlive v r hv1
    rw [if_pos (by rw [hR1]; rfl)]
    have hw1 := wf_casc hC1 hw hI1
    exact replaceRep_spec (o := none) hI1 hw1.idle hv1 (fun x X hX => .inl (hw1.held x X hX)) (fun _ e => nomatch e)

end Sigc.SlotG
