import Sigc.SlotGLemmasAlloc
/-!
  States in which one representation is stored in no variable (`Unstored`, defined with `exchange_spec` in
  `SlotGLemmasXchg`): after a representation was made (`fresh_newRep`, `fresh_cloneRep`) or moved out of its
  variable (`unstored_moveOut`).  A new variable adopts the representation (`adopt_spec`), or a variable takes it
  in exchange for its old one (`exchange_spec`).
-/
namespace Sigc.SlotG

theorem fresh_of_ext {s sN : State} (hw : WF s) (E : Ext s sN) : ∃ N, Unstored s sN s.nextRep N := by
  obtain ⟨N, hN, hp⟩ := E.self
  refine ⟨N, E.inv, E.idle, E.heldAll hw, hN, hp, E.orph hw.inv, ?_⟩
  intro w hlt
  rw [E.slots w (by omega)]

theorem fresh_cloneRep {s : State} (hw : WF s) (r : Nat) : ∃ N, Unstored s (cloneRep r s) s.nextRep N :=
  fresh_of_ext hw (ext_cloneRepD true _ r s hw.inv hw.idle)

theorem fresh_newRep {s : State} (hw : WF s) {f : Fun} (hc : specCheck s f = none)
    (hnm : ∀ v, v ∈ f.names.1 → v < anonBase) : ∃ N, Unstored s (newRep f s) s.nextRep N :=
  fresh_of_ext hw (ext_newRep hw.inv hw.idle hc hnm)

theorem unstored_modSlot_blocked {s sN : State} {n : Nat} {N : Rep} (h : Unstored s sN n N) (d : Nat) (b : Bool) :
    Unstored s (sN.modSlot d fun D => { D with blocked := b }) n N := by
  cases hD : sN.slots d with
  | none => rw [modSlot_of_dead hD]; exact h
  | some D =>
    rw [modSlot_of_slot hD]
    have hr : ({ D with blocked := b } : SVar).rep = repOf sN d := (repOf_of_slot hD).symm
    have hk := repOf_setSlot_keep hr
    refine ⟨inv_setSlot_keepRep h.inv hr (var_lt h.inv hD), idle_of_trks h.idle rfl, ?_, h.self, h.par,
      ?_, ?_⟩
    · rw [hk]; exact h.held
    · unfold Orphan; rw [hk]; exact h.orph
    · intro w hlt
      rw [← h.aliveS w hlt, slots_setSlot]
      by_cases hw : w = d
      · rw [if_pos hw, hw, hD]; rfl
      · rw [if_neg hw]

theorem adopt_spec {s sN : State} {n : Nat} {N : Rep} (h : Unstored s sN n N) {v : Nat} (b : Bool)
    (hv : s.slots v = none) (hnm : v < anonBase) : WF (sN.setSlot v (some ⟨some n, b⟩)) := by
  have hvN : sN.slots v = none := by
    have := h.aliveS v hnm
    rw [hv] at this
    cases hx : sN.slots v with
    | none => rfl
    | some V => rw [hx] at this; cases this
  refine ⟨inv_adopt h.inv b h.self h.par h.orph hvN (by omega), idle_of_trks h.idle rfl, ?_⟩
  intro r R hR
  rcases h.held r R hR with ⟨w, hw⟩ | hrn
  · refine ⟨w, ?_⟩
    rw [repOf_setSlot, if_neg]
    · exact hw
    · intro hwv; rw [hwv, repOf_of_dead hvN] at hw; cases hw
  · exact ⟨v, by rw [repOf_setSlot, if_pos rfl, hrn]; rfl⟩

theorem hasParent_iff (s : State) (v : Nat) :
    hasParent s v = true ↔ ∃ r R p, repOf s v = some r ∧ s.reps r = some R ∧ R.parent = some p := by
  unfold hasParent repObj
  cases hr : repOf s v with
  | none => simp
  | some r =>
    cases hR : s.reps r with
    | none => simp [hR]
    | some R => cases hp : R.parent <;> simp [hR, hp]

theorem emptyVar_false_iff (s : State) (v : Nat) :
    emptyVar s v = false ↔ ∃ r R, repOf s v = some r ∧ s.reps r = some R ∧ R.call = true := by
  unfold emptyVar repObj
  cases hr : repOf s v with
  | none => simp
  | some r =>
    cases hR : s.reps r with
    | none => simp [hR]
    | some R => simp [hR]

/-- `src.rep_->notify_callbacks(); … src.rep_ = nullptr; src.blocked_ = false;` -/
def moveOut (x r : Nat) (s : State) : State := (weakNotify r s).setSlot x (some ⟨none, false⟩)

theorem unstored_moveOut {s : State} (hw : WF s) {x r : Nat} {R : Rep} (hx : repOf s x = some r)
    (hR : s.reps r = some R) (hp : R.parent = none) :
    Unstored s (moveOut x r s) r { R with cbs := [] } := by
  have hrep : ∀ w, repOf (moveOut x r s) w = if w = x then none else repOf s w := by
    intro w; unfold moveOut; rw [repOf_setSlot, repOf_weakNotify]; rfl
  obtain ⟨X, hX, -⟩ := repOf_eq.mp hx
  refine ⟨?_, idle_of_trks hw.idle (trks_weakNotify r s), ?_, ?_, hp, ?_, ?_⟩
  · -- the observers are told, then the variable lets go and `blocked_` is reset
    refine (inv_setSlot (V' := ⟨none, false⟩) (inv_weakNotify hw.inv r)
      (by rw [nextRep_weakNotify]; exact var_lt hw.inv hX) (fun _ e => nomatch e) fun q hq => .inr ?_).1
    rw [repOf_weakNotify, hx] at hq; cases hq
    exact ⟨_, by rw [reps_weakNotify, if_pos rfl, hR]; rfl, rfl⟩
  · intro q Q hQ
    by_cases hq : q = r
    · exact .inr hq
    · have hQ' : s.reps q = some Q := by
        have : (weakNotify r s).reps q = some Q := hQ
        rw [reps_weakNotify, if_neg hq] at this; exact this
      obtain ⟨w, hw'⟩ := hw.held q Q hQ'
      refine .inl ⟨w, ?_⟩
      rw [hrep, if_neg]
      · exact hw'
      · intro hwx; rw [hwx, hx] at hw'; exact hq (Option.some.inj hw').symm
  · show (weakNotify r s).reps r = _
    rw [reps_weakNotify, if_pos rfl, hR]; rfl
  · intro w hw'
    rw [hrep] at hw'
    by_cases hwx : w = x
    · rw [if_pos hwx] at hw'; cases hw'
    · rw [if_neg hwx] at hw'; exact hwx (hw.inv.repUniq w x r hw' hx)
  · intro w _
    unfold moveOut
    rw [slots_setSlot, slots_weakNotify]
    by_cases hwx : w = x
    · rw [if_pos hwx, hwx, hX]; rfl
    · rw [if_neg hwx]

end Sigc.SlotG
