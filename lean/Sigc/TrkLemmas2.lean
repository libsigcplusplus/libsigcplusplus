import Sigc.TrkLemmas
/-!
  The invariant walk of C16 on the wide domain: the model on `History.Domain2` (callback bodies `rem` and
  `add`, no nested notify) only produces `W.Valid` traces and never reaches an error state (`W.run_inv`):
  invariant `W.Inv` at operation boundaries, `W.LInv` inside a delivery round; the logical list `present2`
  is kept equal to the live entries of the real one (`liveRegs`).  The definitions after `end W` are used
  by nothing.
-/
namespace Sigc.Trk

/-- the live registrations of a callback list: `(registration id, data)` of entries with `func_ != nullptr` -/
def liveRegs (es : List Entry) : List (Nat × Nat) :=
  (es.filter (fun e => e.func.isSome)).map (fun e => (e.reg, e.data))

/-- the live registrations of a trackable -/
def regsOf : Option Trackable → List (Nat × Nat)
  | some ⟨some l⟩ => liveRegs l.entries
  | _ => []

/-- the shape of a callback list outside a round -/
def LiveAll (o : Option Trackable) : Prop :=
  ∀ l, o = some ⟨some l⟩ → l.clearing = false ∧ ∀ e ∈ l.entries, e.func.isSome = true

theorem liveRegs_removeLoop (c : Bool) (d : Nat) (es : List Entry) :
    liveRegs (removeLoop c d es) = (liveRegs es).eraseP (fun x => x.2 == d) := by
  induction es with
  | nil => rfl
  | cons e es ih =>
    simp only [removeLoop]
    split
    · rename_i h
      cases c <;> simp [liveRegs, h.1, h.2]
    · rename_i h
      cases hf : e.func.isSome
      · simpa [liveRegs, List.filter_cons, hf] using ih
      · have hd : e.data ≠ d := fun hd => h ⟨hd, hf⟩
        simp only [liveRegs, List.filter_cons, hf, if_true, List.map_cons] at ih ⊢
        rw [List.eraseP_cons_of_neg (by simpa using hd), ih]

theorem map_reg_removeLoop_true (d : Nat) (es : List Entry) :
    (removeLoop true d es).map (·.reg) = es.map (·.reg) := by
  induction es with
  | nil => rfl
  | cons e es ih =>
    simp only [removeLoop]
    split
    · rfl
    · rw [List.map_cons, List.map_cons, ih]

theorem mem_removeLoop_true {d : Nat} {es : List Entry} {e : Entry}
    (h : e ∈ removeLoop true d es) (hl : e.func.isSome = true) : e ∈ es := by
  induction es with
  | nil => cases h
  | cons e0 es ih =>
    simp only [removeLoop] at h
    split at h
    · rcases List.mem_cons.1 h with h | h
      · subst h; cases hl
      · exact List.mem_cons_of_mem _ h
    · rcases List.mem_cons.1 h with h | h
      · subst h; exact List.mem_cons_self ..
      · exact List.mem_cons_of_mem _ (ih h)

theorem removeLoop_false_sublist (d : Nat) (es : List Entry) : (removeLoop false d es).Sublist es := by
  induction es with
  | nil => exact List.Sublist.refl _
  | cons e es ih =>
    simp only [removeLoop]
    split
    · exact List.sublist_cons_self ..
    · exact ih.cons_cons e

theorem succOf_spec {r : Nat} : ∀ (es : List Entry) (a b : List Nat),
    es.map (·.reg) = a ++ r :: b → r ∉ a → succOf r es = some b.head? := by
  intro es
  induction es with
  | nil => intro a b h; simp at h
  | cons e es ih =>
    intro a b h hr
    cases a with
    | nil =>
      simp at h
      simp [succOf, h.1, ← h.2, List.head?_map]
    | cons x a =>
      simp at h
      have hx : e.reg ≠ r := by
        intro hx; apply hr; simp [← h.1, hx]
      simp only [succOf, hx, if_false]
      exact ih a b h.2 (fun hm => hr (List.mem_cons_of_mem _ hm))

theorem find_reg {r : Nat} {es : List Entry} (h : r ∈ es.map (·.reg)) :
    ∃ e, es.find? (fun e => e.reg == r) = some e ∧ e ∈ es ∧ e.reg = r := by
  cases hf : es.find? (fun e => e.reg == r) with
  | none =>
    obtain ⟨e, he, hr⟩ := List.mem_map.1 h
    have := List.find?_eq_none.1 hf e he
    simp [hr] at this
  | some e =>
    exact ⟨e, rfl, List.mem_of_find?_eq_some hf, by simpa using List.find?_some hf⟩

theorem liveRegs_all_live {es : List Entry} (h : ∀ e ∈ es, e.func.isSome = true) :
    liveRegs es = es.map (fun e => (e.reg, e.data)) := by
  unfold liveRegs
  rw [List.filter_eq_self.2 h]

theorem mem_liveRegs {es : List Entry} {x : Nat × Nat} :
    x ∈ liveRegs es ↔ ∃ e ∈ es, e.func.isSome = true ∧ x = (e.reg, e.data) := by
  simp only [liveRegs, List.mem_map, List.mem_filter]
  constructor
  · rintro ⟨e, ⟨he, hl⟩, rfl⟩; exact ⟨e, he, hl, rfl⟩
  · rintro ⟨e, he, hl, rfl⟩; exact ⟨e, ⟨he, hl⟩, rfl⟩

@[simp] theorem upd_objs_same (s : State) (t : Nat) (o : Option Trackable) : (s.upd t o).objs t = o := by
  simp [State.upd]
theorem upd_objs_other (s : State) {t t' : Nat} (o : Option Trackable) (h : t' ≠ t) :
    (s.upd t o).objs t' = s.objs t' := by
  simp [State.upd, h]
@[simp] theorem upd_trace (s : State) (t : Nat) (o : Option Trackable) : (s.upd t o).trace = s.trace := rfl
@[simp] theorem upd_err (s : State) (t : Nat) (o : Option Trackable) : (s.upd t o).err = s.err := rfl
@[simp] theorem upd_nextReg (s : State) (t : Nat) (o : Option Trackable) : (s.upd t o).nextReg = s.nextReg := rfl
@[simp] theorem emit_objs (s : State) (e : Ev) : (s.emit e).objs = s.objs := rfl
@[simp] theorem emit_trace (s : State) (e : Ev) : (s.emit e).trace = s.trace ++ [e] := rfl
@[simp] theorem emit_err (s : State) (e : Ev) : (s.emit e).err = s.err := rfl
@[simp] theorem emit_nextReg (s : State) (e : Ev) : (s.emit e).nextReg = s.nextReg := rfl

theorem alive_iff {s : State} {t : Nat} : s.alive t = true ↔ ∃ o, s.objs t = some o := by
  simp [State.alive, Option.isSome_iff_exists]

theorem runFrom_append (sc : Scripts) (a b : List Op) (s : State) :
    runFrom sc (a ++ b) s = runFrom sc b (runFrom sc a s) := by
  simp [runFrom, List.foldl_append]

/-- the driver's op-by-op loop (`processLine`) computes exactly the state the theorems speak about -/
theorem runOut_fst (sc : Scripts) : ∀ (ops : List Op) (s : State) (out : List String),
    (runOut sc ops s out).1 = runFrom sc ops s := by
  intro ops
  induction ops with
  | nil => intro s out; rfl
  | cons op ops ih => intro s out; simp only [runOut, runFrom, List.foldl_cons]; exact ih _ _

theorem History.all_sc {h : History} {p : BodyOp → Bool} (hd : h.scripts.all (fun b => b.all p) = true) :
    ∀ k, ∀ b ∈ h.sc k, p b = true := by
  intro k b hb
  unfold History.sc at hb
  rw [List.getD_eq_getElem?_getD] at hb
  cases hg : h.scripts[k]? with
  | none => rw [hg] at hb; cases hb
  | some body =>
    rw [hg] at hb; exact List.all_eq_true.1 (List.all_eq_true.1 hd body (List.mem_of_getElem? hg)) b hb

/-- `History.Domain2` as a property of the scripts -/
def NoNotify (sc : Scripts) : Prop := ∀ k, ∀ b ∈ sc k, b.isNotify = false

theorem History.noNotify {h : History} (hd : h.Domain2 = true) : NoNotify h.sc :=
  fun k b hb => by simpa using History.all_sc hd k b hb

-- `∀ r ∈ added tr, r < n`: the field `fresh` of `W.Inv` and `W.LInv` below, `n` the state's `nextReg`
theorem fresh_snoc {tr : List Ev} {n : Nat} (h : ∀ r ∈ added tr, r < n) {e : Ev} (he : added [e] = []) :
    ∀ r ∈ added (tr ++ [e]), r < n := by
  rw [added_append, he, List.append_nil]; exact h

theorem fresh_snoc_add {tr : List Ev} {n : Nat} (h : ∀ r ∈ added tr, r < n) (t d : Nat) :
    ∀ r ∈ added (tr ++ [.add n t d]), r < n + 1 := by
  intro r hr
  rcases List.mem_append.1 (added_append .. ▸ hr) with hr | hr
  · exact Nat.lt_succ_of_lt (h r hr)
  · rw [List.mem_singleton.1 hr]; exact Nat.lt_succ_self _

namespace W

/-- invariant at operation boundaries -/
structure Inv (s : State) : Prop where
  noerr : s.err = none
  valid : Valid s.trace
  idle  : inRound s.trace = none
  pres  : ∀ t, present2 t s.trace = regsOf (s.objs t)
  live  : ∀ t, LiveAll (s.objs t)
  fresh : ∀ r ∈ added s.trace, r < s.nextReg

/-- invariant inside the delivery round on `t`; `dn ++ rest` are the registration ids of the list's
    nodes in order, the iterator stands on the head of `rest` -/
structure LInv (t : Nat) (s : State) (dn rest : List Nat) : Prop where
  noerr : s.err = none
  valid : Valid s.trace
  inr   : inRound s.trace = some t
  obj   : ∃ es, s.objs t = some ⟨some ⟨es, true⟩⟩ ∧ es.map (·.reg) = dn ++ rest ∧
            present2 t s.trace = liveRegs es ∧
            ∀ e ∈ es, e.reg ∈ dn → e.func.isSome = true → e.reg ∈ delivered s.trace
  nodup : (dn ++ rest).Nodup
  pend  : ∀ r ∈ rest, r ∉ delivered s.trace
  others : ∀ t', t' ≠ t → present2 t' s.trace = regsOf (s.objs t') ∧ LiveAll (s.objs t')
  fresh : ∀ r ∈ added s.trace, r < s.nextReg

theorem rem_LInv {t : Nat} {s : State} {dn rest : List Nat} (d : Nat) (h : LInv t s dn rest) :
    LInv t (removeDestroyNotify t d s) dn rest := by
  obtain ⟨es, ho, hmap, hpres, hdlv⟩ := h.obj
  have hs : removeDestroyNotify t d s =
      (s.emit (.rem t d)).upd t (some ⟨some ⟨removeLoop true d es, true⟩⟩) := by
    simp [removeDestroyNotify, ho, getList, CbList.removeCallback]
  rw [hs]
  refine ⟨h.noerr, Valid.snoc h.valid trivial, ?_, ?_, h.nodup, ?_, ?_, ?_⟩
  · exact (inRound_snoc ..).trans h.inr
  · refine ⟨removeLoop true d es, upd_objs_same .., by rw [map_reg_removeLoop_true, hmap], ?_, ?_⟩
    · simp [present2_snoc, stepQ, hpres, liveRegs_removeLoop]
    · intro e he hdn hl
      simpa [delivered_snoc] using hdlv e (mem_removeLoop_true he hl) hdn hl
  · intro r hr
    simpa [delivered_snoc] using h.pend r hr
  · intro t' ht'
    simp only [upd_trace, emit_trace, present2_snoc, stepQ, upd_objs_other _ _ ht', emit_objs]
    rw [if_neg (Ne.symm ht')]
    exact h.others t' ht'
  · exact fresh_snoc h.fresh rfl

/-- an `add` from inside the round on `t`: ignored by the list, and by `present2` -/
theorem add_LInv {t : Nat} {s : State} {dn rest : List Nat} (d k : Nat) (h : LInv t s dn rest) :
    LInv t (addDestroyNotify t d k s) dn rest := by
  obtain ⟨es, ho, hmap, hpres, hdlv⟩ := h.obj
  have hs : addDestroyNotify t d k s =
      (({ s with nextReg := s.nextReg + 1 }).emit (.add s.nextReg t d)).upd t (some ⟨some ⟨es, true⟩⟩) := by
    simp [addDestroyNotify, ho, getList, CbList.addCallback]
  rw [hs]
  have hfresh : s.nextReg ∉ added s.trace := fun hm => Nat.lt_irrefl _ (h.fresh _ hm)
  refine ⟨h.noerr, Valid.snoc h.valid hfresh, ?_, ?_, h.nodup, ?_, ?_, ?_⟩
  · exact (inRound_snoc ..).trans h.inr
  · refine ⟨es, upd_objs_same .., hmap, ?_, ?_⟩
    · simp [State.emit, present2_snoc, stepQ, hpres, h.inr]
    · intro e he hdn hl
      simpa [State.emit, delivered_snoc] using hdlv e he hdn hl
  · intro r hr
    simpa [State.emit, delivered_snoc] using h.pend r hr
  · intro t' ht'
    simp only [upd_trace, State.emit, present2_snoc, stepQ, upd_objs_other _ _ ht']
    rw [if_neg (fun hc => ht' hc.1.symm)]
    exact h.others t' ht'
  · exact fresh_snoc_add h.fresh t d

theorem body_LInv {t : Nat} {dn rest : List Nat} :
    ∀ (body : List BodyOp) (s : State), (∀ b ∈ body, b.isNotify = false) → LInv t s dn rest →
      LInv t (runBody t body s) dn rest := by
  intro body
  induction body with
  | nil => intro s _ h; exact h
  | cons b bs ih =>
    intro s hb h
    simp only [runBody, h.noerr, Option.isSome_none, Bool.false_eq_true, if_false]
    apply ih _ (fun b' hb' => hb b' (List.mem_cons_of_mem _ hb'))
    cases b with
    | rem d => exact rem_LInv d h
    | add d k => exact add_LInv d k h
    | notify => cases hb _ (List.mem_cons_self ..)

/-- advancing over node `r`, which (if live) has just been delivered -/
theorem call_LInv {sc : Scripts} (hsc : NoNotify sc) {t : Nat} {s : State} {dn rest : List Nat} {r : Nat}
    {e : Entry} (h : LInv t s dn (r :: rest)) (he : e ∈ entriesOf s t) (her : e.reg = r) :
    LInv t (callEntry sc t e s) (dn ++ [r]) rest := by
  obtain ⟨es, ho, hmap, hpres, hdlv⟩ := h.obj
  have hes : entriesOf s t = es := by simp [entriesOf, ho]
  rw [hes] at he
  have hnd : (dn ++ [r] ++ rest).Nodup := by simpa using h.nodup
  have hmap' : es.map (·.reg) = dn ++ [r] ++ rest := by simp [hmap]
  have hr_rest : r ∉ rest := (List.nodup_cons.1 (List.nodup_append.1 h.nodup).2.1).1
  have hpend : ∀ r' ∈ rest, r' ∉ delivered s.trace := fun r' hr' => h.pend r' (List.mem_cons_of_mem _ hr')
  unfold callEntry
  cases hf : e.func with
  | none =>
    refine ⟨h.noerr, h.valid, h.inr, ⟨es, ho, hmap', hpres, ?_⟩, hnd, hpend, h.others, h.fresh⟩
    intro e' he' hdn hl
    rcases List.mem_append.1 hdn with hdn | hdn
    · exact hdlv e' he' hdn hl
    · have : e' = e := eq_of_map_eq (hmap ▸ h.nodup) he' he (by rw [List.mem_singleton.1 hdn, her])
      rw [this, hf] at hl; cases hl
  | some k =>
    apply body_LInv _ _ (hsc k)
    refine ⟨h.noerr, ?_, (inRound_snoc ..).trans h.inr, ⟨es, ho, hmap', ?_, ?_⟩, hnd, ?_, ?_, ?_⟩
    · refine Valid.snoc h.valid ⟨t, h.inr, ?_, her ▸ h.pend r (List.mem_cons_self ..)⟩
      rw [hpres, mem_liveRegs]
      exact ⟨e, he, by simp [hf], rfl⟩
    · simpa [present2_snoc, stepQ] using hpres
    · intro e' he' hdn hl
      simp only [emit_trace, delivered_snoc, List.mem_append, List.mem_singleton]
      rcases List.mem_append.1 hdn with hdn | hdn
      · exact .inl (hdlv e' he' hdn hl)
      · exact .inr (by rw [List.mem_singleton.1 hdn, her])
    · intro r' hr'
      simp only [emit_trace, delivered_snoc, List.mem_append, List.mem_singleton, not_or]
      exact ⟨hpend r' hr', fun h' => hr_rest (her ▸ h' ▸ hr')⟩
    · intro t' ht'
      simpa [present2_snoc, stepQ] using h.others t' ht'
    · exact fresh_snoc h.fresh rfl

/-- the destructor loop reaches `end()` without error, every node visited, every live one delivered; the
    nodes stay while `clearing` (a `remove` nulls, an `add` is ignored), so fuel `rest.length` is enough -/
theorem loop_LInv {sc : Scripts} (hsc : NoNotify sc) {t : Nat} :
    ∀ (rest dn : List Nat) (s : State) (f : Nat), LInv t s dn rest → rest.length ≤ f →
      LInv t (roundLoop sc f t rest.head? s) (dn ++ rest) [] := by
  intro rest
  induction rest with
  | nil =>
    intro dn s f h _
    simp only [List.head?_nil, roundLoop, List.append_nil]
    exact h
  | cons r rest ih =>
    intro dn s f h hf
    obtain ⟨f', rfl⟩ : ∃ f', f = f' + 1 := ⟨f - 1, by simp at hf; omega⟩
    obtain ⟨es, ho, hmap, -, -⟩ := h.obj
    have hes : entriesOf s t = es := by simp [entriesOf, ho]
    obtain ⟨e, hfind, hmem, hreg⟩ := find_reg (r := r) (es := es) (by rw [hmap]; simp)
    have h1 := call_LInv hsc h (hes ▸ hmem) hreg
    obtain ⟨es1, ho1, hmap1, -, -⟩ := h1.obj
    have hes1 : entriesOf (callEntry sc t e s) t = es1 := by simp [entriesOf, ho1]
    have hr : r ∉ dn := fun hm => (List.nodup_append.1 h.nodup).2.2 r hm r (List.mem_cons_self ..) rfl
    have hsucc : succOf r es1 = some rest.head? :=
      succOf_spec es1 dn rest (by simpa using hmap1) hr
    simp only [List.head?_cons, roundLoop, hes, hfind, h1.noerr, hes1, hsucc, Option.isSome_none,
      Bool.false_eq_true, if_false]
    have := ih (dn ++ [r]) _ f' h1 (by simp at hf; omega)
    simpa using this

/-- the list of a live trackable as `callback_list()` returns it: not clearing, all entries live -/
theorem Inv.getList {s : State} (h : Inv s) {t : Nat} {o : Trackable} (ho : s.objs t = some o) :
    ∃ es, getList o = ⟨es, false⟩ ∧ present2 t s.trace = liveRegs es ∧ ∀ e ∈ es, e.func.isSome = true := by
  obtain ⟨cbs⟩ := o
  cases cbs with
  | none => exact ⟨[], rfl, by rw [h.pres t, ho]; rfl, fun _ he => by cases he⟩
  | some l =>
    obtain ⟨es, cl⟩ := l
    obtain ⟨hcl, hlive⟩ := h.live t ⟨es, cl⟩ ho
    cases hcl
    exact ⟨es, rfl, by rw [h.pres t, ho]; rfl, hlive⟩

theorem Inv.upd {s : State} (h : Inv s) {t : Nat} (hr : regsOf (s.objs t) = []) {o : Option Trackable}
    (ho : ∀ l, o ≠ some ⟨some l⟩) : Inv (s.upd t o) := by
  have hro : regsOf o = [] := by
    unfold regsOf; split
    · exact absurd rfl (ho _)
    · rfl
  refine ⟨h.noerr, h.valid, h.idle, ?_, ?_, h.fresh⟩
  · intro t'
    by_cases e : t' = t
    · subst e; rw [upd_objs_same, hro, ← hr]; exact h.pres t'
    · rw [upd_objs_other _ _ e]; exact h.pres t'
  · intro t'
    by_cases e : t' = t
    · subst e; rw [upd_objs_same]; exact fun l hl => absurd hl (ho l)
    · rw [upd_objs_other _ _ e]; exact h.live t'

theorem notify_inv {sc : Scripts} (hsc : NoNotify sc) (t : Nat) {s : State} (h : Inv s) :
    Inv (notifyCallbacks sc t s) ∧
      (∀ o, s.objs t = some o → (notifyCallbacks sc t s).objs t = some ⟨none⟩) := by
  unfold notifyCallbacks
  cases ho : s.objs t with
  | none => exact ⟨h, by intro o ho'; cases ho'⟩
  | some o =>
    obtain ⟨cbs⟩ := o
    cases cbs with
    | none =>
      simp only
      have hp : present2 t s.trace = [] := by rw [h.pres t, ho]; rfl
      have hr : inRound (s.trace ++ [.trig t]) = some t := by rw [inRound_snoc]; rfl
      refine ⟨⟨h.noerr, ?_, by rw [emit_trace, inRound_snoc]; rfl, ?_, h.live, ?_⟩, fun _ _ => ho⟩
      · refine Valid.snoc (Valid.snoc h.valid h.idle) ⟨hr, ?_⟩
        rw [emit_trace, present2_snoc, hp]; exact fun x hx => by cases hx
      · intro t'
        simp only [emit_trace, emit_objs, present2_snoc, stepQ]
        by_cases ht : t = t'
        · subst ht; rw [if_pos rfl, ho]; rfl
        · rw [if_neg ht]; exact h.pres t'
      · exact fresh_snoc (fresh_snoc h.fresh rfl) rfl
    | some l =>
      obtain ⟨es, cl⟩ := l
      obtain ⟨hcl, hlive⟩ := h.live t ⟨es, cl⟩ ho
      simp only at hcl hlive
      subst hcl
      have hp : present2 t s.trace = liveRegs es := by rw [h.pres t, ho]; rfl
      simp only [Bool.false_eq_true, if_false]
      -- the round: enter `LInv` with `dn = []` and `rest` = all node ids; `loop_LInv` runs it to `rest = []`; then
      -- every live node is in `dn`, hence delivered, which is what `StepOK` asks of `done t`
      have h0 : LInv t ((s.emit (.trig t)).upd t (some ⟨some ⟨es, true⟩⟩)) [] (es.map (·.reg)) := by
        refine ⟨h.noerr, Valid.snoc h.valid h.idle, by rw [upd_trace, emit_trace, inRound_snoc]; rfl,
          ⟨es, upd_objs_same .., rfl, ?_, ?_⟩, ?_, ?_, ?_, ?_⟩
        · simpa [present2_snoc, stepQ] using hp
        · intro e _ hdn; cases hdn
        · have := h.valid.present_nodup t
          rw [hp, liveRegs_all_live hlive] at this
          simpa [List.map_map, Function.comp_def] using this
        · intro r hr
          obtain ⟨e, he, rfl⟩ := List.mem_map.1 hr
          have hx : (e.reg, e.data) ∈ present2 t s.trace := by
            rw [hp, mem_liveRegs]; exact ⟨e, he, hlive e he, rfl⟩
          -- outside a round nothing still registered has been delivered
          intro hd
          rw [upd_trace, emit_trace, delivered_snoc, List.append_nil] at hd
          have := h.valid.undelivered t _ hx hd
          rw [h.idle] at this; cases this
        · intro t' ht'
          simp only [upd_trace, emit_trace, present2_snoc, stepQ, upd_objs_other _ _ ht', emit_objs]
          exact ⟨h.pres t', h.live t'⟩
        · exact fresh_snoc h.fresh rfl
      have h2 := loop_LInv hsc (es.map (·.reg)) [] _ es.length h0 (by simp)
      rw [List.head?_map, List.nil_append] at h2
      generalize roundLoop sc es.length t (Option.map (fun x => x.reg) es.head?)
        ((s.emit (.trig t)).upd t (some ⟨some ⟨es, true⟩⟩)) = s2 at h2
      simp only [h2.noerr, Option.isSome_none, Bool.false_eq_true, if_false]
      obtain ⟨es2, ho2, hmap2, hpres2, hdlv2⟩ := h2.obj
      refine ⟨⟨h2.noerr, ?_, by rw [emit_trace, inRound_snoc]; rfl, ?_, ?_, ?_⟩, fun _ _ => upd_objs_same ..⟩
      · refine Valid.snoc h2.valid ⟨h2.inr, ?_⟩
        intro x hx
        rw [upd_trace, hpres2, mem_liveRegs] at hx
        obtain ⟨e, he, hl, rfl⟩ := hx
        refine hdlv2 e he ?_ hl
        rw [List.append_nil] at hmap2
        rw [← hmap2]; exact List.mem_map.2 ⟨e, he, rfl⟩
      · intro t'
        simp only [emit_trace, upd_trace, present2_snoc, stepQ, emit_objs]
        by_cases ht : t = t'
        · subst ht; rw [if_pos rfl, upd_objs_same]; rfl
        · rw [if_neg ht, upd_objs_other _ _ (Ne.symm ht)]
          exact (h2.others t' (Ne.symm ht)).1
      · intro t'
        by_cases ht : t' = t
        · subst ht; intro l hl; simp at hl
        · simp only [emit_objs, upd_objs_other _ _ ht]
          exact (h2.others t' ht).2
      · exact fresh_snoc h2.fresh rfl

theorem add_inv {s : State} (h : Inv s) (t d k : Nat) : Inv (addDestroyNotify t d k s) := by
  unfold addDestroyNotify
  cases ho : s.objs t with
  | none => exact h
  | some o =>
    simp only
    obtain ⟨es, hget, hp, hl⟩ := h.getList ho
    rw [hget]
    simp only [CbList.addCallback, Bool.false_eq_true, if_false]
    have hfresh : s.nextReg ∉ added s.trace := fun hm => Nat.lt_irrefl _ (h.fresh _ hm)
    refine ⟨h.noerr, Valid.snoc h.valid hfresh, (inRound_snoc ..).trans h.idle, ?_, ?_, ?_⟩
    · intro t'
      by_cases e : t' = t
      · subst e
        simp [State.emit, present2_snoc, stepQ, hp, regsOf, liveRegs, List.filter_append, h.idle]
      · simpa [State.emit, upd_objs_other _ _ e, present2_snoc, stepQ, Ne.symm e] using h.pres t'
    · intro t'
      by_cases e : t' = t
      · subst e
        intro l hl'
        simp at hl'; subst hl'
        refine ⟨rfl, fun e he => ?_⟩
        rcases List.mem_append.1 he with he | he
        · exact hl e he
        · rw [List.mem_singleton.1 he]; rfl
      · simpa [State.emit, upd_objs_other _ _ e] using h.live t'
    · exact fresh_snoc_add h.fresh t d

theorem rem_inv {s : State} (h : Inv s) (t d : Nat) : Inv (removeDestroyNotify t d s) := by
  unfold removeDestroyNotify
  cases ho : s.objs t with
  | none => exact h
  | some o =>
    simp only
    obtain ⟨es, hget, hp, hl⟩ := h.getList ho
    rw [hget]
    simp only [CbList.removeCallback]
    refine ⟨h.noerr, Valid.snoc h.valid trivial, (inRound_snoc ..).trans h.idle, ?_, ?_, ?_⟩
    · intro t'
      by_cases e : t' = t
      · subst e
        simp [present2_snoc, stepQ, hp, regsOf, liveRegs_removeLoop]
      · simpa [upd_objs_other _ _ e, present2_snoc, stepQ, Ne.symm e] using h.pres t'
    · intro t'
      by_cases e : t' = t
      · subst e
        intro l hl'
        simp at hl'; subst hl'
        exact ⟨rfl, fun e he => hl e ((removeLoop_false_sublist d es).subset he)⟩
      · simpa [upd_objs_other _ _ e] using h.live t'
    · exact fresh_snoc h.fresh rfl

theorem Inv.fresh_obj {s : State} (h : Inv s) {t : Nat} (ht : s.alive t = false) :
    Inv (s.upd t (some ⟨none⟩)) := by
  refine h.upd ?_ (fun l hl => by cases hl)
  rw [show s.objs t = none by simpa [State.alive] using ht]; rfl

theorem exec_inv {sc : Scripts} (hsc : NoNotify sc) {s : State} (h : Inv s) (op : Op)
    (hok : op.ok s = true) : Inv (exec sc op s) := by
  cases op with
  | new t => exact h.fresh_obj (by simpa [Op.ok] using hok)
  | add t d k => exact add_inv h t d k
  | rem t d => exact rem_inv h t d
  | copyCtor src dst => exact h.fresh_obj (by simpa [Op.ok] using (Bool.and_eq_true_iff.1 hok).2)
  | moveCtor src dst =>
    exact (notify_inv hsc src (h.fresh_obj (by simpa [Op.ok] using (Bool.and_eq_true_iff.1 hok).2))).1
  | assign dst src =>
    simp only [exec]
    split
    · exact (notify_inv hsc dst h).1
    · exact h
  | moveAssign dst src =>
    simp only [exec]
    split
    · have h1 := (notify_inv hsc dst h).1
      simp only [h1.noerr, Option.isSome_none, Bool.false_eq_true, if_false]
      exact (notify_inv hsc src h1).1
    · exact h
  | notify t => exact (notify_inv hsc t h).1
  | del t =>
    obtain ⟨o, ho⟩ := alive_iff.1 hok
    obtain ⟨h1, h2⟩ := notify_inv hsc t h
    simp only [exec, h1.noerr, Option.isSome_none, Bool.false_eq_true, if_false]
    exact h1.upd (by rw [h2 o ho]; rfl) (fun l hl => by cases hl)

theorem step_inv {sc : Scripts} (hsc : NoNotify sc) {s : State} (h : Inv s) (op : Op) :
    Inv (step sc op s) := by
  unfold step
  simp only [h.noerr, Option.isSome_none, Bool.false_eq_true, if_false]
  split
  · rename_i hok; exact exec_inv hsc h op hok
  · exact h

theorem runFrom_inv {sc : Scripts} (hsc : NoNotify sc) :
    ∀ (ops : List Op) (s : State), Inv s → Inv (runFrom sc ops s) :=
  foldl_invariant fun _ op h => step_inv hsc h op

theorem init_inv : Inv State.init :=
  ⟨rfl, Valid.nil, rfl, fun _ => rfl, fun _ _ hl => (nomatch hl), fun _ hr => (nomatch hr)⟩

theorem run_inv {h : History} (hd : h.Domain2 = true) : Inv (run h) :=
  runFrom_inv (History.noNotify hd) h.ops _ init_inv

end W

/-! ### the narrow-domain spellings

  `StepOK`/`Valid`/`LInv` are `W.StepOK`/`W.Valid`/`W.LInv` written with `present` and with `add` confined to
  the outside of rounds; `LInv2`/`Good` are the part of `LInv` that absence of errors needs.  Nothing is
  stated about them: on `History.Domain` the `W` notions hold and `present2` is `present`
  (`TrkLemmas3`).  Trap: outside `namespace W` the bare names `StepOK`, `Valid`, `LInv` mean these. -/

def StepOK (pre : List Ev) : Ev → Prop
  | .add r _ _ => r ∉ added pre ∧ inRound pre = none
  | .rem _ _ => True
  | .trig _ => inRound pre = none
  | .deliver r d _ => ∃ t, inRound pre = some t ∧ (r, d) ∈ present t pre ∧ r ∉ delivered pre
  | .done t => inRound pre = some t ∧ ∀ x ∈ present t pre, x.1 ∈ delivered pre

inductive Valid : List Ev → Prop
  | nil : Valid []
  | snoc {tr : List Ev} {e : Ev} : Valid tr → StepOK tr e → Valid (tr ++ [e])

/-- a list that is not being destroyed: distinct registration ids, all already handed out -/
def Good (n : Nat) (o : Option Trackable) : Prop :=
  ∀ l, o = some ⟨some l⟩ →
    l.clearing = false ∧ (l.entries.map (·.reg)).Nodup ∧ ∀ e ∈ l.entries, e.reg < n

/-- what absence of errors alone needs inside the delivery round on `t`: the list is `clearing`, its
    nodes' ids are `regs` -/
structure LInv2 (t : Nat) (s : State) (regs : List Nat) : Prop where
  noerr  : s.err = none
  obj    : ∃ es, s.objs t = some ⟨some ⟨es, true⟩⟩ ∧ es.map (·.reg) = regs
  others : ∀ t', t' ≠ t → Good s.nextReg (s.objs t')

structure LInv (t : Nat) (s : State) (dn rest : List Nat) : Prop where
  noerr : s.err = none
  valid : Valid s.trace
  inr   : inRound s.trace = some t
  obj   : ∃ es, s.objs t = some ⟨some ⟨es, true⟩⟩ ∧ es.map (·.reg) = dn ++ rest ∧
            present t s.trace = liveRegs es ∧
            ∀ e ∈ es, e.reg ∈ dn → e.func.isSome = true → e.reg ∈ delivered s.trace
  nodup : (dn ++ rest).Nodup
  pend  : ∀ r ∈ rest, r ∉ delivered s.trace
  others : ∀ t', t' ≠ t → present t' s.trace = regsOf (s.objs t') ∧ LiveAll (s.objs t')
  fresh : ∀ r ∈ added s.trace, r < s.nextReg

end Sigc.Trk
