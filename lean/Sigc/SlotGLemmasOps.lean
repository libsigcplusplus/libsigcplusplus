import Sigc.SlotGLemmasDestroy
/-!
  `WF = Inv ∧ Idle ∧ Held`, well-formedness at operation boundaries, is defined here; a cascade keeps `Idle` and `Held`
  (`idle_casc`, `held_casc`, read off `Casc`), so `repDisconnect` and `trkNotify` keep `WF`.  The operations of the
  language are in `SlotGLemmasFrame`.
-/
namespace Sigc.SlotG

/-- no trackable is in the middle of `notify_callbacks()`: none is clearing, none has a nulled entry -/
def Idle (s : State) : Prop :=
  ∀ t T, s.trks t = some T → T.clearing = false ∧ ∀ x, (x, false) ∉ T.entries

/-- every representation is stored in a slot variable -/
def Held (s : State) : Prop := ∀ r R, s.reps r = some R → ∃ v, repOf s v = some r

/-- the well-formedness invariant of every reachable state -/
structure WF (s : State) : Prop where
  inv : Inv s
  idle : Idle s
  held : Held s

theorem idle_of_trks {s s' : State} (hi : Idle s) (ht : s'.trks = s.trks) : Idle s' := by
  intro t T hT; rw [ht] at hT; exact hi t T hT

theorem idle_setTrk {s : State} (hi : Idle s) (t : Nat) {o : Option Trk}
    (ho : ∀ T, o = some T → T.clearing = false ∧ ∀ x, (x, false) ∉ T.entries) : Idle (s.setTrk t o) := by
  intro t' T hT
  rw [trks_setTrk] at hT
  by_cases ht : t' = t
  · rw [if_pos ht] at hT; exact ho T hT
  · rw [if_neg ht] at hT; exact hi t' T hT

theorem idle_casc {s s' : State} (hc : Casc s s') (hi : Idle s) : Idle s' := by
  intro t T' hT'
  obtain ⟨T, hT, hcl⟩ := hc.trkClr t T' hT'
  have h1 := hi t T hT
  refine ⟨by rw [hcl]; exact h1.1, ?_⟩
  intro x hx
  obtain ⟨T0, hT0, h⟩ := hc.trkFlags t T' x hT' hx
  rw [hT] at hT0; cases hT0
  rcases h with h | h
  · exact h1.2 x h
  · rw [h1.1] at h; simp at h

theorem held_casc {s s' : State} (hc : Casc s s') (hh : Held s) : Held s' := by
  intro r R' hR'
  obtain ⟨R, hR, -⟩ := hc.reps r R' hR'
  obtain ⟨v, hv⟩ := hh r R hR
  rcases hc.killed v r hv with h | ⟨-, h⟩
  · exact ⟨v, h⟩
  · rw [h] at hR'; cases hR'

theorem wf_casc {s s' : State} (hc : Casc s s') (hw : WF s) (hi : Inv s') : WF s' :=
  ⟨hi, idle_casc hc hw.idle, held_casc hc hw.held⟩

theorem repDisconnect_eq (r : Nat) (s : State) : repDisconnect r s =
    match s.reps r with
    | none => s
    | some R =>
      match R.parent with
      | none => s.setRep r (some { R with call := false, parent := none })
      | some p =>
        notifyInv (fuel (s.setRep r (some { R with call := false, parent := none }))) p
          (s.setRep r (some { R with call := false, parent := none })) := rfl

theorem repDisconnect_spec {s : State} (h : Inv s) (r : Nat) :
    Casc s (repDisconnect r s) ∧ Inv (repDisconnect r s) := by
  rw [repDisconnect_eq]
  cases hr : s.reps r with
  | none => exact ⟨Casc.refl s, h⟩
  | some R =>
    simp only []
    have hI1 := inv_setRep_noParent h hr false
    have hC1 := casc_setRep_noParent hr
    cases hp : R.parent with
    | none => exact ⟨hC1, hI1⟩
    | some p =>
      obtain ⟨hC2, hI2⟩ := notifyInv_spec _ p _ hI1 (nu_lt_fuel _)
      exact ⟨hC1.trans hC2, hI2⟩

/-- a representation with a parent belongs to a variable that is referred to, hence not owned: it survives -/
theorem repDisconnect_slot {s : State} (h : Inv s) {v r : Nat} (hv : repOf s v = some r)
    (hnm : v < anonBase) : (repDisconnect r s).slots v = s.slots v := by
  obtain ⟨hC, -⟩ := repDisconnect_spec h r
  obtain ⟨R, hR⟩ := h.repAlive v r hv
  cases hp : R.parent with
  | none =>
    rw [repDisconnect_eq]; simp only [hR, hp]; rfl
  | some p =>
    obtain ⟨P, f, hP, hPf, hfr⟩ := h.parentOk r R p v hR hp hv
    cases f with
    | sref fid w =>
      simp only [Fun.ref, Option.some.injEq] at hfr
      subst hfr
      exact hC.slotsKeep _ (h.refOk p P fid _ hP hPf).2.2
    | nest fid w d =>
      simp only [Fun.ref, Option.some.injEq] at hfr
      subst hfr
      have := (h.nestOk p P fid _ d hP hPf).1
      omega
    | _ => simp [Fun.ref] at hfr

theorem inv_setTrk {s : State} (h : Inv s) (t : Nat) (o : Option Trk)
    (h1 : ∀ r R f, s.reps r = some R → R.fn = some f → f.trk = some t → ∃ T', o = some T' ∧ (r, true) ∈ T'.entries)
    (h2 : ∀ T' r, o = some T' → (r, true) ∈ T'.entries → ∃ T, s.trks t = some T ∧ (r, true) ∈ T.entries)
    (h3 : ∀ T', o = some T' → (T'.entries.map Prod.fst).Nodup) : Inv (s.setTrk t o) :=
  { h with
    trkReg := fun r R f t' hR hf hft => by
      rw [trks_setTrk]; split
      · rename_i he; exact h1 r R f hR hf (he ▸ hft)
      · exact h.trkReg r R f t' hR hf hft
    trkEnt := fun t' T' r hT' hm => by
      rw [trks_setTrk] at hT'; split at hT'
      · rename_i he; subst he
        obtain ⟨T, hT, hm'⟩ := h2 T' r hT' hm
        exact h.trkEnt t' T r hT hm'
      · exact h.trkEnt t' T' r hT' hm
    trkNodup := fun t' T' hT' => by
      rw [trks_setTrk] at hT'; split at hT'
      · exact h3 T' hT'
      · exact h.trkNodup t' T' hT' }

theorem inv_setClearing {s : State} (h : Inv s) {t : Nat} {T : Trk} (ht : s.trks t = some T) (b : Bool) :
    Inv (s.setTrk t (some { T with clearing := b })) :=
  inv_setTrk h t _
    (fun r R f hR hf hft => by
      obtain ⟨T0, hT0, hm⟩ := h.trkReg r R f t hR hf hft
      rw [ht] at hT0; cases hT0; exact ⟨_, rfl, hm⟩)
    (fun T' r hT' hm => by cases hT'; exact ⟨T, ht, hm⟩)
    (fun T' hT' => by cases hT'; exact h.trkNodup t T ht)

theorem inv_clearTrk {s : State} (h : Inv s) (t : Nat) {o : Option Trk} (ho : ∀ T', o = some T' → T'.entries = [])
    (hno : ∀ r R f, s.reps r = some R → R.fn = some f → f.trk ≠ some t) : Inv (s.setTrk t o) :=
  inv_setTrk h t o (fun r R f hR hf hft => absurd hft (hno r R f hR hf))
    (fun T' r hT' hm => by rw [ho T' hT'] at hm; cases hm) (fun T' hT' => by rw [ho T' hT']; exact List.nodup_nil)

theorem casc_trkReset {s s2 : State} {t : Nat} {T : Trk} (ht : s.trks t = some T) (hcl : T.clearing = false)
    (hc : Casc (s.setTrk t (some { T with clearing := true })) s2) :
    Casc s (s2.setTrk t (some ⟨[], false⟩)) := by
  -- another trackable than `t` is the same in `s` and in the state the cascade started from
  have hother : ∀ {t' T0}, t' ≠ t → (s.setTrk t (some { T with clearing := true })).trks t' = some T0 →
      s.trks t' = some T0 := fun hne h0 => by rw [trks_setTrk, if_neg hne] at h0; exact h0
  exact {
    nextRep := hc.nextRep
    reps := hc.reps
    slots := hc.slots
    slotsKeep := hc.slotsKeep
    conns := hc.conns
    trkDom := fun t' => by
      rw [trks_setTrk]; split
      · rename_i he; rw [he, ht]; rfl
      · rename_i hne; have := hc.trkDom t'; rw [trks_setTrk, if_neg hne] at this; exact this
    trkEnt := fun t' T' x hT' hx => by
      rw [trks_setTrk] at hT'; split at hT'
      · cases hT'; cases hx
      · rename_i hne
        obtain ⟨T0, hT0, h0⟩ := hc.trkEnt t' T' x hT' hx
        exact ⟨T0, hother hne hT0, h0⟩
    trkFlags := fun t' T' x hT' hx => by
      rw [trks_setTrk] at hT'; split at hT'
      · cases hT'; cases hx
      · rename_i hne
        obtain ⟨T0, hT0, h0⟩ := hc.trkFlags t' T' x hT' hx
        exact ⟨T0, hother hne hT0, h0⟩
    trkClr := fun t' T' hT' => by
      rw [trks_setTrk] at hT'; split at hT'
      · rename_i he; cases hT'; exact ⟨T, he ▸ ht, hcl.symm⟩
      · rename_i hne
        obtain ⟨T0, hT0, h0⟩ := hc.trkClr t' T' hT'
        exact ⟨T0, hother hne hT0, h0⟩
    killed := hc.killed
    orphanKeep := hc.orphanKeep
    err := hc.err }

theorem trkNotify_spec {s : State} (hw : WF s) (t : Nat) :
    WF (trkNotify t s) ∧
      ∀ r R f, (trkNotify t s).reps r = some R → R.fn = some f → f.trk ≠ some t ∨ s.trks t = none := by
  rw [trkNotify_eq]
  cases ht : s.trks t with
  | none => exact ⟨hw, fun _ _ _ _ _ => .inr rfl⟩
  | some T =>
    simp only []
    have hI1 := inv_setClearing hw.inv ht true
    obtain ⟨hC2, hI2, hA2⟩ := trkFold_spec t T.entries _ hI1
    generalize T.entries.foldl (trkStep t) (s.setTrk t (some { T with clearing := true })) = s2 at hC2 hI2 hA2 ⊢
    have hno : ∀ r R f, s2.reps r = some R → R.fn = some f → f.trk ≠ some t := by
      intro r R f hR hf hft
      obtain ⟨T2, hT2, hm2⟩ := hI2.trkReg r R f t hR hf hft
      obtain ⟨T1, hT1, hm1⟩ := hC2.trkEnt t T2 r hT2 hm2
      simp only [trks_setTrk, if_true, Option.some.injEq] at hT1
      subst hT1
      have := hA2 (r, true) hm1
      rw [(entryActive_iff _ _ _).mpr ⟨T2, hT2, hm2⟩] at this
      exact absurd this (by simp)
    have hC := casc_trkReset ht (hw.idle t T ht).1 hC2
    exact ⟨wf_casc hC hw (inv_clearTrk hI2 t (fun _ e => by cases e; rfl) hno), fun r R f hR hf => .inl (hno r R f hR hf)⟩

theorem frame_swapVar {s : State} (v q : Nat) (o : Option Nat) (c0 : Option Nat) :
    Frame c0 s (swapVar v q o s) :=
  (frame_eraseRep q c0).trans (frame_of_eq (reps_modSlot _ _ _) (conns_modSlot _ _ _) c0)

theorem idle_swapVar {s : State} (h : Idle s) (v q : Nat) (o : Option Nat) : Idle (swapVar v q o s) :=
  idle_of_trks h (trks_swapVar ..)

theorem held_swapVar {s : State} (hi : Inv s) {v q : Nat} {o : Option Nat}
    (h : ∀ r R, s.reps r = some R → (∃ w, repOf s w = some r) ∨ some r = o)
    (hv : repOf s v = some q) : Held (swapVar v q o s) := by
  intro r R hR
  rw [reps_swapVar] at hR
  split at hR
  · cases hR
  · rename_i hrq
    rcases h r R hR with ⟨w, hw⟩ | he
    · have hwv : w ≠ v := fun he => hrq (by rw [he, hv] at hw; cases hw; rfl)
      exact ⟨w, by rw [repOf_swapVar, if_neg hwv]; exact hw⟩
    · obtain ⟨V, hV, -⟩ := repOf_eq.mp hv
      exact ⟨v, by rw [repOf_swapVar, if_pos rfl, hV, ← he]; rfl⟩

end Sigc.SlotG
