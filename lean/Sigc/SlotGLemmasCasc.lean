import Sigc.SlotGLemmasTrace
/-!
  The relation `Casc` — what a teardown cascade may do to a state: nothing appears, only what a functor of the start
  state owned is erased — with `Casc.refl`, `Casc.trans` and its steps (`casc_modRep`, `casc_trkRemove`, `casc_dropFn`).
  Before it: the non-recursive head of `destroyRep` (`dropFnF`) preserves `Inv` (`inv_dropFn`).
-/
namespace Sigc.SlotG

theorem unbindFun_fn (r fid : Nat) (s : State) : unbindFun r (.fn fid) s = s := rfl
theorem unbindFun_mem (r fid t : Nat) (s : State) : unbindFun r (.mem fid t) s = trkRemove t r s := rfl
theorem unbindFun_own_some (r fid v t : Nat) (s : State) :
    unbindFun r (.own fid v (some t)) s = trkRemove t r s := rfl
theorem unbindFun_own_none (r fid v : Nat) (s : State) : unbindFun r (.own fid v none) s = s := rfl

theorem inv_clearPar {s : State} (h : Inv s) (q r : Nat) : Inv (s.modRep q (clearPar r)) :=
  inv_modRep h q fun X _ => by
    unfold clearPar; split
    · exact ⟨rfl, rfl, .inr (.inl rfl)⟩
    · exact ⟨rfl, rfl, .inl rfl⟩

/-- The functor of `r` is dropped, and its registration on a trackable, if it has one, is taken back: `s1` is `s`
    with that entry removed.  The slot variable the functor visited no longer has `r` as its parent. -/
theorem inv_fnNone {s s1 : State} (h : Inv s) {r : Nat} {R : Rep} {f : Fun} (hr : s.reps r = some R)
    (hf : R.fn = some f)
    (hp : ∀ v q Q, f.ref = some v → repOf s v = some q → s.reps q = some Q → Q.parent ≠ some r)
    (hs : s1.slots = s.slots) (hre : s1.reps = s.reps) (hc : s1.conns = s.conns) (hn : s1.nextRep = s.nextRep)
    (ht : ∀ t, s1.trks t = if f.trk = some t then (s.trks t).map (remEntry r) else s.trks t) :
    Inv (s1.modRep r fun R' => { R' with fn := none }) := by
  have hrep : ∀ v, repOf (s1.modRep r fun R' => { R' with fn := none }) v = repOf s v := fun v => by
    rw [repOf_modRep, repOf_congr hs]
  have hm := reps_modRep s1 r fun R' => { R' with fn := none }
  have hnew : ∀ x X', (s1.modRep r fun R' => { R' with fn := none }).reps x = some X' →
      ∃ X, s.reps x = some X ∧ X'.parent = X.parent ∧ ((x ≠ r ∧ X' = X) ∨ (x = r ∧ X'.fn = none)) := by
    intro x X' hX'
    obtain ⟨X, hX, ⟨hxr, rfl⟩ | ⟨rfl, rfl⟩⟩ := reps_of_mod hm hX' <;> rw [hre] at hX
    · exact ⟨X', hX, rfl, .inl ⟨hxr, rfl⟩⟩
    · exact ⟨X, hX, rfl, .inr ⟨rfl, rfl⟩⟩
  have hold : ∀ x X, s.reps x = some X → x ≠ r →
      (s1.modRep r fun R' => { R' with fn := none }).reps x = some X := by
    intro x X hX hxr; rw [reps_modRep, if_neg hxr, hre]; exact hX
  refine .of
    (h.exOk.congr (by rw [slots_modRep, hs]) (by rw [nextRep_modRep, hn])
      fun x => by rw [map_reps_of_mod _ hm fun _ _ => rfl, hre])
    (h.regOk.congr hrep (by rw [conns_modRep, hc])
      fun x => by rw [map_reps_of_mod _ hm fun _ _ => rfl, hre])
    ?par ⟨?reg, ?ent, ?nodup⟩
    (h.fnOk.mono (fun v V hV _ => ⟨V, by rw [slots_modRep, hs]; exact hV⟩)
      (fun c p hp _ => ⟨p, by rw [conns_modRep, hc]; exact hp⟩) ?fn)
  case fn =>
    intro x X' f' hX' hf'
    obtain ⟨X, hX, -, ⟨-, rfl⟩ | ⟨-, he⟩⟩ := hnew x X' hX'
    · exact ⟨X', hX, hf'⟩
    · rw [he] at hf'; cases hf'
  case par =>
    intro x X' p v hX' hpar hv
    rw [hrep] at hv
    obtain ⟨X, hX, hpe, -⟩ := hnew x X' hX'
    rw [hpe] at hpar
    obtain ⟨P, f', hP, hPf, hfr⟩ := h.parentOk x X p v hX hpar hv
    by_cases hpr : p = r
    · subst hpr
      rw [hr] at hP; cases hP
      rw [hf] at hPf; cases hPf
      exact absurd hpar (hp v x X hfr hv hX)
    · exact ⟨P, f', hold p P hP hpr, hPf, hfr⟩
  case reg =>
    intro x X' f' t hX' hf' hft
    obtain ⟨X, hX, -, ⟨hxr, rfl⟩ | ⟨-, he⟩⟩ := hnew x X' hX'
    · obtain ⟨T, hT, hm⟩ := h.trkReg x X' f' t hX hf' hft
      rw [trks_modRep, ht, hT]
      split
      · exact ⟨_, rfl, (mem_remEntry r x T (h.trkNodup t T hT)).mpr ⟨hm, hxr⟩⟩
      · exact ⟨T, rfl, hm⟩
    · rw [he] at hf'; cases hf'
  case ent =>
    intro t T' x hT' hm
    rw [trks_modRep, ht] at hT'
    have : ∃ T, s.trks t = some T ∧ (x, true) ∈ T.entries ∧ (f.trk = some t → x ≠ r) := by
      split at hT'
      · obtain ⟨T, hT, rfl⟩ := Option.map_eq_some_iff.mp hT'
        obtain ⟨hm', hxr⟩ := (mem_remEntry r x T (h.trkNodup t T hT)).mp hm
        exact ⟨T, hT, hm', fun _ => hxr⟩
      · rename_i hne; exact ⟨T', hT', hm, fun he => absurd he hne⟩
    obtain ⟨T, hT, hm', hne⟩ := this
    obtain ⟨X, f', hX, hXf, hft⟩ := h.trkEnt t T x hT hm'
    have hxr : x ≠ r := by
      intro he; subst he
      rw [hr] at hX; cases hX
      rw [hf] at hXf; cases hXf
      exact hne hft rfl
    exact ⟨X, f', hold x X hX hxr, hXf, hft⟩
  case nodup =>
    intro t T' hT'
    rw [trks_modRep, ht] at hT'
    split at hT'
    · obtain ⟨T, hT, rfl⟩ := Option.map_eq_some_iff.mp hT'
      exact remEntry_nodup r T (h.trkNodup t T hT)
    · exact h.trkNodup t T' hT'

theorem inv_dropFn {s : State} (h : Inv s) {r : Nat} {R : Rep} {f : Fun} (hr : s.reps r = some R)
    (hf : R.fn = some f) : Inv (dropFnF r R f s) := by
  unfold dropFnF
  have h1 : Inv (s.setRep r (some { R with call := false })) := inv_setRep_same h hr rfl rfl rfl
  have hr1 : (s.setRep r (some { R with call := false })).reps r = some { R with call := false } := by
    rw [reps_setRep, if_pos rfl]
  have hp : f.ref = none → ∀ v q Q, f.ref = some v →
      repOf (s.setRep r (some { R with call := false })) v = some q →
      (s.setRep r (some { R with call := false })).reps q = some Q → Q.parent ≠ some r :=
    fun hfr v _ _ hv => by rw [hfr] at hv; cases hv
  rcases unbindFun_cases r f (s.setRep r (some { R with call := false })) with
    ⟨hft, hfr, he⟩ | ⟨t, hft, hfr, he⟩ | ⟨v, hfr, hft, he⟩ <;> rw [he]
  · exact inv_fnNone h1 hr1 hf (hp hfr) rfl rfl rfl rfl fun t => by rw [hft, if_neg nofun]
  · refine inv_fnNone h1 hr1 hf (hp hfr) (slots_trkRemove ..) (reps_trkRemove ..) (conns_trkRemove ..)
      (nextRep_trkRemove ..) fun t' => ?_
    rw [trks_trkRemove, hft]
    by_cases htt : t' = t
    · rw [if_pos htt, if_pos (by rw [htt])]
    · rw [if_neg htt, if_neg (fun he => htt (Option.some.inj he).symm)]
  · rw [unsetParentIf_eq, repOf_setRep]
    cases hq : repOf s v with
    | none =>
      refine inv_fnNone h1 hr1 hf ?_ rfl rfl rfl rfl fun t => by rw [hft, if_neg nofun]
      intro v' q Q hv' hq'
      rw [hfr] at hv'; cases hv'
      rw [repOf_setRep, hq] at hq'; cases hq'
    | some q =>
      have h2 := inv_clearPar h1 q r
      -- `r` keeps its functor when the parent link of `q` is cleared
      obtain ⟨X, hX, hXf⟩ := (FnFrom.of_map_eq (map_reps_of_mod Rep.fn (reps_modRep _ q (clearPar r))
        fun X _ => by unfold clearPar; split <;> rfl)).2 r _ f hr1 hf
      refine inv_fnNone h2 hX hXf ?_ rfl rfl rfl rfl fun t => by rw [hft, if_neg nofun]
      intro v' q' Q' hv' hq' hQ'
      rw [hfr] at hv'; cases hv'
      rw [repOf_modRep, repOf_setRep, hq] at hq'; cases hq'
      rw [reps_modRep, if_pos rfl] at hQ'
      obtain ⟨Q0, -, rfl⟩ := Option.map_eq_some_iff.mp hQ'
      unfold clearPar; split
      · nofun
      · assumption


/-- `Casc s s'`: what a teardown cascade (`destroyRep`, `notifyInv`, `trkNotify`, `killConn`) may have made of `s`:
    nothing appears; what is left of a representation is as before or reset; slot entries are only erased, and only
    those of variables that a functor of `s` owns (`slotsKeep`); a connection is nulled, or gone if a functor of `s`
    owned it; a nulled trackable entry appears only where the trackable was clearing (`trkFlags`); a variable goes only
    together with the representation it stored (`killed`); what no variable stored stays (`orphanKeep`).
    A statement about any two states: no lemma that produces it asks for `Inv`.  `slotsKeep` and `conns` speak of
    `Owned`, `OwnedC` in the start state, where the owning functor still exists — hence `casc_killConn`, `casc_killVar`,
    `casc_kill0` extend a given `Casc s s3` and are not composed by `trans`. -/
structure Casc (s s' : State) : Prop where
  nextRep : s'.nextRep = s.nextRep
  reps : ∀ x X', s'.reps x = some X' → ∃ X, s.reps x = some X ∧ (X'.fn = X.fn ∨ X'.fn = none) ∧
      (X'.parent = X.parent ∨ X'.parent = none) ∧ (X'.call = X.call ∨ X'.call = false) ∧
      (∀ c, c ∈ X'.cbs → c ∈ X.cbs)
  slots : ∀ v V', s'.slots v = some V' → s.slots v = some V'
  slotsKeep : ∀ v, ¬ Owned s v → s'.slots v = s.slots v
  conns : ∀ c, s'.conns c = s.conns c ∨ (s'.conns c = some none ∧ ∃ v, s.conns c = some (some v)) ∨
    (s'.conns c = none ∧ OwnedC s c)
  trkDom : ∀ t, (s'.trks t).isSome = (s.trks t).isSome
  trkEnt : ∀ t T' x, s'.trks t = some T' → (x, true) ∈ T'.entries →
      ∃ T, s.trks t = some T ∧ (x, true) ∈ T.entries
  trkFlags : ∀ t T' x, s'.trks t = some T' → (x, false) ∈ T'.entries →
      ∃ T, s.trks t = some T ∧ ((x, false) ∈ T.entries ∨ T.clearing = true)
  trkClr : ∀ t T', s'.trks t = some T' → ∃ T, s.trks t = some T ∧ T'.clearing = T.clearing
  killed : ∀ v r, repOf s v = some r → repOf s' v = some r ∨ (s'.slots v = none ∧ s'.reps r = none)
  orphanKeep : ∀ x X, s.reps x = some X → (∀ v, repOf s v ≠ some x) → ∃ X', s'.reps x = some X'
  err : s.err = true → s'.err = true

theorem Casc.refl (s : State) : Casc s s :=
  { nextRep := rfl
    reps := fun _ X' h => ⟨X', h, .inl rfl, .inl rfl, .inl rfl, fun _ hc => hc⟩
    slots := fun _ _ h => h
    slotsKeep := fun _ _ => rfl
    conns := fun _ => .inl rfl
    trkDom := fun _ => rfl
    trkEnt := fun _ T' _ h hx => ⟨T', h, hx⟩
    trkFlags := fun _ T' _ h hx => ⟨T', h, .inl hx⟩
    trkClr := fun _ T' h => ⟨T', h, rfl⟩
    killed := fun _ _ h => .inl h
    orphanKeep := fun _ X h _ => ⟨X, h⟩
    err := fun h => h }

theorem Casc.fnFrom {s s' : State} (h : Casc s s') : FnFrom s s' := fun x X' f hX' hf => by
  obtain ⟨X, hX, he | he, -⟩ := h.reps x X' hX'
  · exact ⟨X, hX, he ▸ hf⟩
  · rw [he] at hf; cases hf

theorem Casc.owned {s s' : State} (h : Casc s s') {v : Nat} (ho : Owned s' v) : Owned s v :=
  h.fnFrom.owned ho

theorem Casc.ownedC {s s' : State} (h : Casc s s') {c : Nat} (ho : OwnedC s' c) : OwnedC s c := by
  obtain ⟨r, R', f, hr, hf, hfo⟩ := ho
  obtain ⟨R, hR, hRf⟩ := h.fnFrom r R' f hr hf
  exact ⟨r, R, f, hR, hRf, hfo⟩

theorem Casc.pinned {s s' : State} (h : Casc s s') {v : Nat} (ho : Pinned s' v) : Pinned s v := by
  obtain ⟨r, R', fid, hr, hf⟩ := ho
  obtain ⟨R, hR, hRf⟩ := h.fnFrom r R' _ hr hf
  exact ⟨r, R, fid, hR, hRf⟩

theorem Casc.trans {s s1 s2 : State} (h1 : Casc s s1) (h2 : Casc s1 s2) : Casc s s2 := by
  constructor
  · rw [h2.nextRep, h1.nextRep]
  · intro x X2 hx
    obtain ⟨X1, hX1, a1, a2, a3, a4⟩ := h2.reps x X2 hx
    obtain ⟨X, hX, b1, b2, b3, b4⟩ := h1.reps x X1 hX1
    exact ⟨X, hX, a1.elim (fun e => by rw [e]; exact b1) .inr, a2.elim (fun e => by rw [e]; exact b2) .inr,
      a3.elim (fun e => by rw [e]; exact b3) .inr, fun c hc => b4 c (a4 c hc)⟩
  · intro v V' hv
    exact h1.slots v V' (h2.slots v V' hv)
  · intro v hv
    rw [h2.slotsKeep v (fun ho => hv (h1.owned ho)), h1.slotsKeep v hv]
  · intro c
    rcases h2.conns c with a | ⟨a, w, hw⟩ | ⟨a, ho⟩
    · rw [a]; exact h1.conns c
    · rcases h1.conns c with b | ⟨b, -⟩ | ⟨b, -⟩
      · exact .inr (.inl ⟨a, w, by rw [← b]; exact hw⟩)
      · rw [b] at hw; cases hw
      · rw [b] at hw; cases hw
    · exact .inr (.inr ⟨a, h1.ownedC ho⟩)
  · intro t; rw [h2.trkDom, h1.trkDom]
  · intro t T2 x ht hx
    obtain ⟨T1, hT1, hx1⟩ := h2.trkEnt t T2 x ht hx
    exact h1.trkEnt t T1 x hT1 hx1
  · intro t T2 x ht hx
    obtain ⟨T1, hT1, hx1⟩ := h2.trkFlags t T2 x ht hx
    obtain ⟨T, hT, c⟩ := h1.trkClr t T1 hT1
    rcases hx1 with hx1 | hx1
    · obtain ⟨T', hT', hx'⟩ := h1.trkFlags t T1 x hT1 hx1
      exact ⟨T', hT', hx'⟩
    · exact ⟨T, hT, .inr (by rw [← c]; exact hx1)⟩
  · intro t T2 ht
    obtain ⟨T1, hT1, c1⟩ := h2.trkClr t T2 ht
    obtain ⟨T, hT, c⟩ := h1.trkClr t T1 hT1
    exact ⟨T, hT, by rw [c1, c]⟩
  · intro v r hv
    rcases h1.killed v r hv with hk | ⟨hk1, hk2⟩
    · rcases h2.killed v r hk with hk' | hk'
      · exact .inl hk'
      · exact .inr hk'
    · refine .inr ⟨?_, ?_⟩
      · cases hx : s2.slots v with
        | none => rfl
        | some V => have := h2.slots v V hx; simp [hk1] at this
      · cases hx : s2.reps r with
        | none => rfl
        | some X => obtain ⟨X1, hX1, -⟩ := h2.reps r X hx; simp [hk2] at hX1
  · intro x X hx ho
    obtain ⟨X1, hX1⟩ := h1.orphanKeep x X hx ho
    refine h2.orphanKeep x X1 hX1 ?_
    intro v hv
    have : repOf s v = some x := by
      rw [repOf_eq] at hv ⊢
      obtain ⟨V, hV, hVr⟩ := hv
      exact ⟨V, h1.slots v V hV, hVr⟩
    exact ho v this
  · intro he; exact h2.err (h1.err he)

theorem casc_modRep (s : State) (q : Nat) {g : Rep → Rep}
    (hg : ∀ X, s.reps q = some X → ((g X).fn = X.fn ∨ (g X).fn = none) ∧
      ((g X).parent = X.parent ∨ (g X).parent = none) ∧ ((g X).call = X.call ∨ (g X).call = false) ∧
      ∀ c, c ∈ (g X).cbs → c ∈ X.cbs) : Casc s (s.modRep q g) where
  nextRep := nextRep_modRep ..
  reps x X' hX' := by
    obtain ⟨X, hX, ⟨-, rfl⟩ | ⟨rfl, rfl⟩⟩ := reps_of_mod (reps_modRep s q g) hX'
    · exact ⟨X', hX, .inl rfl, .inl rfl, .inl rfl, fun _ hc => hc⟩
    · exact ⟨X, hX, hg X hX⟩
  slots v V' hv := by rw [slots_modRep] at hv; exact hv
  slotsKeep v _ := by rw [slots_modRep]
  conns c := .inl (by rw [conns_modRep])
  trkDom t := by rw [trks_modRep]
  trkEnt t T' x hT hx := ⟨T', by rw [trks_modRep] at hT; exact hT, hx⟩
  trkFlags t T' x hT hx := ⟨T', by rw [trks_modRep] at hT; exact hT, .inl hx⟩
  trkClr t T' hT := ⟨T', by rw [trks_modRep] at hT; exact hT, rfl⟩
  killed v r hv := .inl (by rw [repOf_modRep]; exact hv)
  orphanKeep x X hx _ := by
    rw [reps_modRep]
    split
    · exact ⟨g X, by rw [hx]; rfl⟩
    · exact ⟨X, hx⟩
  err he := by rw [err_modRep]; exact he

theorem casc_setRep_same {s : State} {r : Nat} {R R' : Rep} (hr : s.reps r = some R)
    (h0 : R'.call = R.call ∨ R'.call = false) (h1 : R'.parent = R.parent ∨ R'.parent = none)
    (h2 : R'.fn = R.fn ∨ R'.fn = none) (h3 : ∀ c, c ∈ R'.cbs → c ∈ R.cbs) : Casc s (s.setRep r (some R')) := by
  rw [setRep_eq_modRep hr]
  exact casc_modRep s r fun X hX => by rw [hr] at hX; cases hX; exact ⟨h2, h1, h0, h3⟩

theorem casc_setRep_call {s : State} {r : Nat} {R : Rep} (hr : s.reps r = some R) :
    Casc s (s.setRep r (some { R with call := false })) :=
  casc_setRep_same hr (.inr rfl) (.inl rfl) (.inl rfl) fun _ hc => hc

theorem casc_setRep_noParent {s : State} {r : Nat} {R : Rep} (hr : s.reps r = some R) :
    Casc s (s.setRep r (some { R with call := false, parent := none })) :=
  casc_setRep_same hr (.inr rfl) (.inr rfl) (.inl rfl) fun _ hc => hc

theorem casc_clearPar (s : State) (q r : Nat) : Casc s (s.modRep q (clearPar r)) :=
  casc_modRep s q fun X _ => by
    unfold clearPar; split
    · exact ⟨.inl rfl, .inr rfl, .inl rfl, fun _ hc => hc⟩
    · exact ⟨.inl rfl, .inl rfl, .inl rfl, fun _ hc => hc⟩

theorem casc_fnNone (s : State) (r : Nat) : Casc s (s.modRep r fun R' => { R' with fn := none }) :=
  casc_modRep s r fun _ _ => ⟨.inr rfl, .inl rfl, .inl rfl, fun _ hc => hc⟩

theorem casc_trkRemove (s : State) (t r : Nat) : Casc s (trkRemove t r s) := by
  -- a trackable of the new state is the old one, with the entry removed if it is `t`
  have hT : ∀ t' T', (trkRemove t r s).trks t' = some T' →
      ∃ T, s.trks t' = some T ∧ (T' = T ∨ T' = remEntry r T) := by
    intro t' T' h
    rw [trks_trkRemove] at h
    split at h
    · obtain ⟨T, hT, rfl⟩ := Option.map_eq_some_iff.mp h; exact ⟨T, hT, .inr rfl⟩
    · exact ⟨T', h, .inl rfl⟩
  exact {
    nextRep := nextRep_trkRemove ..
    reps := fun x X' hX' => ⟨X', by rw [reps_trkRemove] at hX'; exact hX', .inl rfl, .inl rfl, .inl rfl,
      fun _ hc => hc⟩
    slots := fun v V' hv => by rw [slots_trkRemove] at hv; exact hv
    slotsKeep := fun v _ => by rw [slots_trkRemove]
    conns := fun c => .inl (by rw [conns_trkRemove])
    trkDom := fun t' => by rw [trks_trkRemove]; split <;> simp
    trkEnt := fun t' T' x h hx => by
      obtain ⟨T, hT, rfl | rfl⟩ := hT t' T' h
      · exact ⟨T', hT, hx⟩
      · -- an active entry that is left was there: `mem_removeLoop_false` with the flag `true`
        exact ⟨T, hT, (mem_removeLoop_false _ r x true _ hx).resolve_right fun h => nomatch h.2.1⟩
    trkFlags := fun t' T' x h hx => by
      obtain ⟨T, hT, rfl | rfl⟩ := hT t' T' h
      · exact ⟨T', hT, .inl hx⟩
      · exact ⟨T, hT, mem_remEntry_flag r x T hx⟩
    trkClr := fun t' T' h => by
      obtain ⟨T, hT, rfl | rfl⟩ := hT t' T' h
      · exact ⟨T', hT, rfl⟩
      · exact ⟨T, hT, rfl⟩
    killed := fun v x hv => .inl (by rw [repOf_trkRemove]; exact hv)
    orphanKeep := fun x X hx _ => ⟨X, by rw [reps_trkRemove]; exact hx⟩
    err := fun he => by rw [err_trkRemove]; exact he }

theorem casc_unbindFun (s : State) (r : Nat) (f : Fun) : Casc s (unbindFun r f s) := by
  rcases unbindFun_cases r f s with ⟨-, -, h⟩ | ⟨t, -, -, h⟩ | ⟨v, -, -, h⟩ <;> rw [h]
  · exact Casc.refl s
  · exact casc_trkRemove s t r
  · rw [unsetParentIf_eq]
    split
    · exact Casc.refl s
    · exact casc_clearPar s _ r

theorem casc_dropFn {s : State} {r : Nat} {R : Rep} {f : Fun} (hr : s.reps r = some R) :
    Casc s (dropFnF r R f s) := by
  unfold dropFnF
  exact ((casc_setRep_call hr).trans (casc_unbindFun _ r f)).trans (casc_fnNone _ r)

end Sigc.SlotG
