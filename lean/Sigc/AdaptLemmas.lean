import Sigc.Adapt
/-!
  For `Adapt` (C10 / C11): the tuple utilities are `take` / `drop` / `map`; the argument slicing of every call operator
  is the documented transformation; the equations of `callImpl`; both emit loops are one plain loop (`emitLoop`); then,
  for the object model, one induction along the call path (`PathInv.callO`) from which the identity, frame and
  no-consumption invariants follow.
-/
namespace Sigc.Adapt

theorem gets_range (n : Nat) (l : List α) : gets (List.range n) l = l.take n := by
  induction n with
  | zero => rfl
  | succ n ih =>
    rw [List.range_succ, gets, List.filterMap_append, ← gets, ih, List.take_add_one, List.filterMap_cons,
      List.filterMap_nil]
    cases l[n]? <;> rfl

theorem tupleStart_take (n : Nat) (l : List α) : tupleStart n l = l.take n := gets_range n l

theorem tupleCdr_tail (l : List α) : tupleCdr l = l.tail := by
  cases l with
  | nil => rfl
  | cons x t =>
    have : gets ((List.range t.length).map Nat.succ) (x :: t) = gets (List.range t.length) t := by
      simp only [gets, List.filterMap_map, Function.comp_def, List.getElem?_cons_succ]
    rw [tupleCdr, List.length_cons, List.range_succ_eq_map, List.tail_cons, this, gets_range, List.take_length,
      List.tail_cons]

theorem tupleEndFuel_drop (fuel len : Nat) (l : List α) (hf : l.length ≤ fuel) (hl : len ≤ l.length) :
    tupleEndFuel fuel len l = l.drop (l.length - len) := by
  induction fuel generalizing l with
  | zero =>
    obtain rfl : l = [] := List.eq_nil_of_length_eq_zero (Nat.le_zero.1 hf)
    obtain rfl : len = 0 := Nat.le_zero.1 hl
    rfl
  | succ fuel ih =>
    cases l with
    | nil =>
      obtain rfl : len = 0 := Nat.le_zero.1 hl
      rfl
    | cons x t =>
      rw [List.length_cons] at hl hf
      rw [tupleEndFuel, tupleCdr_tail, List.tail_cons, List.length_cons]
      split
      · next h => rw [h, Nat.sub_zero, ← List.length_cons (a := x), List.drop_length]
      split
      · next h => rw [h]; rfl
      next h =>
      have hl' : len ≤ t.length := Nat.le_of_lt_succ (Nat.lt_of_not_le (mt Nat.sub_eq_zero_of_le h))
      rw [Nat.succ_sub hl', List.drop_succ_cons]
      split
      · next h1 => rw [Nat.succ.inj h1]; rfl
      · exact ih t (Nat.le_of_succ_le_succ hf) hl'

theorem tupleEnd_drop (len : Nat) (l : List α) (hl : len ≤ l.length) :
    tupleEnd len l = l.drop (l.length - len) :=
  tupleEndFuel_drop l.length len l (Nat.le_refl _) hl

theorem invoked_map_inr (f : α → β) (l : List α) :
    invoked (l.map (fun a => (Sum.inr (f a) : Sum α β))) = l.map f := by
  induction l with
  | nil => rfl
  | cons x t ih => rw [List.map_cons, invoked, List.filterMap_cons, ← invoked, ih]; rfl

theorem tuple_splice (A B : List γ) (x y : γ) :
    tupleStart A.length (A ++ x :: B) ++ [y] ++ tupleEnd ((A ++ x :: B).length - A.length - 1) (A ++ x :: B)
      = A ++ y :: B := by
  have hB : (A ++ x :: B).length - A.length - 1 = B.length := by
    rw [List.length_append, List.length_cons, Nat.add_sub_cancel_left, Nat.add_sub_cancel]
  have hd : (A ++ x :: B).drop ((A ++ x :: B).length - B.length) = B := by
    rw [List.append_cons, List.length_append (as := A ++ [x]), Nat.add_sub_cancel, List.drop_left]
  rw [tupleStart_take, List.take_left, hB, tupleEnd_drop _ _ (by rw [List.length_append, List.length_cons]; omega), hd,
    List.append_assoc, List.singleton_append]

/-- loop invariant of the `size_from_index` recursion: the elements in front of index `size - sfi` are transformed,
    the `sfi` others not yet -/
theorem transformEachImpl_spec (f : α → β) (done rest : List α) :
    transformEachImpl f rest.length
        (done.map (fun a => (Sum.inr (f a) : Sum α β)) ++ rest.map Sum.inl) (done ++ rest)
      = (done ++ rest).map (fun a => (Sum.inr (f a) : Sum α β)) := by
  induction rest generalizing done with
  | nil => rw [List.map_nil, List.append_nil, List.append_nil]; rfl
  | cons x rest ih =>
    have hidx : (done.map (fun a => (Sum.inr (f a) : Sum α β)) ++ Sum.inl x :: rest.map Sum.inl).length
        - (rest.length + 1) = (done.map (fun a => (Sum.inr (f a) : Sum α β))).length := by
      rw [List.length_append, List.length_cons, List.length_map, List.length_map, Nat.add_sub_cancel]
    have hget : (done ++ x :: rest)[(done.map (fun a => (Sum.inr (f a) : Sum α β))).length]? = some x := by
      rw [List.length_map, List.getElem?_append_right (Nat.le_refl _), Nat.sub_self]; rfl
    rw [List.length_cons, List.map_cons, transformEachImpl]
    simp only [hidx, hget]
    split
    · next h0 =>
      obtain rfl : rest = [] := List.eq_nil_of_length_eq_zero h0
      rw [show _ - 1 = _ from hidx, tupleStart_take, List.take_left, List.map_append]
      rfl
    · rw [tuple_splice, List.append_cons done, ← ih (done ++ [x]), List.map_append, List.append_assoc (List.map _ done)]
      rfl

theorem transformEach_eq_map (f : α → β) (l : List α) :
    transformEach f l = l.map (fun a => (Sum.inr (f a) : Sum α β)) :=
  transformEachImpl_spec f [] l

theorem invokeEach_eq_map (f : α → β) (l : List α) : invokeEach f l = l.map f := by
  rw [invokeEach, transformEach_eq_map, invoked_map_inr]

theorem argsImpl_spec (n : Node) (args : List Val) (m : Nat) (h : nodeArity n args.length = some m) :
    argsImpl n args = argsSpec n args ∧ (argsSpec n args).length = m := by
  cases n with
  | bind loc bs =>
    cases loc with
    | none =>
      cases h
      exact ⟨by rw [argsImpl, invokeEach_eq_map, List.map_id, argsSpec], List.length_append⟩
    | some i =>
      obtain ⟨hi, ⟨⟩⟩ := Option.ite_none_right_eq_some.1 h
      constructor
      · simp only [argsImpl]
        rw [invokeEach_eq_map, List.map_id, tupleStart_take, tupleEnd_drop _ _ (Nat.sub_le _ _), Nat.sub_sub_self hi,
          argsSpec]
      · rw [argsSpec, List.length_append, List.length_append, List.length_take, List.length_drop,
          Nat.min_eq_left hi, Nat.add_right_comm, Nat.add_sub_cancel' hi]
  | hide loc =>
    cases loc with
    | none =>
      obtain ⟨hn, ⟨⟩⟩ := Option.ite_none_right_eq_some.1 h
      refine ⟨?_, List.length_dropLast⟩
      simp only [argsImpl]
      rw [tupleStart_take, Nat.sub_sub_self hn, Nat.sub_self, tupleEnd_drop _ _ (Nat.zero_le _),
        Nat.sub_zero, List.drop_length, List.append_nil, argsSpec, List.dropLast_eq_take]
    | some i =>
      obtain ⟨hi, ⟨⟩⟩ := Option.ite_none_right_eq_some.1 h
      refine ⟨?_, List.length_eraseIdx_of_lt hi⟩
      simp only [argsImpl]
      rw [tupleStart_take, tupleEnd_drop _ _ (Nat.le_trans (Nat.sub_le _ _) (Nat.sub_le _ _)), argsSpec,
        List.eraseIdx_eq_take_drop_succ, Nat.sub_sub, Nat.sub_sub_self hi]
  | retype tys | slot ret tys =>
    obtain ⟨hn, ⟨⟩⟩ := Option.ite_none_right_eq_some.1 h
    exact ⟨rfl, by rw [argsSpec, List.length_zipWith, hn, Nat.min_self]⟩
  | _ =>
    cases h
    exact ⟨rfl, rfl⟩

theorem fwdRes_of_ne {m : ResMode} (h : m ≠ .decays) (v : Val) : fwdRes m v = v := by
  cases m <;> first | rfl | exact absurd rfl h

theorem resultMode_ne_decays (k : ResSite) : resultMode k ≠ .decays := by
  cases k <;> (intro h; cases h)

theorem afRes_of_ne {rm : ResSite → ResMode} (hrm : ∀ k, rm k ≠ .decays) (f : FExpr) (nl : Bool) (v : Val) :
    afRes rm f nl v = v := by
  simp only [afRes]
  split
  · exact fwdRes_of_ne (hrm _) v
  · rfl

theorem fwdNode_of_ne {rm : ResSite → ResMode} (hrm : ∀ k, rm k ≠ .decays) (n : Node) (nl : Bool) (v : Val) :
    fwdNode rm n nl v = v := by
  simp only [fwdNode]
  split
  · exact fwdRes_of_ne (hrm _) v
  · rfl

theorem Outcome.mapRes_id (o : Outcome) : o.mapRes (fun v => v) = o := by
  obtain ⟨log, res⟩ := o
  cases res <;> rfl

theorem callImplT_un {rm : ResSite → ResMode} (hrm : ∀ k, rm k ≠ .decays) (n : Node) (f : FExpr) (ex : Bool)
    (args : List Val) :
    callImplT rm (.un n f) ex args = (callImplT rm f n.innerExplicit (argsImpl n args)).mapRes (resOf n) := by
  simp only [callImplT, afRes_of_ne hrm, fwdNode_of_ne hrm]

theorem callImplT_compose1 {rm : ResSite → ResMode} (hrm : ∀ k, rm k ≠ .decays) (s g : FExpr) (ex : Bool)
    (args : List Val) :
    callImplT rm (.compose1 s g) ex args
      = (callImplT rm g false args).andThen (fun v => callImplT rm s false [v]) := by
  simp only [callImplT, afRes_of_ne hrm, fwdRes_of_ne (hrm _), Outcome.mapRes_id]

theorem callImplT_compose2 {rm : ResSite → ResMode} (hrm : ∀ k, rm k ≠ .decays) (s g1 g2 : FExpr) (ex : Bool)
    (args : List Val) :
    callImplT rm (.compose2 s g1 g2) ex args
      = (callImplT rm g1 false args).andThen (fun v1 => (callImplT rm g2 false args).andThen
          (fun v2 => callImplT rm s false [v1, v2])) := by
  simp only [callImplT, afRes_of_ne hrm, fwdRes_of_ne (hrm _), Outcome.mapRes_id]

theorem callImplT_exceptionCatch {rm : ResSite → ResMode} (hrm : ∀ k, rm k ≠ .decays) (f c : FExpr) (ex : Bool)
    (args : List Val) :
    callImplT rm (.exceptionCatch f c) ex args
      = (callImplT rm f false args).orCatch c.handles (callImplT rm c false []) := by
  have h2 : ∀ site, fwdRes (rm site) = fun v => v := fun site => funext (fwdRes_of_ne (hrm _))
  simp only [callImplT, afRes_of_ne hrm, h2, Outcome.mapRes_id]

/-- without a decaying row the spelling of the call (`.template operator()<...>` or not) makes no difference -/
theorem callImplT_explicit {rm : ResSite → ResMode} (hrm : ∀ k, rm k ≠ .decays) (e : FExpr) (ex : Bool)
    (args : List Val) : callImplT rm e ex args = callImplT rm e false args := by
  cases e with
  | un n f => rw [callImplT_un hrm, callImplT_un hrm]
  | compose1 s g => rw [callImplT_compose1 hrm, callImplT_compose1 hrm]
  | compose2 s g1 g2 => rw [callImplT_compose2 hrm, callImplT_compose2 hrm]
  | exceptionCatch f c => rw [callImplT_exceptionCatch hrm, callImplT_exceptionCatch hrm]
  | _ => rfl

theorem callImpl_leaf (id : Nat) (ps : List Ty) (ret : Option Ty) (thr : Option Exc) (args : List Val) :
    callImpl (.leaf id ps ret thr) args
      = ⟨[⟨id, List.zipWith conv ps args⟩], leafRes thr (leafRet id ret (List.zipWith conv ps args))⟩ := rfl

theorem callImpl_un (n : Node) (f : FExpr) (args : List Val) :
    callImpl (.un n f) args = (callImpl f (argsImpl n args)).mapRes (resOf n) := by
  rw [callImpl, callImplT_un resultMode_ne_decays, callImplT_explicit resultMode_ne_decays, ← callImpl]

theorem callImpl_compose1 (s g : FExpr) (args : List Val) :
    callImpl (.compose1 s g) args = (callImpl g args).andThen (fun v => callImpl s [v]) :=
  callImplT_compose1 resultMode_ne_decays s g false args

theorem callImpl_compose2 (s g1 g2 : FExpr) (args : List Val) :
    callImpl (.compose2 s g1 g2) args
      = (callImpl g1 args).andThen (fun v1 => (callImpl g2 args).andThen (fun v2 => callImpl s [v1, v2])) :=
  callImplT_compose2 resultMode_ne_decays s g1 g2 false args

theorem callImpl_exceptionCatch (f c : FExpr) (args : List Val) :
    callImpl (.exceptionCatch f c) args
      = (callImpl f args).orCatch c.handles (callImpl c []) :=
  callImplT_exceptionCatch resultMode_ne_decays f c false args

theorem callImpl_forwards {n : Node} (h : n.forwards = true) (f : FExpr) (args : List Val) :
    callImpl (.un n f) args = callImpl f (argsImpl n args) := by
  rw [callImpl_un]
  cases n <;> first | exact Outcome.mapRes_id _ | cases h

theorem callImpl_un_res {n : Node} {f : FExpr} {args : List Val} {v : Val}
    (h : (callImpl f (argsImpl n args)).res = .ok v) : (callImpl (.un n f) args).res = .ok (resOf n v) := by
  rw [callImpl_un, Outcome.mapRes, h]
  rfl

theorem callImpl_compose1_res {s g : FExpr} {args : List Val} {v : Val} (h : (callImpl g args).res = .ok v) :
    (callImpl (.compose1 s g) args).res = (callImpl s [v]).res := by
  simp only [callImpl_compose1, Outcome.andThen, h]

theorem callImpl_exceptionCatch_ok {f : FExpr} {args : List Val} {v : Val} (h : (callImpl f args).res = .ok v)
    (c : FExpr) : callImpl (.exceptionCatch f c) args = callImpl f args := by
  simp only [callImpl_exceptionCatch, Outcome.orCatch, h]

theorem callImpl_exceptionCatch_threw {f : FExpr} {args : List Val} {x : Exc} (h : (callImpl f args).res = .threw x)
    (c : FExpr) :
    callImpl (.exceptionCatch f c) args
      = if c.handles x then ⟨(callImpl f args).log ++ (callImpl c []).log, (callImpl c []).res⟩ else callImpl f args := by
  simp only [callImpl_exceptionCatch, Outcome.orCatch, h]

/-- `slot_call::call_it` (explicit template arguments) calls the functor like a direct call does -/
theorem callIt_eq (s : SlotM) (args : List Val) : callIt s args = (callImpl s.f args).mapRes (retConv s.ret) := by
  rw [callIt, callImplT_explicit resultMode_ne_decays, ← callImpl]

theorem viaSignal_single (s : SlotM) (args : List Val) (hc : s.callable = true) :
    viaSignal s.ret [s] args
      = ⟨(callIt s args).log, if s.ret = none then (callIt s args).res.map (fun _ => Val.unit) else (callIt s args).res⟩ := by
  cases hr : s.ret with
  | none =>
    simp only [viaSignal, emitVoid, hc, if_true, sigCall, List.nil_append]
    cases (callIt s args).res <;> rfl
  | some t =>
    simp only [viaSignal, emitValue, List.isEmpty_cons, List.dropWhile, hc, Bool.not_true, sigCall, List.nil_append]
    cases (callIt s args).res <;> rfl

/-- for every result table without a decaying row the code equals the documentation, reference results included -/
theorem callImplT_eq_callSpec (rm : ResSite → ResMode) (hrm : ∀ k, rm k ≠ .decays) (e : FExpr) :
    ∀ (ex : Bool) (args : List Val), wellTyped e args.length = true → callImplT rm e ex args = callSpec e args := by
  induction e with
  | un n f ih =>
    intro ex args h
    simp only [wellTyped, Bool.and_eq_true] at h
    cases hn : nodeArity n args.length with
    | none => simp [hn] at h
    | some m =>
      obtain ⟨hs, hl⟩ := argsImpl_spec n args m hn
      rw [callImplT_un hrm, callSpec, hs, ih _ (argsSpec n args) (by rw [hl]; simpa [hn] using h.1)]
  | compose1 s g ihs ihg =>
    intro ex args h
    simp only [wellTyped, Bool.and_eq_true] at h
    simp only [callImplT_compose1 hrm, callSpec, ihg false args h.1, fun v => ihs false [v] h.2]
  | compose2 s g1 g2 ihs ih1 ih2 =>
    intro ex args h
    simp only [wellTyped, Bool.and_eq_true] at h
    simp only [callImplT_compose2 hrm, callSpec, ih1 false args h.1.1, ih2 false args h.1.2,
      fun v1 v2 => ihs false [v1, v2] h.2]
  | exceptionCatch f c ihf ihc =>
    intro ex args h
    simp only [wellTyped, Bool.and_eq_true] at h
    rw [callImplT_exceptionCatch hrm, callSpec, ihf false args h.1, ihc false [] h.2]
  | _ => intro ex args _; rfl

theorem thread_inv {α β : Type} (step : Heap → α → Heap × β) (Q : Heap → Prop) (A : α → Prop) (B : β → Prop)
    (hstep : ∀ h a, Q h → A a → Q (step h a).1 ∧ B (step h a).2) :
    ∀ (l : List α) (h : Heap), Q h → (∀ a ∈ l, A a) →
      Q (thread step h l).1 ∧ ∀ b ∈ (thread step h l).2, B b := by
  intro l
  induction l with
  | nil => intro h hq _; exact ⟨hq, fun _ hb => nomatch hb⟩
  | cons a as ih =>
    intro h hq hA
    have h1 := hstep h a hq (hA a List.mem_cons_self)
    have h2 := ih (step h a).1 h1.1 (fun x hx => hA x (List.mem_cons_of_mem _ hx))
    exact ⟨h2.1, List.forall_mem_cons.2 ⟨h1.2, h2.2⟩⟩

theorem thread_enterArg_fwd_fst (ex : Bool) (h : Heap) (args : List ARef) :
    (thread (enterArg .forwardingRef ex) h args).1 = h := by
  induction args generalizing h with
  | nil => rfl
  | cons a as ih => exact ih h

theorem mem_tupleStart {n : Nat} {l : List α} {x : α} (h : x ∈ tupleStart n l) : x ∈ l :=
  List.mem_of_mem_take (tupleStart_take n l ▸ h)

theorem mem_tupleEnd_of_le {n : Nat} {l : List α} {x : α} (hn : n ≤ l.length) (h : x ∈ tupleEnd n l) : x ∈ l :=
  List.mem_of_mem_drop (tupleEnd_drop n l hn ▸ h)

theorem mem_zipWith {f : α → β → γ} {l1 : List α} {l2 : List β} {x : γ} (h : x ∈ List.zipWith f l1 l2) :
    ∃ a ∈ l1, ∃ b ∈ l2, x = f a b := by
  rw [← List.map_uncurry_zip_eq_zipWith] at h
  obtain ⟨ab, hab, rfl⟩ := List.mem_map.1 h
  exact ⟨ab.1, (List.of_mem_zip hab).1, ab.2, (List.of_mem_zip hab).2, rfl⟩

/-! ### One induction along the call path

  Every C11 statement is: some property `Q` of the heap survives the invocation of a functor expression, provided
  the arguments satisfy some `A`.  What such a pair has to offer is the same each time (`PathInv`): it is kept by every
  step an argument takes on its way to the target.  `T` says whether the tuple of `bind` / `hide` is among the steps,
  `K` which declared kinds the cast of `retype` and the `take_t` binding of a nested slot may have, `B` which bound
  arguments and `L` which declared target parameters are admitted; `OExpr.adm` is the matching condition on the
  expression. -/

structure PathInv (Q : Heap → Prop) (A : ARef → Prop) (T : Prop) (K : PK → Prop) (B : Bound → Prop)
    (L : List PK → Prop) : Prop where
  deduced : ∀ a, A a → A { a with cat := a.cat.deduced }
  named : ∀ a, A a → A { a with cat := a.cat.named }
  tuple : T → ∀ h a, Q h → A a → Q (tupleElem h a).1 ∧ A (tupleElem h a).2
  cast : ∀ h (ka : PK × ARef), Q h → K ka.1 ∧ A ka.2 → Q (castTo h ka).1 ∧ A (castTo h ka).2
  take : ∀ k a, K k → A a → A (takeParam k a)
  bound : ∀ b, B b → A b.invoke
  leaf : ∀ id ptr pks retv args h, L pks → Q h → (∀ a ∈ args, A a) → Q (leafRun id ptr pks retv args h).1

def ONode.adm (T : Prop) (K : PK → Prop) (B : Bound → Prop) : ONode → Prop
  | .bind _ bs => T ∧ ∀ b ∈ bs, B b
  | .hide _ => T
  | .retype tys => ∀ k ∈ tys, K k
  | .slot sig => ∀ k ∈ sig, K k
  | _ => True

def OExpr.adm (T : Prop) (K : PK → Prop) (B : Bound → Prop) (L : List PK → Prop) : OExpr → Prop
  | .leaf _ _ ps _ => L ps
  | .mleaf _ _ cm ps _ => L ((if cm then PK.cref else PK.lref) :: ps)
  | .un n f => n.adm T K B ∧ f.adm T K B L
  | .compose2 _ g1 g2 => g1.adm T K B L ∧ g2.adm T K B L

namespace PathInv
variable {Q : Heap → Prop} {A : ARef → Prop} {T : Prop} {K : PK → Prop} {B : Bound → Prop} {L : List PK → Prop}
  (P : PathInv Q A T K B L)
include P

/-- binding to a forwarding reference constructs nothing; without explicit template arguments `T_arg` is deduced -/
theorem enter (ex : Bool) (h : Heap) (a : ARef) (hq : Q h) (ha : A a) :
    Q (enterArg .forwardingRef ex h a).1 ∧ A (enterArg .forwardingRef ex h a).2 :=
  ⟨hq, by
    cases ex with
    | true => exact ha
    | false => exact P.deduced a ha⟩

theorem pass (p : PassKind) (a : ARef) (ha : A a) : A (passOn p a) := by
  cases p with
  | forward => exact ha
  | named => exact P.named a ha

theorem thread_enter (p : PassKind) (ex : Bool) (h : Heap) (args : List ARef) (hq : Q h) (ha : ∀ a ∈ args, A a) :
    Q (thread (enterArg .forwardingRef ex) h args).1
      ∧ (∀ a ∈ (thread (enterArg .forwardingRef ex) h args).2, A a)
      ∧ ∀ a ∈ (thread (enterArg .forwardingRef ex) h args).2.map (passOn p), A a := by
  have e := thread_inv _ Q A A (P.enter ex) args h hq ha
  exact ⟨e.1, e.2, List.forall_mem_map.2 fun a hm => P.pass p a (e.2 a hm)⟩

theorem args (pk : AdaptorKind → ParamKind) (hpk : ∀ k, pk k = .forwardingRef) (ps : AdaptorKind → PassKind)
    (n : ONode) (ex : Bool) (h : Heap) (as : List ARef) (hn : n.adm T K B) (hq : Q h) (ha : ∀ a ∈ as, A a) :
    Q (n.args pk ps ex h as).1 ∧ ∀ a ∈ (n.args pk ps ex h as).2, A a := by
  have hb : ∀ {bs : List Bound}, (∀ b ∈ bs, B b) → ∀ x ∈ invokeEach Bound.invoke bs, A x := by
    intro bs hbs x hx
    rw [invokeEach_eq_map] at hx
    obtain ⟨b, hb, rfl⟩ := List.mem_map.1 hx
    exact P.bound b (hbs b hb)
  have e1 := fun p => P.thread_enter p ex h as hq ha
  -- `bind` and `hide`: enter, store in the tuple, slice
  have htup := fun ht => thread_inv _ Q A A (P.tuple ht) _ _ (e1 .forward).1 (e1 .forward).2.1
  cases n with
  | slot sig =>
    refine ⟨hq, fun a hmem => ?_⟩
    obtain ⟨k, hk, a', ha', rfl⟩ := mem_zipWith hmem
    exact P.take k a' (hn k hk) (ha a' ha')
  | bind loc bs =>
    have e2 := htup hn.1
    cases loc with
    | none =>
      simp only [ONode.args, hpk]
      exact ⟨e2.1, fun a hmem => (List.mem_append.1 hmem).elim (e2.2 a) (hb hn.2 a)⟩
    | some i =>
      simp only [ONode.args, hpk]
      refine ⟨e2.1, fun a hmem => ?_⟩
      rcases List.mem_append.1 hmem with hm | hm
      · exact (List.mem_append.1 hm).elim (fun hm => e2.2 a (mem_tupleStart hm)) (hb hn.2 a)
      · exact e2.2 a (mem_tupleEnd_of_le (Nat.sub_le _ _) hm)
  | hide loc =>
    have e2 := htup hn
    simp only [ONode.args, hpk]
    exact ⟨e2.1, fun a hmem => (List.mem_append.1 hmem).elim (fun hm => e2.2 a (mem_tupleStart hm))
      (fun hm => e2.2 a (mem_tupleEnd_of_le (Nat.le_trans (Nat.sub_le _ _) (Nat.sub_le _ _)) hm))⟩
  | retype tys =>
    simp only [ONode.args, hpk]
    exact thread_inv castTo Q (fun ka => K ka.1 ∧ A ka.2) A P.cast _ _ (e1 .forward).1
      (fun ka hka => ⟨hn _ (List.of_mem_zip hka).1, (e1 .forward).2.1 _ (List.of_mem_zip hka).2⟩)
  | _ =>
    simp only [ONode.args, hpk]
    exact ⟨(e1 .forward).1, (e1 _).2.2⟩

theorem callO (pk : AdaptorKind → ParamKind) (hpk : ∀ k, pk k = .forwardingRef) (ps : AdaptorKind → PassKind)
    (e : OExpr) : ∀ (ex : Bool) (as : List ARef) (h : Heap), e.adm T K B L → Q h → (∀ a ∈ as, A a) →
      Q (Adapt.callO pk ps e ex as h).1 := by
  induction e with
  | leaf id ptr pks retv =>
    intro ex as h he hq ha
    have e1 := P.thread_enter (ps .adaptorFunctor) ex h as hq ha
    simp only [Adapt.callO, hpk]
    exact P.leaf id ptr pks retv _ _ he e1.1 e1.2.2
  | mleaf id der cm pks retv =>
    intro ex as h he hq ha
    have e1 := P.thread_enter (ps .adaptorFunctor) ex h as hq ha
    have e2 := P.thread_enter .forward false _ _ e1.1 (fun a hm => e1.2.2 a (List.mem_of_mem_take (i := 1) hm))
    simp only [Adapt.callO, hpk]
    exact P.leaf id true _ retv _ _ he e2.1 fun a hm =>
      (List.mem_append.1 hm).elim (e2.2.1 a) (fun hm => e1.2.2 a (List.mem_of_mem_drop hm))
  | un n f ih =>
    intro ex as h he hq ha
    have e1 := P.args pk hpk ps n ex h as he.1 hq ha
    simp only [Adapt.callO]
    exact ih _ _ _ he.2 e1.1 e1.2
  | compose2 sid g1 g2 ih1 ih2 =>
    intro ex as h he hq ha
    have e1 := P.thread_enter (ps .compose2) ex h as hq ha
    have o1 := ih1 false _ _ he.1 e1.1 e1.2.2
    simp only [Adapt.callO, hpk]
    split
    · exact o1
    · exact ih2 false _ _ he.2 o1 e1.2.2

end PathInv

theorem emitLoop_inv {σ S ρ : Type} (Q : S → Prop) (callable : σ → Bool) (call : σ → S → S × Res ρ)
    (slots : List σ) (hcall : ∀ sl ∈ slots, ∀ s, Q s → Q (call sl s).1) :
    ∀ (s : S) (r : ρ), Q s → Q (emitLoop callable call slots s r).1 := by
  induction slots with
  | nil => intro s r hq; exact hq
  | cons sl rest ih =>
    intro s r hq
    have ih' := ih fun x hx => hcall x (List.mem_cons_of_mem _ hx)
    have h1 := hcall sl List.mem_cons_self s hq
    simp only [emitLoop]
    split
    · split
      · next heq =>
        rw [heq] at h1
        exact ih' _ _ h1
      · next heq =>
        rw [heq] at h1
        exact h1
    · exact ih' s r hq

/-- the loop of `signal_emit<void,void>::emit` is the plain loop with the results discarded -/
theorem emitVoid_eq_loop {σ S ρ : Type} (callable : σ → Bool) (call : σ → S → S × Res ρ) (slots : List σ) :
    ∀ s : S, emitVoid callable call slots s
      = emitLoop callable (fun sl s => ((call sl s).1, (call sl s).2.map fun _ => ())) slots s () := by
  induction slots with
  | nil => intro s; rfl
  | cons sl rest ih =>
    intro s
    simp only [emitVoid, emitLoop, ih]
    split
    · cases call sl s with
      | mk s' r => cases r <;> rfl
    · rfl

/-- the two-phase loop of `signal_emit<R,void>::emit` (find the first callable slot, then the rest) is the plain
    loop started with `T_return()` -/
theorem emitValue_eq_loop {σ S ρ : Type} (callable : σ → Bool) (call : σ → S → S × Res ρ) (dflt : ρ)
    (slots : List σ) (s : S) :
    emitValue callable call dflt slots s = emitLoop callable call slots s dflt := by
  cases slots with
  | nil => rfl
  | cons a as =>
    simp only [emitValue, List.isEmpty_cons, Bool.false_eq_true, if_false]
    -- the slots skipped by `dropWhile` are skipped by the loop
    induction (a :: as) with
    | nil => rfl
    | cons sl rest ih =>
      cases hc : callable sl
      · simp only [List.dropWhile, hc, Bool.not_false, emitLoop, Bool.false_eq_true, if_false]; exact ih
      · simp only [List.dropWhile, hc, Bool.not_true, emitLoop, if_true]

theorem emitLoop_append {σ S ρ : Type} (callable : σ → Bool) (call : σ → S → S × Res ρ) (l1 l2 : List σ) :
    ∀ (s : S) (r : ρ) (s' : S) (r' : ρ), emitLoop callable call l1 s r = (s', .ok r') →
      emitLoop callable call (l1 ++ l2) s r = emitLoop callable call l2 s' r' := by
  induction l1 with
  | nil =>
    intro s r s' r' h
    simp only [emitLoop, Prod.mk.injEq, Res.ok.injEq] at h
    obtain ⟨rfl, rfl⟩ := h
    rfl
  | cons sl rest ih =>
    intro s r s' r' h
    simp only [List.cons_append, emitLoop] at h ⊢
    split
    · rename_i hc
      simp only [hc, if_true] at h
      split
      · rename_i s1 r1 heq
        simp only [heq] at h
        exact ih s1 r1 s' r' h
      · rename_i s1 heq
        simp [heq] at h
    · rename_i hc
      simp only [hc] at h
      exact ih s r s' r' h

theorem emitLoop_skip {σ S ρ : Type} (callable : σ → Bool) (call : σ → S → S × Res ρ) (l : List σ)
    (hl : ∀ sl ∈ l, callable sl = false) (s : S) (r : ρ) : emitLoop callable call l s r = (s, .ok r) := by
  induction l with
  | nil => rfl
  | cons sl rest ih =>
    simp only [emitLoop, hl sl (by simp)]
    exact ih (fun x hx => hl x (by simp [hx]))

theorem emitValue_last {σ S ρ : Type} (callable : σ → Bool) (call : σ → S → S × Res ρ) (dflt : ρ)
    (pre : List σ) (last : σ) (post : List σ) (s s' : S) (r' : ρ)
    (hl : callable last = true) (hpost : ∀ sl ∈ post, callable sl = false)
    (hpre : emitValue callable call dflt pre s = (s', .ok r')) :
    emitValue callable call dflt (pre ++ last :: post) s = call last s' := by
  rw [emitValue_eq_loop] at hpre ⊢
  rw [emitLoop_append callable call pre (last :: post) s dflt s' r' hpre]
  simp only [emitLoop, hl, if_true]
  cases hc : call last s' with
  | mk s2 res =>
    cases res with
    | threw => rfl
    | ok r2 => simp only []; exact emitLoop_skip callable call post hpost s2 r2

theorem PathInv.emit {Q : Heap → Prop} {A : ARef → Prop} {T : Prop} {K : PK → Prop} {B : Bound → Prop}
    {L : List PK → Prop} (P : PathInv Q A T K B L) (pk : AdaptorKind → ParamKind) (hpk : ∀ k, pk k = .forwardingRef)
    (ps : AdaptorKind → PassKind) (sig : List PK) (objs : List Nat) (slots : List OSlot) (h : Heap)
    (hslots : ∀ s ∈ slots, s.f.adm T K B L) (hq : Q h) (ha : ∀ a ∈ List.zipWith emitterArg sig objs, A a) :
    Q (emitVoidO pk ps sig objs slots h).1 ∧ Q (emitValueO pk ps sig objs slots h).1 := by
  have hc : ∀ as : List ARef, (∀ a ∈ as, A a) → ∀ s ∈ slots, ∀ h', Q h' → Q (Adapt.callO pk ps s.f true as h').1 :=
    fun as has s hs h' hq' => P.callO pk hpk ps s.f true as h' (hslots s hs) hq' has
  constructor
  · rw [emitVoidO, emitVoid_eq_loop]
    refine emitLoop_inv Q _ _ slots ?_ h _ hq
    exact hc _ ha
  · rw [emitValueO, emitValue_eq_loop]
    exact emitLoop_inv Q _ _ slots (hc _ (List.forall_mem_map.2 fun a hm => P.named a (ha a hm))) h _ hq

/-- on the two halves of `leafRun`: `leafRun_inv` needs the second conjunct for the record that is logged -/
theorem leafRun_preserves {Q : Heap → Prop} {A : ARef → Prop} {K : PK → Prop} {P : LParam → Prop} {ptr : Bool}
    (hinit : ∀ h (ka : PK × ARef), Q h → K ka.1 ∧ A ka.2 → Q (leafInit ptr h ka).1 ∧ P (leafInit ptr h ka).2)
    (hset : ∀ h p v, Q h → P p → p.writable = true → Q (h.set p.recv v))
    (id : Nat) (ps : List PK) (args : List ARef) (h : Heap) (hq : Q h) (hk : ∀ k ∈ ps, K k) (ha : ∀ a ∈ args, A a) :
    Q (leafBody id 0 (thread (leafInit ptr) h (List.zip ps args)).2 (thread (leafInit ptr) h (List.zip ps args)).1).1
      ∧ ∀ p ∈ (thread (leafInit ptr) h (List.zip ps args)).2, P p := by
  have e1 := thread_inv (leafInit ptr) Q (fun ka => K ka.1 ∧ A ka.2) P hinit (List.zip ps args) h hq
    fun ka hka => ⟨hk _ (List.of_mem_zip hka).1, ha _ (List.of_mem_zip hka).2⟩
  have hbody : ∀ (lps : List LParam) (pos : Nat) (h1 : Heap), Q h1 → (∀ p ∈ lps, P p) →
      Q (leafBody id pos lps h1).1 := by
    intro lps
    induction lps with
    | nil => intro _ _ hq _; exact hq
    | cons p lps ih =>
      intro pos h1 hq hp
      simp only [leafBody]
      refine ih _ _ ?_ fun q hq' => hp q (List.mem_cons_of_mem _ hq')
      split
      · next hw => exact hset _ _ _ hq (hp p List.mem_cons_self) hw
      · exact hq
  exact ⟨hbody _ 0 _ e1.1 e1.2, e1.2⟩

/-- a logged parameter designated `o` was fed from `o` -/
def LParamOK (p : LParam) : Prop := ∀ o, p.origin = some o → p.src = o

def ObjInv (a : ARef) : Prop := ∀ o, a.origin = some o → a.obj = o

/-- an argument is either a stable reference that denotes the object it is designated to denote, or a fresh
    temporary (allocated after `n0`) produced by a documented by-value conversion; the second conjunct is `ObjInv a` -/
def ArgInv (n0 : Nat) (a : ARef) : Prop :=
  (a.cat.stable = true ∨ (n0 ≤ a.obj ∧ a.origin = none)) ∧ (∀ o, a.origin = some o → a.obj = o)

/-- `n0`, `hops0`: `next` and `hops` before the call — nothing is constructed inside the library from an object that
    existed then, and every logged parameter designated `o` was fed from `o` -/
structure HeapInv (n0 : Nat) (hops0 : Nat → Nat) (h : Heap) : Prop where
  next_le : n0 ≤ h.next
  hops_eq : ∀ o, o < n0 → h.hops o = hops0 o
  log_ok : logOK h = true

theorem construct_inv {n0 hops0 h} (hop fc : Bool) (a : ARef) (hi : HeapInv n0 hops0 h)
    (ha : hop = false ∨ n0 ≤ a.obj) : HeapInv n0 hops0 (h.construct hop fc a) := by
  refine ⟨Nat.le_succ_of_le hi.next_le, fun o ho => ?_, hi.log_ok⟩
  have : (hop && decide (o = a.obj)) = false := by
    rcases ha with rfl | ha
    · rfl
    · rw [decide_eq_false (Nat.ne_of_lt (Nat.lt_of_lt_of_le ho ha)), Bool.and_false]
  simp only [Heap.construct, this, Bool.false_eq_true, if_false]
  exact hi.hops_eq o ho

theorem deduced_stable {c : Cat} (h : c.stable = true) : c.deduced.stable = true := by
  cases c <;> first | rfl | cases h

theorem named_stable (c : Cat) : c.named.stable = true := by
  cases c <;> rfl

theorem invoke_inv (n0 : Nat) (b : Bound) : ArgInv n0 b.invoke := by
  cases b <;> exact ⟨Or.inl rfl, fun o ho => Option.some.inj ho⟩

theorem leafBody_ok (id : Nat) (lps : List LParam) :
    ∀ (pos : Nat) (h : Heap), (∀ p ∈ lps, LParamOK p) → (leafBody id pos lps h).2.all Param.ok = true := by
  induction lps with
  | nil => intro _ _ _; rfl
  | cons p ps ih =>
    intro pos h hp
    simp only [leafBody, List.all_cons, ih _ _ (fun q hq => hp q (List.mem_cons_of_mem _ hq)), Bool.and_true, Param.ok]
    cases ho : p.origin with
    | none => rfl
    | some o => exact beq_iff_eq.2 (hp p List.mem_cons_self o ho)

theorem leafRun_inv {n0 hops0} (id : Nat) (ptr : Bool) (ps : List PK) (retv : Bool) (args : List ARef) (h : Heap)
    (hi : HeapInv n0 hops0 h) (ha : ∀ a ∈ args, ObjInv a) :
    HeapInv n0 hops0 (leafRun id ptr ps retv args h).1 := by
  have e := leafRun_preserves (K := fun _ => True) (P := LParamOK)
    (fun h ka hi ha => by
      cases hk : ka.1 <;> simp only [leafInit, hk]
      · exact ⟨construct_inv false ptr ka.2 hi (Or.inl rfl), ha.2⟩
      all_goals exact ⟨hi, ha.2⟩)
    (fun h _ _ hi _ _ => ⟨hi.next_le, hi.hops_eq, hi.log_ok⟩) id ps args h hi (fun _ _ => trivial) ha
  refine ⟨e.1.next_le, e.1.hops_eq, ?_⟩
  have := e.1.log_ok
  simp only [leafRun, logOK, List.all_append, List.all_cons, List.all_nil, Bool.and_true, Bool.and_eq_true] at this ⊢
  exact ⟨this, leafBody_ok id _ 0 _ e.2⟩

/-- with no `T&&` declared on the way every argument keeps denoting its designated object, and what the tuple of
    `bind` / `hide` copies is a temporary of this call -/
theorem pathInv_identity (n0 : Nat) (hops0 : Nat → Nat) :
    PathInv (HeapInv n0 hops0) (ArgInv n0) True (· ≠ .rref) (fun _ => True) (fun _ => True) where
  deduced := fun a ha => ⟨ha.1.imp_left deduced_stable, ha.2⟩
  named := fun a ha => ⟨Or.inl (named_stable a.cat), ha.2⟩
  tuple := fun _ h a hi ha => by
    obtain ⟨h1, h2⟩ := ha
    cases hc : a.cat <;> simp only [tupleElem, hc]
    · exact ⟨hi, h1, h2⟩
    · exact ⟨hi, h1, h2⟩
    · -- a deduced rvalue is a temporary of this call: copying it is no hop from a pre-existing object
      have hfresh : n0 ≤ a.obj ∧ a.origin = none := h1.resolve_left (by rw [hc]; exact Bool.false_ne_true)
      exact ⟨construct_inv true false a hi (Or.inr hfresh.1), Or.inl rfl, fun o ho => by rw [hfresh.2] at ho; cases ho⟩
    · exact ⟨hi, Or.inl rfl, h2⟩
  cast := fun h ka hi ha => by
    obtain ⟨hk, h1, h2⟩ := ha
    cases hk' : ka.1 <;> simp only [castTo, hk']
    · exact ⟨construct_inv false false ka.2 hi (Or.inl rfl), Or.inr ⟨hi.next_le, rfl⟩, fun o ho => nomatch ho⟩
    · refine ⟨hi, Or.inl ?_, h2⟩
      show (if ka.2.cat = Cat.clv then Cat.clv else Cat.lv).stable = true
      split <;> rfl
    · exact ⟨hi, Or.inl rfl, h2⟩
    · exact absurd hk' hk
  take := fun k a hk ha => by
    cases k with
    | rref => exact absurd rfl hk
    | lref => exact ha
    | _ => exact ⟨Or.inl rfl, ha.2⟩
  bound := fun b _ => invoke_inv n0 b
  leaf := fun id ptr pks retv args h _ hi ha => leafRun_inv id ptr pks retv args h hi fun a hm => (ha a hm).2

theorem OExpr.adm_of_noRRef {e : OExpr} (h : e.noRRef = true) :
    e.adm True (· ≠ .rref) (fun _ => True) (fun _ => True) := by
  have hc : ∀ {l : List PK}, (!l.contains .rref) = true → ∀ k ∈ l, k ≠ .rref := fun hl k hk e => by
    rw [e] at hk
    rw [List.contains_iff_mem.2 hk] at hl
    cases hl
  induction e with
  | un n f ih =>
    rw [OExpr.noRRef, Bool.and_eq_true] at h
    refine ⟨?_, ih h.2⟩
    cases n with
    | retype tys | slot tys => exact hc h.1
    | bind loc bs => exact ⟨trivial, fun _ _ => trivial⟩
    | _ => trivial
  | compose2 _ g1 g2 ih1 ih2 =>
    rw [OExpr.noRRef, Bool.and_eq_true] at h
    exact ⟨ih1 h.1, ih2 h.2⟩
  | _ => trivial

/-! ### Frame: an object reachable only through const paths is never written -/

/-- an argument that is not a `const` lvalue does not denote `o` -/
def NoW (o : Nat) (a : ARef) : Prop := a.cat ≠ .clv → a.obj ≠ o

structure Frame (o : Nat) (v : Int) (h : Heap) : Prop where
  lt : o < h.next
  val : h.val o = v

theorem construct_frame {o v h} (hop fc : Bool) (a : ARef) (hf : Frame o v h) (ha : NoW o a) :
    Frame o v (h.construct hop fc a) := by
  refine ⟨Nat.lt_succ_of_lt hf.lt, ?_⟩
  -- `o` is neither the new object nor an object that is moved from: a moved-from argument is not `const`
  have hmv : (!a.cat.stable && !fc && decide (o = a.obj)) = false := by
    cases hs : a.cat.stable
    · have hc : a.cat ≠ .clv := fun hc => by rw [hc] at hs; cases hs
      rw [decide_eq_false fun e => ha hc e.symm, Bool.and_false]
    · rfl
  simp only [Heap.construct, Nat.ne_of_lt hf.lt, hmv, if_false, Bool.false_eq_true]
  exact hf.val

def LParamNoW (o : Nat) (p : LParam) : Prop := p.writable = true → p.recv ≠ o

theorem leafRun_frame {o v} (id : Nat) (ptr : Bool) (ps : List PK) (retv : Bool) (args : List ARef) (h : Heap)
    (hf : Frame o v h) (ha : ∀ a ∈ args, NoW o a) : Frame o v (leafRun id ptr ps retv args h).1 := by
  have e := leafRun_preserves (K := fun _ => True) (P := LParamNoW o)
    (fun h ka hf ha => by
      cases hk : ka.1 <;> simp only [leafInit, hk]
      · exact ⟨construct_frame false ptr ka.2 hf ha.2, fun _ => Nat.ne_of_gt hf.lt⟩
      · exact ⟨hf, fun hw => ha.2 (bne_iff_ne.1 hw)⟩
      · exact ⟨hf, fun hw => nomatch hw⟩
      · exact ⟨hf, fun hw => ha.2 (bne_iff_ne.1 hw)⟩)
    (fun h p _ hf hp hw => ⟨hf.lt, by simp only [Heap.set]; rw [if_neg fun e => hp hw e.symm]; exact hf.val⟩)
    id ps args h hf (fun _ _ => trivial) ha
  exact ⟨e.1.lt, e.1.val⟩

theorem pathInv_frame (o : Nat) (v : Int) :
    PathInv (Frame o v) (NoW o) True (fun _ => True) (o ∉ ·.mutObj) (fun _ => True) where
  deduced := fun a ha hc => ha fun hc' => hc (by show a.cat.deduced = .clv; rw [hc']; rfl)
  named := fun a ha hc => ha fun hc' => hc (by show a.cat.named = .clv; rw [hc']; rfl)
  tuple := fun _ h a hf ha => by
    cases hc : a.cat <;> simp only [tupleElem, hc]
    · exact ⟨hf, ha⟩
    · exact ⟨hf, ha⟩
    · exact ⟨construct_frame true false a hf ha, fun hne => absurd rfl hne⟩
    · exact ⟨hf, fun _ => ha (by rw [hc]; exact Cat.noConfusion)⟩
  cast := fun h ka hf ha => by
    cases hk : ka.1 <;> simp only [castTo, hk]
    · exact ⟨construct_frame false false ka.2 hf ha.2, fun _ => Nat.ne_of_gt hf.lt⟩
    · exact ⟨hf, fun hne => ha.2 fun hc => hne (if_pos hc)⟩
    · exact ⟨hf, fun hne => absurd rfl hne⟩
    · refine ⟨hf, ?_⟩
      split
      · exact ha.2
      · next hc => exact fun _ => ha.2 hc
  take := fun k a _ ha => by
    cases k with
    | lref => exact ha
    | rref =>
      simp only [takeParam]
      split
      · exact ha
      · next hc => exact fun _ => ha hc
    | _ => exact fun hne => absurd rfl hne
  bound := fun b hb => by
    cases b with
    | byCRef _ => exact fun hc => absurd rfl hc
    | _ => exact fun _ e => hb (List.mem_singleton.2 e.symm)
  leaf := fun id ptr pks retv args h _ => leafRun_frame id ptr pks retv args h

theorem OExpr.adm_of_not_mem_boundMut {o : Nat} {e : OExpr} (h : o ∉ e.boundMut) :
    e.adm True (fun _ => True) (o ∉ ·.mutObj) (fun _ => True) := by
  induction e with
  | un n f ih =>
    cases n with
    | bind loc bs =>
      rw [OExpr.boundMut, List.mem_append, not_or] at h
      exact ⟨⟨trivial, fun b hb hm => h.1 (List.mem_flatMap.2 ⟨b, hb, hm⟩)⟩, ih h.2⟩
    | retype _ | slot _ => exact ⟨fun _ _ => trivial, ih h⟩
    | _ => exact ⟨trivial, ih h⟩
  | compose2 _ g1 g2 ih1 ih2 =>
    rw [OExpr.boundMut, List.mem_append, not_or] at h
    exact ⟨ih1 h.1, ih2 h.2⟩
  | _ => trivial

/-- without the tuple of `bind` / `hide` on the way nothing is constructed inside the library, whatever the category of
    the arguments -/
theorem pathInv_obj (n0 : Nat) (hops0 : Nat → Nat) :
    PathInv (HeapInv n0 hops0) ObjInv False (fun _ => True) (fun _ => True) (fun _ => True) where
  deduced := fun _ ha => ha
  named := fun _ ha => ha
  tuple := fun hf => hf.elim
  cast := fun h ka hi ha => by
    cases hk : ka.1 <;> simp only [castTo, hk]
    · exact ⟨construct_inv false false ka.2 hi (Or.inl rfl), fun o ho => nomatch ho⟩
    · exact ⟨hi, ha.2⟩
    · exact ⟨hi, ha.2⟩
    · refine ⟨hi, ?_⟩
      split <;> exact ha.2
  take := fun k a _ ha => by cases k <;> first | exact ha | (simp only [takeParam]; split <;> exact ha)
  bound := fun b _ => (invoke_inv 0 b).2
  leaf := fun id ptr pks retv args h _ => leafRun_inv id ptr pks retv args h

theorem OExpr.adm_of_fwdOnly {e : OExpr} (h : e.fwdOnly = true) :
    e.adm False (fun _ => True) (fun _ => True) (fun _ => True) := by
  induction e with
  | un n f ih =>
    rw [OExpr.fwdOnly, Bool.and_eq_true] at h
    refine ⟨?_, ih h.2⟩
    cases n <;> first | trivial | cases h.1
  | compose2 _ g1 g2 ih1 ih2 =>
    rw [OExpr.fwdOnly, Bool.and_eq_true] at h
    exact ⟨ih1 h.1, ih2 h.2⟩
  | _ => trivial

/-! ### The arguments of `compose(s, g1, g2)` are consumed by nobody

  `Keep`: every object that existed before the call still has its value and has not been moved from.  It is kept by
  every call operator as long as an rvalue argument only ever denotes a temporary made during the call (`Safe`), which
  is what the `named` row of `passKind` for `compose2` establishes for both getters. -/

def Safe (n0 : Nat) (a : ARef) : Prop := a.cat.stable = true ∨ n0 ≤ a.obj

structure Keep (n0 : Nat) (v0 : Nat → Int) (m0 : Nat → Nat) (h : Heap) : Prop where
  next_le : n0 ≤ h.next
  val_eq : ∀ o, o < n0 → h.val o = v0 o
  moves_eq : ∀ o, o < n0 → h.moves o = m0 o

theorem construct_keep {n0 v0 m0 h} (hop fc : Bool) (a : ARef) (hk : Keep n0 v0 m0 h) (ha : Safe n0 a) :
    Keep n0 v0 m0 (h.construct hop fc a) := by
  -- a pre-existing object is not the new one, and it is not moved from: what is moved from is a temporary
  have hmv : ∀ o, o < n0 → (!a.cat.stable && !fc && decide (o = a.obj)) = false := fun o ho => by
    rcases ha with ha | ha
    · rw [ha]; rfl
    · rw [decide_eq_false (Nat.ne_of_lt (Nat.lt_of_lt_of_le ho ha)), Bool.and_false]
  refine ⟨Nat.le_succ_of_le hk.next_le, fun o ho => ?_, fun o ho => ?_⟩
  · simp only [Heap.construct, Nat.ne_of_lt (Nat.lt_of_lt_of_le ho hk.next_le), hmv o ho, if_false,
      Bool.false_eq_true]
    exact hk.val_eq o ho
  · simp only [Heap.construct, hmv o ho, if_false, Bool.false_eq_true]
    exact hk.moves_eq o ho

theorem named_safe (n0 : Nat) (a : ARef) : Safe n0 (passOn .named a) := Or.inl (named_stable a.cat)

def LParamFresh (n0 : Nat) (p : LParam) : Prop := p.writable = true → n0 ≤ p.recv

theorem leafRun_keep {n0 v0 m0} (id : Nat) (ptr : Bool) (ps : List PK) (retv : Bool) (args : List ARef) (h : Heap)
    (hro : ps.all (fun k => k == .val || k == .cref) = true)
    (hk : Keep n0 v0 m0 h) (ha : ∀ a ∈ args, Safe n0 a) : Keep n0 v0 m0 (leafRun id ptr ps retv args h).1 := by
  have e := leafRun_preserves (K := fun k => k = .val ∨ k = .cref) (P := LParamFresh n0)
    (fun h ka hk ha => by
      obtain ⟨hkind | hkind, ha⟩ := ha <;> simp only [leafInit, hkind]
      · exact ⟨construct_keep false ptr ka.2 hk ha, fun _ => hk.next_le⟩
      · exact ⟨hk, fun hw => nomatch hw⟩)
    (fun h p _ hk hp hw => ⟨hk.next_le, fun o ho => by
        simp only [Heap.set]
        rw [if_neg (Nat.ne_of_lt (Nat.lt_of_lt_of_le ho (hp hw)))]
        exact hk.val_eq o ho, hk.moves_eq⟩)
    id ps args h hk (fun k hk => by simpa using List.all_eq_true.1 hro k hk) ha
  exact ⟨e.1.next_le, e.1.val_eq, e.1.moves_eq⟩

/-- called with arguments whose rvalues only denote temporaries, a functor expression whose targets take their
    parameters by value / `const&` neither changes nor moves from any pre-existing object -/
theorem pathInv_keep (n0 : Nat) (v0 : Nat → Int) (m0 : Nat → Nat) :
    PathInv (Keep n0 v0 m0) (Safe n0) True (· ≠ .rref) (fun _ => True)
      (fun ps => ps.all (fun k => k == .val || k == .cref) = true) where
  deduced := fun a ha => ha.imp_left deduced_stable
  named := fun a _ => named_safe n0 a
  tuple := fun _ h a hk ha => by
    cases hc : a.cat <;> simp only [tupleElem, hc]
    · exact ⟨hk, ha⟩
    · exact ⟨hk, ha⟩
    · exact ⟨construct_keep true false a hk ha, Or.inl rfl⟩
    · exact ⟨hk, Or.inl rfl⟩
  cast := fun h ka hk ha => by
    cases hk' : ka.1 <;> simp only [castTo, hk']
    · exact ⟨construct_keep false false ka.2 hk ha.2, Or.inr hk.next_le⟩
    · refine ⟨hk, Or.inl ?_⟩
      show (if ka.2.cat = Cat.clv then Cat.clv else Cat.lv).stable = true
      split <;> rfl
    · exact ⟨hk, Or.inl rfl⟩
    · exact absurd hk' ha.1
  take := fun k a hk ha => by
    cases k with
    | rref => exact absurd rfl hk
    | lref => exact ha
    | _ => exact Or.inl rfl
  bound := fun b _ => by cases b <;> exact Or.inl rfl
  leaf := fun id ptr pks retv args h => leafRun_keep id ptr pks retv args h

theorem OExpr.adm.readOnly {T : Prop} {K : PK → Prop} {B : Bound → Prop} {e : OExpr}
    (h : e.adm T K B fun _ => True) (hr : e.readOnly = true) :
    e.adm T K B (fun ps => ps.all (fun k => k == .val || k == .cref) = true) := by
  induction e with
  | leaf => exact hr
  | mleaf _ _ cm ps _ =>
    rw [OExpr.readOnly, Bool.and_eq_true] at hr
    rw [OExpr.adm, hr.1, if_pos rfl, List.all_cons, hr.2]
    rfl
  | un n f ih => exact ⟨h.1, ih h.2 hr⟩
  | compose2 _ g1 g2 ih1 ih2 =>
    rw [OExpr.readOnly, Bool.and_eq_true] at hr
    exact ⟨ih1 h.1 hr.1, ih2 h.2 hr.2⟩

end Sigc.Adapt
