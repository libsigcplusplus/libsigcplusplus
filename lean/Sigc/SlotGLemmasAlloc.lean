import Sigc.SlotGLemmasXchg
/-!
  Allocation of representations: `allocBind` (a functor without a slot bound by value), and the recursive copy of a
  functor that binds a slot by value (`nest`).  `Ext s s'`: what an allocation does to a state — new
  representations `≥ s.nextRep`, new anonymous variables `≥ anonBase + s.nextRep`, parents of old representations.
  (The Boolean `ext` of `copyInner`, `allocNest` is the flag of the model's `bindFunX` — does the clone bind outside
  itself — and has nothing to do with `Ext`.)
-/
namespace Sigc.SlotG

theorem slots_allocBind (c : Bool) (f : Fun) (s : State) : (allocBind c f s).slots = s.slots := by
  unfold allocBind; rw [bindFun_slots]; rfl
theorem nextRep_allocBind (c : Bool) (f : Fun) (s : State) :
    (allocBind c f s).nextRep = s.nextRep + 1 := by
  unfold allocBind; rw [(SameFns.bindFun ..).nextRep]; rfl
theorem reps_allocBind_self {s : State} (hI : Inv s) (c : Bool) (f : Fun) :
    (allocBind c f s).reps s.nextRep = some ⟨c, none, some f, []⟩ := by
  unfold allocBind
  rcases bindFun_cases s.nextRep f (allocRep ⟨c, none, some f, []⟩ s) with ⟨-, -, h⟩ | ⟨t, -, -, h⟩ | ⟨v, -, -, h⟩ <;> rw [h]
  · exact if_pos rfl
  · rw [reps_trkAdd]; exact if_pos rfl
  · rw [reps_setParentIfNone, repOf_allocRep, if_neg (orphan_next hI v)]; exact if_pos rfl

theorem reps_allocBind_other (c : Bool) (f : Fun) (s : State) (x : Nat) (hx : x ≠ s.nextRep) :
    (allocBind c f s).reps x = s.reps x ∨ ∃ X v, s.reps x = some X ∧ repOf s v = some x := by
  unfold allocBind
  rcases bindFun_cases s.nextRep f (allocRep ⟨c, none, some f, []⟩ s) with ⟨-, -, h⟩ | ⟨t, -, -, h⟩ | ⟨v, -, -, h⟩ <;> rw [h]
  · exact .inl (if_neg hx)
  · rw [reps_trkAdd]; exact .inl (if_neg hx)
  · rw [reps_setParentIfNone, repOf_allocRep, reps_allocRep, if_neg hx]
    by_cases hr : repOf s v = some x
    · rw [if_pos hr]
      cases hX : s.reps x with
      | none => exact .inl rfl
      | some X => exact .inr ⟨X, v, rfl, hr⟩
    · rw [if_neg hr]; exact .inl rfl

/-- an old representation that no variable stores is unchanged by `allocBind`: it cannot have got the new one as
    parent -/
theorem allocBind_old (c : Bool) (f : Fun) {s : State} {x : Nat} {X : Rep} (hX : s.reps x = some X)
    (hx : x ≠ s.nextRep) (ho : Orphan s x) : (allocBind c f s).reps x = some X := by
  rcases reps_allocBind_other c f s x hx with h | ⟨-, v, -, hv⟩
  · rw [h]; exact hX
  · exact absurd hv (ho v)

theorem allocBind_alive (c : Bool) (f : Fun) {s : State} {x : Nat} {X' : Rep}
    (hX' : (allocBind c f s).reps x = some X') (hx : x ≠ s.nextRep) : ∃ X, s.reps x = some X := by
  rcases reps_allocBind_other c f s x hx with h | ⟨X0, -, hX0, -⟩
  · exact ⟨X', by rw [← h]; exact hX'⟩
  · exact ⟨X0, hX0⟩

theorem idle_allocBind {s : State} (hi : Idle s) (c : Bool) (f : Fun) : Idle (allocBind c f s) := by
  unfold allocBind
  rcases bindFun_cases s.nextRep f (allocRep ⟨c, none, some f, []⟩ s) with ⟨-, -, h⟩ | ⟨t, -, -, h⟩ | ⟨v, -, -, h⟩ <;> rw [h]
  · exact hi
  · intro t' T hT
    rw [trks_trkAdd, trks_allocRep] at hT
    by_cases htt : t' = t
    · rw [if_pos htt] at hT
      obtain ⟨T0, hT0, rfl⟩ := Option.map_eq_some_iff.mp hT
      obtain ⟨h1, h2⟩ := hi t' T0 hT0
      refine ⟨by rw [addEntry_clearing]; exact h1, fun x hx => ?_⟩
      rcases (mem_addEntry _ _ _ _).mp hx with h | ⟨-, -, h⟩
      · exact h2 x h
      · cases h
    · rw [if_neg htt] at hT; exact hi t' T hT
  · exact idle_of_trks hi (trks_setParentIfNone ..)

/-- a functor that is stored in a representation may be instantiated again (`clone()`); a functor that binds a
    slot by value is copied by `allocNest` (below) instead -/
theorem funOk_of_inv {s : State} (h : Inv s) {r : Nat} {R : Rep} {f : Fun} (hR : s.reps r = some R)
    (hf : R.fn = some f) (hflat : ∀ fid v d, f ≠ .nest fid v d) : FunOk s f := by
  refine ⟨?_, ?_, ?_, hflat, ?_⟩
  rotate_left 3
  · intro c hc
    cases f <;> simp [Fun.ownsC] at hc
    subst hc
    exact h.ownCOk r R _ _ hR hf
  · intro t ht
    obtain ⟨T, hT, -⟩ := h.trkReg r R f t hR hf ht
    exact ⟨T, hT⟩
  · intro v hv
    cases f <;> simp [Fun.ref] at hv
    · subst hv
      exact h.refOk r R _ _ hR hf
    · exact absurd rfl (hflat _ _ _)
  · intro v hv
    cases f <;> simp [Fun.owns] at hv
    · subst hv
      rename_i fid v t
      obtain ⟨h1, h2⟩ := h.ownOk r R fid v t hR hf
      refine ⟨h1, h2, ?_⟩
      rintro ⟨x, X, fid', hX, hfx⟩
      exact (h.refOk x X fid' v hX hfx).2.2 ⟨r, R, _, hR, hf, rfl⟩
    · exact absurd rfl (hflat _ _ _)

theorem funOk_of_spec {s : State} (h : Inv s) {f : Fun} (hc : specCheck s f = none)
    (hnm : ∀ v, v ∈ f.names.1 → v < anonBase) (hflat : ∀ fid v d, f ≠ .nest fid v d) : FunOk s f := by
  cases f with
  | fn fid => exact ⟨by simp [Fun.trk], by simp [Fun.ref], by simp [Fun.owns], hflat, by simp [Fun.ownsC]⟩
  | mem fid t =>
    simp only [specCheck, deadT] at hc
    refine ⟨?_, by simp [Fun.ref], by simp [Fun.owns], hflat, by simp [Fun.ownsC]⟩
    intro t' ht'; simp [Fun.trk] at ht'; subst ht'
    cases hT : s.trks t with
    | none => simp [hT] at hc
    | some T => exact ⟨T, by first | rfl | exact hT⟩
  | sref fid v =>
    simp only [specCheck, deadS] at hc
    refine ⟨by simp [Fun.trk], ?_, by simp [Fun.owns], hflat, by simp [Fun.ownsC]⟩
    intro v' hv'; simp [Fun.ref] at hv'; subst hv'
    cases hV : s.slots v with
    | none => simp [hV] at hc
    | some V =>
      refine ⟨hnm v (by simp [Fun.names]), ⟨V, by first | rfl | exact hV⟩, ?_⟩
      intro ho
      rw [(ownedBy_iff h.repBound v).mpr ho] at hc
      simp [hV] at hc
  | own fid v t =>
    simp only [specCheck, deadS, deadT] at hc
    cases hV : s.slots v with
    | none => simp [hV] at hc
    | some V =>
      simp only [hV, Option.isNone_some, Bool.false_eq_true, if_false] at hc
      refine ⟨?_, by simp [Fun.ref], ?_, hflat, by simp [Fun.ownsC]⟩
      · intro t' ht'
        simp [Fun.trk] at ht'; subst ht'
        cases hT : s.trks t' with
        | none => simp [hT] at hc
        | some T => exact ⟨T, by first | rfl | exact hT⟩
      · intro v' hv'; simp [Fun.owns] at hv'; subst hv'
        refine ⟨hnm v (by simp [Fun.names]), ⟨V, by first | rfl | exact hV⟩, ?_⟩
        intro hp
        rw [(pinned_iff h.repBound v).mpr hp] at hc
        split at hc
        · by_cases hh : s.trks ‹Nat› = none <;> simp [hh] at hc
        · simp at hc
  | nest fid v d => exact absurd rfl (hflat _ _ _)
  | ownc fid c =>
    simp only [specCheck, deadC] at hc
    refine ⟨by simp [Fun.trk], by simp [Fun.ref], by simp [Fun.owns], hflat, ?_⟩
    intro c' hc'; simp [Fun.ownsC] at hc'; subst hc'
    cases hx : s.conns c with
    | none => simp [hx] at hc
    | some p => exact ⟨p, by first | rfl | exact hx⟩

/-- `s'` is `s` plus new representations (`s.nextRep` and above), bound but the first one not stored yet, and
    new anonymous variables holding the others: what `newRep` and `cloneRep` make of a state, in the form that
    composes along the recursive copy (`fresh_of_ext` turns it into `Unstored`) -/
structure Ext (s s' : State) : Prop where
  inv : Inv s'
  idle : Idle s'
  next : s.nextRep < s'.nextRep
  slots : ∀ w, w < anonBase + s.nextRep → s'.slots w = s.slots w
  newVar : ∀ w r, repOf s' w = some r → anonBase + s.nextRep ≤ w → s.nextRep < r
  self : ∃ N, s'.reps s.nextRep = some N ∧ N.parent = none
  held : ∀ r R, s'.reps r = some R → s.nextRep < r → ∃ w, repOf s' w = some r
  old : ∀ x X', s'.reps x = some X' → x < s.nextRep → ∃ X, s.reps x = some X
  orphOld : ∀ x X, s.reps x = some X → Orphan s x → s'.reps x = some X

theorem repOf_lt {s : State} (h : Inv s) {w r : Nat} (hr : repOf s w = some r) : w < anonBase + s.nextRep := by
  obtain ⟨V, hV, -⟩ := repOf_eq.mp hr
  exact var_lt h hV

theorem Ext.repOf_eq {s s' : State} (h : Ext s s') {w : Nat} (hw : w < anonBase + s.nextRep) :
    repOf s' w = repOf s w := by
  simp only [repOf, h.slots w hw]

theorem Ext.orph {s s' : State} (h : Ext s s') (hI : Inv s) : Orphan s' s.nextRep := by
  intro w hw
  by_cases hlt : w < anonBase + s.nextRep
  · rw [h.repOf_eq hlt] at hw; exact orphan_next hI w hw
  · exact absurd (h.newVar w _ hw (by omega)) (Nat.lt_irrefl _)

theorem Ext.heldAll {s s' : State} (h : Ext s s') (hw : WF s) :
    ∀ r R, s'.reps r = some R → (∃ w, repOf s' w = some r) ∨ r = s.nextRep := by
  intro r R hR
  rcases Nat.lt_trichotomy r s.nextRep with hlt | heq | hgt
  · obtain ⟨X, hX⟩ := h.old r R hR hlt
    obtain ⟨w, hw'⟩ := hw.held r X hX
    exact .inl ⟨w, by rw [h.repOf_eq (repOf_lt hw.inv hw')]; exact hw'⟩
  · exact .inr heq
  · exact .inl (h.held r R hR hgt)

theorem inv_adopt {s : State} (h : Inv s) {n v : Nat} {N : Rep} (b : Bool) (hn : s.reps n = some N)
    (hp : N.parent = none) (ho : Orphan s n) (hv : s.slots v = none)
    (hb : v < anonBase + s.nextRep) : Inv (s.setSlot v (some ⟨some n, b⟩)) :=
  (inv_setSlot h hb (fun _ e => by cases e; exact .inr (.of_noParent ho hn hp v))
    fun q hq => by rw [repOf_of_dead hv] at hq; cases hq).1

theorem ext_of_alloc {s s' : State} (h : Inv s) (hI : Inv s') (hi : Idle s') (hsl : s'.slots = s.slots)
    (hn : s'.nextRep = s.nextRep + 1)
    (hself : ∃ N, s'.reps s.nextRep = some N ∧ N.parent = none)
    (halive : ∀ x X', s'.reps x = some X' → x ≠ s.nextRep → ∃ X, s.reps x = some X)
    (hold : ∀ x X, s.reps x = some X → Orphan s x → s'.reps x = some X) : Ext s s' := by
  refine { inv := hI, idle := hi, next := by rw [hn]; exact Nat.lt_succ_self _,
           slots := fun _ _ => by rw [hsl], newVar := ?_, self := hself, held := ?_,
           old := fun x X' hX' hlt => halive x X' hX' (by omega), orphOld := hold }
  · intro w r hr hw
    rw [repOf_congr hsl] at hr
    exact absurd (repOf_lt h hr) (by omega)
  · intro r R hR hlt
    obtain ⟨X, hX⟩ := halive r R hR (by omega)
    exact absurd (h.repBound r X hX) (by omega)

theorem ext_allocRep {s : State} (h : Inv s) (hi : Idle s) (c : Bool) {fo : Option Fun}
    (hf : ∀ f, fo = some f → FunOk s f ∧ f.trk = none) : Ext s (allocRep ⟨c, none, fo, []⟩ s) := by
  refine ext_of_alloc h (inv_allocRep h c hf) (idle_of_trks hi rfl) rfl rfl
    ⟨_, by rw [reps_allocRep, if_pos rfl], rfl⟩ ?_ ?_
  · intro x X' hX' hx
    rw [reps_allocRep, if_neg hx] at hX'
    exact ⟨X', hX'⟩
  · intro x X hX _
    have := h.repBound x X hX
    rw [reps_allocRep, if_neg (by omega)]; exact hX

theorem ext_allocNoFn {s : State} (h : Inv s) (hi : Idle s) (c : Bool) :
    Ext s (allocRep ⟨c, none, none, []⟩ s) :=
  ext_allocRep h hi c (fun _ e => by cases e)

theorem ext_allocBind {s : State} (h : Inv s) (hi : Idle s) (c : Bool) {f : Fun} (hf : FunOk s f) :
    Ext s (allocBind c f s) :=
  ext_of_alloc h (inv_allocBind h hi c hf) (idle_allocBind hi c f) (slots_allocBind c f s)
    (nextRep_allocBind c f s)
    ⟨_, reps_allocBind_self h c f, rfl⟩ (fun _ _ hX' hx => allocBind_alive c f hX' hx)
    (fun x X hX => allocBind_old c f hX (Nat.ne_of_lt (h.repBound x X hX)))

/-- `!rep_->call_` -/
def invalidRep (s : State) (q : Nat) : Bool :=
  match s.reps q with
  | some Q => !Q.call
  | none => true

/-- copy-construct the anonymous variable `j` from variable `i` (`slot_base(const slot_base&)`) -/
def copyInner (ext : Bool) (d' i j : Nat) (s1 : State) : State :=
  match s1.slots i with
  | none => s1.setSlot j (some ⟨none, false⟩)
  | some X =>
    match X.rep with
    | none => s1.setSlot j (some ⟨none, X.blocked⟩)
    | some q =>
      if invalidRep s1 q
      then s1.setSlot j (some ⟨none, false⟩)
      else (cloneRepD ext d' q s1).setSlot j (some ⟨some s1.nextRep, X.blocked⟩)

/-- the representation object, then the bound copy, then the functor and the bind visit -/
def allocNest (ext c : Bool) (fid dd d' i : Nat) (s : State) : State :=
  nestFinish s.nextRep fid dd (anonBase + s.nextRep)
    (copyInner ext d' i (anonBase + s.nextRep) (allocRep ⟨c, none, none, []⟩ s))

theorem bindFunX_true (r : Nat) (f : Fun) (s : State) : bindFunX true r f s = bindFun r f s := by
  cases f <;> rfl
theorem bindFunX_false_sref (r fid v : Nat) (s : State) : bindFunX false r (.sref fid v) s = s := rfl
theorem bindFunX_false_other (r : Nat) (f : Fun) (s : State) (hf : ∀ fid v, f ≠ .sref fid v) :
    bindFunX false r f s = bindFun r f s := by
  cases f <;> first | rfl | exact absurd rfl (hf _ _)

theorem cloneRepD_eq (ext : Bool) (d r : Nat) (s : State) : cloneRepD ext d r s =
    match s.reps r with
    | none => allocRep ⟨false, none, none, []⟩ s
    | some R =>
      match R.fn with
      | none => allocRep ⟨R.call, none, none, []⟩ s
      | some (.nest fid i dd) =>
        (match d with
         | 0 => allocRep ⟨R.call, none, none, []⟩ s
         | d' + 1 => allocNest ext R.call fid dd d' i s)
      | some f => bindFunX ext s.nextRep f (allocRep ⟨R.call, none, some f, []⟩ s) := by
  rw [cloneRepD]
  cases s.reps r with
  | none => rfl
  | some R =>
    simp only []
    cases R.fn with
    | none => rfl
    | some f => cases f <;> first | rfl | (cases d <;> rfl)

theorem newRep_flat (f : Fun) (s : State) (hflat : ∀ fid v d, f ≠ .nest fid v d) :
    newRep f s = allocBind true f s := by
  cases f with
  | nest fid v d => exact absurd rfl (hflat _ _ _)
  | _ => rfl

theorem newRep_nest (fid i x : Nat) (s : State) :
    ∃ dd d', newRep (.nest fid i x) s = allocNest false true fid dd d' i s := by
  unfold newRep allocNest copyInner
  simp only []
  cases hi : (allocRep ⟨true, none, none, []⟩ s).slots i with
  | none => exact ⟨1, 0, rfl⟩
  | some X =>
    simp only []
    cases hr : X.rep with
    | none => exact ⟨1, 0, rfl⟩
    | some q =>
      simp only []
      by_cases hq : invalidRep (allocRep ⟨true, none, none, []⟩ s) q = true
      · refine ⟨1, 0, ?_⟩
        rw [if_pos hq]
        exact if_pos hq
      · refine ⟨depthOfRep s q + 1, depthOfRep s q, ?_⟩
        rw [if_neg hq]
        exact if_neg hq

/-- the state in which the representation object `s.nextRep` and the bound copy exist, the functor not yet -/
structure Mid (c : Bool) (s s2 : State) : Prop where
  ext : Ext s s2
  self : s2.reps s.nextRep = some ⟨c, none, none, []⟩
  var : ∃ V, s2.slots (anonBase + s.nextRep) = some V

theorem anon_free {s : State} (h : Inv s) : s.slots (anonBase + s.nextRep) = none := by
  cases hV : s.slots (anonBase + s.nextRep) with
  | none => rfl
  | some V => exact absurd (var_lt h hV) (Nat.lt_irrefl _)

theorem mid_none {s : State} (h : Inv s) (hi : Idle s) (c b : Bool) :
    Mid c s ((allocRep ⟨c, none, none, []⟩ s).setSlot (anonBase + s.nextRep) (some ⟨none, b⟩)) := by
  have E := ext_allocNoFn h hi c
  have hsl : (allocRep ⟨c, none, none, []⟩ s).slots (anonBase + s.nextRep) = none := anon_free h
  have hnx : (allocRep ⟨c, none, none, []⟩ s).nextRep = s.nextRep + 1 := rfl
  refine ⟨?_, by simp [reps_allocRep, setSlot_reps], ⟨_, by rw [slots_setSlot, if_pos rfl]⟩⟩
  refine { inv := inv_setSlot_keepRep E.inv (repOf_of_dead hsl).symm (by rw [hnx]; omega), idle := idle_of_trks hi rfl,
           next := by simp [nextRep_allocRep, nextRep_setSlot],
           slots := ?_, newVar := ?_, self := E.self, held := ?_, old := E.old, orphOld := E.orphOld }
  · intro w hw
    rw [slots_setSlot, if_neg (by omega)]; rfl
  · intro w r hr hw
    rw [repOf_setSlot] at hr
    by_cases hwj : w = anonBase + s.nextRep
    · rw [if_pos hwj] at hr; simp at hr
    · rw [if_neg hwj] at hr; exact E.newVar w r hr hw
  · intro r R hR hlt
    obtain ⟨w, hw⟩ := E.held r R hR hlt
    refine ⟨w, ?_⟩
    rw [repOf_setSlot, if_neg]; exact hw
    intro hwj; subst hwj; simp [repOf, hsl] at hw

theorem mid_clone {s s2 : State} (h : Inv s) (hi : Idle s) (c b : Bool)
    (h12 : Ext (allocRep ⟨c, none, none, []⟩ s) s2) :
    Mid c s (s2.setSlot (anonBase + s.nextRep) (some ⟨some (s.nextRep + 1), b⟩)) := by
  have E := ext_allocNoFn h hi c
  have hnx : (allocRep ⟨c, none, none, []⟩ s).nextRep = s.nextRep + 1 := rfl
  have hnx2 := h12.next
  rw [hnx] at hnx2
  have hj : s2.slots (anonBase + s.nextRep) = none := by
    rw [h12.slots _ (by rw [hnx]; omega)]; exact anon_free h
  obtain ⟨M, hM, hMp⟩ := h12.self
  rw [hnx] at hM
  have horph : Orphan s2 (s.nextRep + 1) := h12.orph E.inv
  have hself : s2.reps s.nextRep = some ⟨c, none, none, []⟩ := by
    apply h12.orphOld
    · simp [reps_allocRep]
    · exact E.orph h
  have hro : ∀ w, w ≠ anonBase + s.nextRep →
      repOf (s2.setSlot (anonBase + s.nextRep) (some ⟨some (s.nextRep + 1), b⟩)) w = repOf s2 w := by
    intro w hw; rw [repOf_setSlot, if_neg hw]
  refine ⟨?_, hself, ⟨_, by rw [slots_setSlot, if_pos rfl]⟩⟩
  refine { inv := inv_adopt h12.inv b hM hMp horph hj (by omega), idle := idle_of_trks h12.idle rfl,
           next := by simp only [nextRep_setSlot]; omega,
           slots := ?_, newVar := ?_, self := ⟨_, hself, rfl⟩, held := ?_, old := ?_, orphOld := ?_ }
  · intro w hw
    rw [slots_setSlot, if_neg (by omega), h12.slots w (by rw [hnx]; omega)]; rfl
  · intro w r hr hw
    by_cases hwj : w = anonBase + s.nextRep
    · subst hwj; rw [repOf_setSlot, if_pos rfl] at hr
      simp only [Option.bind_some, Option.some.injEq] at hr; omega
    · rw [hro w hwj] at hr
      have := h12.newVar w r hr (by rw [hnx]; omega)
      rw [hnx] at this; omega
  · intro r R hR hlt
    rw [setSlot_reps] at hR
    by_cases hr1 : r = s.nextRep + 1
    · subst hr1; exact ⟨anonBase + s.nextRep, by rw [repOf_setSlot, if_pos rfl]; rfl⟩
    · obtain ⟨w, hw⟩ := h12.held r R hR (by rw [hnx]; omega)
      refine ⟨w, ?_⟩
      rw [hro w]; exact hw
      intro hwj; subst hwj; simp [repOf, hj] at hw
  · intro x X' hX' hlt
    rw [setSlot_reps] at hX'
    obtain ⟨X, hX⟩ := h12.old x X' hX' (by rw [hnx]; omega)
    rw [reps_allocRep, if_neg (by omega)] at hX
    exact ⟨X, hX⟩
  · intro x X hX ho
    have := h.repBound x X hX
    exact h12.orphOld x X (by rw [reps_allocRep, if_neg (by omega)]; exact hX) ho

theorem nestFinish_eq (n fid dd j : Nat) (s : State) : nestFinish n fid dd j s =
    match repOf s j with
    | none => s.modRep n fun N => { N with fn := some (.nest fid j dd) }
    | some q => (s.modRep n fun N => { N with fn := some (.nest fid j dd) }).modRep q (setPar n) := by
  unfold nestFinish; rw [setParentIfNone_eq, repOf_modRep]
  cases repOf s j <;> rfl

theorem reps_nestFinish (n fid dd j : Nat) (s : State) (x : Nat) :
    (nestFinish n fid dd j s).reps x =
      if repOf s j = some x then
        ((s.modRep n fun N => { N with fn := some (.nest fid j dd) }).reps x).map (setPar n)
      else (s.modRep n fun N => { N with fn := some (.nest fid j dd) }).reps x := by
  unfold nestFinish; rw [reps_setParentIfNone, repOf_modRep]

theorem inv_storeNest {s : State} (h : Inv s) {n fid dd : Nat} {c : Bool}
    (hn : s.reps n = some ⟨c, none, none, []⟩) (hj : ∃ V, s.slots (anonBase + n) = some V) :
    Inv (s.modRep n fun N => { N with fn := some (.nest fid (anonBase + n) dd) }) := by
  rw [modRep_of_rep hn]
  have ⟨he, hr, hp, hf, ht⟩ := fresh_parts (fo := some (.nest fid (anonBase + n) dd)) h c (h.repBound n _ hn)
    (fun N hN => by rw [hn] at hN; cases hN; exact ⟨rfl, rfl, rfl⟩) (fun _ _ e => by cases e)
    (fun _ _ _ e => by cases e) (fun _ _ _ e => by cases e; exact ⟨rfl, hj⟩) (fun _ _ e => by cases e)
  exact .of he hr hp (ht fun f e => by cases e; rfl) hf

theorem ext_nestFinish {s s2 : State} {c : Bool} (hI : Inv s) (m : Mid c s s2) (fid dd : Nat) :
    Ext s (nestFinish s.nextRep fid dd (anonBase + s.nextRep) s2) := by
  have E := m.ext
  have hself := m.self
  have h3 : Inv (s2.modRep s.nextRep fun N => { N with fn := some (.nest fid (anonBase + s.nextRep) dd) }) :=
    inv_storeNest E.inv hself m.var
  have hnq : ∀ q, repOf s2 (anonBase + s.nextRep) = some q → s.nextRep < q :=
    fun q hq => E.newVar _ q hq (Nat.le_refl _)
  have hselfN : (nestFinish s.nextRep fid dd (anonBase + s.nextRep) s2).reps s.nextRep =
      some ⟨c, none, some (.nest fid (anonBase + s.nextRep) dd), []⟩ := by
    rw [reps_nestFinish, if_neg (fun h => Nat.lt_irrefl _ (hnq _ h)), reps_modRep, if_pos rfl, hself]; rfl
  have hother : ∀ x, x ≠ s.nextRep → ∀ X', (nestFinish s.nextRep fid dd (anonBase + s.nextRep) s2).reps x = some X' →
      ∃ X, s2.reps x = some X := by
    intro x hx X' hX'
    rw [reps_nestFinish, reps_modRep, if_neg hx] at hX'
    split at hX'
    · obtain ⟨X, hX, -⟩ := Option.map_eq_some_iff.mp hX'
      exact ⟨X, hX⟩
    · exact ⟨X', hX'⟩
  have hsl : (nestFinish s.nextRep fid dd (anonBase + s.nextRep) s2).slots = s2.slots := by
    unfold nestFinish; rw [slots_setParentIfNone, slots_modRep]
  refine { inv := ?_, idle := ?_, next := ?_, slots := ?_, newVar := ?_,
           self := ⟨_, hselfN, rfl⟩, held := ?_, old := ?_, orphOld := ?_ }
  · rw [nestFinish_eq]
    cases hq : repOf s2 (anonBase + s.nextRep) with
    | none => exact h3
    | some q =>
      simp only []
      exact inv_setPar h3 (N := ⟨c, none, some (.nest fid (anonBase + s.nextRep) dd), []⟩)
        (f := .nest fid (anonBase + s.nextRep) dd) (v := anonBase + s.nextRep)
        (by simp [reps_modRep, hself]) rfl rfl (by rw [repOf_modRep]; exact hq)
  · apply idle_of_trks E.idle
    unfold nestFinish; rw [trks_setParentIfNone, trks_modRep]
  · unfold nestFinish; rw [nextRep_setParentIfNone, nextRep_modRep]; exact E.next
  · intro w hw; rw [hsl]; exact E.slots w hw
  · intro w r hr hw; rw [repOf_congr hsl] at hr; exact E.newVar w r hr hw
  · intro r R hR hlt
    obtain ⟨X, hX⟩ := hother r (by omega) R hR
    obtain ⟨w, hw⟩ := E.held r X hX hlt
    exact ⟨w, by rw [repOf_congr hsl]; exact hw⟩
  · intro x X' hX' hlt
    obtain ⟨X2, hX2⟩ := hother x (by omega) X' hX'
    exact E.old x X2 hX2 hlt
  · intro x X hX ho
    have hlt := hI.repBound x X hX
    rw [reps_nestFinish, if_neg (fun h => by have := hnq _ h; omega), reps_modRep, if_neg (by omega)]
    exact E.orphOld x X hX ho

theorem ext_allocNest {s : State} (h : Inv s) (hi : Idle s) (ext c : Bool) (fid dd d' i : Nat)
    (ih : ∀ q s1, Inv s1 → Idle s1 → Ext s1 (cloneRepD ext d' q s1)) : Ext s (allocNest ext c fid dd d' i s) := by
  unfold allocNest
  apply ext_nestFinish h
  have E := ext_allocNoFn h hi c
  unfold copyInner
  cases (allocRep ⟨c, none, none, []⟩ s).slots i with
  | none => exact mid_none h hi c _
  | some X =>
    simp only []
    cases X.rep with
    | none => exact mid_none h hi c _
    | some q =>
      simp only []
      by_cases hq : invalidRep (allocRep ⟨c, none, none, []⟩ s) q = true
      · rw [if_pos hq]; exact mid_none h hi c _
      · rw [if_neg hq]; exact mid_clone h hi c _ (ih _ _ E.inv E.idle)

theorem ext_bindX {s : State} (h : Inv s) (hi : Idle s) (ext c : Bool) {f : Fun} (hf : FunOk s f) :
    Ext s (bindFunX ext s.nextRep f (allocRep ⟨c, none, some f, []⟩ s)) := by
  cases ext with
  | true => rw [bindFunX_true]; exact ext_allocBind h hi c hf
  | false =>
    cases f with
    | sref fid v =>
      -- the clone finds no free parent link: the representation alone
      rw [bindFunX_false_sref]
      exact ext_allocRep h hi c (fun f e => by cases e; exact ⟨hf, rfl⟩)
    | _ => rw [bindFunX_false_other _ _ _ (by intros; simp)]; exact ext_allocBind h hi c hf

theorem ext_cloneRepD (ext : Bool) (d : Nat) : ∀ (r : Nat) (s : State), Inv s → Idle s →
    Ext s (cloneRepD ext d r s) := by
  induction d using Nat.strongRecOn with
  | ind d ih =>
    intro r s h hi
    rw [cloneRepD_eq]
    cases hR : s.reps r with
    | none => exact ext_allocNoFn h hi _
    | some R =>
      simp only []
      cases hf : R.fn with
      | none => exact ext_allocNoFn h hi _
      | some f =>
        cases f with
        | nest fid v dd =>
          -- the clone of a functor that binds a slot by value clones that slot with the budget that is left
          cases d with
          | zero => exact ext_allocNoFn h hi _
          | succ d' => exact ext_allocNest h hi _ _ _ _ _ _ (ih d' (Nat.lt_succ_self d'))
        | _ => exact ext_bindX h hi _ _ (funOk_of_inv h hR hf (by intros; simp))

theorem ext_newRep {s : State} (h : Inv s) (hi : Idle s) {f : Fun} (hc : specCheck s f = none)
    (hnm : ∀ v, v ∈ f.names.1 → v < anonBase) : Ext s (newRep f s) := by
  cases f with
  | nest fid v x =>
    obtain ⟨dd, d', he⟩ := newRep_nest fid v x s
    rw [he]
    exact ext_allocNest h hi _ _ _ _ _ _ (fun q s1 h1 hi1 => ext_cloneRepD false d' q s1 h1 hi1)
  | _ =>
    rw [newRep_flat _ _ (by intros; simp)]
    exact ext_allocBind h hi _ (funOk_of_spec h hc hnm (by intros; simp))

end Sigc.SlotG
