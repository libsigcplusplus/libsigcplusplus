import Sigc.SlotG
import Sigc.SlotGAttr
/-!
  Lemmas about the `SlotG` model: the cascade-stable invariant `Inv`; how the fields of the state read after each of
  the model's updates (`setSlot` … `modSlot`, `setParentIfNone`, `trkAdd`, `weakNotify`, `killConn`, …) and the
  equations of `destroyRep` — to state them, pieces of the model's text get names (`clearPar`, `setPar`, `remEntry`,
  `addEntry`, `dropFnF`, `eraseRep`); what `check s op = none` says about the operands.  The clauses of `Inv` fall
  into five parts that read different components of the state (`ExOk`, `RegOk`, `ParOk`, `TrkOk`, `FnOk`); a step of
  the model carries the parts it does not touch over by `….congr` / `….mono`, and only the others need an argument.
  The parts are also what can be said of a half-made state: a representation that is allocated but whose functor is
  not registered yet (`fresh_parts` in `SlotGLemmasStep`).
-/
namespace Sigc.SlotG

/-- `ownedBy s v` as a proposition: some live owning functor copy shares the holder of `v` -/
def Owned (s : State) (v : Nat) : Prop := ∃ r R f, s.reps r = some R ∧ R.fn = some f ∧ f.owns = some v
/-- `ownedCBy s c`: some live functor copy shares the holder of connection `c` -/
def OwnedC (s : State) (c : Nat) : Prop := ∃ r R f, s.reps r = some R ∧ R.fn = some f ∧ f.ownsC = some c
/-- `pinned s v`: some live `sref` functor copy refers to `v` -/
def Pinned (s : State) (v : Nat) : Prop := ∃ r R fid, s.reps r = some R ∧ R.fn = some (.sref fid v)

/-- no slot variable stores representation `r` (a freshly made one, one that was moved out of its variable, or the
    old one of an assignment while it is being deleted) -/
def Orphan (s : State) (r : Nat) : Prop := ∀ w, repOf s w ≠ some r

/-- the invariant that holds at every point of every cascade (trackables may be clearing, a freshly made
    representation may not yet be stored in its variable — `parentOk` speaks about stored representations) -/
structure Inv (s : State) : Prop where
  repAlive : ∀ v r, repOf s v = some r → ∃ R, s.reps r = some R
  repUniq : ∀ v1 v2 r, repOf s v1 = some r → repOf s v2 = some r → v1 = v2
  connReg : ∀ c v, s.conns c = some (some v) →
    ∃ r R, s.reps r = some R ∧ c ∈ R.cbs ∧ (repOf s v = some r ∨ Orphan s r)
  cbsConn : ∀ r R c, s.reps r = some R → c ∈ R.cbs →
    ∃ v, s.conns c = some (some v) ∧ (repOf s v = some r ∨ Orphan s r)
  regUniq : ∀ r1 R1 r2 R2 c, s.reps r1 = some R1 → s.reps r2 = some R2 → c ∈ R1.cbs → c ∈ R2.cbs → r1 = r2
  cbsNodup : ∀ r R, s.reps r = some R → R.cbs.Nodup
  parentOk : ∀ r R p v, s.reps r = some R → R.parent = some p → repOf s v = some r →
    ∃ P f, s.reps p = some P ∧ P.fn = some f ∧ f.ref = some v
  trkReg : ∀ r R f t, s.reps r = some R → R.fn = some f → f.trk = some t →
    ∃ T, s.trks t = some T ∧ (r, true) ∈ T.entries
  trkEnt : ∀ t T r, s.trks t = some T → (r, true) ∈ T.entries →
    ∃ R f, s.reps r = some R ∧ R.fn = some f ∧ f.trk = some t
  trkNodup : ∀ t T, s.trks t = some T → (T.entries.map Prod.fst).Nodup
  refOk : ∀ r R fid v, s.reps r = some R → R.fn = some (.sref fid v) →
    v < anonBase ∧ (∃ V, s.slots v = some V) ∧ ¬ Owned s v
  ownOk : ∀ r R fid v t, s.reps r = some R → R.fn = some (.own fid v t) →
    v < anonBase ∧ ∃ V, s.slots v = some V
  nestOk : ∀ r R fid v d, s.reps r = some R → R.fn = some (.nest fid v d) →
    v = anonBase + r ∧ ∃ V, s.slots v = some V
  anonBound : ∀ v V, s.slots v = some V → anonBase ≤ v → v < anonBase + s.nextRep
  repBound : ∀ r R, s.reps r = some R → r < s.nextRep
  regHeld : ∀ r R c, s.reps r = some R → c ∈ R.cbs → ∃ v, repOf s v = some r
  ownCOk : ∀ r R fid c, s.reps r = some R → R.fn = some (.ownc fid c) → ∃ p, s.conns c = some p

/-- which variable stores which representation (`repOf`, the domains of `slots` and `reps`, `nextRep`) -/
structure ExOk (s : State) : Prop where
  repAlive : ∀ v r, repOf s v = some r → ∃ R, s.reps r = some R
  repUniq : ∀ v1 v2 r, repOf s v1 = some r → repOf s v2 = some r → v1 = v2
  anonBound : ∀ v V, s.slots v = some V → anonBase ≤ v → v < anonBase + s.nextRep
  repBound : ∀ r R, s.reps r = some R → r < s.nextRep

/-- the registrations of connections (`conns`, the `cbs` lists, `repOf`): a connection that points to a variable is
    registered on the representation it stores, and only there.  The five clauses of `Inv` say no more: a
    representation with a registration is stored (`regHeld`), so the `Orphan` alternatives of `connReg`, `cbsConn`
    are never taken, and `regUniq`, `regHeld` follow from `bwd`. -/
structure RegOk (s : State) : Prop where
  fwd : ∀ {c v}, s.conns c = some (some v) → ∃ r R, repOf s v = some r ∧ s.reps r = some R ∧ c ∈ R.cbs
  bwd : ∀ {r R c}, s.reps r = some R → c ∈ R.cbs → ∃ v, s.conns c = some (some v) ∧ repOf s v = some r
  nodup : ∀ r R, s.reps r = some R → R.cbs.Nodup

/-- the parent links (`parent`, the functors, `repOf`) -/
def ParOk (s : State) : Prop :=
  ∀ r R p v, s.reps r = some R → R.parent = some p → repOf s v = some r →
    ∃ P f, s.reps p = some P ∧ P.fn = some f ∧ f.ref = some v

/-- the registrations on trackables (`trks`, the functors) -/
structure TrkOk (s : State) : Prop where
  trkReg : ∀ r R f t, s.reps r = some R → R.fn = some f → f.trk = some t →
    ∃ T, s.trks t = some T ∧ (r, true) ∈ T.entries
  trkEnt : ∀ t T r, s.trks t = some T → (r, true) ∈ T.entries →
    ∃ R f, s.reps r = some R ∧ R.fn = some f ∧ f.trk = some t
  trkNodup : ∀ t T, s.trks t = some T → (T.entries.map Prod.fst).Nodup

/-- what the functors name exists (the functors, the domains of `slots` and `conns`) -/
structure FnOk (s : State) : Prop where
  refOk : ∀ r R fid v, s.reps r = some R → R.fn = some (.sref fid v) →
    v < anonBase ∧ (∃ V, s.slots v = some V) ∧ ¬ Owned s v
  ownOk : ∀ r R fid v t, s.reps r = some R → R.fn = some (.own fid v t) →
    v < anonBase ∧ ∃ V, s.slots v = some V
  nestOk : ∀ r R fid v d, s.reps r = some R → R.fn = some (.nest fid v d) →
    v = anonBase + r ∧ ∃ V, s.slots v = some V
  ownCOk : ∀ r R fid c, s.reps r = some R → R.fn = some (.ownc fid c) → ∃ p, s.conns c = some p

theorem Inv.exOk {s : State} (h : Inv s) : ExOk s := ⟨h.repAlive, h.repUniq, h.anonBound, h.repBound⟩
theorem Inv.regOk {s : State} (h : Inv s) : RegOk s where
  fwd hc := by
    obtain ⟨r, R, hR, hm, hor | hor⟩ := h.connReg _ _ hc
    · exact ⟨r, R, hor, hR, hm⟩
    · obtain ⟨w, hw⟩ := h.regHeld r R _ hR hm; exact absurd hw (hor w)
  bwd hR hm := by
    obtain ⟨v, hv, hor | hor⟩ := h.cbsConn _ _ _ hR hm
    · exact ⟨v, hv, hor⟩
    · obtain ⟨w, hw⟩ := h.regHeld _ _ _ hR hm; exact absurd hw (hor w)
  nodup := h.cbsNodup
theorem Inv.parOk {s : State} (h : Inv s) : ParOk s := h.parentOk
theorem Inv.trkOk {s : State} (h : Inv s) : TrkOk s := ⟨h.trkReg, h.trkEnt, h.trkNodup⟩
theorem Inv.fnOk {s : State} (h : Inv s) : FnOk s := ⟨h.refOk, h.ownOk, h.nestOk, h.ownCOk⟩

theorem RegOk.uniq {s : State} (h : RegOk s) {r1 r2 c : Nat} {R1 R2 : Rep} (h1 : s.reps r1 = some R1)
    (h2 : s.reps r2 = some R2) (m1 : c ∈ R1.cbs) (m2 : c ∈ R2.cbs) : r1 = r2 := by
  obtain ⟨v1, hc1, hr1⟩ := h.bwd h1 m1
  obtain ⟨v2, hc2, hr2⟩ := h.bwd h2 m2
  rw [hc1] at hc2; cases hc2
  rw [hr1] at hr2; cases hr2; rfl

theorem Inv.of {s : State} (e : ExOk s) (g : RegOk s) (p : ParOk s) (t : TrkOk s) (f : FnOk s) : Inv s :=
  ⟨e.repAlive, e.repUniq, fun _ _ hc => let ⟨r, R, hr, hR, hm⟩ := g.fwd hc; ⟨r, R, hR, hm, .inl hr⟩,
   fun _ _ _ hR hm => let ⟨v, hv, hr⟩ := g.bwd hR hm; ⟨v, hv, .inl hr⟩, fun _ _ _ _ _ => g.uniq, g.nodup, p,
   t.trkReg, t.trkEnt, t.trkNodup, f.refOk, f.ownOk, f.nestOk, e.anonBound, e.repBound,
   fun _ _ _ hR hm => let ⟨v, _, hr⟩ := g.bwd hR hm; ⟨v, hr⟩, f.ownCOk⟩

theorem repOf_eq {s : State} {v r : Nat} : repOf s v = some r ↔ ∃ V, s.slots v = some V ∧ V.rep = some r := by
  unfold repOf; split <;> simp_all

@[slotg_simp] theorem slots_setSlot (s : State) (k : Nat) (o) (x : Nat) : (s.setSlot k o).slots x = if x = k then o else s.slots x := rfl
@[slotg_simp] theorem setSlot_reps (s : State) (v o) : (s.setSlot v o).reps = s.reps := rfl
@[slotg_simp] theorem trks_setSlot (s : State) (k : Nat) (o) : (s.setSlot k o).trks = s.trks := rfl
@[slotg_simp] theorem conns_setSlot (s : State) (k : Nat) (o) : (s.setSlot k o).conns = s.conns := rfl
@[slotg_simp] theorem nextRep_setSlot (s : State) (k : Nat) (o) : (s.setSlot k o).nextRep = s.nextRep := rfl
@[slotg_simp] theorem err_setSlot (s : State) (k : Nat) (o) : (s.setSlot k o).err = s.err := rfl
@[slotg_simp] theorem slots_setRep (s : State) (k : Nat) (o) : (s.setRep k o).slots = s.slots := rfl
@[slotg_simp] theorem reps_setRep (s : State) (k : Nat) (o) (x : Nat) : (s.setRep k o).reps x = if x = k then o else s.reps x := rfl
@[slotg_simp] theorem trks_setRep (s : State) (k : Nat) (o) : (s.setRep k o).trks = s.trks := rfl
@[slotg_simp] theorem conns_setRep (s : State) (k : Nat) (o) : (s.setRep k o).conns = s.conns := rfl
@[slotg_simp] theorem nextRep_setRep (s : State) (k : Nat) (o) : (s.setRep k o).nextRep = s.nextRep := rfl
@[slotg_simp] theorem setRep_err (s : State) (v o) : (s.setRep v o).err = s.err := rfl
@[slotg_simp] theorem slots_setTrk (s : State) (k : Nat) (o) : (s.setTrk k o).slots = s.slots := rfl
@[slotg_simp] theorem setTrk_reps (s : State) (v o) : (s.setTrk v o).reps = s.reps := rfl
@[slotg_simp] theorem trks_setTrk (s : State) (k : Nat) (o) (x : Nat) : (s.setTrk k o).trks x = if x = k then o else s.trks x := rfl
@[slotg_simp] theorem conns_setTrk (s : State) (k : Nat) (o) : (s.setTrk k o).conns = s.conns := rfl
@[slotg_simp] theorem nextRep_setTrk (s : State) (k : Nat) (o) : (s.setTrk k o).nextRep = s.nextRep := rfl
@[slotg_simp] theorem setTrk_err (s : State) (v o) : (s.setTrk v o).err = s.err := rfl
@[slotg_simp] theorem slots_setConn (s : State) (k : Nat) (o) : (s.setConn k o).slots = s.slots := rfl
@[slotg_simp] theorem setConn_reps (s : State) (v o) : (s.setConn v o).reps = s.reps := rfl
@[slotg_simp] theorem trks_setConn (s : State) (k : Nat) (o) : (s.setConn k o).trks = s.trks := rfl
@[slotg_simp] theorem conns_setConn (s : State) (k : Nat) (o) (x : Nat) : (s.setConn k o).conns x = if x = k then o else s.conns x := rfl
@[slotg_simp] theorem nextRep_setConn (s : State) (k : Nat) (o) : (s.setConn k o).nextRep = s.nextRep := rfl
@[slotg_simp] theorem err_setConn (s : State) (k : Nat) (o) : (s.setConn k o).err = s.err := rfl
@[slotg_simp] theorem repOf_setRep (s : State) (k : Nat) (o) (v : Nat) : repOf (s.setRep k o) v = repOf s v := rfl
@[slotg_simp] theorem repOf_setTrk (s : State) (k : Nat) (o) (v : Nat) : repOf (s.setTrk k o) v = repOf s v := rfl
@[slotg_simp] theorem repOf_setConn (s : State) (k : Nat) (o) (v : Nat) : repOf (s.setConn k o) v = repOf s v := rfl
@[slotg_simp] theorem repOf_setSlot (s : State) (k : Nat) (o : Option SVar) (v : Nat) :
    repOf (s.setSlot k o) v = if v = k then o.bind SVar.rep else repOf s v := by
  simp only [repOf, State.setSlot]
  by_cases h : v = k
  · simp only [h, if_true]; cases o <;> rfl
  · simp only [h, if_false]

@[slotg_simp] theorem reps_modRep (s : State) (k : Nat) (g : Rep → Rep) (x : Nat) :
    (s.modRep k g).reps x = if x = k then (s.reps x).map g else s.reps x := by
  unfold State.modRep; split <;> rename_i h
  · simp only [reps_setRep]; split <;> simp_all
  · split <;> simp_all
@[slotg_simp] theorem slots_modRep (s : State) (k : Nat) (g : Rep → Rep) : (s.modRep k g).slots = s.slots := by
  unfold State.modRep; split <;> rfl
@[slotg_simp] theorem trks_modRep (s : State) (k : Nat) (g : Rep → Rep) : (s.modRep k g).trks = s.trks := by
  unfold State.modRep; split <;> rfl
@[slotg_simp] theorem conns_modRep (s : State) (k : Nat) (g : Rep → Rep) : (s.modRep k g).conns = s.conns := by
  unfold State.modRep; split <;> rfl
@[slotg_simp] theorem nextRep_modRep (s : State) (k : Nat) (g : Rep → Rep) : (s.modRep k g).nextRep = s.nextRep := by
  unfold State.modRep; split <;> rfl
@[slotg_simp] theorem err_modRep (s : State) (k : Nat) (g : Rep → Rep) : (s.modRep k g).err = s.err := by
  unfold State.modRep; split <;> rfl
@[slotg_simp] theorem repOf_modRep (s : State) (k : Nat) (g : Rep → Rep) (v : Nat) :
    repOf (s.modRep k g) v = repOf s v := by
  unfold State.modRep; split <;> rfl

@[slotg_simp] theorem slots_modSlot (s : State) (k : Nat) (g : SVar → SVar) (x : Nat) :
    (s.modSlot k g).slots x = if x = k then (s.slots x).map g else s.slots x := by
  unfold State.modSlot; split <;> rename_i h
  · simp only [slots_setSlot]; split <;> simp_all
  · split <;> simp_all
@[slotg_simp] theorem reps_modSlot (s : State) (k : Nat) (g : SVar → SVar) : (s.modSlot k g).reps = s.reps := by
  unfold State.modSlot; split <;> rfl
@[slotg_simp] theorem trks_modSlot (s : State) (k : Nat) (g : SVar → SVar) : (s.modSlot k g).trks = s.trks := by
  unfold State.modSlot; split <;> rfl
@[slotg_simp] theorem conns_modSlot (s : State) (k : Nat) (g : SVar → SVar) : (s.modSlot k g).conns = s.conns := by
  unfold State.modSlot; split <;> rfl
@[slotg_simp] theorem nextRep_modSlot (s : State) (k : Nat) (g : SVar → SVar) :
    (s.modSlot k g).nextRep = s.nextRep := by
  unfold State.modSlot; split <;> rfl
@[slotg_simp] theorem err_modSlot (s : State) (k : Nat) (g : SVar → SVar) : (s.modSlot k g).err = s.err := by
  unfold State.modSlot; split <;> rfl
@[slotg_simp] theorem repOf_modSlot (s : State) (k : Nat) (g : SVar → SVar) (v : Nat) :
    repOf (s.modSlot k g) v = if v = k then ((s.slots v).map g).bind SVar.rep else repOf s v := by
  unfold State.modSlot; split <;> rename_i h
  · rw [repOf_setSlot]; split <;> simp_all
  · split
    · rename_i hv; subst hv; simp [repOf, h]
    · rfl

@[slotg_simp] theorem reps_allocRep (R : Rep) (s : State) (x : Nat) :
    (allocRep R s).reps x = if x = s.nextRep then some R else s.reps x := rfl
@[slotg_simp] theorem slots_allocRep (R : Rep) (s : State) : (allocRep R s).slots = s.slots := rfl
@[slotg_simp] theorem trks_allocRep (R : Rep) (s : State) : (allocRep R s).trks = s.trks := rfl
@[slotg_simp] theorem conns_allocRep (R : Rep) (s : State) : (allocRep R s).conns = s.conns := rfl
@[slotg_simp] theorem nextRep_allocRep (R : Rep) (s : State) : (allocRep R s).nextRep = s.nextRep + 1 := rfl
@[slotg_simp] theorem err_allocRep (R : Rep) (s : State) : (allocRep R s).err = s.err := rfl
@[slotg_simp] theorem repOf_allocRep (R : Rep) (s : State) (v : Nat) : repOf (allocRep R s) v = repOf s v := rfl

theorem repOf_of_slot {s : State} {v : Nat} {V : SVar} (hV : s.slots v = some V) : repOf s v = V.rep := by
  unfold repOf; rw [hV]

theorem repOf_of_dead {s : State} {v : Nat} (hV : s.slots v = none) : repOf s v = none := by
  unfold repOf; rw [hV]

theorem modSlot_of_slot {s : State} {v : Nat} {V : SVar} (hV : s.slots v = some V) (g : SVar → SVar) :
    s.modSlot v g = s.setSlot v (some (g V)) := by
  unfold State.modSlot; rw [hV]

theorem modSlot_of_dead {s : State} {v : Nat} (hV : s.slots v = none) (g : SVar → SVar) : s.modSlot v g = s := by
  unfold State.modSlot; rw [hV]

theorem modRep_of_rep {s : State} {r : Nat} {R : Rep} (hR : s.reps r = some R) (g : Rep → Rep) :
    s.modRep r g = s.setRep r (some (g R)) := by
  unfold State.modRep; rw [hR]

theorem reps_of_map_eq {α} {p : Rep → α} {s s' : State} (h : ∀ x, (s'.reps x).map p = (s.reps x).map p)
    {x : Nat} {X' : Rep} (hx : s'.reps x = some X') : ∃ X, s.reps x = some X ∧ p X = p X' := by
  have := h x
  rw [hx] at this
  exact Option.map_eq_some_iff.mp this.symm

theorem repOf_congr {s s' : State} (hs : s'.slots = s.slots) (v : Nat) : repOf s' v = repOf s v := by
  unfold repOf; rw [hs]

theorem ExOk.congr {s s' : State} (h : ExOk s) (hs : s'.slots = s.slots) (hn : s'.nextRep = s.nextRep)
    (hd : ∀ x, (s'.reps x).map (fun _ => ()) = (s.reps x).map (fun _ => ())) : ExOk s' where
  repAlive v r hv := by
    rw [repOf_congr hs] at hv
    obtain ⟨R, hR⟩ := h.repAlive v r hv
    obtain ⟨R', hR', -⟩ := reps_of_map_eq (fun x => (hd x).symm) hR
    exact ⟨R', hR'⟩
  repUniq v1 v2 r h1 h2 := by
    rw [repOf_congr hs] at h1 h2; exact h.repUniq v1 v2 r h1 h2
  anonBound v V hV hb := by rw [hs] at hV; rw [hn]; exact h.anonBound v V hV hb
  repBound r R' hR' := by
    obtain ⟨R, hR, -⟩ := reps_of_map_eq hd hR'
    rw [hn]; exact h.repBound r R hR

theorem RegOk.congr {s s' : State} (h : RegOk s) (hs : ∀ v, repOf s' v = repOf s v) (hc : s'.conns = s.conns)
    (hcb : ∀ x, (s'.reps x).map Rep.cbs = (s.reps x).map Rep.cbs) : RegOk s' where
  fwd hcv := by
    rw [hc] at hcv
    obtain ⟨r, R, hr, hR, hm⟩ := h.fwd hcv
    obtain ⟨R', hR', he⟩ := reps_of_map_eq (fun x => (hcb x).symm) hR
    exact ⟨r, R', (hs _).trans hr, hR', he ▸ hm⟩
  bwd hR' hm := by
    obtain ⟨R, hR, he⟩ := reps_of_map_eq hcb hR'
    obtain ⟨v, hv, hr⟩ := h.bwd hR (he ▸ hm)
    exact ⟨v, by rw [hc]; exact hv, (hs v).trans hr⟩
  nodup r R' hR' := by
    obtain ⟨R, hR, he⟩ := reps_of_map_eq hcb hR'
    exact he ▸ h.nodup r R hR

/-- no functor appears -/
def FnFrom (s s' : State) : Prop :=
  ∀ x X' f, s'.reps x = some X' → X'.fn = some f → ∃ X, s.reps x = some X ∧ X.fn = some f

theorem FnFrom.of_map_eq {s s' : State} (hf : ∀ x, (s'.reps x).map Rep.fn = (s.reps x).map Rep.fn) :
    FnFrom s s' ∧ FnFrom s' s :=
  ⟨fun _ _ _ hX' hf' => let ⟨X, hX, he⟩ := reps_of_map_eq hf hX'; ⟨X, hX, he ▸ hf'⟩,
   fun _ _ _ hX hf' => let ⟨X', hX', he⟩ := reps_of_map_eq (fun x => (hf x).symm) hX; ⟨X', hX', he ▸ hf'⟩⟩

theorem FnFrom.owned {s s' : State} (hf : FnFrom s s') {v : Nat} (h : Owned s' v) : Owned s v := by
  obtain ⟨x, X', f, hX', hf', ho⟩ := h
  obtain ⟨X, hX, hXf⟩ := hf x X' f hX' hf'
  exact ⟨x, X, f, hX, hXf, ho⟩

theorem TrkOk.mono {s s' : State} (h : TrkOk s) (ht : s'.trks = s.trks) (hf : FnFrom s s')
    (hb : ∀ x X f t, s.reps x = some X → X.fn = some f → f.trk = some t →
      ∃ X', s'.reps x = some X' ∧ X'.fn = some f) : TrkOk s' where
  trkReg r R' f t hR' hf' hft := by
    obtain ⟨R, hR, hRf⟩ := hf r R' f hR' hf'
    rw [ht]; exact h.trkReg r R f t hR hRf hft
  trkEnt t T r hT hm := by
    rw [ht] at hT
    obtain ⟨R, f, hR, hRf, hft⟩ := h.trkEnt t T r hT hm
    obtain ⟨R', hR', hRf'⟩ := hb r R f t hR hRf hft
    exact ⟨R', f, hR', hRf', hft⟩
  trkNodup t T hT := by rw [ht] at hT; exact h.trkNodup t T hT

theorem TrkOk.congr {s s' : State} (h : TrkOk s) (ht : s'.trks = s.trks)
    (hf : ∀ x, (s'.reps x).map Rep.fn = (s.reps x).map Rep.fn) : TrkOk s' :=
  h.mono ht (FnFrom.of_map_eq hf).1 fun x X f _ hX hXf _ => (FnFrom.of_map_eq hf).2 x X f hX hXf

theorem FnOk.mono {s s' : State} (h : FnOk s)
    (hs : ∀ v V, s.slots v = some V → Pinned s v ∨ Owned s v → ∃ V', s'.slots v = some V')
    (hc : ∀ c p, s.conns c = some p → OwnedC s c → ∃ p', s'.conns c = some p') (hf : FnFrom s s') : FnOk s' where
  refOk r R' fid v hR' hf' := by
    obtain ⟨R, hR, hRf⟩ := hf r R' _ hR' hf'
    obtain ⟨h1, ⟨V, hV⟩, h3⟩ := h.refOk r R fid v hR hRf
    exact ⟨h1, hs v V hV (.inl ⟨r, R, fid, hR, hRf⟩), fun ho => h3 (hf.owned ho)⟩
  ownOk r R' fid v t hR' hf' := by
    obtain ⟨R, hR, hRf⟩ := hf r R' _ hR' hf'
    obtain ⟨h1, ⟨V, hV⟩⟩ := h.ownOk r R fid v t hR hRf
    exact ⟨h1, hs v V hV (.inr ⟨r, R, _, hR, hRf, rfl⟩)⟩
  nestOk r R' fid v d hR' hf' := by
    obtain ⟨R, hR, hRf⟩ := hf r R' _ hR' hf'
    obtain ⟨h1, ⟨V, hV⟩⟩ := h.nestOk r R fid v d hR hRf
    exact ⟨h1, hs v V hV (.inr ⟨r, R, _, hR, hRf, rfl⟩)⟩
  ownCOk r R' fid c hR' hf' := by
    obtain ⟨R, hR, hRf⟩ := hf r R' _ hR' hf'
    obtain ⟨p, hp⟩ := h.ownCOk r R fid c hR hRf
    exact hc c p hp ⟨r, R, _, hR, hRf, rfl⟩

theorem FnOk.congr {s s' : State} (h : FnOk s) (hs : ∀ v, (s'.slots v).isSome = (s.slots v).isSome)
    (hc : ∀ c, (s'.conns c).isSome = (s.conns c).isSome)
    (hf : ∀ x, (s'.reps x).map Rep.fn = (s.reps x).map Rep.fn) : FnOk s' :=
  h.mono (fun v V hV _ => Option.isSome_iff_exists.mp (by rw [hs, hV]; rfl))
    (fun c p hp _ => Option.isSome_iff_exists.mp (by rw [hc, hp]; rfl)) (FnFrom.of_map_eq hf).1

theorem ParOk.mono {s s' : State} (h : ParOk s) (hs : ∀ v r, repOf s' v = some r → repOf s v = some r)
    (hp : ∀ x X', s'.reps x = some X' →
      ∃ X, s.reps x = some X ∧ (X'.parent = X.parent ∨ X'.parent = none ∨ Orphan s' x))
    (hb : ∀ x X f v, s.reps x = some X → X.fn = some f → f.ref = some v →
      ∃ X', s'.reps x = some X' ∧ X'.fn = some f) : ParOk s' := by
  intro r R' p v hR' hpar hv
  obtain ⟨R, hR, he | he | he⟩ := hp r R' hR'
  · obtain ⟨P, f, hP, hPf, hfr⟩ := h r R p v hR (he ▸ hpar) (hs v r hv)
    obtain ⟨P', hP', hPf'⟩ := hb p P f v hP hPf hfr
    exact ⟨P', f, hP', hPf', hfr⟩
  · rw [he] at hpar; cases hpar
  · exact absurd hv (he v)

theorem ParOk.congr {s s' : State} (h : ParOk s) (hs : ∀ v, repOf s' v = repOf s v)
    (hf : ∀ x, (s'.reps x).map Rep.fn = (s.reps x).map Rep.fn)
    (hp : ∀ x, (s'.reps x).map Rep.parent = (s.reps x).map Rep.parent) : ParOk s' :=
  h.mono (fun v r hv => by rw [← hs]; exact hv)
    (fun _ _ hX' => let ⟨X, hX, he⟩ := reps_of_map_eq hp hX'; ⟨X, hX, .inl he.symm⟩)
    fun x X f _ hX hXf _ => (FnFrom.of_map_eq hf).2 x X f hX hXf

theorem map_reps_of_mod {α} (p : Rep → α) {s s' : State} {q : Nat} {g : Rep → Rep}
    (hr : ∀ x, s'.reps x = if x = q then (s.reps x).map g else s.reps x)
    (hg : ∀ X, s.reps q = some X → p (g X) = p X) (x : Nat) : (s'.reps x).map p = (s.reps x).map p := by
  rw [hr]
  split
  · rename_i hx; subst hx
    cases hX : s.reps x with
    | none => rfl
    | some X => exact congrArg some (hg X hX)
  · rfl

theorem reps_of_mod {s s' : State} {q : Nat} {g : Rep → Rep}
    (hr : ∀ x, s'.reps x = if x = q then (s.reps x).map g else s.reps x) {x : Nat} {X' : Rep}
    (h : s'.reps x = some X') : ∃ X, s.reps x = some X ∧ ((x ≠ q ∧ X' = X) ∨ (x = q ∧ X' = g X)) := by
  rw [hr] at h
  split at h
  · rename_i hx
    obtain ⟨X, hX, rfl⟩ := Option.map_eq_some_iff.mp h
    exact ⟨X, hX, .inr ⟨hx, rfl⟩⟩
  · rename_i hx; exact ⟨X', h, .inl ⟨hx, rfl⟩⟩

theorem inv_modRep {s : State} (h : Inv s) (q : Nat) {g : Rep → Rep}
    (hg : ∀ X, s.reps q = some X → (g X).fn = X.fn ∧ (g X).cbs = X.cbs ∧
      ((g X).parent = X.parent ∨ (g X).parent = none ∨ Orphan s q)) : Inv (s.modRep q g) := by
  have hfn := map_reps_of_mod Rep.fn (reps_modRep s q g) fun X hX => (hg X hX).1
  refine .of
    (h.exOk.congr (slots_modRep ..) (nextRep_modRep ..) (map_reps_of_mod _ (reps_modRep s q g) fun _ _ => rfl))
    (h.regOk.congr (repOf_modRep s q g) (conns_modRep ..)
      (map_reps_of_mod _ (reps_modRep s q g) fun X hX => (hg X hX).2.1))
    (h.parOk.mono (fun v r hv => by rw [← repOf_modRep s q g]; exact hv) ?_
      fun x X f _ hX hXf _ => (FnFrom.of_map_eq hfn).2 x X f hX hXf)
    (h.trkOk.congr (trks_modRep ..) hfn)
    (h.fnOk.congr (fun _ => by rw [slots_modRep]) (fun _ => by rw [conns_modRep]) hfn)
  intro x X' hX'
  obtain ⟨X, hX, ⟨-, rfl⟩ | ⟨rfl, rfl⟩⟩ := reps_of_mod (reps_modRep s q g) hX'
  · exact ⟨X', hX, .inl rfl⟩
  · exact ⟨X, hX, (hg X hX).2.2.imp_right (·.imp_right fun ho w => by rw [repOf_modRep]; exact ho w)⟩

theorem setRep_eq_modRep {s : State} {r : Nat} {R : Rep} (hr : s.reps r = some R) (R' : Rep) :
    s.setRep r (some R') = s.modRep r fun _ => R' :=
  (modRep_of_rep hr fun _ => R').symm

theorem inv_setRep_same {s : State} (h : Inv s) {r : Nat} {R R' : Rep} (hr : s.reps r = some R)
    (h1 : R'.parent = R.parent) (h2 : R'.fn = R.fn) (h3 : R'.cbs = R.cbs) :
    Inv (s.setRep r (some R')) := by
  rw [setRep_eq_modRep hr]
  exact inv_modRep h r fun X hX => by rw [hr] at hX; cases hX; exact ⟨h2, h3, .inl h1⟩

theorem inv_setRep_noParent {s : State} (h : Inv s) {r : Nat} {R : Rep} (hr : s.reps r = some R) (b : Bool) :
    Inv (s.setRep r (some { R with call := b, parent := none })) := by
  rw [setRep_eq_modRep hr]
  exact inv_modRep h r fun X hX => by rw [hr] at hX; cases hX; exact ⟨rfl, rfl, .inr (.inl rfl)⟩

theorem removeLoop_map_fst_sublist (c : Bool) (r : Nat) (l : List (Nat × Bool)) :
    ((removeLoop c r l).map Prod.fst).Sublist (l.map Prod.fst) := by
  induction l with
  | nil => simp [removeLoop]
  | cons e es ih =>
    simp only [removeLoop]
    split
    · split
      · rename_i h _; simp [h.1]
      · simp
    · simpa using ih

theorem removeLoop_nodup (c : Bool) (r : Nat) (l : List (Nat × Bool)) (h : (l.map Prod.fst).Nodup) :
    ((removeLoop c r l).map Prod.fst).Nodup :=
  (removeLoop_map_fst_sublist c r l).nodup h

theorem mem_removeLoop (c : Bool) (r x : Nat) (l : List (Nat × Bool)) (h : (l.map Prod.fst).Nodup) :
    (x, true) ∈ removeLoop c r l ↔ ((x, true) ∈ l ∧ x ≠ r) := by
  induction l with
  | nil => simp [removeLoop]
  | cons e es ih =>
    simp only [removeLoop]
    grind

theorem mem_removeLoop_false (c : Bool) (r x : Nat) (b : Bool) (l : List (Nat × Bool)) :
    (x, b) ∈ removeLoop c r l → (x, b) ∈ l ∨ (x = r ∧ b = false ∧ (r, true) ∈ l) := by
  induction l with
  | nil => simp [removeLoop]
  | cons e es ih =>
    simp only [removeLoop]
    grind

theorem mem_removeLoop_flag (c : Bool) (r x : Nat) (l : List (Nat × Bool)) :
    (x, false) ∈ removeLoop c r l → (x, false) ∈ l ∨ c = true := by
  induction l with
  | nil => simp [removeLoop]
  | cons e es ih =>
    simp only [removeLoop]
    grind

theorem State.ext' {a b : State} (h1 : a.slots = b.slots) (h2 : a.reps = b.reps) (h3 : a.trks = b.trks)
    (h4 : a.conns = b.conns) (h5 : a.nextRep = b.nextRep) (h6 : a.err = b.err) : a = b := by
  cases a; cases b; simp_all

def clearPar (r : Nat) (Q : Rep) : Rep := if Q.parent = some r then { Q with parent := none } else Q
def setPar (r : Nat) (Q : Rep) : Rep := if Q.parent.isNone then { Q with parent := some r } else Q

theorem setPar_fn (r : Nat) (Q : Rep) : (setPar r Q).fn = Q.fn := by unfold setPar; split <;> rfl
theorem setPar_cbs (r : Nat) (Q : Rep) : (setPar r Q).cbs = Q.cbs := by unfold setPar; split <;> rfl
theorem setPar_call (r : Nat) (Q : Rep) : (setPar r Q).call = Q.call := by unfold setPar; split <;> rfl
theorem setPar_parent (r : Nat) (Q : Rep) :
    (setPar r Q).parent = if Q.parent = none then some r else Q.parent := by
  unfold setPar; cases h : Q.parent <;> simp [h]

theorem unsetParentIf_eq (v r : Nat) (s : State) :
    unsetParentIf v r s = match repOf s v with | none => s | some q => s.modRep q (clearPar r) := rfl
theorem setParentIfNone_eq (v r : Nat) (s : State) :
    setParentIfNone v r s = match repOf s v with | none => s | some q => s.modRep q (setPar r) := rfl

@[slotg_simp] theorem reps_unsetParentIf (v r : Nat) (s : State) (x : Nat) :
    (unsetParentIf v r s).reps x = if repOf s v = some x then (s.reps x).map (clearPar r) else s.reps x := by
  rw [unsetParentIf_eq]; split <;> rename_i h
  · simp [h]
  · rw [reps_modRep]; simp only [h, Option.some.injEq]; grind
@[slotg_simp] theorem reps_setParentIfNone (v r : Nat) (s : State) (x : Nat) :
    (setParentIfNone v r s).reps x = if repOf s v = some x then (s.reps x).map (setPar r) else s.reps x := by
  rw [setParentIfNone_eq]; split <;> rename_i h
  · simp [h]
  · rw [reps_modRep]; simp only [h, Option.some.injEq]; grind

theorem unsetParentIf_frame (v r : Nat) (s : State) :
    (unsetParentIf v r s).slots = s.slots ∧ (unsetParentIf v r s).trks = s.trks ∧
    (unsetParentIf v r s).conns = s.conns ∧ (unsetParentIf v r s).nextRep = s.nextRep ∧
    (unsetParentIf v r s).err = s.err := by
  rw [unsetParentIf_eq]; split <;> simp [slots_modRep, trks_modRep, conns_modRep, nextRep_modRep, err_modRep]
theorem setParentIfNone_frame (v r : Nat) (s : State) :
    (setParentIfNone v r s).slots = s.slots ∧ (setParentIfNone v r s).trks = s.trks ∧
    (setParentIfNone v r s).conns = s.conns ∧ (setParentIfNone v r s).nextRep = s.nextRep ∧
    (setParentIfNone v r s).err = s.err := by
  rw [setParentIfNone_eq]; split <;> simp [slots_modRep, trks_modRep, conns_modRep, nextRep_modRep, err_modRep]

@[slotg_simp] theorem slots_unsetParentIf (v r : Nat) (s : State) : (unsetParentIf v r s).slots = s.slots :=
  (unsetParentIf_frame v r s).1
@[slotg_simp] theorem trks_unsetParentIf (v r : Nat) (s : State) : (unsetParentIf v r s).trks = s.trks :=
  (unsetParentIf_frame v r s).2.1
@[slotg_simp] theorem conns_unsetParentIf (v r : Nat) (s : State) : (unsetParentIf v r s).conns = s.conns :=
  (unsetParentIf_frame v r s).2.2.1
@[slotg_simp] theorem nextRep_unsetParentIf (v r : Nat) (s : State) : (unsetParentIf v r s).nextRep = s.nextRep :=
  (unsetParentIf_frame v r s).2.2.2.1
@[slotg_simp] theorem err_unsetParentIf (v r : Nat) (s : State) : (unsetParentIf v r s).err = s.err :=
  (unsetParentIf_frame v r s).2.2.2.2
@[slotg_simp] theorem repOf_unsetParentIf (v r : Nat) (s : State) (w : Nat) :
    repOf (unsetParentIf v r s) w = repOf s w := by
  simp only [repOf, slots_unsetParentIf]
@[slotg_simp] theorem slots_setParentIfNone (v r : Nat) (s : State) : (setParentIfNone v r s).slots = s.slots :=
  (setParentIfNone_frame v r s).1
@[slotg_simp] theorem trks_setParentIfNone (v r : Nat) (s : State) : (setParentIfNone v r s).trks = s.trks :=
  (setParentIfNone_frame v r s).2.1
@[slotg_simp] theorem conns_setParentIfNone (v r : Nat) (s : State) : (setParentIfNone v r s).conns = s.conns :=
  (setParentIfNone_frame v r s).2.2.1
@[slotg_simp] theorem nextRep_setParentIfNone (v r : Nat) (s : State) :
    (setParentIfNone v r s).nextRep = s.nextRep := (setParentIfNone_frame v r s).2.2.2.1
@[slotg_simp] theorem err_setParentIfNone (v r : Nat) (s : State) : (setParentIfNone v r s).err = s.err :=
  (setParentIfNone_frame v r s).2.2.2.2
@[slotg_simp] theorem repOf_setParentIfNone (v r : Nat) (s : State) (w : Nat) :
    repOf (setParentIfNone v r s) w = repOf s w := by
  simp only [repOf, slots_setParentIfNone]

def remEntry (r : Nat) (T : Trk) : Trk := { T with entries := removeLoop T.clearing r T.entries }
def addEntry (r : Nat) (T : Trk) : Trk := if T.clearing then T else { T with entries := T.entries ++ [(r, true)] }

@[slotg_simp] theorem trks_trkRemove (t r : Nat) (s : State) (x : Nat) :
    (trkRemove t r s).trks x = if x = t then (s.trks x).map (remEntry r) else s.trks x := by
  unfold trkRemove; split <;> rename_i h
  · split <;> simp_all
  · rw [trks_setTrk]; split <;> simp_all [remEntry]
@[slotg_simp] theorem trks_trkAdd (t r : Nat) (s : State) (x : Nat) :
    (trkAdd t r s).trks x = if x = t then (s.trks x).map (addEntry r) else s.trks x := by
  unfold trkAdd; split <;> rename_i h
  · split <;> simp_all
  · split <;> rename_i hc
    · split <;> simp_all [addEntry]
    · rw [trks_setTrk]; split <;> simp_all [addEntry]

theorem trkRemove_frame (t r : Nat) (s : State) :
    (trkRemove t r s).slots = s.slots ∧ (trkRemove t r s).reps = s.reps ∧
    (trkRemove t r s).conns = s.conns ∧ (trkRemove t r s).nextRep = s.nextRep ∧
    (trkRemove t r s).err = s.err := by
  unfold trkRemove; split <;> simp [State.setTrk]
theorem trkAdd_frame (t r : Nat) (s : State) :
    (trkAdd t r s).slots = s.slots ∧ (trkAdd t r s).reps = s.reps ∧
    (trkAdd t r s).conns = s.conns ∧ (trkAdd t r s).nextRep = s.nextRep ∧
    (trkAdd t r s).err = s.err := by
  unfold trkAdd; split
  · simp
  · split <;> simp [State.setTrk]

@[slotg_simp] theorem slots_trkRemove (t r : Nat) (s : State) : (trkRemove t r s).slots = s.slots :=
  (trkRemove_frame t r s).1
@[slotg_simp] theorem reps_trkRemove (t r : Nat) (s : State) : (trkRemove t r s).reps = s.reps :=
  (trkRemove_frame t r s).2.1
@[slotg_simp] theorem conns_trkRemove (t r : Nat) (s : State) : (trkRemove t r s).conns = s.conns :=
  (trkRemove_frame t r s).2.2.1
@[slotg_simp] theorem nextRep_trkRemove (t r : Nat) (s : State) : (trkRemove t r s).nextRep = s.nextRep :=
  (trkRemove_frame t r s).2.2.2.1
@[slotg_simp] theorem err_trkRemove (t r : Nat) (s : State) : (trkRemove t r s).err = s.err :=
  (trkRemove_frame t r s).2.2.2.2
@[slotg_simp] theorem repOf_trkRemove (t r : Nat) (s : State) (w : Nat) : repOf (trkRemove t r s) w = repOf s w := by
  simp only [repOf, slots_trkRemove]
@[slotg_simp] theorem slots_trkAdd (t r : Nat) (s : State) : (trkAdd t r s).slots = s.slots :=
  (trkAdd_frame t r s).1
@[slotg_simp] theorem reps_trkAdd (t r : Nat) (s : State) : (trkAdd t r s).reps = s.reps :=
  (trkAdd_frame t r s).2.1
@[slotg_simp] theorem conns_trkAdd (t r : Nat) (s : State) : (trkAdd t r s).conns = s.conns :=
  (trkAdd_frame t r s).2.2.1
@[slotg_simp] theorem nextRep_trkAdd (t r : Nat) (s : State) : (trkAdd t r s).nextRep = s.nextRep :=
  (trkAdd_frame t r s).2.2.2.1
@[slotg_simp] theorem err_trkAdd (t r : Nat) (s : State) : (trkAdd t r s).err = s.err :=
  (trkAdd_frame t r s).2.2.2.2
@[slotg_simp] theorem repOf_trkAdd (t r : Nat) (s : State) (w : Nat) : repOf (trkAdd t r s) w = repOf s w := by
  simp only [repOf, slots_trkAdd]

theorem mem_remEntry_flag (r x : Nat) (T : Trk) :
    (x, false) ∈ (remEntry r T).entries → (x, false) ∈ T.entries ∨ T.clearing = true :=
  mem_removeLoop_flag _ _ _ _
theorem remEntry_nodup (r : Nat) (T : Trk) (h : (T.entries.map Prod.fst).Nodup) :
    ((remEntry r T).entries.map Prod.fst).Nodup := removeLoop_nodup _ _ _ h
theorem mem_remEntry (r x : Nat) (T : Trk) (h : (T.entries.map Prod.fst).Nodup) :
    (x, true) ∈ (remEntry r T).entries ↔ ((x, true) ∈ T.entries ∧ x ≠ r) := mem_removeLoop _ _ _ _ h

@[slotg_simp] theorem reps_weakNotify (r : Nat) (s : State) (x : Nat) :
    (weakNotify r s).reps x = if x = r then (s.reps x).map (fun R => { R with cbs := [] }) else s.reps x := by
  unfold weakNotify
  split <;> rename_i h
  · split <;> simp_all
  · simp only [reps_setRep, nullConns]; split <;> simp_all
@[slotg_simp] theorem slots_weakNotify (r : Nat) (s : State) : (weakNotify r s).slots = s.slots := by
  unfold weakNotify; split <;> simp only [slotg_simp, nullConns]
@[slotg_simp] theorem trks_weakNotify (r : Nat) (s : State) : (weakNotify r s).trks = s.trks := by
  unfold weakNotify; split <;> simp only [slotg_simp, nullConns]
@[slotg_simp] theorem nextRep_weakNotify (r : Nat) (s : State) : (weakNotify r s).nextRep = s.nextRep := by
  unfold weakNotify; split <;> simp only [slotg_simp, nullConns]
@[slotg_simp] theorem err_weakNotify (r : Nat) (s : State) : (weakNotify r s).err = s.err := by
  unfold weakNotify; split <;> simp only [slotg_simp, nullConns]
@[slotg_simp] theorem repOf_weakNotify (r : Nat) (s : State) (v : Nat) : repOf (weakNotify r s) v = repOf s v := by
  simp only [repOf, slots_weakNotify]
theorem conns_weakNotify (r : Nat) (s : State) (R : Rep) (hr : s.reps r = some R) (c : Nat) :
    (weakNotify r s).conns c = if c ∈ R.cbs then (s.conns c).map (fun _ => none) else s.conns c := by
  unfold weakNotify
  simp only [hr, slotg_simp, nullConns, List.contains_iff_mem]

theorem weakNotify_none {s : State} {r : Nat} (hr : s.reps r = none) : weakNotify r s = s := by
  unfold weakNotify; simp only [hr]

theorem killConn_eq (c : Nat) (s : State) : killConn c s =
    match s.conns c with
    | some (some v) =>
      (match repOf s v with
       | none => s.setConn c none
       | some r => (s.modRep r fun R => { R with cbs := R.cbs.erase c }).setConn c none)
    | _ => s.setConn c none := by
  unfold killConn connTarget slotRemCb
  cases hc : s.conns c with
  | none => rfl
  | some o =>
    cases o with
    | none => rfl
    | some v =>
      simp only []
      cases repOf s v <;> rfl

@[slotg_simp] theorem slots_killConn (c : Nat) (s : State) : (killConn c s).slots = s.slots := by
  rw [killConn_eq]; split
  · split <;> simp only [slotg_simp]
  · rfl
@[slotg_simp] theorem trks_killConn (c : Nat) (s : State) : (killConn c s).trks = s.trks := by
  rw [killConn_eq]; split
  · split <;> simp only [slotg_simp]
  · rfl
@[slotg_simp] theorem nextRep_killConn (c : Nat) (s : State) : (killConn c s).nextRep = s.nextRep := by
  rw [killConn_eq]; split
  · split <;> simp only [slotg_simp]
  · rfl
@[slotg_simp] theorem err_killConn (c : Nat) (s : State) : (killConn c s).err = s.err := by
  rw [killConn_eq]; split
  · split <;> simp only [slotg_simp]
  · rfl
@[slotg_simp] theorem repOf_killConn (c : Nat) (s : State) (v : Nat) : repOf (killConn c s) v = repOf s v := by
  simp only [repOf, slots_killConn]
@[slotg_simp] theorem conns_killConn (c : Nat) (s : State) (x : Nat) :
    (killConn c s).conns x = if x = c then none else s.conns x := by
  rw [killConn_eq]; split
  · split <;> simp only [slotg_simp]
  · rfl

/-- the state after `destroy()` has unbound and reset the functor `f` of `r` -/
def dropFnF (r : Nat) (R : Rep) (f : Fun) (s : State) : State :=
  (unbindFun r f (s.setRep r (some { R with call := false }))).modRep r fun R' => { R' with fn := none }


theorem bindFun_cases (r : Nat) (f : Fun) (s : State) :
    (f.trk = none ∧ f.ref = none ∧ bindFun r f s = s) ∨
      (∃ t, f.trk = some t ∧ f.ref = none ∧ bindFun r f s = trkAdd t r s) ∨
      ∃ v, f.ref = some v ∧ f.trk = none ∧ bindFun r f s = setParentIfNone v r s := by
  cases f with
  | fn fid => exact .inl ⟨rfl, rfl, rfl⟩
  | mem fid t => exact .inr (.inl ⟨t, rfl, rfl, rfl⟩)
  | sref fid v => exact .inr (.inr ⟨v, rfl, rfl, rfl⟩)
  | own fid v t => cases t with
    | none => exact .inl ⟨rfl, rfl, rfl⟩
    | some t => exact .inr (.inl ⟨t, rfl, rfl, rfl⟩)
  | nest fid v d => exact .inr (.inr ⟨v, rfl, rfl, rfl⟩)
  | ownc fid c => exact .inl ⟨rfl, rfl, rfl⟩

theorem unbindFun_cases (r : Nat) (f : Fun) (s : State) :
    (f.trk = none ∧ f.ref = none ∧ unbindFun r f s = s) ∨
      (∃ t, f.trk = some t ∧ f.ref = none ∧ unbindFun r f s = trkRemove t r s) ∨
      ∃ v, f.ref = some v ∧ f.trk = none ∧ unbindFun r f s = unsetParentIf v r s := by
  cases f with
  | fn fid => exact .inl ⟨rfl, rfl, rfl⟩
  | mem fid t => exact .inr (.inl ⟨t, rfl, rfl, rfl⟩)
  | sref fid v => exact .inr (.inr ⟨v, rfl, rfl, rfl⟩)
  | own fid v t => cases t with
    | none => exact .inl ⟨rfl, rfl, rfl⟩
    | some t => exact .inr (.inl ⟨t, rfl, rfl, rfl⟩)
  | nest fid v d => exact .inr (.inr ⟨v, rfl, rfl, rfl⟩)
  | ownc fid c => exact .inl ⟨rfl, rfl, rfl⟩


/-- `~trackable` of representation `q` (notify the weak pointers), free it -/
def eraseRep (q : Nat) (s : State) : State := (weakNotify q s).setRep q none

theorem deleteRep_eq (q : Nat) (s : State) : deleteRep q s = eraseRep q (destroyRep (fuel s) q s) := rfl

@[slotg_simp] theorem reps_eraseRep (q : Nat) (s : State) (x : Nat) :
    (eraseRep q s).reps x = if x = q then none else s.reps x := by
  unfold eraseRep; simp only [slotg_simp]; grind
@[slotg_simp] theorem slots_eraseRep (q : Nat) (s : State) : (eraseRep q s).slots = s.slots := by
  unfold eraseRep; simp only [slotg_simp]
@[slotg_simp] theorem repOf_eraseRep (q : Nat) (s : State) (w : Nat) : repOf (eraseRep q s) w = repOf s w := by
  simp only [repOf, slots_eraseRep]
@[slotg_simp] theorem trks_eraseRep (q : Nat) (s : State) : (eraseRep q s).trks = s.trks := by
  unfold eraseRep; simp only [slotg_simp]
@[slotg_simp] theorem nextRep_eraseRep (q : Nat) (s : State) : (eraseRep q s).nextRep = s.nextRep := by
  unfold eraseRep; simp only [slotg_simp]
@[slotg_simp] theorem err_eraseRep (q : Nat) (s : State) : (eraseRep q s).err = s.err := by
  unfold eraseRep; simp only [slotg_simp]
theorem conns_eraseRep (q : Nat) (s : State) (Q : Rep) (hq : s.reps q = some Q) (c : Nat) :
    (eraseRep q s).conns c = if c ∈ Q.cbs then (s.conns c).map (fun _ => none) else s.conns c := by
  unfold eraseRep; simp only [slotg_simp]; exact conns_weakNotify q s Q hq c

theorem destroyRep_zero (r : Nat) (s : State) : destroyRep 0 r s = { s with err := true } := rfl

theorem destroyRep_succ (k r : Nat) (s : State) : destroyRep (k + 1) r s =
    match s.reps r with
    | none => s
    | some R =>
      match R.fn with
      | none => s.setRep r (some { R with call := false })
      | some f =>
        match f.owns with
        | none =>
          (match f.ownsC with
           | none => dropFnF r R f s
           | some c => if ownedCBy (dropFnF r R f s) c then dropFnF r R f s else killConn c (dropFnF r R f s))
        | some h =>
          if ownedBy (dropFnF r R f s) h then dropFnF r R f s else
          match (dropFnF r R f s).slots h with
          | none => dropFnF r R f s
          | some V =>
            match V.rep with
            | none => (dropFnF r R f s).setSlot h none
            | some r' => (eraseRep r' (destroyRep k r' (dropFnF r R f s))).setSlot h none := rfl

/-! ### what a performed operation knows about its operands

`check0 s op` is a chain of clauses, each refusing on one condition; from `check0 s op = none` the lemmas below
take off the first clause (`deadS`, `deadC`, `deadT` are `Option.isNone` of the entry). -/

theorem check_named {s : State} {op : Op} (hc : check s op = none) : op.named = true ∧ check0 s op = none := by
  unfold check at hc
  by_cases hn : op.named = true
  · rw [if_pos hn] at hc; exact ⟨hn, hc⟩
  · rw [if_neg hn] at hc; cases hc

theorem check_flag {b : Bool} {e : String} {x : Option String} (h : (if b then some e else x) = none) :
    b = false ∧ x = none := by
  cases b
  · exact ⟨rfl, h⟩
  · cases h

theorem check_live {α : Type} {o : Option α} {e : String} {x : Option String}
    (h : (if o.isNone then some e else x) = none) : o.isSome = true ∧ x = none := by
  cases o
  · cases h
  · exact ⟨rfl, h⟩

theorem check_live2 {α β : Type} {o : Option α} {o' : Option β} {e : String} {x : Option String}
    (h : (if o.isNone || o'.isNone then some e else x) = none) : o.isSome = true ∧ o'.isSome = true ∧ x = none := by
  cases o
  · cases h
  · cases o'
    · cases h
    · exact ⟨rfl, rfl, h⟩

theorem check_fresh {α : Type} {o : Option α} {e : String} {x : Option String}
    (h : (if !o.isNone then some e else x) = none) : o = none ∧ x = none := by
  cases o
  · exact ⟨rfl, h⟩
  · cases h

theorem check_new {α : Type} {o : Option α} {e : String}
    (h : (if o.isNone then none else some e : Option String) = none) : o = none := by
  cases o
  · rfl
  · cases h

theorem stepState_cases (op : Op) (s : State) :
    stepState op s = s ∨ (s.err = false ∧ check s op = none ∧ stepState op s = apply op s) := by
  unfold stepState step
  cases hse : s.err with
  | true => left; simp
  | false =>
    cases hck : check s op with
    | some e => left; simp
    | none =>
      right; refine ⟨rfl, rfl, ?_⟩
      simp only [Bool.false_eq_true, if_false]
      split <;> rfl

end Sigc.SlotG
