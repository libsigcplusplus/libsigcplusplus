import Sigc.TrkLemmas2
/-!
  C16 on its own, narrow domain `History.Domain` (callbacks only remove): what a round can change at all
  (`Ext`), and that no `add` is then issued inside a round, so that `present2` is `present` along the run;
  `notify_live`: what `Props/C16` uses of one triggering event.
-/
namespace Sigc.Trk

/-- `History.Domain` as a property of the scripts -/
def RemOnly (sc : Scripts) : Prop := ∀ k, ∀ b ∈ sc k, b.isRem = true

theorem History.remOnly {h : History} (hd : h.Domain = true) : RemOnly h.sc := History.all_sc hd

theorem BodyOp.isNotify_of_isRem {b : BodyOp} (h : b.isRem = true) : b.isNotify = false := by
  cases b with
  | rem d => rfl
  | add d k => cases h
  | notify => cases h

theorem RemOnly.noNotify {sc : Scripts} (h : RemOnly sc) : NoNotify sc :=
  fun k b hb => BodyOp.isNotify_of_isRem (h k b hb)

/-- `s'` extends `s`: the trace grows, by no `add`, and only trackable `t` is touched -/
def Ext (t : Nat) (s s' : State) : Prop :=
  (∃ m, s'.trace = s.trace ++ m ∧ added m = []) ∧ ∀ t', t' ≠ t → s'.objs t' = s.objs t'

theorem Ext.refl (t : Nat) (s : State) : Ext t s s := ⟨⟨[], (List.append_nil _).symm, rfl⟩, fun _ _ => rfl⟩

theorem Ext.trans {t : Nat} {a b c : State} (h1 : Ext t a b) (h2 : Ext t b c) : Ext t a c := by
  obtain ⟨⟨m1, e1, a1⟩, o1⟩ := h1
  obtain ⟨⟨m2, e2, a2⟩, o2⟩ := h2
  exact ⟨⟨m1 ++ m2, by rw [e2, e1, List.append_assoc], by rw [added_append, a1, a2]; rfl⟩,
    fun t' ht => by rw [o2 t' ht, o1 t' ht]⟩

theorem Ext.fail (t : Nat) (s : State) (e : Err) : Ext t s (s.fail e) := Ext.refl t s

theorem Ext.emit (t : Nat) (s : State) (e : Ev) (he : added [e] = []) : Ext t s (s.emit e) :=
  ⟨⟨[e], rfl, he⟩, fun _ _ => rfl⟩

theorem Ext.upd (t : Nat) (s : State) (o : Option Trackable) : Ext t s (s.upd t o) :=
  ⟨⟨[], (List.append_nil _).symm, rfl⟩, fun _ ht => upd_objs_other _ _ ht⟩

theorem AddsIdle.ext {t : Nat} {s s' : State} (h : AddsIdle s.trace) (he : Ext t s s') :
    AddsIdle s'.trace := by
  obtain ⟨⟨m, hm, ha⟩, -⟩ := he
  rw [hm]; exact h.append ha

theorem runBody_ext (t : Nat) : ∀ (body : List BodyOp) (s : State), (∀ b ∈ body, b.isRem = true) →
    Ext t s (runBody t body s) := by
  intro body
  induction body with
  | nil => intro s _; exact Ext.refl t s
  | cons b bs ih =>
    intro s hb
    simp only [runBody]
    split
    · exact Ext.refl t s
    · refine Ext.trans ?_ (ih _ (fun b' hb' => hb b' (List.mem_cons_of_mem _ hb')))
      have := hb b (List.mem_cons_self ..)
      cases b with
      | rem d =>
        simp only [bodyStep, removeDestroyNotify]
        split
        · exact Ext.refl t s
        · exact (Ext.emit t s _ rfl).trans (Ext.upd ..)
      | add d k => cases this
      | notify => cases this

theorem callEntry_ext {sc : Scripts} (hsc : RemOnly sc) (t : Nat) (e : Entry) (s : State) :
    Ext t s (callEntry sc t e s) := by
  unfold callEntry
  split
  · exact Ext.refl t s
  · rename_i k _
    exact (Ext.emit t s _ rfl).trans (runBody_ext t _ _ (hsc k))

theorem roundLoop_ext {sc : Scripts} (hsc : RemOnly sc) (t : Nat) :
    ∀ (f : Nat) (cur : Option Nat) (s : State), Ext t s (roundLoop sc f t cur s) := by
  intro f
  induction f with
  | zero =>
    intro cur s
    cases cur with
    | none => exact Ext.refl t s
    | some r => exact Ext.fail ..
  | succ f ih =>
    intro cur s
    cases cur with
    | none => exact Ext.refl t s
    | some r =>
      simp only [roundLoop]
      split
      · exact Ext.fail ..
      · rename_i e _
        have h1 := callEntry_ext hsc t e s
        split
        · exact h1
        · split
          · exact h1.trans (Ext.fail ..)
          · exact h1.trans (ih _ _)

/-- a triggering event on `t` touches no other trackable and issues no `add`; on a live trackable, if it
    ends without error, it is one bracket `trig t … done t` in the trace -/
theorem notify_ext {sc : Scripts} (hsc : RemOnly sc) (t : Nat) (s : State) :
    Ext t s (notifyCallbacks sc t s) ∧
      ∀ o, s.objs t = some o → (notifyCallbacks sc t s).err = none →
        ∃ mid, (notifyCallbacks sc t s).trace = s.trace ++ .trig t :: mid ++ [.done t] := by
  unfold notifyCallbacks
  cases ho : s.objs t with
  | none => exact ⟨Ext.refl t s, fun o h => nomatch h⟩
  | some o =>
    obtain ⟨cbs⟩ := o
    cases cbs with
    | none =>
      exact ⟨(Ext.emit t s _ rfl).trans (Ext.emit _ _ _ rfl), fun _ _ _ => ⟨[], by simp⟩⟩
    | some l =>
      simp only
      split
      · exact ⟨Ext.fail .., fun _ _ h => nomatch h⟩
      · have h1 := roundLoop_ext hsc t l.entries.length (l.entries.head?.map (·.reg))
          ((s.emit (.trig t)).upd t (some ⟨some { l with clearing := true }⟩))
        generalize roundLoop sc l.entries.length t (l.entries.head?.map (·.reg))
          ((s.emit (.trig t)).upd t (some ⟨some { l with clearing := true }⟩)) = s2 at h1
        have h2 : Ext t s s2 := ((Ext.emit t s _ rfl).trans (Ext.upd ..)).trans h1
        split
        · rename_i he
          exact ⟨h2, fun _ _ hn => by rw [hn] at he; cases he⟩
        · refine ⟨h2.trans ((Ext.upd ..).trans (Ext.emit _ _ _ rfl)), fun _ _ _ => ?_⟩
          obtain ⟨⟨m, hm, -⟩, -⟩ := h1
          exact ⟨m, by simp [hm]⟩

theorem notify_live {sc : Scripts} (hsc : RemOnly sc) {t : Nat} {s : State} (h : W.Inv s)
    (ha : s.alive t = true) :
    W.Inv (notifyCallbacks sc t s) ∧ (notifyCallbacks sc t s).objs t = some ⟨none⟩ ∧
      (∃ mid, (notifyCallbacks sc t s).trace = s.trace ++ .trig t :: mid ++ [.done t]) ∧
      ∀ t', t' ≠ t → (notifyCallbacks sc t s).objs t' = s.objs t' :=
  let ⟨o, ho⟩ := alive_iff.1 ha
  let ⟨h1, h2⟩ := W.notify_inv hsc.noNotify t h
  ⟨h1, h2 o ho, (notify_ext hsc t s).2 o ho h1.noerr, (notify_ext hsc t s).1.2⟩

/-- move construction: the new name is free, so it is not the source, which is still live beside it -/
theorem moveCtor_ok {s : State} (h : W.Inv s) {src dst : Nat} (hok : (Op.moveCtor src dst).ok s = true) :
    src ≠ dst ∧ W.Inv (s.upd dst (some ⟨none⟩)) ∧ (s.upd dst (some ⟨none⟩)).alive src = true := by
  obtain ⟨h1, h2⟩ := Bool.and_eq_true_iff.1 hok
  have hd : s.alive dst = false := by simpa using h2
  have hne : src ≠ dst := fun e => by rw [e, hd] at h1; cases h1
  exact ⟨hne, h.fresh_obj hd, by rw [State.alive, upd_objs_other _ _ hne]; exact h1⟩

theorem exec_addsIdle {sc : Scripts} (hsc : RemOnly sc) {s : State} (hi : inRound s.trace = none)
    (ha : AddsIdle s.trace) (op : Op) : AddsIdle (exec sc op s).trace := by
  have hn : ∀ {s : State} (t : Nat), AddsIdle s.trace → AddsIdle (notifyCallbacks sc t s).trace :=
    fun t ha => ha.ext (notify_ext hsc t _).1
  cases op with
  | new t => exact ha
  | add t d k =>
    simp only [exec, addDestroyNotify]
    split
    · exact ha
    · exact ha.snoc_add hi s.nextReg t d
  | rem t d =>
    simp only [exec, removeDestroyNotify]
    split
    · exact ha
    · exact ha.append (m := [.rem t d]) rfl
  | copyCtor src dst => exact ha
  | moveCtor src dst => exact hn (s := s.upd dst _) src ha
  | assign dst src =>
    simp only [exec]
    split
    · exact hn dst ha
    · exact ha
  | moveAssign dst src =>
    simp only [exec]
    split
    · split
      · exact hn dst ha
      · exact hn src (hn dst ha)
    · exact ha
  | notify t => exact hn t ha
  | del t =>
    simp only [exec]
    split
    · exact hn t ha
    · exact hn t ha

theorem runFrom_addsIdle {sc : Scripts} (hsc : RemOnly sc) :
    ∀ (ops : List Op) (s : State), W.Inv s → AddsIdle s.trace → AddsIdle (runFrom sc ops s).trace := by
  intro ops
  induction ops with
  | nil => intro s _ ha; exact ha
  | cons op ops ih =>
    intro s h ha
    refine ih _ (W.step_inv hsc.noNotify h op) ?_
    show AddsIdle (step sc op s).trace
    unfold step
    split
    · exact ha
    · split
      · exact exec_addsIdle hsc h.idle ha op
      · exact ha

theorem run_inv_addsIdle {h : History} (hd : h.Domain = true) : W.Inv (run h) ∧ AddsIdle (run h).trace :=
  have hsc := History.remOnly hd
  ⟨W.runFrom_inv hsc.noNotify h.ops _ W.init_inv, runFrom_addsIdle hsc h.ops _ W.init_inv AddsIdle.nil⟩

theorem W.present2_eq_present_of_domain {h : History} (hd : h.Domain = true) (t : Nat) (pre post : List Ev)
    (e : (run h).trace = pre ++ post) : present2 t pre = present t pre :=
  present2_eq_present (e ▸ (run_inv_addsIdle hd).2).prefix t

end Sigc.Trk
