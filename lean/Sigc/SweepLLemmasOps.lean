import Sigc.SweepLLemmasScope
/-!
  Lemmas about `Sigc/SweepL.lean`: the invariant `Inv` of the states between operations (at every depth), and `Good`
  (`Inv` after, `Keeps` across; `Keeps.sub`: no cell lost while `exec_count_ > 0`) for every operation, for an emission
  whose body operations are `Good`, and — by induction on the nesting budget — for `step`.  An operation that enters a
  holder scope ends in `unref`: `exit_good`.
-/
namespace Sigc.SweepL

/-- the invariant of every state in which an operation (top level or functor body) starts or ends:
    `Base`; a disconnected cell in the list ⇒ `deferred_` (so that the sweep is going to happen);
    `exec_count_ == 0` ⇒ `!deferred_`; no more placeholders than execution scopes; `Own`: the cells owned by
    an owner functor that has been destroyed are not connected -/
structure Inv (s : State) : Prop where
  base : Base s
  pend : Pend [] s
  quiet : s.exec = 0 → s.deferred = false
  marks : s.marks ≤ s.exec
  own : Own s

/-- given names stay given, and a given name that names no connected cell never names one again -/
structure Keep (s s' : State) : Prop where
  used : ∀ k ∈ s.used, k ∈ s'.used
  noConn : ∀ k ∈ s.used, NoConn k s → NoConn k s'

theorem Keep.refl (s : State) : Keep s s := ⟨fun _ h => h, fun _ _ h => h⟩

theorem Keep.trans {a b c : State} (h1 : Keep a b) (h2 : Keep b c) : Keep a c :=
  ⟨fun k hk => h2.used k (h1.used k hk), fun k hk hn => h2.noConn k (h1.used k hk) (h1.noConn k hk hn)⟩

theorem Keep.of_rel {s s' : State} (r : Rel s s') : Keep s s' :=
  ⟨fun _ hk => r.used ▸ hk, fun _ _ hn => r.desc.noConn hn⟩

theorem Keep.congr {a b a' b' : State} (h : Keep a b) (h1 : a'.cells = a.cells) (h2 : a'.used = a.used)
    (k1 : b'.cells = b.cells) (k2 : b'.used = b.used) : Keep a' b' := by
  refine ⟨fun k hk => ?_, fun k hk hn => ?_⟩
  · rw [k2]; exact h.used k (h2 ▸ hk)
  · unfold NoConn at hn ⊢
    rw [k1]; rw [h1] at hn; exact h.noConn k (h2 ▸ hk) hn

/-- every name in the list of `s` is still in the list of `s'` -/
def Sub (s s' : State) : Prop := ∀ c ∈ s.cells, ∃ c' ∈ s'.cells, c'.id = c.id

theorem Sub.refl (s : State) : Sub s s := fun c hc => ⟨c, hc, rfl⟩
theorem Sub.trans {a b c : State} (h1 : Sub a b) (h2 : Sub b c) : Sub a c := by
  intro x hx
  obtain ⟨y, hy, e1⟩ := h1 x hx
  obtain ⟨z, hz, e2⟩ := h2 y hy
  exact ⟨z, hz, e2.trans e1⟩

theorem Sub.of_ids {s s' : State} (h : ids s'.cells = ids s.cells) : Sub s s' := by
  intro c hc
  have : c.id ∈ ids s'.cells := by rw [h]; exact mem_ids.2 ⟨c, hc, rfl⟩
  exact mem_ids.1 this

/-- what an operation keeps.  `sub` (`nothing_erased_while_executing`): while `exec_count_ > 0` no cell leaves the
    list, which makes the snapshot form of the emission loop exact: every cell the loop is going to visit is still
    there when the loop reaches it, whatever the functor bodies did in between -/
structure Keeps (s s' : State) : Prop where
  exec : s'.exec = s.exec
  marks : s'.marks = s.marks
  err : s'.err = s.err
  keep : Keep s s'
  sub : s.exec ≠ 0 → Sub s s'

theorem Keeps.refl {s : State} : Keeps s s := ⟨rfl, rfl, rfl, Keep.refl s, fun _ => Sub.refl s⟩
theorem Keeps.trans {a b c : State} (h1 : Keeps a b) (h2 : Keeps b c) : Keeps a c :=
  ⟨h2.exec.trans h1.exec, h2.marks.trans h1.marks, h2.err.trans h1.err, h1.keep.trans h2.keep,
   fun h => (h1.sub h).trans (h2.sub (by rw [h1.exec]; exact h))⟩

theorem Keeps.congr {a b a' b' : State} (h : Keeps a b) (h1 : a'.cells = a.cells) (h2 : a'.used = a.used)
    (h3 : a'.exec = a.exec) (h4 : a'.marks = a.marks) (h5 : a'.err = a.err) (k1 : b'.cells = b.cells)
    (k2 : b'.used = b.used) (k3 : b'.exec = b.exec) (k4 : b'.marks = b.marks) (k5 : b'.err = b.err) : Keeps a' b' :=
  ⟨by rw [k3, h3]; exact h.exec, by rw [k4, h4]; exact h.marks, by rw [k5, h5]; exact h.err, h.keep.congr h1 h2 k1 k2,
   fun h0 => by unfold Sub; rw [h1, k1]; exact h.sub (h3 ▸ h0)⟩

/-- what every operation does: it ends in an `Inv` state and `Keeps` what it found -/
def Good (s s' : State) : Prop := Inv s' ∧ Keeps s s'

theorem foldl_good {α} {f : State → α → State} (hf : ∀ s x, Inv s → Good s (f s x)) (l : List α)
    (s : State) (h : Inv s) : Good s (l.foldl f s) :=
  foldl_invariant (C := Good s) (fun b a hb => let ⟨p, q⟩ := hf b a hb.1; ⟨p, hb.2.trans q⟩) l s
    ⟨h, Keeps.refl⟩

theorem Inv.congr {s s' : State} (h : Inv s) (h1 : s'.cells = s.cells) (h2 : s'.used = s.used)
    (h3 : s'.live = s.live) (h4 : s'.deferred = s.deferred) (h5 : s'.exec = s.exec) (h6 : s'.marks = s.marks)
    (h7 : s'.edges = s.edges) : Inv s' :=
  ⟨h.base.congr h1 h2 h3, h.pend.congr h1 h4, by rw [h5, h4]; exact h.quiet, by rw [h5, h6]; exact h.marks,
   h.own.congr h1 h7 h2⟩

theorem Inv.all_connected {s : State} (h : Inv s) (h0 : s.exec = 0) : ∀ c ∈ s.cells, c.conn = true := by
  intro c hc
  cases hcon : c.conn with
  | true => rfl
  | false =>
    rcases h.pend c hc hcon with hd | hd
    · rw [h.quiet h0] at hd; cases hd
    · cases hd

theorem unref_cells_of_exec (s : State) (h : s.exec - 1 ≠ 0) : (unref s).cells = s.cells := by
  simp only [unref]
  rw [if_neg (fun hc => h hc.1)]

/-- leaving the holder scope that an operation entered in the `Inv` state `s`: whatever ran inside (it kept
    `Base`, `Own` and `Keep`, and every disconnected cell is covered by `deferred_`), the operation as a whole is `Good` -/
theorem exit_good {s s2 : State} (hb : Base s2) (hp : Pend [] s2) (ho : Own s2) (hx : s2.exec = s.exec + 1)
    (hm : s2.marks = s.marks) (hmk : s.marks ≤ s.exec) (he : s2.err = s.err) (hk : Keep s s2)
    (hs : s.exec ≠ 0 → Sub s s2) : Good s (unref s2) ∧ Scope { s2 with exec := s2.exec - 1 } (unref s2) := by
  have hx' : s2.exec - 1 = s.exec := by rw [hx]; exact Nat.add_sub_cancel ..
  obtain ⟨sw, hp', hq⟩ := unref_spec s2 hb hp (by rw [hm, hx']; exact hmk)
  have hm' : (unref s2).marks = s.marks := sw.same.marks.trans hm
  have hx2 : (unref s2).exec = s.exec := sw.same.exec.trans hx'
  refine ⟨⟨⟨sw.base, hp', hq, by rw [hm', hx2]; exact hmk, sw.rel.own (ho.congr rfl rfl rfl)⟩,
    hx2, hm', sw.err.trans he, hk.trans (Keep.of_rel (sw.rel.congr rfl rfl rfl rfl rfl rfl)), fun h0 => ?_⟩, sw⟩
  intro c hc
  rw [unref_cells_of_exec _ (by rw [hx']; exact h0)]; exact hs h0 c hc

theorem disconnect_spec (i : Nat) {s : State} (h : Inv s) : Good s (disconnect i s) ∧ NoConn i (disconnect i s) := by
  have hn := noConn_discUnder i h.base
  unfold disconnect
  unfold discUnder at hn
  cases hf : find i s.cells with
  | none => exact ⟨⟨h, Keeps.refl⟩, fun c hc hi => absurd hi (find_none hf c hc)⟩
  | some c =>
    rw [hf] at hn
    simp only at hn ⊢
    by_cases hc : c.conn = true
    · rw [if_pos hc] at hn ⊢
      by_cases h0 : s.exec = 0
      · rw [if_pos h0]
        generalize hs1 : ({ s with cells := setDisc i s.cells, exec := 1 } : State) = s1
        have h1 : Base s1 ∧ Pend [i] s1 ∧ Rel s s1 ∧ s1.exec = s.exec + 1 ∧ s1.marks = s.marks ∧ s1.err = s.err ∧
            i ∈ ids s1.cells ∧ NoConn i s1 := by
          subst hs1
          refine ⟨(setDisc_base (i := i) h.base s.deferred).congr rfl rfl rfl, fun c' hc' hcon => ?_,
            rel_setDisc i rfl rfl rfl, by rw [h0], rfl, rfl, ?_, hn⟩
          · rcases mem_setDisc hc' with ⟨hm, _⟩ | ⟨_, hid, _⟩
            · rw [h.all_connected h0 c' hm] at hcon; cases hcon
            · exact Or.inr (hid ▸ List.mem_cons_self)
          · rw [ids_setDisc]; exact mem_ids.2 ⟨c, find_some hf⟩
        obtain ⟨hb1, hp1, hr1, hex1, hmk1, herr1, hi1, hn1⟩ := h1
        obtain ⟨c1, hf1⟩ := find_of_mem_ids hi1
        obtain ⟨sc, hp2, -⟩ := eraseCell_spec i [] s1 c1 hb1 hf1 hp1 (by rw [hex1]; exact Nat.succ_ne_zero _)
        have hr := hr1.trans sc.rel
        obtain ⟨hg, sw⟩ := exit_good sc.base hp2 (hr.own h.own) (sc.same.exec.trans hex1) (sc.same.marks.trans hmk1)
          h.marks (sc.err.trans herr1) (Keep.of_rel hr) (fun he => absurd h0 he)
        exact ⟨hg, sw.rel.desc.noConn (sc.rel.desc.noConn hn1)⟩
      · rw [if_neg h0]
        exact ⟨⟨⟨setDisc_base h.base true, fun _ _ _ => Or.inl rfl, fun h0' => absurd h0' h0, h.marks,
          Rel.own (s := s) (rel_setDisc i rfl rfl rfl) h.own⟩,
          ⟨rfl, rfl, rfl, Keep.of_rel (rel_setDisc i rfl rfl rfl),
           fun _ => Sub.of_ids (ids_setDisc i s.cells)⟩⟩, hn⟩
    · rw [if_neg hc] at hn ⊢; exact ⟨⟨h, Keeps.refl⟩, hn⟩

theorem insertCell_spec (first : Bool) (k : Nat) (kd : Kind) {s : State} (h : Inv s) (hk : k ∉ s.used) :
    Good s (insertCell first k kd s) := by
  have hki : k ∉ ids s.cells := fun hm =>
    let ⟨c, hc, hi⟩ := mem_ids.1 hm
    hk (hi ▸ h.base.used c hc)
  unfold insertCell
  simp only []
  generalize hcs :
    (if first = true then (⟨k, kd, true, []⟩ : Cell) :: s.cells else s.cells ++ [⟨k, kd, true, []⟩]) = cs
  have hmem : ∀ c, c ∈ cs ↔ c = ⟨k, kd, true, []⟩ ∨ c ∈ s.cells := by
    intro c; subst hcs
    cases first
    · simp only [Bool.false_eq_true, ↓reduceIte, List.mem_append, List.mem_singleton]; exact Or.comm
    · simp only [↓reduceIte, List.mem_cons]
  have hids : (ids cs).Nodup := by
    subst hcs
    cases first
    · simp only [Bool.false_eq_true, ↓reduceIte, ids, List.map_append]
      exact nodup_snoc h.base.nodup hki
    · exact List.nodup_cons.2 ⟨hki, h.base.nodup⟩
  have hcnt : ∀ f, cnt f cs = cnt f s.cells + (if kd.fid = some f then 1 else 0) := by
    intro f; subst hcs
    cases first
    · simp [cnt_append, cnt]
    · simp only [↓reduceIte, cnt]; omega
  refine ⟨⟨⟨hids, ?_, ?_⟩, ?_, h.quiet, h.marks, ⟨?_, ?_, ?_⟩⟩,
    ⟨rfl, rfl, rfl, ⟨fun k hk => List.mem_cons_of_mem _ hk, ?_⟩, fun _ c hc => ⟨c, (hmem c).2 (Or.inr hc), rfl⟩⟩⟩
  · intro c hc  -- `base.used`
    rcases (hmem c).1 hc with rfl | hm
    · exact List.mem_cons_self
    · exact List.mem_cons_of_mem _ (h.base.used c hm)
  · intro f  -- `base.live`
    show incLive kd s.live f = cnt f cs
    rw [incLive_apply, h.base.live f, hcnt]
  · intro c hc hcon  -- `pend`
    rcases (hmem c).1 hc with rfl | hm
    · cases hcon
    · exact h.pend c hm hcon
  · intro e he  -- `own.known`
    have := h.own.known e he
    exact ⟨List.mem_cons_of_mem _ this.1, List.mem_cons_of_mem _ this.2⟩
  · intro e he c hc hid  -- `own.held`
    rcases (hmem c).1 hc with rfl | hm
    · exact absurd ((show k = e.1 from hid) ▸ (h.own.known e he).1) hk
    · exact h.own.held e he c hm hid
  · intro e he hg c hc hid  -- `own.released`
    rcases (hmem c).1 hc with rfl | hm
    · exact absurd ((show k = e.2 from hid) ▸ (h.own.known e he).2) hk
    · exact h.own.released e he (fun c' hc' => hg c' ((hmem c').2 (Or.inr hc'))) c hm hid
  · intro k' hk' hn c hc hid  -- `keep.noConn`
    rcases (hmem c).1 hc with rfl | hm
    · exact absurd ((show k = k' from hid) ▸ hk') hk
    · exact hn c hm hid

theorem addOwned_spec (k v : Nat) {s : State} (h : Inv s) (hk : k ∈ s.used) (hv : v ∈ s.used)
    (hf : ∃ c, find k s.cells = some c) :
    Good s { s with cells := addOwned k v s.cells, edges := (k, v) :: s.edges } := by
  have hback : Sub s { s with cells := addOwned k v s.cells, edges := (k, v) :: s.edges } :=
    Sub.of_ids (ids_addOwned k v s.cells)
  refine ⟨⟨⟨?_, ?_, ?_⟩, ?_, h.quiet, h.marks, ⟨?_, ?_, ?_⟩⟩, ⟨rfl, rfl, rfl, ⟨fun _ hk => hk, ?_⟩, fun _ => hback⟩⟩
  · simpa [ids_addOwned] using h.base.nodup
  · intro c hc  -- `base.used`
    obtain ⟨c0, hm, hi, _, _⟩ := mem_addOwned hc
    rw [← hi]; exact h.base.used c0 hm
  · intro f; simpa [cnt_addOwned] using h.base.live f
  · intro c hc hcon  -- `pend`
    obtain ⟨c0, hm, _, hcn, _⟩ := mem_addOwned hc
    exact (h.pend c0 hm (hcn.trans hcon)).imp_right fun h => nomatch h
  · intro e he  -- `own.known`
    cases he with
    | head => exact ⟨hk, hv⟩
    | tail _ he' => exact h.own.known e he'
  · intro e he c hc hid  -- `own.held`
    obtain ⟨c0, hm, hi, _, hsub, hnew⟩ := mem_addOwned hc
    cases he with
    | head => exact hnew hid
    | tail _ he' => exact hsub _ (h.own.held e he' c0 hm (hi.trans hid))
  · intro e he hg c hc hid  -- `own.released`: the owner `k` of the new edge is in the list
    obtain ⟨c0, hm, hi, hcn, _, _⟩ := mem_addOwned hc
    have hg0 : ∀ c ∈ s.cells, c.id ≠ e.1 := fun c1 hc1 hi1 =>
      let ⟨c', hc', hid'⟩ := hback c1 hc1
      hg c' hc' (hid'.trans hi1)
    cases he with
    | head =>
      obtain ⟨ck, hfk⟩ := hf
      exact absurd (find_some hfk).2 (hg0 ck (find_some hfk).1)
    | tail _ he' => rw [← hcn]; exact h.own.released e he' hg0 c0 hm (hi.trans hid)
  · intro k' _ hn c hc hid  -- `keep.noConn`
    obtain ⟨c0, hm, hi, hcn, _, _⟩ := mem_addOwned hc
    rw [← hcn]; exact hn c0 hm (hi.trans hid)

theorem dtor_nil (owned : List Nat) (s : State) (hc : s.cells = []) (he : s.exec ≠ 0) : dtor owned s = s := by
  induction owned with
  | nil => rfl
  | cons v vs ih =>
    simp only [dtor, List.foldl_cons, he, ↓reduceIte]
    have : discUnder v s = s := by simp [discUnder, hc, find]
    rw [this]; exact ih

/-- the swapped-out list dies after it has been emptied of connections: the destructors find nothing -/
theorem destroyAll_spec (old : List Cell) (s : State) (hc : s.cells = []) (he : s.exec ≠ 0)
    (hl : ∀ f, s.live f = cnt f old) :
    Same s (destroyAll old s) ∧ (destroyAll old s).cells = [] ∧ (∀ f, (destroyAll old s).live f = 0) ∧
    (destroyAll old s).err = s.err ∧ (destroyAll old s).edges = s.edges := by
  induction old generalizing s with
  | nil => exact ⟨Same.refl, hc, hl, rfl, rfl⟩
  | cons x xs ih =>
    simp only [destroyAll, List.foldl_cons]
    rw [dtor_nil x.owned { s with live := decLive x.kind s.live } hc he]
    obtain ⟨a, b, c, d, g⟩ := ih { s with live := decLive x.kind s.live } hc he (by
      intro f
      show decLive x.kind s.live f = cnt f xs
      rw [decLive_apply, hl f]; simp only [cnt]; omega)
    exact ⟨⟨a.exec, a.marks, a.used, a.owners, a.out⟩, b, c, d, g⟩

theorem clear_spec {s : State} (h : Inv s) :
    Good s (clear s) ∧ (s.exec = 0 → (clear s).cells = []) ∧ ∀ c ∈ (clear s).cells, c.conn = false := by
  unfold clear
  simp only
  obtain ⟨sc, hp2, hn2, hids⟩ := discAll_spec (ids s.cells) [] (s := { s with exec := s.exec + 1 })
    (h.base.congr rfl rfl rfl) (h.pend.congr rfl rfl)
  generalize (ids s.cells).foldl (fun s i => discUnder i s) { s with exec := s.exec + 1 } = s2 at sc hp2 hn2 hids
  have hr : Rel s s2 := sc.rel.congr rfl rfl rfl rfl rfl rfl
  have own2 : Own s2 := hr.own h.own
  have hall2 : ∀ c ∈ s2.cells, c.conn = false := fun c hc =>
    hn2 c.id (hids ▸ mem_ids.2 ⟨c, hc, rfl⟩) c hc rfl
  by_cases hdur : s.exec > 0
  · simp only [hdur, decide_true, ↓reduceIte]
    refine ⟨(exit_good sc.base hp2 own2 sc.same.exec sc.same.marks h.marks sc.err (Keep.of_rel hr)
      (fun _ => Sub.of_ids hids)).1, fun h0 => absurd h0 (Nat.ne_of_gt hdur), ?_⟩
    rw [unref_cells_of_exec _ (by rw [sc.same.exec]; exact Nat.ne_of_gt hdur)]; exact hall2
  · simp only [hdur, decide_false, Bool.false_eq_true, ↓reduceIte]
    obtain ⟨a', b', c', d', g'⟩ := destroyAll_spec s2.cells { s2 with deferred := s.deferred, cells := [] } rfl
      (by rw [sc.same.exec]; exact Nat.succ_ne_zero _) (fun f => sc.base.live f)
    generalize destroyAll s2.cells { s2 with deferred := s.deferred, cells := [] } = s3 at a' b' c' d' g'
    have hnil : ∀ {c : Cell}, c ∉ s3.cells := fun hc => by rw [b'] at hc; cases hc
    obtain ⟨hg, sw⟩ := exit_good (s := s) (s2 := s3) ⟨by rw [b']; exact List.nodup_nil, fun _ hc => absurd hc hnil,
        fun f => by rw [c' f, b']; rfl⟩ (fun _ hc => absurd hc hnil)
      ⟨fun e he => by rw [a'.used]; exact own2.known e (g' ▸ he), fun _ _ _ hc => absurd hc hnil,
        fun _ _ _ _ hc => absurd hc hnil⟩
      (a'.exec.trans sc.same.exec) (a'.marks.trans sc.same.marks) h.marks (d'.trans sc.err)
      ⟨fun k hk => by rw [a'.used, sc.same.used]; exact hk, fun _ _ _ _ hc => absurd hc hnil⟩
      (fun he => absurd (Nat.pos_of_ne_zero he) hdur)
    have hnil' : (unref s3).cells = [] :=
      List.eq_nil_of_length_eq_zero (Nat.le_zero.1 (by have := sw.len; rwa [b'] at this))
    exact ⟨hg, fun _ => hnil', fun c hc => by rw [hnil'] at hc; cases hc⟩

theorem emission_spec (body : Op → State → State) (hbody : ∀ op s, Inv s → Good s (body op s))
    (P : Nat → List Op) (d a : Nat) {s : State} (h : Inv s) : Good s (emission body P d a s) := by
  unfold emission
  split
  · exact ⟨h, Keeps.refl⟩
  · simp only
    have h1 : Inv { s with exec := s.exec + 1, marks := s.marks + 1 } :=
      ⟨h.base.congr rfl rfl rfl, h.pend.congr rfl rfl, fun h0 => absurd h0 (Nat.succ_ne_zero _), Nat.succ_le_succ h.marks,
       h.own.congr rfl rfl rfl⟩
    generalize hs2 : (ids s.cells).foldl _ { s with exec := s.exec + 1, marks := s.marks + 1 } = s2
    obtain ⟨h2, k2⟩ : Good { s with exec := s.exec + 1, marks := s.marks + 1 } s2 := by
      rw [← hs2]
      refine foldl_good (fun s i hs => ?_) _ _ h1
      split
      · split
        · exact ⟨hs, Keeps.refl⟩
        · split
          · rename_i f _
            obtain ⟨p, q⟩ := foldl_good (fun s op => hbody op s) (P f) _
              (hs.congr (s' := { s with out := (toString (d + 1) ++ " call f" ++ toString f ++ " " ++ toString a) :: s.out })
                rfl rfl rfl rfl rfl rfl rfl)
            exact ⟨p, q.congr rfl rfl rfl rfl rfl rfl rfl rfl rfl rfl⟩
          · exact ⟨hs, Keeps.refl⟩
      · exact ⟨hs, Keeps.refl⟩
    exact (exit_good (s := s) (s2 := { s2 with marks := s2.marks - 1 }) (h2.base.congr rfl rfl rfl)
      (h2.pend.congr rfl rfl) (h2.own.congr rfl rfl rfl) k2.exec
      (by show s2.marks - 1 = s.marks; rw [k2.marks]; rfl) h.marks k2.err (k2.keep.congr rfl rfl rfl rfl)
      (fun _ => k2.sub (Nat.succ_ne_zero _))).1

theorem log_spec (d : Nat) (t r : String) {s0 s : State} (h : Good s0 s) : Good s0 (log d t r s) :=
  ⟨h.1.congr rfl rfl rfl rfl rfl rfl rfl, h.2.congr rfl rfl rfl rfl rfl rfl rfl rfl rfl rfl⟩

theorem applyBase_spec (op : Op) {s : State} (h : Inv s) (hc : check s op = none) :
    Good s (applyBase op s).1 := by
  cases op with
  | conn first k kd =>
    refine insertCell_spec first k kd h fun hk => ?_
    simp [check, hk] at hc
  | own k v =>
    simp only [check] at hc
    split at hc
    · cases hc
    rename_i h1
    split at hc
    · cases hc
    split at hc
    · cases hc
    split at hc
    · cases hc
    · rename_i c hfk
      exact addOwned_spec k v h (Decidable.not_not.1 fun hk => h1 (Or.inl hk))
        (Decidable.not_not.1 fun hv => h1 (Or.inr hv)) ⟨c, hfk⟩
  | disc k => exact (disconnect_spec k h).1
  | clear => exact (clear_spec h).1
  | _ => exact ⟨h, Keeps.refl⟩

theorem step_spec (P : Nat → List Op) : ∀ (n : Nat) (op : Op) (s : State), Inv s → Good s (step P n op s)
  | n, op, s, h => by
    unfold step
    simp only
    cases hc : check s op with
    | some r => exact log_spec _ _ _ ⟨h, Keeps.refl⟩
    | none =>
      cases op with
      | emit a =>
        match n with
        | 0 => exact log_spec _ _ _ ⟨h, Keeps.refl⟩
        | n + 1 => exact log_spec _ _ _ (emission_spec (step P n) (step_spec P n) P _ a h)
      | _ => exact log_spec _ _ _ (applyBase_spec _ h hc)

theorem init_inv : Inv State.init :=
  ⟨⟨List.nodup_nil, nofun, fun _ => rfl⟩, nofun, fun _ => rfl, Nat.le_refl _, ⟨nofun, nofun, nofun⟩⟩

theorem runOps_spec (P : Nat → List Op) (ops : List Op) (s : State) (h : Inv s) : Good s (runOps P ops s) :=
  foldl_good (fun s op => step_spec P maxDepth op s) ops s h

theorem log_cells (d : Nat) (t r : String) (s : State) : (log d t r s).cells = s.cells := rfl

theorem step_sub (P : Nat → List Op) (n : Nat) (op : Op) (s : State) (h : Inv s) (he : s.exec ≠ 0) :
    Sub s (step P n op s) :=
  (step_spec P n op s h).2.sub he

end Sigc.SweepL
